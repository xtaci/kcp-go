import KcpVerif.Props.C09
import KcpVerif.Props.C09Wire
/-!
C09 `wire_reassembles` WITH FEC and/or a cipher.

The sending half of a session is `Model/SessOut.lean`: every buffer the core's output callback queues
is a request of `postProcess`, which runs the FEC stage (`fecStage`: data packet, possibly followed by
parity packets; OOB packets of `SendOOB` in between) and then, per emitted packet, the crypt stage
(`crypt`: nonce draw, CRC, encryption).  The independent observer does what the README says: decrypt
(the cipher is a parameter; only its round-trip law is used), strip the crypt header, strip the FEC
header, decode the KCP segments of DATA frames, skip PARITY and OOB frames
(`Wire.Spec.parseDatagram`, `Frame.segs`).

Result: in EVERY configuration (no cipher / block cipher / AEAD × FEC on / off) the list of segments
the observer extracts from all emitted datagrams, in transmission order, is exactly the list of
segments of the core's datagrams (`C09_postProcess_segments`), so everything `Props/C09Wire.lean`
proves about reassembly from the core's wire holds for the session's wire (`C09_wire_reassembles_fec_crypt`).

Composition assumed (a full composed session model with FEC and cipher is not available): the request
list of `postProcess` is, in order, one non-OOB request per datagram the core handed to `output`
(the output callback of `newUDPSession`; a core datagram is at least 24 bytes, so the callback never
skips one) with arbitrary dequeue times, interleaved at arbitrary positions with OOB requests
(`SendOOB`, only when FEC is on); the callback's `Get()[:size+headerSize]` does not exceed a pool
buffer (the session's `SetMtu` arithmetic: `C10`).  This file does not open the namespace `Wire`.
-/
namespace KcpVerif.Props
open KcpVerif.Gen KcpVerif.Kcp KcpVerif.Recv KcpVerif.C09W KcpVerif.SessOut
open KcpVerif.C01 (Op run Fresh bytesOf grp Closed)
open KcpVerif.Lemmas.KcpFlush (InvMss)

/-- how the specification names the session's protection … -/
def C09_specCrypt (c : SessOut.Cfg) : Wire.Spec.Crypt :=
  match c.cipher with
  | .none => .none
  | .block => .block
  | .aead n _ => .aead n

/-- … and its FEC configuration -/
def C09_specFec (c : SessOut.Cfg) : Option (Nat × Nat) := if c.fecOn then some (c.d, c.p) else none

/-- the KCP segments of the part of a datagram behind the crypt header (none for parity / OOB frames
and for anything the specification refuses) -/
def C09_bodySegs (fec : Option (Nat × Nat)) (rest : Bytes) : List DSeg :=
  match Wire.Spec.parseBody fec rest with
  | some f => f.segs
  | none => []

def C09_plainSegs (crc : Bytes → BitVec 32) (c : SessOut.Cfg) (plain : Bytes) : List DSeg :=
  match Wire.Spec.parseDatagram crc (C09_specCrypt c) (C09_specFec c) plain with
  | some (_, f) => f.segs
  | none => []

/-- decryption as the receiver of the README does it: nothing / `Decrypt` of the whole datagram /
nonce ‖ `Open(nonce, rest)` -/
def C09_decrypt {γ : Type} (P : Prims γ) (c : SessOut.Cfg) (w : Bytes) : Option Bytes :=
  match c.cipher with
  | .none => some w
  | .block => some (P.decB w)
  | .aead n _ => (P.aopen (w.take n) (w.drop n)).map (w.take n ++ ·)

/-- the KCP segments an independent observer extracts from one datagram on the wire -/
def C09_observe {γ : Type} (P : Prims γ) (c : SessOut.Cfg) (w : Bytes) : List DSeg :=
  match C09_decrypt P c w with
  | some plain => C09_plainSegs P.crc c plain
  | none => []

/-- the round-trip laws of the cipher (the only thing used of it) and the length of a generator output -/
structure C09_CipherLaws {γ : Type} (P : Prims γ) (c : SessOut.Cfg) : Prop where
  block : ∀ x, P.decB (P.encB x) = x
  aead  : ∀ nonce x, P.aopen nonce (P.aseal nonce x) = some x
  draw  : ∀ g, c.nonceLen ≤ (P.draw g).out.length

theorem C09_nonce_length {γ : Type} (P : Prims γ) (c : SessOut.Cfg) (H : C09_CipherLaws P c) (g : γ) (pkt : Pkt) :
    (crypt P c g pkt).emit.nonce.length = c.nonceLen :=
  (crypt_nonce P c g pkt (H.draw g)).1

theorem C09_decrypt_wire {γ : Type} (P : Prims γ) (c : SessOut.Cfg) (H : C09_CipherLaws P c) (g : γ) (pkt : Pkt) :
    C09_decrypt P c (crypt P c g pkt).emit.wire = some (crypt P c g pkt).emit.plain := by
  have hn := C09_nonce_length P c H g pkt
  cases hc : c.cipher with
  | none => simp only [C09_decrypt, crypt_none P g pkt hc, hc]
  | block => simp only [C09_decrypt, crypt_block P g pkt hc, hc, H.block]
  | aead n o =>
    simp only [Cfg.nonceLen, hc, crypt_aead P g pkt hc] at hn
    simp only [C09_decrypt, crypt_aead P g pkt hc, hc]
    rw [List.take_left' hn, List.drop_left' hn, H.aead]
    rfl

theorem C09_parseDatagram_crypt {γ : Type} (P : Prims γ) (c : SessOut.Cfg) (H : C09_CipherLaws P c) (g : γ) (pkt : Pkt) :
    Wire.Spec.parseDatagram P.crc (C09_specCrypt c) (C09_specFec c) (crypt P c g pkt).emit.plain =
      (Wire.Spec.parseBody (C09_specFec c) pkt.rest).map fun f => ((crypt P c g pkt).emit.nonce, f) := by
  have hn := C09_nonce_length P c H g pkt
  have hh := C09_crypt_header P c g pkt
  cases hc : c.cipher with
  | none =>
    simp only [C09_specCrypt, hc, crypt_none P g pkt hc, Wire.Spec.parseDatagram]
  | block =>
    have h16 : (crypt P c g pkt).emit.nonce.length = 16 := by rw [hn]; simp only [Cfg.nonceLen, hc]; rfl
    have hp := (hh.2.1 hc).2.2.2 h16
    simp only [C09_specCrypt, hc, Wire.Spec.parseDatagram, hp]
  | aead n o =>
    have hnn : (crypt P c g pkt).emit.nonce.length = n := by rw [hn]; simp only [Cfg.nonceLen, hc]
    obtain ⟨_, hpl, _⟩ := hh.2.2.1 n o hc
    have hlen : ¬ (crypt P c g pkt).emit.plain.length < n := by
      rw [hpl, List.length_append, hnn]; omega
    have hdrop : (crypt P c g pkt).emit.plain.drop n = pkt.rest := by rw [hpl, List.drop_left' hnn]
    have htake : (crypt P c g pkt).emit.plain.take n = (crypt P c g pkt).emit.nonce := by
      rw [hpl, List.take_left' hnn]
    simp only [C09_specCrypt, hc, Wire.Spec.parseDatagram, hlen, if_false, hdrop, htake]

theorem C09_plainSegs_crypt {γ : Type} (P : Prims γ) (c : SessOut.Cfg) (H : C09_CipherLaws P c) (g : γ) (pkt : Pkt) :
    C09_plainSegs P.crc c (crypt P c g pkt).emit.plain = C09_bodySegs (C09_specFec c) pkt.rest := by
  unfold C09_plainSegs C09_bodySegs
  rw [C09_parseDatagram_crypt P c H g pkt]
  cases Wire.Spec.parseBody (C09_specFec c) pkt.rest <;> rfl

theorem C09_observe_crypt {γ : Type} (P : Prims γ) (c : SessOut.Cfg) (H : C09_CipherLaws P c) (g : γ) (pkt : Pkt) :
    C09_observe P c (crypt P c g pkt).emit.wire = C09_bodySegs (C09_specFec c) pkt.rest := by
  simp only [C09_observe, C09_decrypt_wire P c H g pkt, C09_plainSegs_crypt P c H g pkt]

theorem C09_observe_cryptAll {γ : Type} (P : Prims γ) (c : SessOut.Cfg) (H : C09_CipherLaws P c) :
    ∀ (pkts : List Pkt) (g : γ),
      (cryptAll P c g pkts).emits.flatMap (fun em => C09_observe P c em.wire) =
        pkts.flatMap (fun pkt => C09_bodySegs (C09_specFec c) pkt.rest) := by
  intro pkts
  induction pkts with
  | nil => intro g; rfl
  | cons x xs ih =>
    intro g
    simp only [cryptAll, List.flatMap_cons, ih, C09_observe_crypt P c H g x]

/-- the FEC state matches the configuration: no encoder iff FEC is off; an encoder satisfies the
invariant of `C09_fec_header` and has the configured shard counts -/
def C09_EncOk (c : SessOut.Cfg) : Option Enc → Prop
  | none => c.fecOn = false
  | some e => c.fecOn = true ∧ e.Inv ∧ e.d = c.d ∧ e.p = c.p

theorem C09_newEnc_ok (c : SessOut.Cfg) : C09_EncOk c (newEnc c) := by
  by_cases hf : c.fecOn = true
  · have e : newEnc c = some _ := if_pos hf
    rw [e]; exact ⟨hf, newEnc_inv c _ e, rfl, rfl⟩
  · have e : newEnc c = none := if_neg hf
    rw [e]; exact Bool.eq_false_iff.mpr hf

theorem C09_encode_dp (par : List Bytes → Nat → Bytes) (ho : Nat) (e : Enc) (body : Bytes) (now rto : Int) :
    (encode par ho e body now rto).enc.d = e.d ∧ (encode par ho e body now rto).enc.p = e.p :=
  ⟨(encode_fields par ho e body now rto).d, (encode_fields par ho e body now rto).p⟩

/-- only DATA frames carry KCP segments for the observer -/
theorem C09_bodySegs_nondata (d p : Nat) (id : BitVec 32) (t : Nat) (tail : Bytes)
    (ht : (BitVec.ofNat 16 t).toNat ≠ 0xF1) : C09_bodySegs (some (d, p)) (Wire.fecHeader id t ++ tail) = [] := by
  unfold C09_bodySegs
  cases h : Wire.Spec.parseBody (some (d, p)) (Wire.fecHeader id t ++ tail) with
  | none => rfl
  | some f =>
    -- the type is not 0xF1, so the parser can only return a parity or an OOB frame, and those carry no segment
    simp only [Wire.Spec.parseBody, parseFec_fecHeader, if_neg ht] at h
    split at h
    · -- type 0xF2: a parity frame, or refused for its id
      split at h
      · cases h; rfl
      · cases h
    · split at h
      · -- type 0xF3: refused without a size field, without the four bytes of `conv`, or for its size or id; else an OOB frame
        split at h
        · cases h
        · split at h
          · split at h
            · cases h; rfl
            · cases h
          · cases h
      · -- any other type is refused
        cases h

/-- a PARITY packet carries no KCP segment for the observer (it is RS parity of `size ‖ frame`) -/
theorem C09_bodySegs_parity (d p : Nat) (id : BitVec 32) (tail : Bytes) :
    C09_bodySegs (some (d, p)) (Wire.fecHeader id typeParity ++ tail) = [] :=
  C09_bodySegs_nondata d p id typeParity tail (by decide)

theorem C09_bodySegs_oob (d p : Nat) (id : BitVec 32) (tail : Bytes) :
    C09_bodySegs (some (d, p)) (Wire.fecHeader id typeOOB ++ tail) = [] :=
  C09_bodySegs_nondata d p id typeOOB tail (by decide)

theorem C09_parity_segs {par : List Bytes → Nat → Bytes} {ho : Nat} {e : Enc} {body : Bytes} {now rto : Int} {q : Pkt}
    (hq : q ∈ (encode par ho e body now rto).parity) (d p : Nat) : C09_bodySegs (some (d, p)) q.rest = [] := by
  obtain ⟨_, _, hq⟩ := mem_encode_parity hq
  rw [hq.rest]; exact C09_bodySegs_parity _ _ _ _

theorem C09_data_body (par : List Bytes → Nat → Bytes) (ho : Nat) (e : Enc) (now rto : Int) (h : e.Inv)
    (frs : List Wire.Frm) (hne : frs ≠ []) (hv : ∀ fr ∈ frs, Live.validCmd fr.cmd ∧ fr.data.length < 4294967296)
    (body : Bytes) (hb : body = Wire.encFrames frs) (hlen : body.length + 2 < 65536) :
    Wire.Spec.parseBody (some (e.d, e.p)) (encode par ho e body now rto).pkt.rest =
      some (.data (BitVec.ofNat 32 e.next) (body.length + 2) (frs.map specOf)) := by
  rw [hb, encFrames_eq] at hlen ⊢
  rw [C09_data_frame_accepted par ho e (frs.map toSeg) now rto h (by simpa using hne) (toSegs_wf frs hv) hlen,
    List.map_map]
  rfl

/-- the packets of a request that carries a datagram of the core, as the observer reads them: the first holds the core's
segments (a plain KCP frame without FEC, a DATA frame with it), the others are parity packets without segments -/
theorem C09_fecStage_data {γ : Type} (P : Prims γ) (c : SessOut.Cfg) (enc : Option Enc) (r : Req)
    (hok : C09_EncOk c enc) (hro : r.oob = false) (frs : List Wire.Frm) (hne : frs ≠ []) (hb : r.body = Wire.encFrames frs)
    (hv : ∀ fr ∈ frs, Live.validCmd fr.cmd ∧ fr.data.length < 4294967296) (hlen : r.body.length + 2 < 65536) :
    ∃ pkt par fr, (fecStage P c enc r).2 = pkt :: par ∧
      Wire.Spec.parseBody (C09_specFec c) pkt.rest = some fr ∧
      ((c.fecOn = false ∧ fr = .kcp (frs.map specOf)) ∨ (c.fecOn = true ∧ ∃ id sz, fr = .data id sz (frs.map specOf))) ∧
      (∀ q ∈ par, q.kind = .parity ∧ C09_bodySegs (C09_specFec c) q.rest = []) ∧ C09_EncOk c (fecStage P c enc r).1 := by
  cases enc with
  | none =>
    have hoff : c.fecOn = false := hok
    refine ⟨_, [], .kcp (frs.map specOf), rfl, ?_, .inl ⟨hoff, rfl⟩, (fun q h => nomatch h), hok⟩
    simp only [C09_specFec, hoff, Wire.Spec.parseBody, hb, decode_encFrames frs hne hv]
    rfl
  | some e =>
    obtain ⟨hon, hinv, hd, hp⟩ := hok
    have hfec : C09_specFec c = some (e.d, e.p) := by simp only [C09_specFec, hon, if_true, hd, hp]
    have hdp := C09_encode_dp P.parity c.cryptBase e r.body r.now maxFECEncodeLatency
    rw [fecStage_data P c e r hro, hfec]
    refine ⟨_, _, _, rfl, C09_data_body P.parity c.cryptBase e r.now maxFECEncodeLatency hinv frs hne hv r.body hb hlen,
      .inr ⟨hon, _, _, rfl⟩, fun q hq => ?_,
      hon, encode_inv P.parity c.cryptBase e r.body r.now maxFECEncodeLatency hinv, hdp.1.trans hd, hdp.2.trans hp⟩
    obtain ⟨_, _, hk⟩ := mem_encode_parity hq
    exact ⟨hk.kind, C09_parity_segs hq _ _⟩

/-- **the FEC stage for one request**: the observer finds, in the packets it produces, exactly the
segments of the core's datagram (data packet; none in the parity packets), and nothing in an OOB
packet; the FEC state stays consistent -/
theorem C09_fecStage_segments {γ : Type} (P : Prims γ) (c : SessOut.Cfg) (enc : Option Enc) (r : Req)
    (hok : C09_EncOk c enc) (hoob : c.fecOn = false → r.oob = false)
    (frs : List Wire.Frm) (hbody : r.oob = false → frs ≠ [] ∧ r.body = Wire.encFrames frs ∧
      (∀ fr ∈ frs, Live.validCmd fr.cmd ∧ fr.data.length < 4294967296) ∧ r.body.length + 2 < 65536) :
    (fecStage P c enc r).2.flatMap (fun pkt => C09_bodySegs (C09_specFec c) pkt.rest) =
        (if r.oob then [] else frs.map specOf) ∧
      C09_EncOk c (fecStage P c enc r).1 := by
  cases hro : r.oob with
  | false =>
    obtain ⟨hne, hb, hv, hlen⟩ := hbody hro
    obtain ⟨pkt, par, fr, e, hfr, hkind, hpar, hok'⟩ := C09_fecStage_data P c enc r hok hro frs hne hb hv hlen
    refine ⟨?_, hok'⟩
    have hsegs : fr.segs = frs.map specOf := by
      rcases hkind with ⟨_, rfl⟩ | ⟨_, _, _, rfl⟩ <;> rfl
    rw [e, List.flatMap_cons, List.flatMap_eq_nil_iff.mpr fun q hq => (hpar q hq).2, List.append_nil, C09_bodySegs, hfr]
    exact hsegs
  | true =>
    -- an OOB request exists with FEC only: one OOB packet, no segment, encoder untouched
    cases enc with
    | none => exact absurd (hoob hok) (by rw [hro]; decide)
    | some e =>
      obtain ⟨hon, hinv, hd, hp⟩ := hok
      have hfec : C09_specFec c = some (e.d, e.p) := by simp only [C09_specFec, hon, if_true, hd, hp]
      rw [fecStage_oob P c e r hro]
      refine ⟨?_, hon, hinv, hd, hp⟩
      simp only [if_true, List.flatMap_cons, List.flatMap_nil, List.append_nil, hfec, encodeOOB, List.append_assoc,
        C09_bodySegs_oob]

/-- **one datagram of the core through `postProcess`**, datagram by datagram: the first datagram
emitted for the request decrypts to a frame that `Wire.Spec.parseDatagram` accepts — the nonce that
was drawn, then a plain KCP frame (FEC off) or a DATA frame (FEC on) carrying exactly the core's
segments; every further datagram emitted for the request is a parity packet, in which the observer
finds no segment. -/
theorem C09_data_datagram_parsed {γ : Type} (P : Prims γ) (c : SessOut.Cfg) (H : C09_CipherLaws P c) (st : PP γ)
    (hst : C09_EncOk c st.enc) (r : Req) (hro : r.oob = false) (frs : List Wire.Frm) (hne : frs ≠ [])
    (hb : r.body = Wire.encFrames frs) (hv : ∀ fr ∈ frs, Live.validCmd fr.cmd ∧ fr.data.length < 4294967296)
    (hlen : r.body.length + 2 < 65536) :
    ∃ em rest, (ppStep P c st r).emits = em :: rest ∧
      C09_decrypt P c em.wire = some em.plain ∧
      (∃ fr, Wire.Spec.parseDatagram P.crc (C09_specCrypt c) (C09_specFec c) em.plain = some (em.nonce, fr) ∧
        ((c.fecOn = false ∧ fr = .kcp (frs.map specOf)) ∨
         (c.fecOn = true ∧ ∃ id sz, fr = .data id sz (frs.map specOf)))) ∧
      ∀ em' ∈ rest, em'.pkt.kind = .parity ∧ C09_observe P c em'.wire = [] := by
  obtain ⟨pkt, par, fr, e, hfr, hkind, hpar, _⟩ := C09_fecStage_data P c st.enc r hst hro frs hne hb hv hlen
  refine ⟨(crypt P c st.gen pkt).emit, (cryptAll P c (crypt P c st.gen pkt).g par).emits, by simp only [ppStep, e, cryptAll],
    C09_decrypt_wire P c H _ _, ⟨fr, by rw [C09_parseDatagram_crypt P c H, hfr]; rfl, hkind⟩, fun em' hem' => ?_⟩
  obtain ⟨g', q, hq, rfl⟩ := mem_cryptAll P c _ _ em' hem'
  exact ⟨by rw [crypt_pkt]; exact (hpar q hq).1, by rw [C09_observe_crypt P c H]; exact (hpar q hq).2⟩

/-- what a request carries for the observer: the frames of the core's datagram, nothing for OOB -/
structure C09_ReqOk (c : SessOut.Cfg) (r : Req) (segs : List DSeg) : Prop where
  oob  : c.fecOn = false → r.oob = false
  body : ∃ frs : List Wire.Frm, (r.oob = false → frs ≠ [] ∧ r.body = Wire.encFrames frs ∧
      (∀ fr ∈ frs, Live.validCmd fr.cmd ∧ fr.data.length < 4294967296) ∧ r.body.length + 2 < 65536) ∧
    segs = if r.oob then [] else frs.map specOf

def C09_ReqsOk (c : SessOut.Cfg) : List Req → List (List DSeg) → Prop
  | [], [] => True
  | r :: rs, s :: ss => C09_ReqOk c r s ∧ C09_ReqsOk c rs ss
  | _, _ => False

/-- **`postProcess`, observed.**  For any request list whose non-OOB bodies are datagrams of the core
(`segss`: the segments of each request, `[]` for OOB), any consistent FEC state, any generator state:
the segments the observer extracts from the emitted datagrams — data, parity and OOB alike, in
transmission order — are exactly the segments of the core's datagrams, in order. -/
theorem C09_postProcess_segments {γ : Type} (P : Prims γ) (c : SessOut.Cfg) (H : C09_CipherLaws P c) :
    ∀ (reqs : List Req) (segss : List (List DSeg)) (st : PP γ), C09_EncOk c st.enc →
      C09_ReqsOk c reqs segss →
      (postProcess P c st reqs).emits.flatMap (fun em => C09_observe P c em.wire) = segss.flatten := by
  intro reqs segss st hok h
  rw [postProcess_eq, C09_observe_cryptAll P c H]
  generalize st.enc = enc at hok
  induction reqs generalizing segss enc with
  | nil =>
    cases segss with
    | nil => rfl
    | cons _ _ => exact h.elim
  | cons r rs ih =>
    cases segss with
    | nil => exact h.elim
    | cons segs segss' =>
      obtain ⟨frs, hf1, hf2⟩ := h.1.body
      obtain ⟨hseg, hok'⟩ := C09_fecStage_segments P c enc r hok h.1.oob frs hf1
      rw [fecAll, List.flatMap_append, List.flatten_cons, ih segss' h.2 _ hok', hseg, hf2]

/-- the requests the output callback queues for the core's datagrams `wire`, with arbitrary dequeue
times, interleaved with arbitrary OOB requests -/
def C09_ReqsOf (reqs : List Req) (wire : List Bytes) : Prop :=
  (reqs.filter (fun r => !r.oob)).map (·.body) = wire

theorem C09_reqs_ok (c : SessOut.Cfg) (L : List Content) (cv : U32) :
    ∀ (reqs : List Req) (wire : List Bytes), C09_ReqsOf reqs wire → (c.fecOn = false → ∀ r ∈ reqs, r.oob = false) →
      (∀ o ∈ wire, DgOk cv 0 L o ∧ o.length ≤ mtuLimit + IKCP_OVERHEAD) →
      ∃ segss : List (List DSeg), C09_ReqsOk c reqs segss ∧ segss.flatten = wireSegs wire := by
  intro reqs
  induction reqs with
  | nil =>
    intro wire h _ _
    have : wire = [] := by simpa [C09_ReqsOf] using h.symm
    subst this
    exact ⟨[], trivial, rfl⟩
  | cons r rs ih =>
    intro wire h hoob hw
    have hoobr := fun hf => hoob hf r (List.mem_cons_self ..)
    have hoobrs : c.fecOn = false → ∀ x ∈ rs, x.oob = false := fun hf x hx => hoob hf x (List.mem_cons_of_mem _ hx)
    cases hro : r.oob with
    | true =>
      have h' : C09_ReqsOf rs wire := by
        unfold C09_ReqsOf at h ⊢
        rw [List.filter_cons_of_neg (by simp [hro])] at h
        exact h
      obtain ⟨segss, h1, h2⟩ := ih wire h' hoobrs hw
      exact ⟨[] :: segss, ⟨⟨hoobr, [], (fun h => nomatch hro.symm.trans h), by rw [hro]; rfl⟩, h1⟩, by simpa using h2⟩
    | false =>
      unfold C09_ReqsOf at h
      rw [List.filter_cons_of_pos (by simp [hro]), List.map_cons] at h
      cases wire with
      | nil => cases h
      | cons o wire' =>
        have ho : r.body = o := (List.cons.inj h).1
        have h' : C09_ReqsOf rs wire' := (List.cons.inj h).2
        obtain ⟨segss, h1, h2⟩ := ih wire' h' hoobrs (fun x hx => hw x (List.mem_cons_of_mem _ hx))
        obtain ⟨hdg, hlen⟩ := hw o (List.mem_cons_self ..)
        obtain ⟨frs, a1, a2, a3, a4⟩ := hdg.decode
        refine ⟨frs.map specOf :: segss, ⟨⟨hoobr, frs, fun _ => ⟨a1, by rw [ho, a2], fun fr hfr => (a3 fr hfr).valid, ?_⟩, ?_⟩, h1⟩, ?_⟩
        · rw [ho]; unfold mtuLimit IKCP_OVERHEAD at hlen; omega
        · rw [hro]; rfl
        · simp only [List.flatten_cons, h2, wireSegs, List.flatMap_cons, a4, Option.getD_some]

/-- part of the composition assumption that IS derivable: the output callback of `newUDPSession` never
skips a datagram of the core (`size < IKCP_OVERHEAD` never happens: a datagram holds at least one
24-byte header), so every core datagram becomes a request -/
theorem C09_outputCb_never_skips (c : SessOut.Cfg) (k0 : Kcp) (hf : Fresh k0) (hm : InvMss k0) (ops : List Op) :
    ∀ o ∈ (run { k := k0 } ops).wire, outputCb c o.length ≠ .skipped := by
  intro o ho
  obtain ⟨frs, hne, ho', _⟩ := (C09_wire_invariant k0 hf hm ops).wire o ho
  have h1 := SysW.encFrames_length_ge frs
  have h2 : 0 < frs.length := List.length_pos_iff.mpr hne
  have h3 : IKCP_OVERHEAD ≤ o.length := by
    rw [ho']
    exact Nat.le_trans (by simpa using Nat.mul_le_mul_left IKCP_OVERHEAD h2) h1
  unfold outputCb
  rw [if_neg (by omega)]
  split <;> simp

/-- **(d) `wire_reassembles` with FEC and/or a cipher.**  Any history of the core from a fresh core
numbering from 0 (as in `C09_wire_decodes`), any configuration `c` (no cipher / block cipher with
nonce ‖ CRC header / AEAD; FEC on or off), any request list `reqs` that carries the core's datagrams in
order, interleaved with OOB requests (`C09_ReqsOf`; OOB only with FEC on), any consistent initial FEC
state (e.g. `newEnc c`), any generator state; cipher known only by its round-trip law.  Then the
segments an independent observer extracts from the datagrams the session emits — decrypt, strip the
crypt header, strip the FEC header, skip parity and OOB — are exactly the segments of the core's
datagrams; hence for any collection `all` of them (any order, duplicates, losses) the reassembled
stream is a prefix of `bytesOf log` and of the accepted bytes `accB`, stops before the first numbered
segment never seen, and is all whole messages of the log once every numbered segment has been seen. -/
theorem C09_wire_reassembles_fec_crypt {γ : Type} (P : Prims γ) (c : SessOut.Cfg) (H : C09_CipherLaws P c)
    (k0 : Kcp) (hf : Fresh k0) (hm : InvMss k0) (hsn : k0.snd_nxt = 0) (ops : List Op)
    (hL : (run { k := k0 } ops).log.length ≤ 2 ^ 32)
    (reqs : List Req) (hreqs : C09_ReqsOf reqs (run { k := k0 } ops).wire)
    (hoob : c.fecOn = false → ∀ r ∈ reqs, r.oob = false) (st : PP γ) (hst : C09_EncOk c st.enc) :
    (postProcess P c st reqs).emits.flatMap (fun em => C09_observe P c em.wire) =
        wireSegs (run { k := k0 } ops).wire ∧
    ∀ all : List DSeg,
      (∀ x ∈ all, x ∈ (postProcess P c st reqs).emits.flatMap (fun em => C09_observe P c em.wire)) →
      Wire.Spec.reassemble all <+: bytesOf (run { k := k0 } ops).log ∧
      bytesOf (run { k := k0 } ops).log <+: (run { k := k0 } ops).accB ∧
      (∀ i, ¬ Avail all i → Wire.Spec.reassemble all <+: bytesOf ((run { k := k0 } ops).log.take i)) ∧
      ((∀ i, i < (run { k := k0 } ops).log.length → Avail all i) →
        Wire.Spec.reassemble all = (grp (run { k := k0 } ops).log).flatten ∧
        (Closed (run { k := k0 } ops).log → Wire.Spec.reassemble all = bytesOf (run { k := k0 } ops).log)) := by
  have hW := C09_wire_invariant k0 hf hm ops
  rw [hsn] at hW
  obtain ⟨segss, h1, h2⟩ := C09_reqs_ok c (run { k := k0 } ops).log k0.conv reqs _ hreqs hoob
    (fun o ho => ⟨hW.wire o ho, hW.wlen o ho⟩)
  have heq := C09_postProcess_segments P c H reqs segss st hst h1
  rw [h2] at heq
  refine ⟨heq, fun all hall => ?_⟩
  rw [heq] at hall
  have hb := C09_wire_reassembles k0 hf hm hsn ops hL all hall
  exact ⟨hb.1, hb.2.1, fun i hmiss => C09_wire_reassembles_missing k0 hf hm hsn ops hL all hall i hmiss,
    fun hseen => C09_wire_reassembles_complete k0 hf hm hsn ops hL all hall hseen⟩

/-! ### non-vacuity: block cipher layout + FEC 2/1 over the run of `C09_exOps`, an OOB message in between -/

/-- toy primitives: identity "cipher" (the layout is what matters), constant CRC, empty parity shards,
a counting entropy source -/
def C09_exPrims : Prims Nat :=
  { crc := fun _ => 0, parity := fun _ _ => [], draw := fun g => ⟨g + 1, List.replicate 16 (UInt8.ofNat g)⟩,
    encB := id, decB := id, aseal := fun _ x => x, aopen := fun _ x => some x }

def C09_exCfg : SessOut.Cfg := { cipher := .block, d := 2, p := 1 }

/-- the eight datagrams of the core, an OOB request after the third -/
def C09_exReqs : List Req :=
  let w := (run { k := Kcp.new 7 } C09_exOps).wire
  (w.take 3).map (fun o => ⟨false, o, 0⟩) ++ [⟨true, [7, 0, 0, 0, 42], 0⟩] ++ (w.drop 3).map (fun o => ⟨false, o, 0⟩)

example : C09_CipherLaws C09_exPrims C09_exCfg :=
  ⟨fun _ => rfl, fun _ _ => rfl, fun _ => by simp [C09_exPrims, C09_exCfg, Cfg.nonceLen, nonceSize]⟩

set_option maxRecDepth 1000000 in
example :
    C09_ReqsOf C09_exReqs (run { k := Kcp.new 7 } C09_exOps).wire ∧
    -- 8 data + 4 parity + 1 OOB datagrams, each 20 + 8 (+ 24 + payload) bytes
    (postProcess C09_exPrims C09_exCfg ⟨newEnc C09_exCfg, 0⟩ C09_exReqs).emits.length = 13 ∧
    Wire.Spec.reassemble ((postProcess C09_exPrims C09_exCfg ⟨newEnc C09_exCfg, 0⟩ C09_exReqs).emits.flatMap
      (fun em => C09_observe C09_exPrims C09_exCfg em.wire)) = [1, 2, 3, 4, 5, 6] := by
  unfold C09_ReqsOf
  decide +kernel

end KcpVerif.Props
