import KcpVerif.Props.C10
import KcpVerif.Props.C19Cfb
/-!
C10 — the length hypothesis `LenLaws` of the session-level MTU theorems discharged for CFB over ANY
block function of size 8 or 16 (`C08_cfb_length`: the unrolled encryption of crypt.go is length
preserving for every length).  What remains a hypothesis: `Seal` appends exactly `Overhead()` bytes
(standard library GCM) and one read of the entropy source yields 16 bytes.
-/
namespace KcpVerif.Props
open KcpVerif.Gen KcpVerif.SessOut KcpVerif.Cfb

/-- Under an accepted MTU, with CFB over any block
cipher and any FEC setting, no datagram (data, parity) of any request sequence exceeds `min 1500 m`. -/
theorem C10_session_no_datagram_exceeds_mtu_cfb {γ : Type} (bs : Nat) (hbs : bs = 8 ∨ bs = 16) (E : Bytes → Bytes)
    (hE : BlockFn bs E) (crc : Bytes → BitVec 32) (parity : List Bytes → Nat → Bytes) (draw : γ → Draw γ)
    (hdraw : ∀ g, 16 ≤ (draw g).out.length) (d p : Nat) (coreOk : Int → Bool)
    (hcore : ∀ x, coreOk x = true → (IKCP_OVERHEAD : Int) < x) (cur : Nat) (m : Int)
    (hacc : (setMtu { cipher := .block, d := d, p := p } coreOk cur m).ok = true) (reqs : List Req) (st : PP γ)
    (hcons : Consistent { cipher := .block, d := d, p := p } st)
    (hgroup : ∀ e, st.enc = some e →
      e.maxSize ≤ ({ cipher := .block, d := d, p := p } : Cfg).headerSize +
        (setMtu { cipher := .block, d := d, p := p } coreOk cur m).coreMtu)
    (hreq : ∀ r ∈ reqs, r.body.length ≤ (setMtu { cipher := .block, d := d, p := p } coreOk cur m).coreMtu) :
    ∀ em ∈ (postProcess (cfbPrims E bs crc parity draw) { cipher := .block, d := d, p := p } st reqs).emits,
      (em.wire.length : Int) ≤ min (mtuLimit : Int) m :=
  C10_session_no_datagram_exceeds_mtu _ _ (C19_cfb_laws bs hbs E hE crc parity draw hdraw d p).toLenLaws coreOk hcore
    cur m hacc reqs st hcons hgroup hreq

/-- the out-of-band datagram of an accepted message under CFB: exact size, within `min 1500 m` -/
theorem C10_session_oob_dgram_cfb {γ : Type} (bs : Nat) (hbs : bs = 8 ∨ bs = 16) (E : Bytes → Bytes)
    (hE : BlockFn bs E) (crc : Bytes → BitVec 32) (parity : List Bytes → Nat → Bytes) (draw : γ → Draw γ)
    (hdraw : ∀ g, 16 ≤ (draw g).out.length) (d p : Nat) (coreOk : Int → Bool)
    (hcore : ∀ x, coreOk x = true → (IKCP_OVERHEAD : Int) < x) (cur : Nat) (m : Int)
    (hacc : (setMtu { cipher := .block, d := d, p := p } coreOk cur m).ok = true) (st : PP γ)
    (hcons : Consistent { cipher := .block, d := d, p := p } st) (conv : BitVec 32) (data b : Bytes) (now : Int)
    (hq : sendOOB { cipher := .block, d := d, p := p }
      (setMtu { cipher := .block, d := d, p := p } coreOk cur m).coreMtu conv data = .queued b) :
    ∀ em ∈ (ppStep (cfbPrims E bs crc parity draw) { cipher := .block, d := d, p := p } st
        { oob := true, body := b, now := now }).emits,
      em.wire.length = ({ cipher := .block, d := d, p := p } : Cfg).headerSize + convSize + data.length +
        ({ cipher := .block, d := d, p := p } : Cfg).overhead ∧
      (em.wire.length : Int) ≤ min (mtuLimit : Int) m :=
  C10_session_oob_dgram _ _ (C19_cfb_laws bs hbs E hE crc parity draw hdraw d p).toLenLaws coreOk hcore cur m hacc st
    hcons conv data b now hq

end KcpVerif.Props
