import KcpVerif.Lemmas.SessOut
/-!
C19 — out-of-band messages: intact or absent, never disturb the stream.

Sending side: `SendOOB` → request `{conv ‖ data, oob}` → `postProcess` (`encodeOOB`, nonce, CRC /
Seal, encryption).  Receiving side: `packetInput` (decrypt, integrity) → `kcpInput` demux →
handler.  Cipher round trips are hypotheses (`CipherLaws`).
-/
namespace KcpVerif.Props
open KcpVerif.Gen KcpVerif.Wire KcpVerif.SessOut

/-- what the round trip needs from the cipher in use -/
structure CipherLaws {γ : Type} (P : Prims γ) (c : Cfg) : Prop extends LenLaws P c where
  decEnc : ∀ x, P.decB (P.encB x) = x
  openSeal : ∀ n x, P.aopen n (P.aseal n x) = some x

theorem route_oob (id : BitVec 32) (conv : BitVec 32) (data : Bytes) :
    route (fecHeader id typeOOB ++ sizeField (le32 conv ++ data).length ++ (le32 conv ++ data)) = .oob data := by
  simp only [route, typeData, typeParity, typeOOB]
  simp only [fecHeader, sizeField, le32, le16, List.cons_append, List.nil_append, fecHeaderSizePlus2, convSize]
  rfl

/-- the integrity gate of `packetInput` returns exactly the packet the FEC stage produced -/
theorem rxStrip_crypt {γ : Type} (P : Prims γ) (c : Cfg) (L : CipherLaws P c) (g : γ) (pkt : Pkt) :
    rxStrip P c (crypt P c g pkt).emit.wire = some pkt.rest := by
  have hd := L.draw g
  have hn := L.nonce
  cases hc : c.cipher with
  | none => simp only [rxStrip, crypt_none P g pkt hc, hc]
  | aead n o =>
    simp only [Cfg.nonceLen, hc] at hn
    have hl : ((P.draw g).out.take n).length = n := by simp only [List.length_take]; omega
    have ha := L.aseal ((P.draw g).out.take n) pkt.rest
    simp only [Cfg.overhead, hc] at ha
    have hlen : ¬ ((P.draw g).out.take n ++ P.aseal ((P.draw g).out.take n) pkt.rest).length < n + o := by
      simp only [List.length_append, hl, ha]; omega
    simp only [rxStrip, crypt_aead P g pkt hc, hc, hlen, if_false, List.take_left' hl, List.drop_left' hl, L.openSeal]
  | block =>
    have hl : ((P.draw g).out.take nonceSize).length = nonceSize := by
      simp only [List.length_take, nonceSize]; omega
    simp only [rxStrip, crypt_block P g pkt hc, hc]
    generalize (P.draw g).out.take nonceSize = nonce at hl
    have hlen : ¬ (P.encB (nonce ++ le32 (P.crc pkt.rest) ++ pkt.rest)).length < cryptHeaderSize := by
      simp only [L.encB, List.length_append, hl, le32_length, cryptHeaderSize, nonceSize]; omega
    have hdrop : (nonce ++ le32 (P.crc pkt.rest) ++ pkt.rest).drop nonceSize = le32 (P.crc pkt.rest) ++ pkt.rest := by
      rw [List.append_assoc, List.drop_left' hl]
    simp only [hlen, if_false, L.decEnc, hdrop]
    simp only [le32, List.cons_append, List.nil_append, crcSize, List.take_succ_cons, List.take_zero,
      List.drop_succ_cons, List.drop_zero, u32_le32_bytes, if_true]

/-- the sending side of an accepted out-of-band message, whatever the cipher -/
theorem C19_oob_emitted {γ : Type} (P : Prims γ) (c : Cfg) (st : PP γ) (e : Enc) (henc : st.enc = some e) (coreMtu : Nat)
    (conv : BitVec 32) (data : Bytes) (now : Int) (hsz : convSize + data.length ≤ coreMtu) (hf : c.fecOn = true) :
    sendOOB c coreMtu conv data = .queued (le32 conv ++ data) ∧
    (ppStep P c st { oob := true, body := le32 conv ++ data, now := now }).emits =
      [(crypt P c st.gen (encodeOOB e (le32 conv ++ data)).pkt).emit] ∧
    route (encodeOOB e (le32 conv ++ data)).pkt.rest = .oob data := by
  refine ⟨?_, ?_, route_oob _ conv data⟩
  · simp only [sendOOB, hf, Bool.not_true, Bool.false_eq_true, if_false]
    rw [if_neg (by omega)]
  · simp only [ppStep, henc, fecStage_oob, cryptAll]

/-- INTACT: for every payload `SendOOB` accepts — in particular every length `0 … GetOOBMaxSize` —
every cipher kind and FEC parameters, the datagram `postProcess` emits for it passes the peer's
integrity gate and is routed to the OOB branch, which hands the handler exactly `data`: same
bytes, same length.  Exactly one datagram is emitted, and the peer's stream state is untouched. -/
theorem C19_oob_roundtrip {γ σ : Type} (P : Prims γ) (c : Cfg) (L : CipherLaws P c) (st : PP γ) (e : Enc)
    (henc : st.enc = some e) (coreMtu : Nat) (conv : BitVec 32) (data : Bytes) (now : Int)
    (hsz : convSize + data.length ≤ coreMtu) (hf : c.fecOn = true)
    (onFec onKcp : σ → Bytes → σ) (rx : Rx σ) :
    ∃ b em, sendOOB c coreMtu conv data = .queued b ∧
      (ppStep P c st { oob := true, body := b, now := now }).emits = [em] ∧
      ∃ plain, rxStrip P c em.wire = some plain ∧ route plain = .oob data ∧
        kcpInput onFec onKcp true rx plain = { rx with handled := rx.handled ++ [data] } := by
  obtain ⟨hq, hem, hr⟩ := C19_oob_emitted P c st e henc coreMtu conv data now hsz hf
  exact ⟨_, _, hq, hem, _, rxStrip_crypt P c L st.gen _, hr, by simp only [kcpInput, hr, if_true]⟩

/-- non-vacuity: identity "cipher", a 16-byte entropy block -/
example : CipherLaws (γ := Nat)
    { crc := fun _ => 0, parity := fun _ _ => [], draw := fun g => { g := g + 1, out := List.replicate 16 0 },
      encB := id, decB := id, aseal := fun _ x => x ++ List.replicate 16 0, aopen := fun _ x => some (x.take (x.length - 16)) }
    { cipher := .aead 12 16, d := 10, p := 3 } :=
  { encB := fun _ => rfl, aseal := fun _ x => by simp [Cfg.overhead], draw := fun _ => by simp,
    nonce := by simp [Cfg.nonceLen], decEnc := fun _ => rfl,
    openSeal := fun _ x => by simp }

/-- REFUSALS: error iff FEC is off (both `SendOOB` and `SetOOBHandler`, and `GetOOBMaxSize` is 0
then); with FEC on, error iff `4 + |data| > core mtu`; `GetOOBMaxSize + 1` is the smallest refused
length. -/
theorem C19_oob_refusals (c : Cfg) (coreMtu : Nat) (conv : BitVec 32) (data : Bytes) :
    (sendOOB c coreMtu conv data = .errNoFec ↔ c.fecOn = false) ∧
    (setOOBHandlerOk c = false ↔ c.fecOn = false) ∧
    (c.fecOn = false → getOOBMaxSize c coreMtu = 0) ∧
    (c.fecOn = true →
      (sendOOB c coreMtu conv data = .errTooLarge ↔ coreMtu < convSize + data.length) ∧
      (sendOOB c coreMtu conv data = .errTooLarge ↔ getOOBMaxSize c coreMtu < data.length) ∧
      ((∃ b, sendOOB c coreMtu conv data = .queued b) ↔ (data.length : Int) ≤ getOOBMaxSize c coreMtu)) := by
  refine ⟨?_, by simp [setOOBHandlerOk], ?_, ?_⟩
  · cases hf : c.fecOn
    · simp [sendOOB, hf]
    · simp only [sendOOB, hf, Bool.not_true, Bool.false_eq_true, if_false]
      split <;> simp
  · intro hf; simp [getOOBMaxSize, hf]
  · intro hf
    simp only [sendOOB, getOOBMaxSize, hf, Bool.not_true, Bool.false_eq_true, if_false, convSize]
    by_cases h : coreMtu < 4 + data.length
    · simp only [h, if_true, true_iff, reduceCtorEq, exists_false, false_iff]
      exact ⟨trivial, by omega, by omega⟩
    · simp only [h, if_false, reduceCtorEq, false_iff, OOBRes.queued.injEq, exists_eq', true_iff]
      exact ⟨trivial, by omega, by omega⟩

/-- `GetOOBMaxSize` is accepted, `GetOOBMaxSize + 1` is the smallest refused length -/
theorem C19_oob_max_is_sharp (c : Cfg) (coreMtu : Nat) (conv : BitVec 32) (hf : c.fecOn = true)
    (hm : convSize ≤ coreMtu) :
    (∀ data : Bytes, (data.length : Int) = getOOBMaxSize c coreMtu → ∃ b, sendOOB c coreMtu conv data = .queued b) ∧
    (∀ data : Bytes, (data.length : Int) = getOOBMaxSize c coreMtu + 1 → sendOOB c coreMtu conv data = .errTooLarge) ∧
    (∀ data : Bytes, sendOOB c coreMtu conv data = .errTooLarge → getOOBMaxSize c coreMtu + 1 ≤ (data.length : Int)) := by
  have h := fun data => (C19_oob_refusals c coreMtu conv data).2.2.2 hf
  refine ⟨fun data hd => ((h data).2.2).2 (by omega), fun data hd => ((h data).2.1).2 (by omega),
    fun data hd => by have := ((h data).2.1).1 hd; omega⟩

/-- `encodeOOB` leaves the encoder alone: `next`, `shardCount`, `maxSize`, the collected shards and
`tsLatestPacket` (indeed every field) are unchanged -/
theorem C19_oob_encoder_frame (e : Enc) (body : Bytes) :
    (encodeOOB e body).enc = e ∧ (encodeOOB e body).enc.next = e.next ∧
    (encodeOOB e body).enc.shardCount = e.shardCount ∧ (encodeOOB e body).enc.maxSize = e.maxSize ∧
    (encodeOOB e body).enc.cache = e.cache ∧ (encodeOOB e body).enc.tsLatest = e.tsLatest ∧
    (encodeOOB e body).parity = [] :=
  ⟨rfl, rfl, rfl, rfl, rfl, rfl, rfl⟩

/-- NON-INTERFERENCE on the sending side: for any request sequence of a session with FEC, the
non-OOB packets `postProcess` emits — data and parity, their ids, types, sizes, parity inputs and
contents — and the encoder state afterwards are identical with and without the OOB requests
interleaved, whatever the entropy source does (equality is of the packets behind the nonce/CRC,
i.e. modulo nonce draws). -/
theorem C19_oob_noninterference_tx {γ : Type} (P : Prims γ) (c : Cfg) (reqs : List Req) (st st' : PP γ) (e : Enc)
    (h1 : st.enc = some e) (h2 : st'.enc = some e) :
    ((postProcess P c st reqs).emits.map (·.pkt)).filter (fun q => q.kind != .oob) =
        (postProcess P c st' (reqs.filter fun r => !r.oob)).emits.map (·.pkt) ∧
      (postProcess P c st reqs).st.enc = (postProcess P c st' (reqs.filter fun r => !r.oob)).st.enc := by
  rw [(postProcess_pkts P c reqs st).1, (postProcess_pkts P c _ st').1, (postProcess_pkts P c reqs st).2,
    (postProcess_pkts P c _ st').2, h1, h2]
  clear h1 h2
  induction reqs generalizing e with
  | nil => exact ⟨rfl, rfl⟩
  | cons r rs ih =>
    cases hoob : r.oob with
    | true =>
      -- an OOB request: one OOB packet, encoder unchanged
      have hfr : (r :: rs).filter (fun r => !r.oob) = rs.filter (fun r => !r.oob) := by
        simp [hoob]
      have hk : [(encodeOOB e r.body).pkt].filter (fun q => q.kind != Kind.oob) = [] := by simp [encodeOOB]
      rw [hfr]
      simp only [fecAll, fecEnd, fecStage_oob P c e r hoob, List.filter_append]
      rw [hk, List.nil_append]
      exact ih e
    | false =>
      -- a stream packet: data (and maybe parity) packets, none of them OOB
      have hall : ∀ q ∈ (encode P.parity c.cryptBase e r.body r.now maxFECEncodeLatency).pkt ::
            (encode P.parity c.cryptBase e r.body r.now maxFECEncodeLatency).parity, (q.kind != Kind.oob) = true := by
        intro q hq
        rcases List.mem_cons.mp hq with hq | hq
        · rw [hq, encode_pkt]; rfl
        · obtain ⟨_, _, hk⟩ := mem_encode_parity hq
          rw [hk.kind]; rfl
      have hfr : (r :: rs).filter (fun r => !r.oob) = r :: rs.filter (fun r => !r.oob) := by
        simp [hoob]
      rw [hfr]
      simp only [fecAll, fecEnd, fecStage_data P c e r hoob, List.filter_append]
      rw [List.filter_eq_self.2 hall]
      have := ih (encode P.parity c.cryptBase e r.body r.now maxFECEncodeLatency).enc
      exact ⟨by rw [this.1], this.2⟩

/-- the receiving session: a datagram routed to the OOB branch touches neither the core, nor the FEC
decoder, nor `bufptr`, nor the read/write tokens (the whole stream state `σ`), with or without a
handler; and a datagram not routed there never reaches the handler. -/
theorem C19_oob_receiver_frame {σ : Type} (onFec onKcp : σ → Bytes → σ) (hasHandler : Bool) (rx : Rx σ) (data : Bytes) :
    (∀ payload, route data = .oob payload →
      (kcpInput onFec onKcp hasHandler rx data).stream = rx.stream ∧
      (kcpInput onFec onKcp hasHandler rx data).handled = if hasHandler then rx.handled ++ [payload] else rx.handled) ∧
    ((∀ payload, route data ≠ .oob payload) → (kcpInput onFec onKcp hasHandler rx data).handled = rx.handled) := by
  refine ⟨?_, ?_⟩
  · intro payload h
    simp only [kcpInput, h]
    cases hasHandler <;> simp
  · intro h
    simp only [kcpInput]
    split
    · rfl
    · rfl
    · rfl
    · rename_i payload hr; exact absurd hr (h payload)

end KcpVerif.Props
