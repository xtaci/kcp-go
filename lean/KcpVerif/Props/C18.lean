import KcpVerif.Lemmas.KcpLiveOps
import KcpVerif.Lemmas.SysWinRun
import KcpVerif.Model.Sys2
/-!
C18 — no retransmission on a clean path; RTO stays within its bounds.
-/
namespace KcpVerif.Props
open KcpVerif.Gen KcpVerif.Kcp KcpVerif.Live

theorem C18_clamp_bounds (minrto rto : U32) (hmin : minrto ≤ u32 IKCP_RTO_MAX) :
    minrto ≤ clampRto minrto rto ∧ clampRto minrto rto ≤ u32 IKCP_RTO_MAX :=
  Kcp.clamp_bounds minrto rto hmin

theorem C18_smooth_keeps_minrto (k : Kcp) (rtt : U32) : (smoothRtt k rtt).rx_minrto = k.rx_minrto :=
  Kcp.smooth_minrto k rtt

/-- `update_ack` leaves the retransmission timeout between the configured minimum and
`IKCP_RTO_MAX` (60 s), for EVERY sample (negative, huge, forged) and every prior state:
the clamp is the last operation. -/
theorem C18_rto_bounds (k : Kcp) (rtt : U32) (hmin : k.rx_minrto ≤ u32 IKCP_RTO_MAX) :
    k.rx_minrto ≤ (updateAck k rtt).rx_rto ∧ (updateAck k rtt).rx_rto ≤ u32 IKCP_RTO_MAX ∧
    (updateAck k rtt).rx_minrto = k.rx_minrto :=
  Kcp.updateAck_bounds k rtt hmin

/-! `cause`, `segAfter`, `emit` (Lemmas/KcpXmit.lean): the decision cascade of phase 5, the segment it leaves in
`snd_buf`, the write into the output buffer. -/

/-- For an un-acked segment, whatever the state: `xmitOne` appends exactly one segment `s'` to
`done`; if no branch fires, `s' = s` and nothing is written; otherwise the segment is written,
`xmit` is incremented, the timer is re-armed at `resendts = now + s'.rto`, and
* initial / fast / early branch: `s'.rto = rx_rto` (never below the connection RTO);
* timeout branch: `s'.rto = s.rto + rx_rto` (`nodelay = 0`) or `s.rto + rx_rto / 2`. -/
theorem C18_segment_rto_lower (now resent : U32) (wnd : BitVec 16) (una : U32) (newSegs : Nat) (st : XmitSt) (s : Seg)
    (ha : s.acked = false) :
    ∃ s', (xmitOne now resent wnd una newSegs st s).done = st.done ++ [s'] ∧
      (cause now resent newSegs s = .none → s' = s ∧ (xmitOne now resent wnd una newSegs st s).f = st.f) ∧
      (cause now resent newSegs s ≠ .none →
        (xmitOne now resent wnd una newSegs st s).f = emit st.f s' ∧
        s'.xmit = s.xmit + 1 ∧ s'.resendts = now + s'.rto) ∧
      (cause now resent newSegs s = .initial ∨ cause now resent newSegs s = .fast ∨ cause now resent newSegs s = .early →
        s'.rto = st.f.k.rx_rto) ∧
      (cause now resent newSegs s = .timeout →
        s'.rto = (if st.f.k.nodelay = 0 then s.rto + st.f.k.rx_rto else s.rto + st.f.k.rx_rto / 2)) := by
  refine ⟨segAfter now resent wnd una newSegs st.f.k.rx_rto st.f.k.nodelay s, xmitOne_done _ _ _ _ _ _ _, ?_, ?_, ?_, ?_⟩
  · intro hc
    exact ⟨segAfter_none _ _ _ _ _ _ _ _ (Or.inr hc), by rw [xmitOne_f, if_pos (Or.inr hc)]⟩
  · intro hc
    refine ⟨by rw [xmitOne_f, if_neg (fun h => h.elim (by simp [ha]) hc)], ?_, ?_⟩
    · rw [segAfter_sent _ _ _ _ _ _ _ _ ha hc]
      cases hcc : cause now resent newSegs s <;> first | rfl | exact absurd hcc hc
    · rw [segAfter_sent _ _ _ _ _ _ _ _ ha hc]
      exact retimed_resendts _ _ _ _ _ hc
  · intro hc
    have hne : cause now resent newSegs s ≠ .none := by
      rcases hc with h | h | h <;> rw [h] <;> exact fun c => by cases c
    rw [segAfter_sent _ _ _ _ _ _ _ _ ha hne]
    rcases hc with h | h | h <;> rw [h] <;> rfl
  · intro hc
    have hne : cause now resent newSegs s ≠ .none := by rw [hc]; exact fun c => by cases c
    rw [segAfter_sent _ _ _ _ _ _ _ _ ha hne, hc]; rfl

/-- the arithmetic behind the timeout branch of `C18_segment_rto_lower` (`s'.rto = s.rto + rx_rto` or
`s.rto + rx_rto / 2`): as long as the sum does not wrap, neither summand exceeds it -/
theorem C18_timeout_rto_monotone (srto rx : U32) (h : srto.toNat + rx.toNat < 2 ^ 32) :
    srto ≤ srto + rx ∧ rx ≤ srto + rx ∧ srto ≤ srto + rx / 2 := by
  have hd : (rx / 2).toNat = rx.toNat / 2 := by
    show (rx / BitVec.ofNat 32 2).toNat = _
    simp [BitVec.toNat_udiv]
  generalize rx / 2 = d at hd ⊢
  refine ⟨?_, ?_, ?_⟩ <;> bv_omega

/-- In a full flush a segment that was sent before (`xmit > 0`) is transmitted again (it leaves the
flush with `xmit` incremented — equivalently `cause ≠ none`) only if its timer is due, or
`fastack ≥ resent` with a real (non-sentinel) count, or `fastack > 0` (non-sentinel) and nothing
new was admitted by this flush.  `resent = resentOf k` is `fastresend`, or `0xFFFFFFFF` (never
reached by a non-sentinel count) when fast resend is off. -/
theorem C18_resend_causes (k : Kcp) (now : U32) (s : Seg) (hs : s ∈ (flAd k now).buf) (ha : s.acked = false)
    (hx : s.xmit ≠ 0)
    (hsent : (segAfter now (resentOf k) (wndUnused k) k.rcv_nxt (flAd k now).count k.rx_rto k.nodelay s).xmit ≠ s.xmit) :
    (flush k true now).k.snd_buf =
      (flAd k now).buf.map (segAfter now (resentOf k) (wndUnused k) k.rcv_nxt (flAd k now).count k.rx_rto k.nodelay) ∧
    (itimediff now s.resendts ≥ 0 ∨
     (s.fastack ≥ resentOf k ∧ s.fastack ≠ 0xFFFFFFFF#32) ∨
     (s.fastack > 0 ∧ s.fastack ≠ 0xFFFFFFFF#32 ∧ (flAd k now).count = 0)) := by
  refine ⟨Live.flush_snd_buf k now, ?_⟩
  have hc : cause now (resentOf k) (flAd k now).count s ≠ .none := by
    intro hc; exact hsent (by rw [segAfter_none _ _ _ _ _ _ _ _ (Or.inr hc)])
  rcases cause_why now (resentOf k) (flAd k now).count s hx hc with h | h | h
  · exact Or.inl h.2
  · exact Or.inr (Or.inl h.2)
  · exact Or.inr (Or.inr h.2)

/-- non-vacuity: a segment sent once whose timer (50) is due at 100 is retransmitted by the timeout
branch: `xmit = 2`, `rto = 200 + rx_rto = 400`, `resendts = 100 + 400` -/
example : (flush { Kcp.new 1 with snd_buf := [{ sn := 0, xmit := 1, resendts := 50, rto := 200 }], snd_nxt := 1 } true 100
    ).k.snd_buf.map (fun s => (s.xmit, s.rto, s.resendts)) = [(2, 400, 500)] := by decide +kernel

/-- with fast resend off (`fastresend ≤ 0`) the threshold is the sentinel itself, so the fast
branch can never fire -/
theorem C18_no_fast_when_off (k : Kcp) (hoff : k.fastresend.sle 0 = true) (s : Seg) :
    ¬ (s.fastack ≥ resentOf k ∧ s.fastack ≠ 0xFFFFFFFF#32) := by
  unfold resentOf
  rw [if_pos hoff]
  intro h
  exact h.2 (by bv_omega)

/-- `parse_fastack`: position by position the send buffer is unchanged except that `fastack` of a
segment may grow by one — and only when the ACK's `sn` is strictly later than the segment's
(`itimediff sn s.sn > 0`), the segment does not carry the sentinel, and it was sent no later than
the acknowledged one (`itimediff s.ts ts ≤ 0`).  The whole function acts only for `sn` inside
`[snd_una, snd_nxt)`. -/
theorem C18_fastack_increment_cause (sn ts fastresend : U32) (l : List Seg) (k : Kcp) :
    ((fastLoop sn ts fastresend l).buf.length = l.length ∧
      ∀ p ∈ l.zip (fastLoop sn ts fastresend l).buf, p.2 = p.1 ∨
        (p.2 = { p.1 with fastack := p.1.fastack + 1 } ∧ itimediff sn p.1.sn > 0 ∧ p.1.fastack ≠ 0xFFFFFFFF#32 ∧
          itimediff p.1.ts ts ≤ 0)) ∧
    ((parseFastack k sn ts).1.snd_buf = k.snd_buf ∨
      (itimediff sn k.snd_una ≥ 0 ∧ itimediff sn k.snd_nxt < 0 ∧
        (parseFastack k sn ts).1.snd_buf = (fastLoop sn ts k.fastresend k.snd_buf).buf)) := by
  refine ⟨?_, ?_⟩
  · induction l with
    | nil => unfold fastLoop; exact ⟨rfl, fun p hp => by simp at hp⟩
    | cons s rest ih =>
      unfold fastLoop
      split
      · refine ⟨rfl, fun p hp => ?_⟩
        exact Or.inl (mem_zip_self _ p hp).symm
      · rename_i h1
        split
        · rename_i h2
          refine ⟨by simp only [List.length_cons, ih.1], fun p hp => ?_⟩
          simp only [List.zip_cons_cons, List.mem_cons] at hp
          rcases hp with rfl | hp
          · exact Or.inr ⟨rfl, Serial.itimediff_pos_of_ne _ _ h1 h2.1, h2.2.2, h2.2.1⟩
          · exact ih.2 p hp
        · refine ⟨by simp only [List.length_cons, ih.1], fun p hp => ?_⟩
          simp only [List.zip_cons_cons, List.mem_cons] at hp
          rcases hp with rfl | hp
          · exact Or.inl rfl
          · exact ih.2 p hp
  · unfold parseFastack
    split
    · exact Or.inl rfl
    · rename_i h
      refine Or.inr ⟨?_, ?_, rfl⟩
      · exact Int.not_lt.mp (fun c => h (Or.inl c))
      · exact Int.not_le.mp (fun c => h (Or.inr c))

/-- non-vacuity: an ACK for sn 7 bumps the earlier segment 5 (sent no later) and not segment 7 -/
example : (fastLoop 7 100 2 [{ sn := 5, ts := 90 }, { sn := 7, ts := 95 }]).buf =
    [{ sn := 5, ts := 90, fastack := 1 }, { sn := 7, ts := 95 }] := by decide +kernel

/-! `Op`, `step`, `run`, `RtoInv`, `rtoOk`, `runOk` are in Lemmas/KcpLiveOps.lean. -/

/-- every operation with arbitrary arguments keeps `rx_minrto ≤ rx_rto ≤ IKCP_RTO_MAX`; the only
hypothesis concerns `NoDelay`: it must not raise `rx_minrto` above the current `rx_rto`
(`rtoOk`; `True` for every other operation) -/
theorem C18_step_rto_bounds (k : Kcp) (op : Op) (hinv : RtoInv k) (hok : rtoOk k op) : RtoInv (step k op) := by
  refine inv_step (keeps_steps (fun k full now h => ?_) (hrtt := fun k rtt h => ?_)) k op hinv hok
    (hnd := fun k nd iv rs nc hok hinv => ?_)
  · obtain ⟨_, _, _, _, _, _, e⟩ := flush_frame k full now
    rw [e]
    exact h
  · have hb := C18_rto_bounds k rtt (BitVec.le_trans h.1 h.2)
    unfold RtoInv
    rw [hb.2.2]
    exact ⟨hb.1, hb.2.1⟩
  · unfold RtoInv
    rw [(noDelay_rto k nd iv rs nc).1, (noDelay_rto k nd iv rs nc).2]
    refine ⟨?_, hinv.2⟩
    unfold rtoOk at hok
    split
    · rename_i hnd
      rcases hok with h | h
      · omega
      · exact h
    · exact hinv.1

/-- `rx_minrto ≤ rx_rto ≤ IKCP_RTO_MAX` in every state reachable from `NewKCP` (100 ≤ 200 ≤ 60000) by
any sequence of operations with arbitrary arguments in which no `NoDelay` raises `rx_minrto` above
the current `rx_rto` (`runOk`).  Every RTT sample, however forged, keeps the bounds. -/
theorem C18_reachable_rto_bounds (conv : U32) (ops : List Op) (h : runOk (Kcp.new conv) ops) :
    RtoInv (run (Kcp.new conv) ops) :=
  foldl_inv_ok (fun _ _ _ h => h) (fun k op hok hinv => C18_step_rto_bounds k op hinv hok) ops _ h (by
    unfold RtoInv Kcp.new; simp only [u32, IKCP_RTO_MIN, IKCP_RTO_DEF, IKCP_RTO_MAX]; decide)

/-- before the first RTT sample (`rx_rto` still `IKCP_RTO_DEF`) every `NoDelay` call is allowed -/
theorem C18_noDelay_before_sample_ok (k : Kcp) (hdef : k.rx_rto = u32 IKCP_RTO_DEF) (nd iv rs nc : Int) :
    rtoOk k (.noDelay nd iv rs nc) := by
  unfold rtoOk
  rw [hdef]
  right
  split <;> (simp only [u32, IKCP_RTO_NDL, IKCP_RTO_MIN, IKCP_RTO_DEF]; decide)

/-- non-vacuity: a run with NoDelay before traffic, a forged ACK datagram and flushes satisfies the
hypothesis (and the hypothesis is decidable) -/
example : runOk (Kcp.new 7)
    [.noDelay 1 10 2 1, .send [1, 2, 3], .flush true 100,
     .input [7,0,0,0, 82,0, 32,0, 0,0,0,0, 0,0,0,0, 1,0,0,0, 0,0,0,0] true false 5000, .update 5100] := by
  decide +kernel

/-- the hypothesis is needed: raising `rx_minrto` to 100 after the RTO dropped to 30 breaks the bound -/
example : ¬ RtoInv (noDelay { Kcp.new 7 with rx_rto := 30, rx_minrto := 30 } 0 (-1) (-1) (-1)) := by decide +kernel

/-! The closed two-endpoint system of Model/Sys.lean.  `SysC.Clean` (Lemmas/SysCleanInv.lean) is the invariant;
`SysC.CleanInit` = settings before traffic (decidable), among them the precondition
`2 * D + interval_B < rx_minrto_A`; `SysC.RunOk` = the two run hypotheses of the partial theorem. -/

open KcpVerif.Sys KcpVerif.SysC in
/-- **No retransmission on a clean path.**  On the loss-free, duplicate-free, in-order system with
`2 D + interval_B < rx_minrto_A`, in EVERY reachable state (any interleaving of the events, any
`Send` arguments, any `ackNoDelay` settings, clock wrap included):

* nothing panicked;
* every segment in A's send buffer has been transmitted exactly once (`xmit = 1`; a retransmission
  of any kind would leave `xmit ≥ 2` on a segment that is still in the buffer after that event);
* a FULL flush of A taken in this state takes neither the timeout branch nor the fast/early branch
  (`lost = change = 0`); the same is shown inside the proof for the flushes `Input` triggers.

Partial: it assumes `RunOk` along the run — (1) `RoomOk`: B's receive queue has room for everything A
has sent and B has not yet taken (what the window precondition of the property is there to guarantee:
`C18_clean_path_window_partial` derives it), and
(2) `NoWrap`: fewer than 2^31 segments are queued over the whole run (sequence numbers are compared
through their offset from the first one).  Data flows from A to B only. -/
theorem C18_clean_path_partial (A B : Kcp) (D t0 : Nat) (ndA ndB : Bool) (hinit : CleanInit A B D)
    (evs : List Ev) (hrun : RunOk A.snd_nxt (Sys.init A B D t0 ndA ndB) evs) :
    (Sys.run (Sys.init A B D t0 ndA ndB) evs).panic = false ∧
    (∀ x ∈ (Sys.run (Sys.init A B D t0 ndA ndB) evs).A.snd_buf, x.xmit = 1) ∧
    (flX (Sys.run (Sys.init A B D t0 ndA ndB) evs).A true (clk (Sys.run (Sys.init A B D t0 ndA ndB) evs).now)).lost = 0 ∧
    (flX (Sys.run (Sys.init A B D t0 ndA ndB) evs).A true (clk (Sys.run (Sys.init A B D t0 ndA ndB) evs).now)).change = 0 := by
  obtain ⟨gab, gba, hc, hnw⟩ := clean_run (p := parOf A B) evs _ [] [] (clean_init A B D t0 ndA ndB hinit) hrun
  obtain ⟨_, _, hl, hch⟩ := clean_flushA hc hnw 0
  exact ⟨hc.np, fun x hx => (hc.aseg x hx).xmit_one, hl, hch⟩

open KcpVerif.Sys KcpVerif.SysC in
/-- the full statement: the window precondition of the property instead of the run hypotheses -/
def C18_clean_path_full : Prop :=
  ∀ (A B : Kcp) (D t0 : Nat) (ndA ndB : Bool), CleanInit A B D → B.rcv_queue = [] →
    min A.snd_wnd.toNat A.rmt_wnd.toNat ≤ B.rcv_wnd.toNat → 0 < B.rcv_wnd.toNat →
    ∀ evs : List Ev,
      (Sys.run (Sys.init A B D t0 ndA ndB) evs).panic = false ∧
      ∀ x ∈ (Sys.run (Sys.init A B D t0 ndA ndB) evs).A.snd_buf, x.xmit = 1

/-- one event preserves the invariant: the induction step of `C18_clean_path_partial` -/
theorem C18_clean_step {p : SysC.Par} {s : Sys.State} {gab gba : SysC.GLink} (h : SysC.Clean p s gab gba)
    (hnw : SysC.NoWrap p.base s) (hroom : SysC.RoomOk s) (ev : Sys.Ev) :
    ∃ gab' gba', SysC.Clean p (Sys.step s ev) gab' gba' := SysC.clean_step h hnw hroom ev

/-- in a clean state no transmitted segment is older than `2 D + interval_B`: its timer is not due -/
theorem C18_clean_age {p : SysC.Par} {s : Sys.State} {gab gba : SysC.GLink} (h : SysC.Clean p s gab gba) :
    ∀ x ∈ s.A.snd_buf, itimediff (Sys.clk s.now) x.resendts < 0 ∧ x.fastack = 0 ∧ x.acked = false :=
  fun x hx => ⟨(h.age (h.aseg x hx)).not_due, (h.aseg x hx).no_fastack, (h.aseg x hx).unacked⟩

/-! non-vacuity: nodelay mode (`rx_minrto = 30`, interval 10 ms), `D = 3`: `2·3 + 10 < 30`; the writer
sends 3 bytes at t = 1000, A flushes, three ticks later B inputs the datagram, the reader reads, B
flushes its ACK, three ticks later A inputs it -/

def c18A : Kcp := Kcp.noDelay (Kcp.new 7) 1 10 2 1
def c18Evs : List Sys.Ev :=
  [.send [1, 2, 3], .flushA, .tick, .tick, .tick, .dlvB, .read, .flushB, .tick, .tick, .tick, .dlvA]

example : SysC.CleanInit c18A c18A 3 := by decide +kernel
example : SysC.RunOk c18A.snd_nxt (Sys.init c18A c18A 3 1000) c18Evs := by decide +kernel
/-- in the middle of the run the segment is in flight, transmitted once … -/
example : ((Sys.run (Sys.init c18A c18A 3 1000) (c18Evs.take 5)).A.snd_buf.map (fun x => (x.sn, x.xmit))) = [(0, 1)] ∧
    (Sys.run (Sys.init c18A c18A 3 1000) (c18Evs.take 5)).now = 1003 := by decide +kernel
/-- … and at the end it is acknowledged and the reader has the bytes -/
example : (Sys.run (Sys.init c18A c18A 3 1000) c18Evs).A.snd_buf = [] ∧
    (Sys.run (Sys.init c18A c18A 3 1000) c18Evs).got = [1, 2, 3] ∧
    (Sys.run (Sys.init c18A c18A 3 1000) c18Evs).now = 1006 := by decide +kernel
/- the timing precondition is needed: with `rx_rto` down at its minimum (30 ms) and `D = 20`
(`2·20 + 10 ≥ 30`) the schedule stretched to the longer delay retransmits the segment (`xmit = 2`)
before its ACK is back -/
set_option maxRecDepth 20000 in
example : ((Sys.run (Sys.init { c18A with rx_rto := 30 } c18A 20 1000)
    ([.send [1, 2, 3], .flushA] ++ List.replicate 10 .tick ++ [.flushA, .flushB] ++ List.replicate 10 .tick ++
     [.dlvB, .read, .flushA, .flushB] ++ List.replicate 10 .tick ++ [.flushA])).A.snd_buf.map (fun x => x.xmit)) = [2] := by
  decide +kernel

/-! a larger run: 3003 bytes in four segments, `ackNoDelay` at B, 60 steps of the canonical scheduler
(`Sys.auto`: deliver what is due, read, flush when a flush is due, else tick): the run hypotheses hold
along the whole run, everything is delivered and acknowledged -/

def c18Big : List Sys.Ev :=
  [.send (List.replicate 3000 5), .send [1, 2, 3]] ++
    (Sys.auto 60 (Sys.run (Sys.init c18A c18A 3 1000 (ndB := true)) [.send (List.replicate 3000 5), .send [1, 2, 3]]) []).2

theorem c18Big_noWrap : SysC.RunNoWrap c18A.snd_nxt (Sys.init c18A c18A 3 1000 (ndB := true)) c18Big := by decide +kernel

/- the room hypothesis along this run is not evaluated: it follows from the window precondition (`SysC.runOk_of_win`) -/
set_option maxRecDepth 100000 in
example : SysC.RunOk c18A.snd_nxt (Sys.init c18A c18A 3 1000 (ndB := true)) c18Big :=
  SysC.runOk_of_win (p := SysC.parOf c18A c18A) c18Big _ [] [] (SysC.clean_init c18A c18A 3 1000 false true (by decide +kernel))
    (SysC.win_init c18A c18A 3 1000 false true (by decide +kernel) (by decide +kernel)) c18Big_noWrap
set_option maxRecDepth 100000 in
example : (Sys.run (Sys.init c18A c18A 3 1000 (ndB := true)) c18Big).got.length = 3003 ∧
    (Sys.run (Sys.init c18A c18A 3 1000 (ndB := true)) c18Big).A.waitSnd = 0 := by decide +kernel

/-! `SysC.Win` (Lemmas/SysCleanInv.lean): every `(una, wnd)` pair on its way to A, and A's current
`(snd_una, min(snd_wnd, rmt_wnd))`, satisfy `una + wnd + |rcv_queue| ≤ rcv_nxt + rcv_wnd` at B.  Every event keeps
it: phase 4 never admits beyond `snd_una + min(snd_wnd, rmt_wnd)`, `wnd_unused` never advertises more than the room
left, an in-order PUSH moves `rcv_nxt` and `|rcv_queue|` together, `Recv` only shortens the queue. -/

open KcpVerif.Sys KcpVerif.SysC in
/-- **No retransmission on a clean path, from the window precondition.**  As
`C18_clean_path_partial`, but the room hypothesis `RoomOk` is not assumed: it is derived from
`WinInit` (receive window of B ≥ min(send window of A, the window A assumes), B's queue empty and
nothing outstanding at the start) and the reader keeping up (built into `Sys.step`: a `tick` is
refused while something is readable), and it is part of the conclusion.  The one run hypothesis left
is `NoWrap` (fewer than 2^31 segments queued over the whole run). -/
theorem C18_clean_path_window_partial (A B : Kcp) (D t0 : Nat) (ndA ndB : Bool) (hinit : CleanInit A B D)
    (hwin : WinInit A B) (evs : List Ev) (hrun : RunNoWrap A.snd_nxt (Sys.init A B D t0 ndA ndB) evs) :
    (Sys.run (Sys.init A B D t0 ndA ndB) evs).panic = false ∧
    (∀ x ∈ (Sys.run (Sys.init A B D t0 ndA ndB) evs).A.snd_buf, x.xmit = 1) ∧
    (flX (Sys.run (Sys.init A B D t0 ndA ndB) evs).A true (clk (Sys.run (Sys.init A B D t0 ndA ndB) evs).now)).lost = 0 ∧
    (flX (Sys.run (Sys.init A B D t0 ndA ndB) evs).A true (clk (Sys.run (Sys.init A B D t0 ndA ndB) evs).now)).change = 0 ∧
    RoomOk (Sys.run (Sys.init A B D t0 ndA ndB) evs) := by
  have hok : RunOk A.snd_nxt (Sys.init A B D t0 ndA ndB) evs := runOk_of_win (p := parOf A B) evs _ [] []
    (clean_init A B D t0 ndA ndB hinit) (win_init A B D t0 ndA ndB hinit hwin) hrun
  obtain ⟨h1, h2, h3, h4⟩ := C18_clean_path_partial A B D t0 ndA ndB hinit evs hok
  exact ⟨h1, h2, h3, h4, hok.last⟩

/-- non-vacuity: the start conditions and the remaining run hypothesis hold on the runs above; default
windows (`snd_wnd = rmt_wnd = rcv_wnd = 32`) -/
example : SysC.WinInit c18A c18A := by decide +kernel
example : SysC.RunNoWrap c18A.snd_nxt (Sys.init c18A c18A 3 1000) c18Evs := by decide +kernel
set_option maxRecDepth 100000 in
example : SysC.RunNoWrap c18A.snd_nxt (Sys.init c18A c18A 3 1000 (ndB := true)) c18Big := c18Big_noWrap
/- the window precondition is needed for `RoomOk`: with a receive window of 1 at B and the default 32
assumed by A, A sends two segments at once and the second finds no room -/
example : ¬ SysC.WinInit c18A (Kcp.wndSize c18A 32 1) := by decide +kernel
set_option maxRecDepth 100000 in
example : ¬ SysC.RoomOk (Sys.run (Sys.init c18A (Kcp.wndSize c18A 32 1) 3 1000)
    [.send (List.replicate 2000 5), .flushA]) := by decide +kernel

/-! ### data in both directions (stated, not proved)

`Model/Sys2.lean` adds a writer at B and a reader at A.  `C18_clean_path_bidir_full` is only stated.  It does not
follow from the one-directional theorem by symmetry, because `SysC.Clean` uses that B never sends: each link
carries one class of frames (`DataLike` A→B, `AckLike` B→A), an `Input` acts on the send side only or on the
receive side only, and a tick waits for B's reader only.  No theorem uses it. -/

open KcpVerif.Sys KcpVerif.SysC in
def C18_clean_path_bidir_full : Prop :=
  ∀ (A B : Kcp) (D t0 : Nat) (ndA ndB : Bool),
    CleanInit A B D → WinInit A B → CleanInit B A D → WinInit B A →
    ∀ evs : List Sys2.Ev,
      (Sys2.run { s := Sys.init A B D t0 ndA ndB } evs).s.panic = false ∧
      (∀ x ∈ (Sys2.run { s := Sys.init A B D t0 ndA ndB } evs).s.A.snd_buf, x.xmit ≤ 1) ∧
      (∀ x ∈ (Sys2.run { s := Sys.init A B D t0 ndA ndB } evs).s.B.snd_buf, x.xmit ≤ 1)

def c18Bidir : List Sys2.Ev :=
  [.base (.send [1, 2, 3]), .sendB [9, 8], .base .flushA, .base .flushB, .base .tick, .base .tick, .base .tick,
   .base .dlvB, .base .dlvA, .base .read, .readA] ++ List.replicate 7 (.base .tick) ++
  [.base .flushA, .base .flushB] ++ List.replicate 3 (.base .tick) ++ [.base .dlvB, .base .dlvA]

/- evidence (not proof): a run with data both ways, acknowledgements piggybacked on the scheduled
flushes; both segments are transmitted once, delivered and acknowledged -/
example : SysC.CleanInit c18A c18A 3 ∧ SysC.WinInit c18A c18A := by decide +kernel
set_option maxRecDepth 100000 in
example : ((Sys2.run { s := Sys.init c18A c18A 3 1000 } (c18Bidir.take 20)).s.A.snd_buf.map (fun x => x.xmit)) = [1] ∧
    ((Sys2.run { s := Sys.init c18A c18A 3 1000 } (c18Bidir.take 20)).s.B.snd_buf.map (fun x => x.xmit)) = [1] := by
  decide +kernel
set_option maxRecDepth 100000 in
example : (Sys2.run { s := Sys.init c18A c18A 3 1000 } c18Bidir).s.got = [1, 2, 3] ∧
    (Sys2.run { s := Sys.init c18A c18A 3 1000 } c18Bidir).gotA = [9, 8] ∧
    (Sys2.run { s := Sys.init c18A c18A 3 1000 } c18Bidir).s.A.snd_buf = [] ∧
    (Sys2.run { s := Sys.init c18A c18A 3 1000 } c18Bidir).s.B.snd_buf = [] := by decide +kernel

end KcpVerif.Props
