import KcpVerif.Lemmas.SchedSource
import KcpVerif.Lemmas.SchedFair
import KcpVerif.Lemmas.SchedClose
/-!
C17 — timed scheduler: every task runs exactly once, never early.

The safety theorems are about `Sched.Reachable m k t0 s`: `s` is reachable in the labelled transition
system `Model/Sched.lean` of `timedsched.go` from `NewTimedSched(k)` created at time `t0`, by ANY
interleaving of `Put`s (any ids, any deadlines: past, equal, decreasing, far future), prepend
goroutine steps, worker steps, timer firings and clock ticks; `m` is the Go timer-channel
semantics (`Mode.sync` = `asynctimerchan=0`, `Mode.async` = `asynctimerchan=1`); `k` workers.
The liveness theorems are about infinite runs of the same system (`IsRun`, `FairRun`, `GoFairRun`),
the `Close` theorems about its extension `CReachable` (`Lemmas/SchedClose.lean`).
Every theorem holds for both modes and every `k` (they are universally quantified).

Safety, the possibility of completion and liveness (for runs in which submissions eventually pause
and time diverges) are proved.  Not claimed: liveness under an unbounded stream of `Put`s (needs the
fairness of Go's randomised `select` and prompt runtime timers, which are outside the model), and
wall-clock latency.
-/
namespace KcpVerif.Props
open KcpVerif.Sched

variable {m : Mode} {k : Nat} {t0 : Time} {s : State}

/-- **source pin** (tie X): the functions of timedsched.go in the repository's working tree are,
    token for token, the ones the transition system was transcribed from.  Any edit of `Put`,
    `prepend`, `sched`, the heap or `NewTimedSched` breaks this theorem until the model has been
    re-validated (see Lemmas/SchedSource.lean). -/
theorem C17_source_pinned : Gen.timedschedSrc = pinnedSrc := rfl

/-- **conservation**: what was submitted is, as a multiset, what is waiting in `prependTasks`, in
    the prepend goroutine's batch, in the hands/heaps of the workers, or executed; and no id is
    executed twice.  So every submitted task is executed at most once and is never dropped. -/
theorem C17_conservation (h : Reachable m k t0 s) :
    s.sub.Perm (s.pre ++ s.batch ++ heldAll s.ws ++ s.done.map (·.task)) ∧
    (s.done.map (·.task.id)).Nodup :=
  ⟨h.inv.c.perm, (List.nodup_append.mp (h.inv.c.ids_nodup h.inv.i)).2.1⟩

/-- a submitted task is either still pending in exactly one place or has been executed exactly
    once — never both, never twice, never nowhere -/
theorem C17_exactly_one_place (h : Reachable m k t0 s) (t : Task) (ht : t ∈ s.sub) :
    (pendingTasks s).count t + (s.done.map (·.task)).count t = 1 :=
  h.inv.c.one_place h.inv.i ht

/-- **never early**: every execution happened at a clock value strictly greater than the task's
    deadline (strict, like `now.After(ts)`), for both guards (fresh `time.Now()` and the value
    received from the timer channel, which may be stale but is never newer than the clock) -/
theorem C17_never_early (h : Reachable m k t0 s) (e : Exec) (he : e ∈ s.done) :
    e.task.ts < e.time ∧ e.time ≤ s.now :=
  h.inv.d e he

/-- **the conditional drain never blocks**: a worker stands at `if !stopped && !drained { <-timer.C }`
    with the condition true only in states where the channel holds a value -/
theorem C17_drain_never_blocks (h : Reachable m k t0 s) (w : Worker) (hw : w ∈ s.ws) (n : Time)
    (hpc : w.pc = .stopped n false) (hd : w.drained = false) : w.timer.chan.isSome := by
  have := (h.inv.w w hw).2
  simp only [hpc] at this
  exact this.full ⟨rfl, hd⟩

/-- under the Go ≥ 1.23 semantics (`asynctimerchan=0`) the conditional drain is dead code: `Stop`
    has already discarded the value, the receive would block for ever — and the state in which it
    would be executed is unreachable -/
theorem C17_drain_dead_in_sync (h : Reachable .sync k t0 s) (w : Worker) (hw : w ∈ s.ws) (n : Time)
    (hpc : w.pc = .stopped n false) : w.drained = true := by
  have := (h.inv.w w hw).2
  simp only [hpc] at this
  cases hd : w.drained
  · have h1 := this.full ⟨rfl, hd⟩
    have h2 := this.sync rfl
    simp [h2] at h1
  · rfl

/-- no stale value is ever left behind: when the worker calls `Reset` (either place) the timer is
    unarmed and its channel is empty, in both modes -/
theorem C17_reset_on_clean_timer (h : Reachable m k t0 s) (w : Worker) (hw : w ∈ s.ws) :
    (∀ n, w.pc = .reset n → w.timer.armed = none ∧ w.timer.chan = none) ∧
    (∀ v, w.pc = .loop v → w.timer.armed = none ∧ w.timer.chan = none) := by
  have := (h.inv.w w hw).2
  constructor
  · intro n hpc; simp only [hpc] at this; exact this.2
  · intro v hpc; simp only [hpc] at this; exact this.2.1

/-- **the timer is armed for the heap minimum**: a worker at its `select` (or holding a task it
    has just received) with a non-empty heap either has a value pending in its timer channel or
    its timer is armed, for exactly `armedAt + max 0 (tasks[0].ts − usedNow)` where `usedNow ≤
    armedAt ≤ now` is the clock reading the duration was computed from — never unarmed, never
    armed for another task's deadline -/
theorem C17_min_armed (h : Reachable m k t0 s) (w : Worker) (hw : w ∈ s.ws)
    (hpc : w.pc = .select ∨ ∃ t, w.pc = .gotTask t) (hne : w.heap ≠ []) :
    w.timer.chan.isSome ∨
    ∃ wh, w.timer.armed = some wh ∧ wh = w.armedAt + (minTs w.heap - w.usedNow) ∧
      w.usedNow ≤ w.armedAt ∧ w.armedAt ≤ s.now := by
  have hq : w.quiet s.now := by
    have := (h.inv.w w hw).2
    rcases hpc with hpc | ⟨t, hpc⟩ <;> simpa only [hpc] using this
  obtain ⟨h1, h2, h3⟩ := hq
  cases hd : w.drained
  · rcases h2 hd with ⟨ha, _⟩ | ⟨_, hc⟩
    · obtain ⟨wh, hwh⟩ := Option.isSome_iff_exists.mp ha
      exact Or.inr ⟨wh, hwh, h3 hne wh hwh⟩
    · exact Or.inl hc
  · exact absurd (h1 hd).2 hne

/-- **a far-future task never delays a nearer one**: for EVERY task `u` in the heap the timer is
    armed for no later than `u`'s deadline plus the staleness `armedAt − usedNow` of the clock
    reading that was used (or for the arming time itself, if `u` was already due then) -/
theorem C17_far_future_never_delays (h : Reachable m k t0 s) (w : Worker) (hw : w ∈ s.ws)
    (hpc : w.pc = .select ∨ ∃ t, w.pc = .gotTask t) (u : Task) (hu : u ∈ w.heap) :
    w.timer.chan.isSome ∨
    ∃ wh, w.timer.armed = some wh ∧ wh ≤ max w.armedAt (u.ts + (w.armedAt - w.usedNow)) ∧
      w.armedAt ≤ s.now := by
  rcases C17_min_armed h w hw hpc (List.ne_nil_of_mem hu) with hc | ⟨wh, hwh, he, h1, h2⟩
  · exact Or.inl hc
  · refine Or.inr ⟨wh, hwh, ?_, h2⟩
    have := minTs_le hu
    by_cases hcase : minTs w.heap ≤ w.usedNow
    -- `omega` does not see through `Time := Nat` in the types of hypotheses
    · have h3 : wh ≤ w.armedAt := by unfold Time at *; omega
      exact Nat.le_trans h3 (Nat.le_max_left _ _)
    · have h3 : wh ≤ u.ts + (w.armedAt - w.usedNow) := by unfold Time at *; omega
      exact Nat.le_trans h3 (Nat.le_max_right _ _)

/-- **no lost wake-up**: while `prependTasks` is non-empty, the notify token is present, or the
    prepend goroutine has taken it and not swapped yet, or a producer is between its append and
    its notify -/
theorem C17_handoff_no_lost_wakeup (h : Reachable m k t0 s) (hne : s.pre ≠ []) :
    s.ntok = true ∨ s.ppc = .gotToken ∨ 0 < s.pend :=
  h.inv.h hne

/-- the prepend goroutine swaps only after its previous batch is completely handed over, so the
    swap never discards a task -/
theorem C17_swap_with_empty_batch (h : Reachable m k t0 s) (hg : s.ppc = .gotToken) : s.batch = [] :=
  h.inv.c.2 hg

/-- **a worker never blocks outside its `select`** (both modes): whatever the interleaving, a
    worker that is not at its `select` has an enabled next step of its own -/
theorem C17_worker_never_blocked (h : Reachable m k t0 s) (w : Worker) (hw : w ∈ s.ws)
    (hpc : w.pc ≠ .select) : ∃ l, (∀ v, l ≠ .fire v) ∧ (wstep m s.now w l).isSome :=
  let ⟨l, _, hl, hs⟩ := (h.inv.w w hw).next hpc
  ⟨l, hl, hs.isSome⟩

/-- **the observable projection of every run is accepted by the acceptor the driver runs on the
    real traces** (`obsStep`): ids fresh, every `exec` of a submitted and not yet executed id,
    at a time strictly after its deadline, in time order -/
theorem C17_obs_sound (h : Reachable m k t0 s) :
    ∃ o, obsRun ObsState.init s.log.reverse = .ok o ∧ o.sub = s.sub ∧
      o.execd = s.done.map (·.task.id) :=
  let ⟨o, h1, _, h3, h4⟩ := h.inv.l
  ⟨o, h1, h3, h4⟩

/-- … and in a quiescent state (nothing pending anywhere) the acceptor's `fin` check succeeds -/
theorem C17_obs_quiescent (h : Reachable m k t0 s) (hq : pendingTasks s = []) :
    ∃ o, obsRun ObsState.init (s.log.reverse ++ [.fin]) = .ok o := by
  obtain ⟨o, h1, _, h3, h4⟩ := h.inv.l
  refine ⟨o, obsRun_snoc h1 ?_⟩
  have hnone : o.sub.find? (fun t => !(o.execd.contains t.id)) = none := by
    rw [List.find?_eq_none]
    intro t ht
    rw [h3] at ht
    have hone := C17_exactly_one_place h t ht
    simp only [hq, List.count_nil, Nat.zero_add] at hone
    have hin : t ∈ s.done.map (·.task) := List.count_pos_iff.mp (by omega)
    obtain ⟨e, he, rfl⟩ := List.mem_map.mp hin
    have : e.task.id ∈ s.done.map (·.task.id) := List.mem_map_of_mem (f := (·.task.id)) he
    simp [h4, this]
  simp only [obsStep, hnone]

/-- **no deadlock while a task is pending** (both modes, any `k ≥ 1`): after letting time pass
    (needed only when every remaining task waits for its armed timer) some step other than a new
    `Put` is enabled: no interleaving of "timer fired" and "task arrived" wedges a worker -/
theorem C17_no_deadlock (h : Reachable m k t0 s) (hk : 0 < k) (hp : pendingTasks s ≠ []) :
    ∃ d l, (∀ id ts, l ≠ .put id ts) ∧ (∀ d', l ≠ .tick d') ∧ (run m s [.tick d, l]).isSome :=
  no_deadlock h hk hp

/-- **no reachable state is doomed** (both modes, any `k ≥ 1`): from every reachable state —
    whatever interleaving of "timer fired" and "task arrived" led to it — the scheduler can, without
    any further `Put`, by its own steps, timer firings and the passing of time, reach a state in
    which every submitted task has been executed exactly once.  Possibility, not inevitability. -/
theorem C17_can_always_complete (h : Reachable m k t0 s) (hk : 0 < k) :
    ∃ ls s', NoPut ls ∧ run m s ls = some s' ∧ pendingTasks s' = [] ∧
      ∀ t, t ∈ s.sub → (s'.done.map (·.task)).count t = 1 := by
  obtain ⟨ls, s', hnp, hrun, hfin⟩ := can_complete hk h
  refine ⟨ls, s', hnp, hrun, hfin, fun t ht => ?_⟩
  have hr' : Reachable m k t0 s' := h.run hrun
  have hsub := (run_noput hrun hnp).1
  have hone := C17_exactly_one_place hr' t (hsub ▸ ht)
  simpa [hfin] using hone

/-- an infinite run of the scheduler in which submissions eventually pause, every goroutine
    action that stays enabled is eventually taken (weak fairness; `fire` as a class, because the
    value sent varies), and time diverges -/
structure FairRun (m : Mode) (k : Nat) (t0 : Time) where
  st : Nat → State
  lab : Nat → Label
  start : st 0 = init k t0
  next : ∀ n, step m (st n) (lab n) = some (st (n + 1))
  putsPause : ∃ N, ∀ n, N ≤ n → ∀ id ts, lab n ≠ .put id ts
  fair : ∀ l, (∀ id ts, l ≠ .put id ts) → (∀ d, l ≠ .tick d) → (∀ i v, l ≠ .w i (.fire v)) →
    ∀ N, (∀ n, N ≤ n → (step m (st n) l).isSome) → ∃ n, N ≤ n ∧ lab n = l
  fairFire : ∀ i N, (∀ n, N ≤ n → ∃ v, (step m (st n) (.w i (.fire v))).isSome) →
    ∃ n v, N ≤ n ∧ lab n = .w i (.fire v)
  timeDiverges : ∀ T, ∃ n, T ≤ (st n).now

theorem FairRun.isRun {m : Mode} {k : Nat} {t0 : Time} (r : FairRun m k t0) : IsRun m k t0 r.st r.lab :=
  ⟨r.start, r.next⟩

/-- the full liveness claim: in every fair run every submitted task is eventually executed.
    For unboundedly many submissions a claim of this kind would need in addition the fairness of
    Go's `select` and the promptness of the runtime's timers, which are outside the model. -/
def C17_exactly_once_full : Prop :=
  ∀ (m : Mode) (k : Nat) (t0 : Time), 0 < k → ∀ r : FairRun m k t0, ∀ n t, t ∈ (r.st n).sub →
    ∃ n', ((r.st n').done.map (·.task)).count t = 1

/-- "exactly once" at every reachable state: a submitted task is never executed twice and never
    lost (it is in exactly one place: pending somewhere, or executed once), and while it is pending
    the system is not stuck — every worker outside its `select` can step, and some non-`Put` step
    is enabled after letting time pass -/
theorem C17_exactly_once_partial (h : Reachable m k t0 s) (hk : 0 < k) (t : Task) (ht : t ∈ s.sub) :
    (s.done.map (·.task)).count t ≤ 1 ∧
    ((s.done.map (·.task)).count t = 0 →
      (pendingTasks s).count t = 1 ∧
      (∀ w, w ∈ s.ws → w.pc ≠ .select → ∃ l, (∀ v, l ≠ .fire v) ∧ (wstep m s.now w l).isSome) ∧
      ∃ d l, (∀ id ts, l ≠ .put id ts) ∧ (∀ d', l ≠ .tick d') ∧ (run m s [.tick d, l]).isSome) := by
  have hone := C17_exactly_one_place h t ht
  refine ⟨by omega, fun h0 => ⟨by omega, fun w hw hpc => C17_worker_never_blocked h w hw hpc, ?_⟩⟩
  apply C17_no_deadlock h hk
  intro hnil
  rw [hnil] at hone
  simp at hone
  omega

/-- one worker: the timer created by `NewTimer(0)` fires and is drained; task 1 (deadline 100) is
    pushed and the timer armed for 100; the timer fires at 100 *while* task 2 (deadline 150) is
    being handed over — the race the `drained` flag is about; the value 100 does not satisfy
    `After(100)`, so the worker re-arms with duration 0 (this is the spin that makes virtual time
    unusable: in a synctest bubble the clock would not move); one tick later task 1 runs at 101,
    task 2 at 151 -/
def demoRun : List Label :=
  [ .w 0 (.fire 0), .w 0 .recvTimer, .w 0 .loopEnd,
    .put 1 100, .notify, .takeToken, .swap, .handoff 0,
    .w 0 .readNow, .w 0 .stop, .w 0 .drain, .w 0 .reset,
    .put 2 150, .notify, .takeToken, .swap,
    .tick 100, .w 0 (.fire 100), .handoff 0,
    .w 0 .readNow, .w 0 .stop, .w 0 .drain, .w 0 .reset,
    .w 0 (.fire 100), .w 0 .recvTimer, .w 0 .loopEnd,
    .tick 1, .w 0 (.fire 101), .w 0 .recvTimer, .w 0 (.pop ⟨1, 100⟩), .w 0 .loopEnd,
    .tick 50, .w 0 (.fire 151), .w 0 .recvTimer, .w 0 (.pop ⟨2, 150⟩), .w 0 .loopEnd ]

example : (run .async (init 1 0) demoRun).map (·.done) = some [⟨⟨2, 150⟩, 151⟩, ⟨⟨1, 100⟩, 101⟩] := by
  decide
example : (run .sync (init 1 0) demoRun).map (·.done) = some [⟨⟨2, 150⟩, 151⟩, ⟨⟨1, 100⟩, 101⟩] := by
  decide
example : (run .sync (init 1 0) demoRun).map pendingTasks = some [] := by decide +kernel
example : (run .sync (init 1 0) demoRun).map (·.log.reverse) =
    some [.put 1 100 0, .put 2 150 0, .exec 1 101, .exec 2 151] := by decide +kernel

/-- the hypotheses of `C17_drain_never_blocks` are satisfiable: after 21 steps of `demoRun` under
    the old semantics the worker stands at the conditional drain with `stopped = false`,
    `drained = false` and the value 100 in the channel … -/
example : (run .async (init 1 0) (demoRun.take 21)).map (fun s => s.ws.map (fun w => (w.pc, w.drained, w.timer.chan))) =
    some [(.stopped 100 false, false, some 100)] := by decide +kernel
/-- … under the new semantics `Stop` reported `true` and emptied the channel -/
example : (run .sync (init 1 0) (demoRun.take 21)).map (fun s => s.ws.map (fun w => (w.pc, w.drained, w.timer.chan))) =
    some [(.stopped 100 true, false, none)] := by decide +kernel

/-- the hypotheses of `C17_min_armed` are satisfiable: after 23 steps the worker is at its select
    with two tasks and the timer armed for the minimum (100), not for the newer task (150) -/
example : (run .async (init 1 0) (demoRun.take 23)).map (fun s => s.ws.map (fun w => (w.pc, w.heap.length, w.timer.armed))) =
    some [(.select, 2, some 100)] := by decide +kernel

/-- `C17_can_always_complete` is not vacuous: after 23 steps two tasks are pending, and the rest of
    the run is a `Put`-free completion -/
example : (run .async (init 1 0) (demoRun.take 23)).map (fun s => (pendingTasks s).length) = some 2 := by
  decide
example : ((run .async (init 1 0) (demoRun.take 23)).bind (fun s => run .async s (demoRun.drop 23))).map
    pendingTasks = some [] := by decide +kernel

/-- the final state of the run is reachable, so all theorems above apply to it -/
example : ∃ s, run .async (init 1 0) demoRun = some s ∧ Reachable .async 1 0 s := by
  cases hr : run .async (init 1 0) demoRun with
  | none => exact absurd hr (by decide)
  | some s => exact ⟨s, rfl, Reachable.init.run hr⟩

/-- the acceptor is not trivial: it rejects an early execution, a duplicate and a missing task -/
example : ∃ why, obsRun ObsState.init [.put 1 100 0, .exec 1 100] = .error why := ⟨_, rfl⟩
example : ∃ why, obsRun ObsState.init [.put 1 100 0, .exec 1 101, .exec 1 102] = .error why := ⟨_, rfl⟩
example : ∃ why, obsRun ObsState.init [.put 1 100 0, .put 2 5 1, .exec 2 7, .fin] = .error why := ⟨_, rfl⟩

/-- a step that is NOT enabled: draining an empty channel (this is the hang `drained` prevents) -/
example : wstep .async 5 (Worker.mk (.stopped 0 false) [⟨1, 9⟩] ⟨none, none⟩ false 0 0) .drain = none := by
  decide

/-- once nothing is pending and no `Put` follows, nothing is pending ever after and every
    submitted task has run exactly once -/
theorem C17_quiescent_stays {m : Mode} {k : Nat} {t0 : Time} {st : Nat → State} {lab : Nat → Label}
    (hrun : IsRun m k t0 st lab) {N0 N2 : Nat} (hN0 : ∀ n, N0 ≤ n → ∀ id ts, lab n ≠ .put id ts)
    (hN2 : N0 ≤ N2) (hq : pendingTasks (st N2) = []) (n : Nat) (hn : N2 ≤ n) :
    pendingTasks (st n) = [] ∧ ∀ t, t ∈ (st n).sub → ((st n).done.map (·.task)).count t = 1 := by
  have hpend : pendingTasks (st n) = [] := by
    -- `sub` is fixed, `done` only grows, so the number of pending tasks cannot grow
    have hl2 := pending_length (hrun.reach N2)
    have hln := pending_length (hrun.reach n)
    obtain ⟨hsub, hdone⟩ := hrun.noput_from hN0 hN2 hn
    rw [hsub] at hln
    rw [hq] at hl2
    simp only [List.length_nil, Nat.zero_add] at hl2
    exact List.eq_nil_of_length_eq_zero (by omega)
  refine ⟨hpend, fun t ht => ?_⟩
  have hone := C17_exactly_one_place (hrun.reach n) t ht
  simpa [hpend] using hone

/-- in a fair run, from some point on NOTHING is pending any more, for ever (all submitted tasks
    are in `done`, the observable log ends in an accepted `fin`) -/
theorem C17_eventually_all_done {m : Mode} {k : Nat} {t0 : Time} (hk : 0 < k) (r : FairRun m k t0) :
    ∃ N, ∀ n, N ≤ n → pendingTasks (r.st n) = [] ∧
      ∀ t, t ∈ (r.st n).sub → ((r.st n).done.map (·.task)).count t = 1 := by
  obtain ⟨N0, hN0⟩ := r.putsPause
  obtain ⟨N2, hN2, hq⟩ := r.isRun.eventually_quiescent hk hN0 r.fair r.fairFire r.timeDiverges
  exact ⟨N2, C17_quiescent_stays r.isRun hN0 hN2 hq⟩

/-- **exactly once — the full claim** `C17_exactly_once_full`, proved: in every infinite run of the
    transition system (both timer modes, any `k ≥ 1`, any interleaving) in which submissions
    eventually pause, every action that stays enabled is eventually taken (weak fairness of the
    producers' notify, of prepend, of each worker; the runtime eventually fires a due timer) and
    time diverges, every submitted task is eventually executed — exactly once -/
theorem C17_exactly_once : C17_exactly_once_full := by
  intro m k t0 hk r n t ht
  obtain ⟨N, hN⟩ := C17_eventually_all_done hk r
  exact ⟨max n N, (hN _ (Nat.le_max_right n N)).2 t (r.isRun.sub_mono (Nat.le_max_left n N) ht)⟩

/-- **bounded work after the last deadline**: once the clock has passed every submitted deadline
    (`D < now`), ANY schedule without new `Put`s — fair or not — contains at most `mu D s` steps of
    the scheduler and the runtime (`mu`: 3·pend + 2·[token] + [prepend has the token] + 3·|pre| +
    2·|batch| + Σ workers (heap size + a constant ≤ 7)); all that can happen afterwards is the
    passing of time -/
theorem C17_bounded_work {m : Mode} {k : Nat} {t0 D : Time} {s s' : State} {ls : List Label}
    (h : Reachable m k t0 s) (hD : D < s.now) (hsub : ∀ t, t ∈ s.sub → t.ts ≤ D) (hnp : NoPut ls)
    (hr : run m s ls = some s') : nonTicks ls + mu D s' ≤ mu D s :=
  bounded_work h ⟨hD, hsub⟩ hnp hr

def demoFair (m : Mode) : FairRun m 1 0 where
  st := fairSt m
  lab := fairLab
  start := by cases m <;> decide
  next := by
    intro n
    by_cases h : n < 17
    · exact fair_next_prefix m n h
    · have h' : 17 ≤ n := Nat.not_lt.mp h
      rw [fairSt_tail m n h', fairSt_tail m (n + 1) (by omega), fairLab_tail n h', step_tick]
      have : 6 + (n - 17) + 1 = 6 + (n + 1 - 17) := by omega
      simp only [this]
  putsPause := ⟨17, fun n hn id ts he => by rw [fairLab_tail n hn] at he; cases he⟩
  fair := by
    intro l hp ht _ N hen
    have := hen (max N 17) (Nat.le_max_left _ _)
    rw [fairSt_tail m _ (Nat.le_max_right _ _), fairFin_dead m _ l hp ht] at this
    cases this
  fairFire := by
    intro i N hen
    obtain ⟨v, hv⟩ := hen (max N 17) (Nat.le_max_left _ _)
    rw [fairSt_tail m _ (Nat.le_max_right _ _), fairFin_dead m _ _ (by simp) (by simp)] at hv
    cases hv
  timeDiverges := by
    intro T
    refine ⟨17 + T, ?_⟩
    rw [fairSt_tail m _ (Nat.le_add_right _ _)]
    show (T : Nat) ≤ 6 + (17 + T - 17)
    unfold Time at *
    omega

/-- the hypotheses of `C17_exactly_once` are satisfiable by a run that really submits a task: task 1
    is submitted at step 3 … -/
example (m : Mode) : (⟨1, 5⟩ : Task) ∈ ((demoFair m).st 4).sub := by cases m <;> decide
/-- … is still pending at step 12 … -/
example (m : Mode) : pendingTasks ((demoFair m).st 12) = [⟨1, 5⟩] := by cases m <;> decide
/-- … and the theorem says it is eventually executed exactly once (here: from step 16 on) -/
example (m : Mode) : ∃ n', (((demoFair m).st n').done.map (·.task)).count ⟨1, 5⟩ = 1 :=
  C17_exactly_once m 1 0 (by decide) (demoFair m) 4 ⟨1, 5⟩ (by cases m <;> decide)
example (m : Mode) : (((demoFair m).st 16).done.map (·.task)).count ⟨1, 5⟩ = 1 := by cases m <;> decide

/-- an infinite run that is weakly fair **per goroutine**: a producer inside `Put`, the prepend
    goroutine, each worker, and the runtime for each worker's timer (`Owner`), eventually takes a
    step if it has an enabled step at every moment from some point on; submissions eventually
    pause; time diverges -/
structure GoFairRun (m : Mode) (k : Nat) (t0 : Time) where
  st : Nat → State
  lab : Nat → Label
  start : st 0 = init k t0
  next : ∀ n, step m (st n) (lab n) = some (st (n + 1))
  putsPause : ∃ N, ∀ n, N ≤ n → ∀ id ts, lab n ≠ .put id ts
  fair : ∀ g N, (∀ n, N ≤ n → ∃ l, l.owner = some g ∧ (step m (st n) l).isSome) →
    ∃ n, N ≤ n ∧ (lab n).owner = some g
  timeDiverges : ∀ T, ∃ n, T ≤ (st n).now

theorem GoFairRun.isRun {m : Mode} {k : Nat} {t0 : Time} (r : GoFairRun m k t0) :
    IsRun m k t0 r.st r.lab :=
  ⟨r.start, r.next⟩

/-- **exactly once under goroutine fairness** (both timer modes, any `k ≥ 1`): from some point on
    nothing is pending and every submitted task has run exactly once -/
theorem C17_exactly_once_goroutine_fair {m : Mode} {k : Nat} {t0 : Time} (hk : 0 < k)
    (r : GoFairRun m k t0) :
    ∃ N, ∀ n, N ≤ n → pendingTasks (r.st n) = [] ∧
      ∀ t, t ∈ (r.st n).sub → ((r.st n).done.map (·.task)).count t = 1 := by
  obtain ⟨N0, hN0⟩ := r.putsPause
  obtain ⟨N2, hN2, hq⟩ := r.isRun.eventually_quiescent_go hk hN0 r.fair r.timeDiverges
  exact ⟨N2, C17_quiescent_stays r.isRun hN0 hN2 hq⟩

/-- **exactly once for every run that does not idle for ever** — the weakest scheduling assumption
    the argument needs: whenever some action of the scheduler or of the runtime stays enabled for
    ever, SOME action other than the passing of time is eventually taken.  (Implied by either
    notion of weak fairness above; it is what "the Go scheduler runs runnable goroutines and the
    runtime runs due timers" amounts to.)  Submissions eventually pause, time diverges. -/
theorem C17_eventually_done {m : Mode} {k : Nat} {t0 : Time} (hk : 0 < k) {st : Nat → State}
    {lab : Nat → Label} (hrun : IsRun m k t0 st lab) {N0 : Nat}
    (hpause : ∀ n, N0 ≤ n → ∀ id ts, lab n ≠ .put id ts)
    (hprog : ∀ l, (∀ id ts, l ≠ .put id ts) → (∀ d, l ≠ .tick d) →
      ∀ N, (∀ n, N ≤ n → (step m (st n) l).isSome) → ∃ n, N ≤ n ∧ ∀ d, lab n ≠ .tick d)
    (htime : ∀ T, ∃ n, T ≤ (st n).now) :
    ∃ N, ∀ n, N ≤ n → pendingTasks (st n) = [] ∧
      ∀ t, t ∈ (st n).sub → ((st n).done.map (·.task)).count t = 1 := by
  obtain ⟨N2, hN2, hq⟩ := hrun.eventually_quiescent_of_progress hk hpause hprog htime
  exact ⟨N2, C17_quiescent_stays hrun hpause hN2 hq⟩

/-- `demoFair` is also fair per goroutine (non-vacuity of `C17_exactly_once_goroutine_fair`) -/
def demoGoFair (m : Mode) : GoFairRun m 1 0 where
  st := fairSt m
  lab := fairLab
  start := (demoFair m).start
  next := (demoFair m).next
  putsPause := (demoFair m).putsPause
  fair := by
    intro g N hen
    obtain ⟨l, hg, hl⟩ := hen (max N 17) (Nat.le_max_left _ _)
    have hp : ∀ id ts, l ≠ .put id ts := fun id ts he => by rw [he] at hg; cases hg
    have ht : ∀ d, l ≠ .tick d := fun d he => by rw [he] at hg; cases hg
    rw [fairSt_tail m _ (Nat.le_max_right _ _), fairFin_dead m _ l hp ht] at hl
    cases hl
  timeDiverges := (demoFair m).timeDiverges

/-- **safety survives `Close`** (transition system extended by `close`, the `<-ts.die` arms of the
    three `select`s and `Put` after `Close`, `Lemmas/SchedClose.lean`): conservation, no id executed
    twice, never early, and every submitted task is in exactly one place — executed once, or still
    in `prependTasks` / the batch / a worker's hands or heap (where it is abandoned once the
    goroutines have returned) -/
theorem C17_close_safety {m : Mode} {k : Nat} {t0 : Time} {cs : CState} (h : CReachable m k t0 cs) :
    cs.s.sub.Perm (cs.s.pre ++ cs.s.batch ++ heldAll cs.s.ws ++ cs.s.done.map (·.task)) ∧
    (cs.s.done.map (·.task.id)).Nodup ∧
    (∀ e, e ∈ cs.s.done → e.task.ts < e.time) ∧
    ∀ t, t ∈ cs.s.sub → (pendingTasks cs.s).count t + (cs.s.done.map (·.task)).count t = 1 :=
  ⟨(C17_conservation h.base).1, (C17_conservation h.base).2,
   fun e he => (C17_never_early h.base e he).1, fun t ht => C17_exactly_one_place h.base t ht⟩

/-- **no step after `Close` blocks for ever**: every goroutine that has not returned yet can move —
    a worker outside its `select` has an own step (in particular the conditional `<-timer.C` still
    never blocks), a worker at its `select` can return, the prepend goroutine can return (from
    either `select`) or finish its swap -/
theorem C17_close_no_goroutine_blocks {m : Mode} {k : Nat} {t0 : Time} {cs : CState}
    (h : CReachable m k t0 cs) (hc : cs.closed = true) :
    (∀ i w, cs.s.ws[i]? = some w → cs.wexited i = false →
      (cstep m cs (.exitW i)).isSome ∨ ∃ l, (∀ v, l ≠ .fire v) ∧ (cstep m cs (.base (.w i l))).isSome) ∧
    (cs.pexit = false → (cstep m cs .exitP).isSome ∨ (cstep m cs (.base .swap)).isSome) := by
  refine ⟨fun i w hw hne => ?_, fun hne => ?_⟩
  · by_cases hsel : w.pc = .select
    · left
      simp [cstep, hw, hc, hne, hsel]
    · right
      obtain ⟨l, _, hnf, ho⟩ := (h.base.inv.w w (List.mem_of_getElem? hw)).next hsel
      refine ⟨l, hnf, ?_⟩
      simp [cstep, CState.allowed, hne, (SStep.w hw ho.wstep_eq).step_eq]
  · cases hp : cs.s.ppc with
    | idle => left; simp [cstep, hc, hne, hp]
    | gotToken => right; simp [cstep, CState.allowed, hne, Sched.step, hp]

/-- **once every worker has returned nothing runs any more** (`done` never changes again), so a
    task is executed after `Close` only by a worker that has not yet noticed it -/
theorem C17_close_frozen {m : Mode} {cs cs' : CState} {l : CLabel}
    (hall : ∀ i, i < cs.s.ws.length → cs.wexited i = true) (hs : cstep m cs l = some cs') :
    cs'.s.done = cs.s.done := by
  rcases cstep_base hs with he | ⟨bl, _, hal, hb⟩
  · rw [he]
  · have hb' := step_inv hb
    generalize cs'.s = s2 at hb' ⊢
    cases hb' with
    | w hw _ => simp [CState.allowed, hall _ (lt_of_getElem? hw)] at hal
    | _ => rfl

/-- non-vacuity: task 1 (deadline 100) is pushed, then `Close`; worker and prepend return; a `Put`
    after `Close` is still accepted (the code has no check) — both tasks are abandoned, nothing ran -/
def demoClose : List CLabel :=
  [ .base (.w 0 (.fire 0)), .base (.w 0 .recvTimer), .base (.w 0 .loopEnd),
    .base (.put 1 100), .base .notify, .base .takeToken, .base .swap, .base (.handoff 0),
    .base (.w 0 .readNow), .close, .base (.w 0 .stop), .base (.w 0 .drain), .base (.w 0 .reset),
    .exitW 0, .exitP, .base (.put 2 0), .base .notify, .base (.tick 500) ]

example : (crun .sync (cinit 1 0) demoClose).map (fun cs => (cs.closed, cs.pexit, cs.wexit)) =
    some (true, true, [true]) := by decide +kernel
example : (crun .sync (cinit 1 0) demoClose).map (fun cs => cs.s.done.length) = some 0 := by decide +kernel
example : (crun .sync (cinit 1 0) demoClose).map (fun cs => pendingTasks cs.s) =
    some [⟨2, 0⟩, ⟨1, 100⟩] := by decide +kernel
example : (crun .async (cinit 1 0) demoClose).map (fun cs => pendingTasks cs.s) =
    some [⟨2, 0⟩, ⟨1, 100⟩] := by decide +kernel
/-- a returned worker's timer does not fire, a returned worker takes no task -/
example : ((crun .sync (cinit 1 0) demoClose).bind (fun cs => cstep .sync cs (.base (.w 0 (.fire 500))))) = none := by
  decide
/-- the worker cannot return in the middle of its Stop/drain/Reset section -/
example : ((crun .sync (cinit 1 0) (demoClose.take 10)).bind (fun cs => cstep .sync cs (.exitW 0))) = none := by
  decide

end KcpVerif.Props
