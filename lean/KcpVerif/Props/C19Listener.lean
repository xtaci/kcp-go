import KcpVerif.Props.C11
import KcpVerif.Lemmas.Wire
import KcpVerif.Lemmas.C11IsoL
/-!
C19 — "… and never to another session": the listener side.

On the listener model `Model/SessIn` (any cipher that lets the datagram through its integrity gate,
ANY session state `σ`): a frame whose FEC type field is `typeOOB` reaches the OOB branch of
`kcpInput` — and with it the handler — only of

  * the session mapped at the frame's SOURCE address, and only if that session has the frame's
    conversation id, or
  * the fresh session the frame itself starts (same source address, the frame's conversation id),
    which has no handler yet (`newUDPSession` registers none).

A session mapped at the source address with ANOTHER conversation id is closed (never fed: an OOB
frame has `sn = 0`, so it is a conversation start, `C11_reset_replaces`); every session of every other
address is left identical.  The frame `SendOOB` builds (`Model/SessOut.encodeOOB` of
`conv ‖ payload`) is such a frame and carries the sender's conversation id (`C19_sendoob_frame_hdr`).
-/
namespace KcpVerif.Props
open KcpVerif.Gen KcpVerif.SessIn KcpVerif.C11Iso

variable {σ : Type}

/-- what the listener's header switch reads from an OOB frame: the conversation id behind the FEC
header and the size field, `sn = 0` -/
theorem C19_oob_hdr (p : SessIn.Bytes) (h : le16 p 4 = typeOOB) :
    parseHdr p = some { hasConv := true, conv := le32 p fecHeaderSizePlus2, sn := 0 } := by
  unfold parseHdr
  rw [h]
  simp [typeOOB, typeData, typeParity]

/-- `l` a listener state whose table is well formed (every reachable one: `C11_wf_invariant`), `data` a
datagram from source address `a` that passes the gate as the OOB frame `p` with conversation id
`c = le32 p 8`.  Every session object afterwards, at any index `j`, is one of: the object that was there,
identical; the session mapped at `a`, of conversation `c`, fed this frame (`kcpInput`, whose OOB branch calls
the handler); the session mapped at `a`, NOT of conversation `c`, closed and not fed; the fresh session
created for `(a, c)` by this frame. -/
theorem C19_oob_never_to_another_session (w : World σ) (c : Cipher) (l : Listener σ) (data p : SessIn.Bytes)
    (a : String) (hwf : WF l) (hg : cryptGate c data = .ok p) (hoob : le16 p 4 = typeOOB)
    (j : Nat) (S' : SessIn.Sess σ) (hj : (listenerInput w c l data a).l.objs[j]? = some S') :
    l.objs[j]? = some S' ∨
    (∃ S, l.objs[j]? = some S ∧ lookup l.table a = some j ∧ S.addr = a ∧ S.conv = le32 p fecHeaderSizePlus2 ∧
        S' = { S with st := w.kcpInput S.st p }) ∨
    (∃ S, l.objs[j]? = some S ∧ lookup l.table a = some j ∧ S.addr = a ∧ S.conv ≠ le32 p fecHeaderSizePlus2 ∧
        S' = { S with st := w.closeFx S.st, closed := true }) ∨
    (j = l.objs.length ∧
        S' = { conv := le32 p fecHeaderSizePlus2, addr := a, st := w.kcpInput (w.init (le32 p fecHeaderSizePlus2)) p,
               closed := false }) := by
  rcases listenerInput_obj w c l data a j S' hj with h1 | ⟨p', h, hg', _, hp, hf⟩
  · exact Or.inl h1
  · rw [hg] at hg'; cases hg'
    rw [C19_oob_hdr p hoob] at hp; cases hp
    rcases hf with ⟨S, hS, hl, hcv, e⟩ | ⟨S, hS, hl, _, _, hne, _, e⟩ | ⟨hjl, _, _, e⟩
    · obtain ⟨S2, hS2, hSa, _⟩ := hwf a j hl
      rw [hS] at hS2; cases hS2
      rcases hcv with h2 | h2
      · cases h2
      · exact Or.inr (Or.inl ⟨S, hS, hl, hSa, h2.symm, e⟩)
    · obtain ⟨S2, hS2, hSa, _⟩ := hwf a j hl
      rw [hS] at hS2; cases hS2
      exact Or.inr (Or.inr (Or.inl ⟨S, hS, hl, hSa, fun e' => hne e'.symm, e⟩))
    · exact Or.inr (Or.inr (Or.inr ⟨hjl, e⟩))

/-- the clause as worded, contrapositively: the state of a session of another address or conversation is
afterwards what it was, or `closeFx` of it — never `kcpInput` of it -/
theorem C19_oob_other_session_not_fed (w : World σ) (c : Cipher) (l : Listener σ) (data p : SessIn.Bytes)
    (a : String) (hwf : WF l) (hg : cryptGate c data = .ok p) (hoob : le16 p 4 = typeOOB)
    (j : Nat) (S : SessIn.Sess σ) (hS : l.objs[j]? = some S)
    (hother : S.addr ≠ a ∨ S.conv ≠ le32 p fecHeaderSizePlus2) :
    (listenerInput w c l data a).l.objs[j]? = some S ∨
    (listenerInput w c l data a).l.objs[j]? = some { S with st := w.closeFx S.st, closed := true } := by
  have hlt := lt_of_getElem? hS
  have hlen := listenerInput_objs_le w c l data a
  cases hq : (listenerInput w c l data a).l.objs[j]? with
  | none => rw [List.getElem?_eq_none_iff] at hq; omega
  | some S' =>
    rcases C19_oob_never_to_another_session w c l data p a hwf hg hoob j S' hq with h1 | ⟨S2, h2, _, ha, hc, _⟩ |
        ⟨S2, h2, _, _, _, e⟩ | ⟨h4, _⟩
    · rw [hS] at h1; cases h1; exact Or.inl rfl
    · rw [hS] at h2; cases h2
      rcases hother with h | h
      · exact absurd ha h
      · exact absurd hc h
    · rw [hS] at h2; cases h2; exact Or.inr (by rw [e])
    · omega

/-- sessions of other addresses: identical and still mapped (instance of `C11_frame`) -/
theorem C19_oob_other_address_frame (w : World σ) (c : Cipher) (l : Listener σ) (data : SessIn.Bytes) (a b : String)
    (hwf : WF l) (hb : b ≠ a) (id : Nat) (S : SessIn.Sess σ)
    (hl : lookup l.table b = some id) (hS : l.objs[id]? = some S) :
    lookup (listenerInput w c l data a).l.table b = some id ∧ (listenerInput w c l data a).l.objs[id]? = some S :=
  C11_frame w c l data a b hwf hb id S hl hS

/-- the frame `SendOOB`/`postProcess` builds for payload `data` on a session with conversation id
`conv` (`Model/SessOut.encodeOOB (le32 conv ++ data)`, before encryption) is read by the listener as an
OOB frame of conversation `conv` -/
theorem C19_sendoob_frame_hdr (conv : BitVec 32) (data : SessIn.Bytes) :
    le16 (Wire.fecHeader (BitVec.ofNat 32 4294967295) typeOOB ++ Wire.sizeField (Wire.le32 conv ++ data).length ++
        (Wire.le32 conv ++ data)) 4 = typeOOB ∧
    le32 (Wire.fecHeader (BitVec.ofNat 32 4294967295) typeOOB ++ Wire.sizeField (Wire.le32 conv ++ data).length ++
        (Wire.le32 conv ++ data)) fecHeaderSizePlus2 = conv := by
  constructor
  · simp only [Wire.fecHeader, Wire.le32, Wire.le16, Wire.sizeField, List.cons_append, List.nil_append, le16, typeOOB,
      Nat.reduceAdd, List.getD_cons_succ, List.getD_cons_zero]
    decide
  · have h := Wire.u32_le32_bytes conv
    simp only [Wire.fecHeader, Wire.le32, Wire.le16, Wire.sizeField, List.cons_append, List.nil_append, le32,
      fecHeaderSizePlus2, List.getD_cons_succ, List.getD_cons_zero]
    exact h

/-- an OOB frame: FEC header (seqid ff ff ff ff, type f3 00), size, conversation id (one byte used), payload -/
def c19Oob (conv : UInt8) : SessIn.Bytes := [255, 255, 255, 255, 243, 0, 7, 0, conv, 0, 0, 0, 42]

-- same conversation: routed to A's session; other conversation: A's session is closed, a fresh one
-- created; B's session untouched in both cases
example : (listenerInput c11World c11Cipher c11L2 (c19Oob 5) "A").dec = .route "A" 0 := by decide +kernel
example : (listenerInput c11World c11Cipher c11L2 (c19Oob 5) "A").l.objs[0]? =
    some { conv := 5, addr := "A", st := [c11Frame 5 0, c19Oob 5], closed := false } := by decide +kernel
example : (listenerInput c11World c11Cipher c11L2 (c19Oob 6) "A").dec = .create "A" 6 (some 0) 2 := by decide +kernel
example : (listenerInput c11World c11Cipher c11L2 (c19Oob 6) "A").l.objs[0]? =
    some { conv := 5, addr := "A", st := [c11Frame 5 0], closed := true } := by decide +kernel
example : (listenerInput c11World c11Cipher c11L2 (c19Oob 9) "A").l.objs[1]? = c11L2.objs[1]? := by decide +kernel
example : le16 (c19Oob 5) 4 = typeOOB := by decide +kernel

end KcpVerif.Props
