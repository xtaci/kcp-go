/-
C07 — the EXECUTABLE Reed–Solomon code is lawful (closes `C07_rsNew_lawful_full` of `Props/C07`).

`Props/C07` proves the encoder/decoder theorems for any codec constructor `C` with the list-level MDS law
`Lawful C`, and `C07_rs_mds` proves the law in matrix form for the systematic Vandermonde construction
over an abstract field.  This file proves that the instance the correspondence driver actually runs —
`Fec.rsNew` = `Model/RS` over `Model/GF256`: klauspost/reedsolomon's algorithm on lists of bytes, tied to
it byte for byte by the component `fec` — has that law for every ratio the FEC layer accepts, and
restates the decoder theorems at `rsNew`, with no hypothesis about the code left.

`Lawful` is restricted to the accepted ratios (`d + p ≤ 256`): the bound is sharp for this code
(`C07_rsNew_range_sharp`), and without it the law is unsatisfiable by ANY codec
(`C07_unrestricted_law_impossible`), i.e. the theorems of `Props/C07` would be vacuous.
-/
import KcpVerif.Props.C07
import KcpVerif.Lemmas.RSBridge
import KcpVerif.Lemmas.LawRange

namespace KcpVerif.Props
open KcpVerif.Fec KcpVerif.Lemmas.FecSpec
open KcpVerif.Lemmas

/-- The byte operations of `Model/GF256` (`galAdd = xor`, `galMultiply`, `galOneOver`, `galExp`)
    satisfy the axioms of a field of characteristic 2. -/
theorem C07_gf256_field :
    (∀ a b c : UInt8, GF256.mul (GF256.mul a b) c = GF256.mul a (GF256.mul b c)) ∧
    (∀ a b : UInt8, GF256.mul a b = GF256.mul b a) ∧
    (∀ a b c : UInt8, GF256.mul a (GF256.add b c) = GF256.add (GF256.mul a b) (GF256.mul a c)) ∧
    (∀ a : UInt8, GF256.mul 1 a = a) ∧
    (∀ a : UInt8, GF256.mul 0 a = 0) ∧
    (∀ a : UInt8, a ≠ 0 → GF256.mul a (GF256.inv a) = 1) ∧
    (∀ a : UInt8, GF256.add a a = 0) :=
  ⟨Lemmas.GF256.mul_assoc, Lemmas.GF256.mul_comm, Lemmas.GF256.mul_xor_right,
   Lemmas.GF256.one_mul_tab, Lemmas.GF256.zero_mul, Lemmas.GF256.mul_inv_tab,
   fun _ => UInt8.xor_self⟩

/-- the same as a Mathlib `Field`, with `galExp` as its power and the nodes `0 … n−1` distinct -/
theorem C07_gf256_field_instance :
    (∀ a b : Lemmas.GF256.GF, a * b = GF256.mul a b) ∧
    (∀ a b : Lemmas.GF256.GF, a + b = GF256.add a b) ∧
    (∀ a : Lemmas.GF256.GF, a⁻¹ = GF256.inv a) ∧
    (∀ (a : Lemmas.GF256.GF) (k : Nat), a ^ k = GF256.pow a k) ∧
    (∀ n, n ≤ 256 → Function.Injective (RSBridge.node n)) :=
  ⟨fun _ _ => rfl, fun _ _ => rfl, fun _ => rfl, Lemmas.GF256.GF.pow_def,
   fun _ hn => RSBridge.node_injective hn⟩

/-- `matrix.Invert` on lists: a returned matrix is an `n × n` left inverse (hence THE inverse), and
    a non-singular matrix is always inverted (no `errSingular`). -/
theorem C07_invert_correct {n : Nat} {M : RS.Matrix} (hM : RSRows.Shaped n n M) :
    (∀ M', RS.invert M = some M' →
      RSRows.Shaped n n M' ∧ RSRows.toM n n M' * RSRows.toM n n M = 1 ∧
      RSRows.toM n n M' = (RSRows.toM n n M)⁻¹) ∧
    ((RSRows.toM n n M).det ≠ 0 → ∃ M', RS.invert M = some M') :=
  ⟨fun _ h => ⟨(RSGauss.invert_sound hM h).1, (RSGauss.invert_sound hM h).2,
      (Matrix.inv_eq_left_inv (RSGauss.invert_sound hM h).2).symm⟩,
   fun hdet => RSGauss.invert_complete hM hdet⟩

/-- klauspost's `buildMatrix(d, n)` as computed on lists of bytes IS the systematic Vandermonde
    matrix of `C07_rs_mds` over `GF` with the nodes `0 … n−1`: `n` rows of length `d`, top square
    the identity, any `d` rows non-singular. -/
theorem C07_buildMatrix_sys {d n : Nat} (h : d ≤ n) (hn : n ≤ 256) :
    RSRows.Shaped n d (RS.buildMatrix d n) ∧
    RSRows.toM n d (RS.buildMatrix d n) = RS.sysMatrix h (RSBridge.node n) ∧
    (RSRows.toM n d (RS.buildMatrix d n)).submatrix (Fin.castLE h) id = 1 ∧
    (∀ s : Fin d → Fin n, Function.Injective s →
      ((RSRows.toM n d (RS.buildMatrix d n)).submatrix s id).det ≠ 0) := by
  obtain ⟨h1, h2⟩ := RSBridge.buildMatrix_spec h hn
  refine ⟨h1, h2, ?_, ?_⟩
  · rw [h2]; exact RS.sys_top h (RSBridge.node_injective hn)
  · intro s hs; rw [h2]; exact RS.sys_select_det_ne_zero h (RSBridge.node_injective hn) s hs

/-- The executable GF(2^8) code satisfies the list-level MDS law: `C07_rsNew_lawful_full` holds. -/
theorem C07_rsNew_lawful : C07_rsNew_lawful_full := RSBridge.rsNew_lawful

/-- `C07_rsNew_lawful` spelled out: for every accepted ratio, any `d` data shards of a common
    non-zero length and ANY presence pattern of the `d + p` shards with at least `d` present,
    `Encode` returns `p` shards of that length and `ReconstructData` on the surviving shards returns
    exactly the data. -/
theorem C07_rsNew_any_k (d p L : Nat) (data : List Bytes) (present : List Bool)
    (hd : 1 ≤ d) (hp : 1 ≤ p) (hn : d + p ≤ 256) (hL : 0 < L) (hdl : data.length = d)
    (hsz : ∀ s ∈ data, s.length = L) (hpl : present.length = d + p)
    (hcnt : d ≤ present.count true) :
    ((rsNew d p).enc data).length = p ∧ (∀ s ∈ (rsNew d p).enc data, s.length = L) ∧
    (rsNew d p).recon (mask present (data ++ (rsNew d p).enc data)) = some data :=
  ⟨C07_rsNew_lawful.enc_length d p data hd hp hn hdl,
   C07_rsNew_lawful.enc_size d p L data hd hp hn hdl hsz,
   C07_rsNew_lawful.recon d p L data present hd hp hn hL hdl hsz hpl hcnt⟩

/-- The range `d + p ≤ 256` of the law is sharp for this code: at `d = 2`, `p = 255` the Vandermonde
    nodes of shard 0 and shard 256 coincide (`byte(256) = 0`) and from these two present shards
    `ReconstructData` fails (`errSingular`) — evaluated in the kernel.  (klauspost switches to a
    different construction above 256 shards; `newFECEncoder`/`newFECDecoder` refuse the range.) -/
theorem C07_rsNew_range_sharp :
    let present := (List.range 257).map fun i => i == 0 || i == 256
    present.length = 2 + 255 ∧ 2 ≤ present.count true ∧
    (rsNew 2 255).recon (mask present ([[7], [9]] ++ (rsNew 2 255).enc [[7], [9]])) = none := by
  decide +kernel

/-- The list-level MDS law quantified over ALL ratios (`LawRange.LawfulAll`: `Lawful` without
    the range restriction) is satisfied by no codec constructor whatsoever — at 2/300 with one-byte shards it would
    be a `[302, 2]` MDS code over 256 letters (pigeonhole).  Hence the restriction of `Lawful` to the
    ratios the FEC constructors accept is necessary, not a convenience. -/
theorem C07_unrestricted_law_impossible (C : CodecNew) : ¬ LawRange.LawfulAll C :=
  fun hC => LawRange.impossible hC

/-- `C07_dec_any_k` for the executable code -/
theorem C07_dec_any_k_rsNew {G : Group} (hG : G.WF) (dec : Decoder)
    (hM : FecDec.Matches rsNew G dec) (got : List Nat) (hnd : got.Pairwise (· ≠ ·))
    (hb : ∀ i ∈ got, i < G.n)
    (hset : FecDec.held (G.base / u32 G.n) dec = got.map (G.packet rsNew))
    (hlen : got.length + 1 = G.d) (j : Nat) (hj : j < G.n) (hnot : j ∉ got) :
    (dec.decode rsNew (G.packet rsNew j)).recovered
      = (List.range G.d).filterMap
          (fun k => if k ∈ got ++ [j] then none else some (pad G.maxLen (G.bodies.getD k []))) ∧
    (dec.decode rsNew (G.packet rsNew j)).recovered.map trim
      = (List.range G.d).filterMap
          (fun k => if k ∈ got ++ [j] then none else some (some (G.payloads.getD k []))) ∧
    (dec.decode rsNew (G.packet rsNew j)).panic = false :=
  C07_dec_any_k C07_rsNew_lawful hG dec hM got hnd hb hset hlen j hj hnot

/-- `C07_dec_sound` for the executable code -/
theorem C07_dec_sound_rsNew (grp : FecDec.Family) (d p : Nat) (dec : Decoder)
    (hnew : Decoder.new rsNew d p = some dec) (pkts : List Bytes)
    (hgen : ∀ q ∈ pkts, FecDec.GenuinePkt rsNew grp d p q) :
    ∀ r ∈ (FecDec.feed rsNew dec pkts).2,
      ∃ G : Group, grp (G.base / u32 G.n) = some G ∧ G.WF ∧ G.d = d ∧ G.p = p ∧
        (∃ j, j < G.n ∧ G.packet rsNew j ∈ pkts) ∧
        ∃ k, k < G.d ∧ r = pad G.maxLen (G.bodies.getD k []) ∧ trim r = some (G.payloads.getD k []) :=
  C07_dec_sound C07_rsNew_lawful grp d p dec hnew pkts hgen

/-- `C07_fresh_decoder_anywhere` for the executable code -/
theorem C07_fresh_decoder_anywhere_rsNew {G : Group} (hG : G.WF) (dec : Decoder)
    (hnew : Decoder.new rsNew G.d G.p = some dec) (idxs : List Nat) (hnd : idxs.Pairwise (· ≠ ·))
    (hb : ∀ i ∈ idxs, i < G.n) (hlen : idxs.length = G.d) :
    (FecDec.feed rsNew dec (idxs.map (G.packet rsNew))).2
      = (List.range G.d).filterMap
          (fun k => if k ∈ idxs then none else some (pad G.maxLen (G.bodies.getD k []))) ∧
    ((FecDec.feed rsNew dec (idxs.map (G.packet rsNew))).2).map trim
      = (List.range G.d).filterMap
          (fun k => if k ∈ idxs then none else some (some (G.payloads.getD k []))) :=
  C07_fresh_decoder_anywhere C07_rsNew_lawful hG dec hnew idxs hnd hb hlen

-- kcp-go's usual 10/3: three of the ten data shards lost, all parity there
example (data : List Bytes) (hdl : data.length = 10) (hsz : ∀ s ∈ data, s.length = 1400) :
    (rsNew 10 3).recon (mask [true, false, true, true, false, true, true, true, false, true, true, true, true]
      (data ++ (rsNew 10 3).enc data)) = some data :=
  (C07_rsNew_any_k 10 3 1400 data _ (by decide) (by decide) (by decide) (by decide) hdl hsz rfl
    (by decide)).2.2

-- the extreme ratios 1/255 and 255/1 are inside the range
example : (1 : Nat) + 255 ≤ 256 ∧ (255 : Nat) + 1 ≤ 256 := by decide

-- the executable decoder on the well-formed example group of `Lemmas/FecDec` (d = 2, p = 1,
-- payloads of different sizes): parity packet held, data packet 0 arrives, payload 1 is recovered
example (dec : Decoder) (hM : FecDec.Matches rsNew FecDec.Example.exG dec)
    (hset : FecDec.held (FecDec.Example.exG.base / u32 FecDec.Example.exG.n) dec
              = [2].map (FecDec.Example.exG.packet rsNew)) :
    (dec.decode rsNew (FecDec.Example.exG.packet rsNew 0)).recovered.map trim = [some [4]] := by
  have h := (C07_dec_any_k_rsNew FecDec.Example.exG_wf dec hM [2] (by simp) (by decide) hset
    (by decide) 0 (by decide) (by decide)).2.1
  rw [h]; decide

end KcpVerif.Props
