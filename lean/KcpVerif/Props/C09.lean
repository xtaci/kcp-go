import KcpVerif.Lemmas.SessOut
/-!
C09 — datagrams follow the documented frame layout; nonces never repeat.

`Wire.Spec` is the independent decoder (README "Specification" + wireshark dissector);
`Wire.encodeSeg`, `SessOut.encode/encodeOOB/postProcess` transcribe the code.  The core's
output is an arbitrary non-empty list of well-formed segments (the core model is another
module); the Reed-Solomon parity bytes are an opaque function (their contents are C07's).
-/
namespace KcpVerif.Props
open KcpVerif.Gen KcpVerif.Wire KcpVerif.SessOut

/-- the independent decoder inverts `segment.encode`: header of `IKCP_OVERHEAD = 24` bytes,
exactly `len` payload bytes, whatever follows is left over -/
theorem C09_seg_roundtrip (s : Seg) (h : s.WF) (tail : Bytes) :
    Spec.decodeSeg (encodeSeg s ++ s.data ++ tail) = some { hdr := s.hdr, data := s.data, rest := tail } ∧
      (encodeSeg s).length = IKCP_OVERHEAD ∧ IKCP_OVERHEAD = 24 :=
  ⟨decodeSeg_encode s h tail, encodeSeg_length s, rfl⟩

example : (⟨7, 81, 0, 32, 1000, 5, 3, [1, 2, 3]⟩ : Seg).WF := by decide

/-- any non-empty list of well-formed segments laid out back to back (what `flush` hands the
output callback) decodes to exactly that list, every byte consumed -/
theorem C09_datagram_wellformed (segs : List Seg) (hne : segs ≠ []) (h : ∀ s ∈ segs, s.WF) :
    Spec.decode (encodeSegs segs) = some (segs.map fun s => (s.hdr, s.data)) :=
  decode_encodeSegs segs hne h

example : Spec.decode (encodeSegs [⟨7, 82, 0, 32, 1000, 5, 3, []⟩, ⟨7, 81, 0, 32, 1000, 6, 3, [9, 9]⟩]) ≠ none := by decide
/-- leftover bytes are refused by the specification decoder -/
example : Spec.decode (encodeSegs [⟨7, 81, 0, 32, 1000, 6, 3, [9, 9]⟩] ++ [0]) = none := by decide

theorem parseFec_fecHeader (id : BitVec 32) (t : Nat) (tail : Bytes) :
    Spec.parseFec (fecHeader id t ++ tail) = some { seqid := id, typ := BitVec.ofNat 16 t, body := tail } := by
  simp only [fecHeader, le32, le16, List.cons_append, List.nil_append, Spec.parseFec, u32_le32_bytes, u16_le16_bytes]

theorem parseSized_sizeField (n : Nat) (hn : n + 2 < 65536) (tail : Bytes) :
    Spec.parseSized (sizeField n ++ tail) = some (n + 2, tail) := by
  have hx : (BitVec.ofNat 16 (n + 2)).toNat = n + 2 := by
    simp only [BitVec.toNat_ofNat]; exact Nat.mod_eq_of_lt (by omega)
  simp only [sizeField]
  generalize BitVec.ofNat 16 (n + 2) = x at hx
  simp only [le16, List.cons_append, List.nil_append, Spec.parseSized, u16_le16_bytes]
  rw [hx]

/-- DATA packets: type 0xF1, the id sits in the data part of the cycle and below the wrap value,
SIZE = payload + 2; the id is the encoder's `next`. -/
theorem C09_fec_header_data (par : List Bytes → Nat → Bytes) (ho : Nat) (e : Enc) (body : Bytes) (now rto : Int)
    (h : e.Inv) (hb : body.length + 2 < 65536) :
    let o := encode par ho e body now rto
    o.pkt.kind = .data ∧ o.pkt.seqid = e.next ∧
    Spec.parseFec o.pkt.rest = some { seqid := BitVec.ofNat 32 e.next, typ := 0xF1#16, body := sizeField body.length ++ body } ∧
    Spec.parseSized (sizeField body.length ++ body) = some (body.length + 2, body) ∧
    e.next % (e.d + e.p) < e.d ∧ e.next < e.paws := by
  intro o
  have hp : o.pkt = _ := encode_pkt par ho e body now rto
  refine ⟨by rw [hp], by rw [hp], ?_, parseSized_sizeField _ hb _, ?_, h.next_lt⟩
  · rw [hp]; simp only [List.append_assoc]; rw [parseFec_fecHeader]; rfl
  · have := h.next_pos; simp only [Enc.shardSize] at this; rw [this]; exact h.cnt

/-- PARITY packets: type 0xF2, ids in the parity part of the cycle, consecutive behind the data
packet's id, below the wrap value; exactly `p` of them when the group closes in time, none
otherwise. -/
theorem C09_fec_header_parity (par : List Bytes → Nat → Bytes) (ho : Nat) (e : Enc) (body : Bytes) (now rto : Int)
    (h : e.Inv) :
    let o := encode par ho e body now rto
    (o.parity.length = e.p ∨ o.parity = []) ∧
    ∀ q ∈ o.parity, q.kind = .parity ∧
      (∃ b, Spec.parseFec q.rest = some { seqid := BitVec.ofNat 32 q.seqid, typ := 0xF2#16, body := b }) ∧
      e.d ≤ q.seqid % (e.d + e.p) ∧ q.seqid < e.paws ∧
      q.seqid = q.vid % e.paws ∧ e.vnext < q.vid ∧ q.vid ≤ e.vnext + e.p := by
  intro o
  have hpw := h.paws_pos
  refine ⟨(encode_fields par ho e body now rto).adv.elim (fun h => .inr h.2.2) (fun h => h.2.2), fun q hq => ?_⟩
  obtain ⟨k, b, hq⟩ := mem_encode_parity hq
  have hk := hq.lt
  have h2 := hq.vid
  have hgh := bumpN_ghost e.bump k (by simpa using hpw) (bump_ghost e hpw h.ghost)
  rw [bumpN_paws, bump_paws, bumpN_vnext, bump_vnext] at hgh
  have hid : q.seqid = q.vid % e.paws := by rw [hq.seqid, hgh, h2]
  have hpos : q.vid % e.shardSize = e.d + k := by
    rw [h2]; exact mod_add_of_lt _ _ _ _ (h.full_pos hq.full) (by simp only [Enc.shardSize]; omega)
  refine ⟨hq.kind, ⟨b, ?_⟩, ?_, ?_, hid, by omega, by omega⟩
  · rw [hq.rest, parseFec_fecHeader]; rfl
  · have : q.seqid % e.shardSize = e.d + k := by rw [hid, Nat.mod_mod_of_dvd _ (paws_dvd e)]; exact hpos
    simp only [Enc.shardSize] at this; omega
  · rw [hid]; exact Nat.mod_lt _ hpw

/-- OOB packets: type 0xF3, the reserved id 0xFFFFFFFF, SIZE = (conv ‖ payload) + 2 -/
theorem C09_fec_header_oob (e : Enc) (body : Bytes) (hb : body.length + 2 < 65536) :
    let o := encodeOOB e body
    o.pkt.kind = .oob ∧
    Spec.parseFec o.pkt.rest = some { seqid := 0xFFFFFFFF#32, typ := 0xF3#16, body := sizeField body.length ++ body } ∧
    Spec.parseSized (sizeField body.length ++ body) = some (body.length + 2, body) := by
  intro o
  refine ⟨rfl, ?_, parseSized_sizeField _ hb _⟩
  show Spec.parseFec (fecHeader _ typeOOB ++ sizeField body.length ++ body) = _
  simp only [List.append_assoc]; rw [parseFec_fecHeader]; rfl

/-- ids do not repeat within a wrap period: every non-OOB packet carries `vid % paws` of an unwrapped counter
that grows by 1 (group open) or `1 + p` (group closed, parity sent or skipped) per data packet, so two packets with
the same id are at least `paws` counter steps apart. -/
theorem C09_fec_header_ids (par : List Bytes → Nat → Bytes) (ho : Nat) (e : Enc) (body : Bytes) (now rto : Int)
    (h : e.Inv) :
    let o := encode par ho e body now rto
    o.enc.Inv ∧ o.pkt.vid = e.vnext ∧ o.pkt.seqid = o.pkt.vid % e.paws ∧
    (o.enc.vnext = e.vnext + 1 ∨ o.enc.vnext = e.vnext + 1 + e.p) ∧
    (∀ q ∈ o.parity, e.vnext < q.vid ∧ q.vid < o.enc.vnext) ∧ o.enc.paws = e.paws := by
  intro o
  have hp : o.pkt = _ := encode_pkt par ho e body now rto
  have hpar := (C09_fec_header_parity par ho e body now rto h).2
  obtain ⟨hd, hpp, hv⟩ := encode_fields par ho e body now rto
  refine ⟨encode_inv par ho e body now rto h, by rw [hp], by rw [hp]; exact h.ghost, hv.imp (·.1) (·.1), ?_,
    by simp only [o, Enc.paws, Enc.shardSize, hd, hpp]⟩
  intro q hq
  rcases hv with ⟨_, _, h3⟩ | ⟨h1, _⟩
  · rw [show o.parity = [] from h3] at hq; cases hq
  · have := hpar q hq
    rw [show o.enc.vnext = _ from h1]; omega

/-- the FEC header of every packet the FEC stage can produce, in one statement -/
theorem C09_fec_header (par : List Bytes → Nat → Bytes) (ho : Nat) (e : Enc) (body : Bytes) (now rto : Int)
    (h : e.Inv) (hb : body.length + 2 < 65536) :
    let o := encode par ho e body now rto
    -- data ⇒ type 0xF1, seqid % n < d, size = |payload| + 2
    (Spec.parseFec o.pkt.rest = some { seqid := BitVec.ofNat 32 e.next, typ := 0xF1#16, body := sizeField body.length ++ body } ∧
      Spec.parseSized (sizeField body.length ++ body) = some (body.length + 2, body) ∧ e.next % (e.d + e.p) < e.d) ∧
    -- parity ⇒ type 0xF2, seqid % n ≥ d
    (∀ q ∈ o.parity, (∃ b, Spec.parseFec q.rest = some { seqid := BitVec.ofNat 32 q.seqid, typ := 0xF2#16, body := b }) ∧
      e.d ≤ q.seqid % (e.d + e.p)) ∧
    -- OOB ⇒ type 0xF3, seqid 0xFFFFFFFF, encoder untouched
    (Spec.parseFec (encodeOOB e body).pkt.rest =
        some { seqid := 0xFFFFFFFF#32, typ := 0xF3#16, body := sizeField body.length ++ body } ∧ (encodeOOB e body).enc = e) ∧
    -- ids: each is `next` = counter % paws; the counter advances by 1 or 1 + p; invariant kept
    (o.pkt.seqid = o.pkt.vid % e.paws ∧ (∀ q ∈ o.parity, q.seqid = q.vid % e.paws ∧ o.pkt.vid < q.vid ∧ q.vid < o.enc.vnext) ∧
      (o.enc.vnext = e.vnext + 1 ∨ o.enc.vnext = e.vnext + 1 + e.p) ∧ o.enc.Inv) := by
  intro o
  obtain ⟨_, _, dFec, dSized, dPos, _⟩ := C09_fec_header_data par ho e body now rto h hb
  obtain ⟨_, hp⟩ := C09_fec_header_parity par ho e body now rto h
  obtain ⟨_, oFec, _⟩ := C09_fec_header_oob e body hb
  obtain ⟨iInv, iVid, iSeq, iNext, iPar, _⟩ := C09_fec_header_ids par ho e body now rto h
  refine ⟨⟨dFec, dSized, dPos⟩, fun q hq => ?_, ⟨oFec, rfl⟩, iSeq, fun q hq => ?_, iNext, iInv⟩
  · obtain ⟨_, pFec, pPos, _⟩ := hp q hq
    exact ⟨pFec, pPos⟩
  · obtain ⟨_, _, _, _, pSeq, _⟩ := hp q hq
    exact ⟨pSeq, by rw [iVid]; exact (iPar q hq).1, (iPar q hq).2⟩

/-- end to end for a data packet: FEC header, size field and the core's segments behind them are
accepted by the specification's body parser as a DATA frame carrying exactly those segments -/
theorem C09_data_frame_accepted (par : List Bytes → Nat → Bytes) (ho : Nat) (e : Enc) (segs : List Seg) (now rto : Int)
    (h : e.Inv) (hne : segs ≠ []) (hwf : ∀ s ∈ segs, s.WF) (hb : (encodeSegs segs).length + 2 < 65536) :
    Spec.parseBody (some (e.d, e.p)) (encode par ho e (encodeSegs segs) now rto).pkt.rest =
      some (.data (BitVec.ofNat 32 e.next) ((encodeSegs segs).length + 2) (segs.map fun s => (s.hdr, s.data))) := by
  have hd := C09_fec_header_data par ho e (encodeSegs segs) now rto h hb
  have hlt : e.next < 4294967296 := Nat.lt_trans h.next_lt (paws_lt e)
  have hnat : (BitVec.ofNat 32 e.next).toNat = e.next := by
    simp only [BitVec.toNat_ofNat]; exact Nat.mod_eq_of_lt hlt
  have hpw : e.next < 4294967295 / (e.d + e.p) * (e.d + e.p) := h.next_lt
  simp only [Spec.parseBody, hd.2.2.1, hd.2.2.2.1, hnat, hd.2.2.2.2.1, hpw, and_self, if_true,
    decode_encodeSegs segs hne hwf, Option.map_some]
  rfl

/-- … and without FEC the datagram is the core's output itself -/
theorem C09_kcp_frame_accepted (segs : List Seg) (hne : segs ≠ []) (hwf : ∀ s ∈ segs, s.WF) :
    Spec.parseBody none (encodeSegs segs) = some (.kcp (segs.map fun s => (s.hdr, s.data))) := by
  simp only [Spec.parseBody, decode_encodeSegs segs hne hwf, Option.map_some]

/-- two packets whose unwrapped counters are less than a wrap period apart carry different ids -/
theorem C09_fec_ids_distinct_within_period (paws v w : Nat) (hlt : v < w) (hper : w - v < paws) :
    v % paws ≠ w % paws := by
  intro heq
  have h1 := Nat.div_add_mod v paws
  have h2 := Nat.div_add_mod w paws
  have hle : v / paws ≤ w / paws := Nat.div_le_div_right (Nat.le_of_lt hlt)
  rcases Nat.eq_or_lt_of_le hle with h | h
  · rw [h] at h1; omega
  · have : paws * (v / paws + 1) ≤ paws * (w / paws) := Nat.mul_le_mul_left _ h
    rw [Nat.mul_add, Nat.mul_one] at this
    omega

/-- a fresh encoder satisfies the invariant (non-vacuity of the hypotheses above) -/
example : ∀ e, newEnc { cipher := .block, d := 10, p := 3 } = some e → e.Inv := newEnc_inv _

/-- CFB-style ciphers: the plaintext frame is `nonce ‖ le32 (crc rest) ‖ rest`: the nonce precedes,
the CRC covers everything after the CRC field, the datagram is the encryption of that frame —
for whatever packet the FEC stage produced (data, parity, OOB or a plain KCP packet); the
specification's crypt-header parser accepts the frame and returns nonce and rest.
AEAD: `nonce ‖ Seal(nonce, rest)`. -/
theorem C09_crypt_header {γ : Type} (P : Prims γ) (c : Cfg) (g : γ) (pkt : Pkt) :
    let em := (crypt P c g pkt).emit
    em.pkt = pkt ∧
    (c.cipher = .block →
      em.nonce = (P.draw g).out.take nonceSize ∧
      em.plain = em.nonce ++ le32 (P.crc pkt.rest) ++ pkt.rest ∧ em.wire = P.encB em.plain ∧
      (em.nonce.length = 16 → Spec.parseCrypt P.crc em.plain = some (em.nonce, pkt.rest))) ∧
    (∀ n o, c.cipher = .aead n o →
      em.nonce = (P.draw g).out.take n ∧ em.plain = em.nonce ++ pkt.rest ∧
      em.wire = em.nonce ++ P.aseal em.nonce pkt.rest) ∧
    (c.cipher = .none → em.wire = pkt.rest ∧ em.nonce = []) := by
  intro em
  cases hc : c.cipher with
  -- the clauses for the other kinds are void
  | none => simp only [em, crypt_none P g pkt hc]; simp
  | aead n o => simp only [em, crypt_aead P g pkt hc]; simp
  | block =>
    have hem : em = { pkt := pkt, nonce := (P.draw g).out.take nonceSize,
                      plain := (P.draw g).out.take nonceSize ++ le32 (P.crc pkt.rest) ++ pkt.rest,
                      wire := P.encB ((P.draw g).out.take nonceSize ++ le32 (P.crc pkt.rest) ++ pkt.rest) } := by
      simp only [em, crypt_block P g pkt hc]
    rw [hem]
    refine ⟨rfl, fun _ => ⟨rfl, rfl, rfl, ?_⟩, by simp, by simp⟩
    intro hlen
    simp only at hlen ⊢
    generalize (P.draw g).out.take nonceSize = nonce at hlen
    have h16 : (nonce ++ le32 (P.crc pkt.rest) ++ pkt.rest).drop 16 = le32 (P.crc pkt.rest) ++ pkt.rest := by
      rw [List.append_assoc, List.drop_left' hlen]
    have h20 : (nonce ++ le32 (P.crc pkt.rest) ++ pkt.rest).drop 20 = pkt.rest := by
      rw [List.drop_left' (by simp [hlen, le32_length])]
    have ht : (nonce ++ le32 (P.crc pkt.rest) ++ pkt.rest).take 16 = nonce := by
      rw [List.append_assoc, List.take_left' hlen]
    have hl : ¬ (nonce ++ le32 (P.crc pkt.rest) ++ pkt.rest).length < 20 := by
      simp only [List.length_append, le32_length, hlen]; omega
    simp only [Spec.parseCrypt, hl, if_false, h16, h20, ht]
    simp only [le32, List.cons_append, List.nil_append, List.take_succ_cons, List.take_zero, u32_le32_bytes, if_true]

/-- the packets behind the datagrams `postProcess` emits are, in order, the packets of the FEC stage
(each datagram is `crypt` of one of them: `SessOut.mem_postProcess`) -/
theorem C09_crypt_header_all {γ : Type} (P : Prims γ) (c : Cfg) (st : PP γ) (reqs : List Req) :
    (postProcess P c st reqs).emits.map (·.pkt) = fecAll P c st.enc reqs :=
  (postProcess_pkts P c reqs st).1

/-- with a cipher configured `postProcess` draws exactly one generator output per emitted datagram
— the original and each parity packet — in transmission order, puts (a prefix of) it into bytes
`[0, nonceSize)` of the frame before encryption, and leaves the generator advanced by exactly
that many draws. -/
theorem C09_nonce_one_draw_per_datagram {γ : Type} (P : Prims γ) (c : Cfg) (st : PP γ) (reqs : List Req)
    (hc : c.cipher ≠ .none) (hdraw : ∀ g, c.nonceLen ≤ (P.draw g).out.length) :
    let o := postProcess P c st reqs
    o.emits.map (·.nonce) = (drawsFrom P st.gen o.emits.length).map (·.take c.nonceLen) ∧
    o.st.gen = genAfter P st.gen o.emits.length ∧
    ∀ em ∈ o.emits, em.nonce.length = c.nonceLen ∧ em.plain.take c.nonceLen = em.nonce := by
  intro o
  have h := postProcess_draws P c hc reqs st
  refine ⟨h.1, h.2, fun em hem => ?_⟩
  obtain ⟨g, pkt, _, rfl⟩ := mem_postProcess P c reqs st em hem
  exact crypt_nonce P c g pkt (hdraw g)

/-- the AES generator inside one re-keying epoch: the seed follows the orbit of the block cipher -/
theorem C09_aesgen_step {κ : Type} (E : κ → Bytes → Bytes) (fresh : Nat → κ × Bytes) (r : AesGen κ)
    (h : r.count < reseedInterval) :
    (r.next E fresh).out = E r.key r.seed ∧ (r.next E fresh).g.seed = E r.key r.seed ∧
    (r.next E fresh).g.key = r.key ∧ (r.next E fresh).g.count = r.count + 1 := by
  simp only [AesGen.next, AesGen.updateSeed, h, if_true, and_self]

/-- re-keying: after `reseedInterval` draws the next draw starts a fresh orbit -/
theorem C09_aesgen_rekey {κ : Type} (E : κ → Bytes → Bytes) (fresh : Nat → κ × Bytes) (r : AesGen κ)
    (h : ¬ r.count < reseedInterval) :
    (r.next E fresh).g.key = (fresh (r.epoch + 1)).1 ∧
    (r.next E fresh).out = E (fresh (r.epoch + 1)).1 (fresh (r.epoch + 1)).2 ∧ (r.next E fresh).g.count = 0 := by
  simp only [AesGen.next, AesGen.updateSeed, h, if_false, and_self]

/-- if `E_k` is injective (a block cipher is a permutation) the seed sequence can only revisit a
value by closing the cycle through the initial seed -/
theorem C09_orbit_injective (f : Bytes → Bytes) (hinj : ∀ a b, f a = f b → a = b) (s : Bytes) :
    ∀ i j, i < j → seedAt f s i = seedAt f s j → s = seedAt f s (j - i) := by
  intro i
  induction i with
  | zero => intro j _ h; simpa [seedAt] using h
  | succ i ih =>
    intro j hij h
    cases j with
    | zero => omega
    | succ j =>
      simp only [seedAt] at h
      have := ih j (by omega) (hinj _ _ h)
      simpa using this

/-- the deterministic part of "nonces never repeat": inside an epoch whose orbit does not return
to its starting seed within `N` steps, the `N` iterates `seedAt f s i` are pairwise distinct.  That the first `n`
outputs of an epoch (`drawsFrom`) are these iterates is not stated (`C09_aesgen_step` gives one step). -/
theorem C09_nonce_fresh_partial (f : Bytes → Bytes) (hinj : ∀ a b, f a = f b → a = b) (s : Bytes) (N : Nat)
    (hcycle : ∀ k, 0 < k → k < N → seedAt f s k ≠ s) :
    ∀ i j, i < j → j < N → seedAt f s i ≠ seedAt f s j := by
  intro i j hij hj heq
  have := C09_orbit_injective f hinj s i j hij heq
  exact hcycle (j - i) (by omega) (by omega) this.symm

/-- what is NOT proved (and cannot be: it is a statement about AES, ChaCha8 and the operating
system's randomness, i.e. a probability statement): that for the generator actually installed
all outputs, cut to the nonce length in use (16, or 12 for AES-GCM), are pairwise distinct. -/
def C09_nonce_fresh_full : Prop :=
  ∀ (κ : Type) (E : κ → Bytes → Bytes) (fresh : Nat → κ × Bytes) (cc : Nat → Bytes) (g0 : SessOut.Gen κ) (nlen : Nat),
    nlen = 16 ∨ nlen = 12 →
    let P : Prims (SessOut.Gen κ) :=
      { crc := fun _ => 0, parity := fun _ _ => [], draw := SessOut.Gen.next E fresh cc, encB := id, decB := id,
        aseal := fun _ x => x, aopen := fun _ x => some x }
    ∀ n, ((drawsFrom P g0 n).map (·.take nlen)).Nodup

end KcpVerif.Props
