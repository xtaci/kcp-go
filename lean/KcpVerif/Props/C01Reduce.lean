import KcpVerif.Props.C01Session
import KcpVerif.Props.C06
import KcpVerif.Lemmas.Wire
import KcpVerif.Lemmas.FecDec
import KcpVerif.Lemmas.FecEnc
import KcpVerif.Lemmas.Fold
import KcpVerif.Lemmas.C01FecChain
/-!
C01 — reductions for the configurations with a cipher and with FEC (`C01_session_reductions`,
DESIGN.md 7.1 items 7–8).  Core Lean only; the hypotheses that are conclusions of theorems
living in Mathlib-dependent modules are explicit and named after the theorem that discharges them
(`Props/C01Full.lean` does the discharging).

Cipher.  The receive entry point is `SessIn.sessionPacketInput` (the model of `UDPSession.packetInput` the gate
theorems of C06 are about), the sender's datagram is `enc (nonce ‖ le32 (crc frame) ‖ frame)` (`Wire.cryptFrame`, what
`C09_crypt_header` proves `postProcess` emits).  Behind the gate, a network that also corrupts ciphertext — any
corruption the integrity check catches — is a replay-only network on plaintext frames.

FEC.  Given `C07_dec_sound`, every payload the FEC branch of `kcpInput` (`C01_fecInputCalls`,
`Lemmas/C01FecChain.lean`) hands to `Input` is a KCP datagram the peer's FEC encoder was handed: FEC-recovered input
is a replay, which the network of `C01_core` already contains with any `regular` flag.
-/
namespace KcpVerif.Props
open KcpVerif.Gen KcpVerif.C01

/-- what the reduction needs of a CRC-style cipher (`enc` = `BlockCrypt.Encrypt` on the whole frame): the
two laws are conclusions of theorems of C08; the instances proved are `C01_cfb_laws` and `C01_none_laws` -/
structure C01_BlockCipherLaws (c : SessIn.Cipher) (enc : Bytes → Bytes) : Prop where
  /-- the session uses the CRC branch of `packetInput` -/
  kind : c.kind = .block
  /-- `C08_cfb_roundtrip`: decryption undoes encryption -/
  C08_roundtrip : ∀ x : Bytes, c.dec (enc x) = x
  /-- `C08_cfb_length`: encryption preserves the length -/
  C08_length : ∀ x : Bytes, (enc x).length = x.length

theorem C01_le32_read (v : BitVec 32) (rest : Bytes) : SessIn.le32 (Wire.le32 v ++ rest) 0 = v := by
  have h := Wire.u32_le32_bytes v
  simp only [Wire.u32] at h
  simp only [SessIn.le32, Wire.le32, List.cons_append, List.nil_append, List.getD_cons_zero, List.getD_cons_succ,
    Nat.zero_add]
  exact h

theorem C01_gate_genuine (c : SessIn.Cipher) (enc : Bytes → Bytes) (hc : C01_BlockCipherLaws c enc)
    (nonce f : Bytes) (hn : nonce.length = nonceSize) :
    SessIn.cryptGate c (enc (Wire.cryptFrame c.crc nonce f)) = .ok f := by
  have hdec : c.dec (enc (Wire.cryptFrame c.crc nonce f)) = nonce ++ Wire.le32 (c.crc f) ++ f := hc.C08_roundtrip _
  have hcov : covered c (enc (Wire.cryptFrame c.crc nonce f)) = f := by
    unfold covered
    rw [hdec]
    exact List.drop_left' (by simp [hn, Wire.le32_length, nonceSize, cryptHeaderSize])
  have hst : storedCrc c (enc (Wire.cryptFrame c.crc nonce f)) = c.crc f := by
    unfold storedCrc
    rw [hdec, ← C06_le32_drop, List.append_assoc, List.drop_left' hn]
    exact C01_le32_read _ _
  have hl : cryptHeaderSize ≤ (enc (Wire.cryptFrame c.crc nonce f)).length := by
    rw [hc.C08_length]
    simp only [Wire.cryptFrame, List.length_append, Wire.le32_length, hn, nonceSize, cryptHeaderSize]
    omega
  rw [C06_cryptGate_block_pass c _ hc.kind hl (by rw [hcov, hst]), hcov]

/-- the network's power over one ciphertext datagram: it is the encryption — under any nonce — of a
frame the peer emitted (replay of a genuine datagram, at any time, any number of times), or it is
anything the integrity check catches (too short, or checksum mismatch after decryption) -/
def C01_NetDatagramOk (c : SessIn.Cipher) (enc : Bytes → Bytes) (frames : List Bytes) (d : Bytes) : Prop :=
  (∃ f ∈ frames, ∃ nonce : Bytes, nonce.length = nonceSize ∧ d = enc (Wire.cryptFrame c.crc nonce f)) ∨
  d.length < cryptHeaderSize ∨ c.crc (covered c d) ≠ storedCrc c d

/-- soundness of the gate against a network whose power over one datagram is `Ok frames d`
(`frames` = what the peer has emitted): for ANY core behind `kcpInput`, one datagram through
`packetInput` either has no effect at all or hands `kcpInput` an emitted frame -/
def C01_GateSound (c : SessIn.Cipher) (Ok : List Bytes → Bytes → Prop) : Prop :=
  ∀ (σ : Type) (kcpInput : σ → Bytes → σ) (s : σ) (frames : List Bytes) (d : Bytes), Ok frames d →
    ((SessIn.sessionPacketInput c kcpInput s d).delivered = none ∧ (SessIn.sessionPacketInput c kcpInput s d).st = s) ∨
    (∃ f ∈ frames, (SessIn.sessionPacketInput c kcpInput s d).delivered = some f ∧
      (SessIn.sessionPacketInput c kcpInput s d).st = kcpInput s f)

theorem C01_gate_ok {σ : Type} (c : SessIn.Cipher) (kcpInput : σ → Bytes → σ) (s : σ) (frames : List Bytes)
    (d f : Bytes) (hf : f ∈ frames) (hg : SessIn.cryptGate c d = .ok f) :
    ((SessIn.sessionPacketInput c kcpInput s d).delivered = none ∧ (SessIn.sessionPacketInput c kcpInput s d).st = s) ∨
    (∃ f ∈ frames, (SessIn.sessionPacketInput c kcpInput s d).delivered = some f ∧
      (SessIn.sessionPacketInput c kcpInput s d).st = kcpInput s f) := by
  rw [SessIn.sessionPacketInput_ok c kcpInput s d f hg]
  by_cases hm : f.length < SessIn.minPacket
  · rw [if_pos hm]
    exact Or.inl ⟨rfl, rfl⟩
  · rw [if_neg hm]
    exact Or.inr ⟨f, hf, rfl, rfl⟩

theorem C01_gate_step (c : SessIn.Cipher) (enc : Bytes → Bytes) (hc : C01_BlockCipherLaws c enc) :
    C01_GateSound c (C01_NetDatagramOk c enc) := by
  intro σ kcpInput s frames d hd
  rcases hd with ⟨f, hf, nonce, hn, rfl⟩ | hbad
  · exact C01_gate_ok c kcpInput s frames _ f hf (C01_gate_genuine c enc hc nonce f hn)
  · have h := C06_gate_session c kcpInput s d hc.kind hbad
    exact Or.inl ⟨h.2.1, h.1⟩

/-- what the reduction needs of an AEAD (`aseal nonce plaintext` = `aead.Seal`): the two laws that
`C08_aead_in_buffer` assumes of the primitive -/
structure C01_AeadLaws (c : SessIn.Cipher) (ns ov : Nat) (aseal : Bytes → Bytes → Bytes) : Prop where
  kind : c.kind = .aead ns ov
  /-- `Open` undoes `Seal` under the same nonce -/
  open_seal : ∀ n p : Bytes, c.aopen n (aseal n p) = some p
  /-- `Seal` adds exactly `Overhead()` bytes -/
  seal_length : ∀ n p : Bytes, (aseal n p).length = p.length + ov

/-- AEAD: the datagram is `nonce ‖ Seal(nonce, frame)` for an emitted frame (`C09_crypt_header`), or
too short, or `Open` rejects it (unforgeability is the cryptographic assumption) -/
def C01_NetDatagramOkAead (c : SessIn.Cipher) (ns ov : Nat) (aseal : Bytes → Bytes → Bytes)
    (frames : List Bytes) (d : Bytes) : Prop :=
  (∃ f ∈ frames, ∃ nonce : Bytes, nonce.length = ns ∧ d = nonce ++ aseal nonce f) ∨
  d.length < ns + ov ∨ c.aopen (d.take ns) (d.drop ns) = none

theorem C01_gate_step_aead (c : SessIn.Cipher) (ns ov : Nat) (aseal : Bytes → Bytes → Bytes)
    (hc : C01_AeadLaws c ns ov aseal) : C01_GateSound c (C01_NetDatagramOkAead c ns ov aseal) := by
  intro σ kcpInput s frames d hd
  rcases hd with ⟨f, hf, nonce, hn, rfl⟩ | hbad
  · refine C01_gate_ok c kcpInput s frames _ f hf ?_
    unfold SessIn.cryptGate
    rw [hc.kind]
    simp only []
    have hl : ¬ (nonce ++ aseal nonce f).length < ns + ov := by
      rw [List.length_append, hc.seal_length, hn]; omega
    rw [if_neg hl, List.take_left' hn, List.drop_left' hn, hc.open_seal]
  · have h := C06_gate_aead c kcpInput s d ns ov hc.kind hbad
    exact Or.inl ⟨h.2.1, h.1⟩

/-- behind a sound gate, handing `B` (the component `b` of `sys = setB b`) a datagram of the network is no step or
one delivery step `dlv i` of the system `stepP` -/
theorem C01_gate_refines {σ S OpP : Type} {c : SessIn.Cipher} {Ok : List Bytes → Bytes → Prop} (hg : C01_GateSound c Ok)
    (kcpInput : σ → Bytes → σ) (b : σ) (setB : σ → S) (stepP : S → OpP → S) (dlv : Nat → OpP) {frames : List Bytes}
    {d : Bytes} (hd : ∀ (i : Nat) (f : Bytes), frames[i]? = some f → stepP (setB b) (dlv i) = setB (kcpInput b f))
    (h : Ok frames d) :
    ∃ pl : List OpP, setB (SessIn.sessionPacketInput c kcpInput b d).st = pl.foldl stepP (setB b) := by
  rcases hg σ kcpInput b frames d h with ⟨_, h2⟩ | ⟨f, hf, _, h2⟩
  · exact ⟨[], by rw [h2]; rfl⟩
  · obtain ⟨i, hi⟩ := List.getElem?_of_mem hf
    exact ⟨[dlv i], by rw [h2]; exact (hd i f hi).symm⟩

/-- feed a list of ciphertext datagrams through `packetInput`: final state and the frames that
reached `kcpInput`, in order -/
def C01_cipherFeed {σ : Type} (c : SessIn.Cipher) (kcpInput : σ → Bytes → σ) : σ → List Bytes → σ × List Bytes
  | s, [] => (s, [])
  | s, d :: rest =>
    ((C01_cipherFeed c kcpInput (SessIn.sessionPacketInput c kcpInput s d).st rest).1,
     (SessIn.sessionPacketInput c kcpInput s d).delivered.toList ++
       (C01_cipherFeed c kcpInput (SessIn.sessionPacketInput c kcpInput s d).st rest).2)

/-- **Cipher reduction.**  For ANY core behind `kcpInput` (`σ` is everything behind the gate), a
cipher whose gate is sound against the network `Ok` and any sequence of datagrams each of which is a replayed genuine
ciphertext or a corruption the check catches: every frame that reaches `kcpInput` is a frame the peer emitted, and the final state is the
state obtained by calling `kcpInput` on exactly those frames in that order — the corrupting network
on ciphertext IS a replay-only (drop / duplicate / reorder) network on plaintext frames. -/
theorem C01_cipher_reduction {σ : Type} (c : SessIn.Cipher) (Ok : List Bytes → Bytes → Prop)
    (hg : C01_GateSound c Ok) (kcpInput : σ → Bytes → σ) (frames : List Bytes) :
    ∀ (ds : List Bytes) (s : σ), (∀ d ∈ ds, Ok frames d) →
      (∀ p ∈ (C01_cipherFeed c kcpInput s ds).2, p ∈ frames) ∧
      (C01_cipherFeed c kcpInput s ds).1 = (C01_cipherFeed c kcpInput s ds).2.foldl kcpInput s := by
  intro ds
  induction ds with
  | nil => intro s _; exact ⟨fun p hp => (by cases hp), rfl⟩
  | cons d rest ih =>
    intro s hds
    have hrest := fun x hx => hds x (List.mem_cons_of_mem _ hx)
    obtain ⟨ih1, ih2⟩ := ih (SessIn.sessionPacketInput c kcpInput s d).st hrest
    show (∀ p ∈ (SessIn.sessionPacketInput c kcpInput s d).delivered.toList ++ _, p ∈ frames) ∧
      (C01_cipherFeed c kcpInput (SessIn.sessionPacketInput c kcpInput s d).st rest).1 =
        ((SessIn.sessionPacketInput c kcpInput s d).delivered.toList ++
          (C01_cipherFeed c kcpInput (SessIn.sessionPacketInput c kcpInput s d).st rest).2).foldl kcpInput s
    rcases hg σ kcpInput s frames d (hds d (List.mem_cons_self ..)) with ⟨h1, h2⟩ | ⟨f, hf, h1, h2⟩
    · rw [h2] at ih1 ih2
      rw [h1, h2, ih2]
      exact ⟨ih1, rfl⟩
    · rw [h2] at ih1 ih2
      rw [h1, h2, ih2]
      exact ⟨List.forall_mem_cons.mpr ⟨hf, ih1⟩, rfl⟩

/-- operations of the two-session system with a cipher on the path `A → B` -/
inductive C01_COp where
  | a (op : SessOp)
  | b (op : SessOp)
  /-- the network hands `B.packetInput` an arbitrary datagram -/
  | net (data : Bytes) (now : U32)

/-- `B`'s receive path is `SessIn.sessionPacketInput` (decrypt, verify, size check) in front of the
plain `packetInput` of `Model/Sess.lean` -/
def C01_cstep (c : SessIn.Cipher) (s : SessSys) : C01_COp → SessSys
  | .a op => { s with A := sessStep s.A op }
  | .b op => if isSessInput op then s else { s with B := sessStep s.B op }
  | .net data now =>
    { s with B := (SessIn.sessionPacketInput c (fun x p => sessStep x (.input p now)) s.B data).st }

def C01_crun (c : SessIn.Cipher) (s : SessSys) (ops : List C01_COp) : SessSys := ops.foldl (C01_cstep c) s

/-- every datagram the network delivers is, at the time of delivery, the encryption of a frame `A`
has emitted so far or a corruption the check catches -/
def C01_CRunOk (c : SessIn.Cipher) (Ok : List Bytes → Bytes → Prop) : SessSys → List C01_COp → Prop
  | _, [] => True
  | s, .net data now :: rest =>
    Ok s.A.wire data ∧ C01_CRunOk c Ok (C01_cstep c s (.net data now)) rest
  | s, op :: rest => C01_CRunOk c Ok (C01_cstep c s op) rest

theorem C01_run_refines {S OpC OpP : Type} (stepC : S → OpC → S) (stepP : S → OpP → S) (Ok : S → List OpC → Prop)
    (hstep : ∀ s op rest, Ok s (op :: rest) → Ok (stepC s op) rest ∧ ∃ pl : List OpP, stepC s op = pl.foldl stepP s)
    (ops : List OpC) (s : S) (hok : Ok s ops) : ∃ pl : List OpP, ops.foldl stepC s = pl.foldl stepP s :=
  foldl_sim stepC stepP Eq Ok (fun s _ op rest e h => e ▸ hstep s op rest h) ops s s rfl hok

/-- a run with cipher under the corrupting network is a run of the plain system under the
replay-only network -/
theorem C01_crun_is_plain (c : SessIn.Cipher) (Ok : List Bytes → Bytes → Prop) (hg : C01_GateSound c Ok) :
    ∀ (ops : List C01_COp) (s : SessSys), C01_CRunOk c Ok s ops →
      ∃ plain : List SSOp, C01_crun c s ops = ssrun s plain := by
  refine C01_run_refines (C01_cstep c) ssstep (C01_CRunOk c Ok) ?_
  intro s op rest hok
  cases op with
  | a op => exact ⟨hok, [.a op], rfl⟩
  | b op => exact ⟨hok, [.b op], rfl⟩
  | net data now =>
    exact ⟨hok.2, C01_gate_refines hg (fun x p => sessStep x (.input p now)) s.B (fun b => { s with B := b }) ssstep
      (fun i => .dlv i now) (fun i f hi => by simp [ssstep, hi]) hok.1⟩

/-- **`C01_session_cipher`.**  Two sessions with a cipher on the path `A → B` whose gate is sound
against the network `Ok` (instances: `C01_gate_step` for CRC-style ciphers with
`Ok = C01_NetDatagramOk c enc`, `C01_gate_step_aead` for AEAD); the network
may drop, duplicate, reorder, delay, replay and CORRUPT ciphertext datagrams, as long as every
corruption is one the integrity check catches (`C01_CRunOk`; which corruptions CRC-32 is guaranteed to
catch is C06's subject: `C06_crc32_burst`).  Otherwise as `C01_session_plain`.  The bytes `B.Read`
has returned are a prefix of the bytes `A.WriteBuffers` has accepted. -/
theorem C01_session_cipher (c : SessIn.Cipher) (Ok : List Bytes → Bytes → Prop) (hg : C01_GateSound c Ok)
    (sA sB : Sess) (hA : Fresh sA.k) (hB : Fresh sB.k) (hbB : sB.bufptr = [])
    (hsn : sB.k.rcv_nxt = sA.k.snd_nxt) (hm : 0 < sA.k.mss.toNat) (ops : List C01_COp)
    (hnet : C01_CRunOk c Ok ⟨{ s := sA }, { s := sB }⟩ ops)
    (hL : (C01_crun c ⟨{ s := sA }, { s := sB }⟩ ops).A.log.length < 2 ^ 32) :
    (C01_crun c ⟨{ s := sA }, { s := sB }⟩ ops).B.rd <+: (C01_crun c ⟨{ s := sA }, { s := sB }⟩ ops).A.wr := by
  obtain ⟨plain, h⟩ := C01_crun_is_plain c Ok hg ops _ hnet
  rw [h] at hL ⊢
  exact C01_session_plain sA sB hA hB hbB hsn hm plain hL

section fec
open KcpVerif.Fec KcpVerif.Lemmas.FecSpec KcpVerif.Lemmas

/-- where an `Input` call comes from: a data packet that arrived, or a shard `decode` returned -/
def C01_CallOk (seen recd : List Bytes) (c : Bytes × Bool) : Prop :=
  (c.2 = true ∧ ∃ q ∈ seen, flag q = typeData ∧ c.1 = q.drop fecHeaderSizePlus2) ∨
  (c.2 = false ∧ ∃ r ∈ recd, trim r = some c.1)

theorem C01_CallOk.mono {seen recd : List Bytes} {c : Bytes × Bool} (h : C01_CallOk seen recd c)
    (s2 r2 : List Bytes) : C01_CallOk (seen ++ s2) (recd ++ r2) c := by
  rcases h with ⟨h1, q, hq, h2⟩ | ⟨h1, r, hr, h2⟩
  · exact Or.inl ⟨h1, q, List.mem_append_left _ hq, h2⟩
  · exact Or.inr ⟨h1, r, List.mem_append_left _ hr, h2⟩

/-- the `Input` calls of the FEC receive path run in lock step with `FecDec.feed` (the run
`C07_dec_sound` is about): same decoder states, and every call is a data packet's payload or the
trimmed form of a shard `decode` returned -/
theorem C01_fecRun_calls (C : CodecNew) (dec : Decoder) (pkts : List Bytes) :
    (C01_fecRun C dec pkts).1 = (FecDec.feed C dec pkts).1 ∧
    ∀ c ∈ (C01_fecRun C dec pkts).2, C01_CallOk pkts (FecDec.feed C dec pkts).2 c := by
  refine foldl_rel (R := fun a b => a.1 = b.1 ∧ ∀ c ∈ a.2, C01_CallOk pkts b.2 c) pkts ?_ (dec, []) (dec, [])
    ⟨rfl, nofun⟩
  intro a b q hq ⟨h1, h2⟩
  refine ⟨by show (a.1.decode C q).st = (b.1.decode C q).st; rw [h1], fun c hc => ?_⟩
  show C01_CallOk pkts (b.2 ++ (b.1.decode C q).recovered) c
  have hc' : c ∈ a.2 ++ C01_fecInputCalls C a.1 q := hc
  rcases List.mem_append.mp hc' with h | h
  · have := (h2 c h).mono [] (b.1.decode C q).recovered
    rwa [List.append_nil] at this
  · unfold C01_fecInputCalls at h
    rcases List.mem_append.mp h with h | h
    · by_cases hf : flag q = typeData
      · rw [if_pos hf, List.mem_singleton] at h
        rw [h]
        exact Or.inl ⟨rfl, q, hq, hf, rfl⟩
      · rw [if_neg hf] at h; cases h
    · obtain ⟨pl, hpl, rfl⟩ := List.mem_map.mp h
      obtain ⟨r, hr, htr⟩ := List.mem_filterMap.mp hpl
      rw [h1] at hr
      exact Or.inr ⟨rfl, r, List.mem_append_right _ hr, htr⟩

theorem C01_packet_payload (C : CodecNew) (G : Group) (hG : G.WF) (j : Nat) (hj : j < G.d) :
    (G.packet C j).drop fecHeaderSizePlus2 = G.payloads.getD j [] := by
  rw [FecEnc.packet_data C G hj, FecDec.bodies_getD (hG.count.symm ▸ hj)]
  unfold bodyOf
  rw [← List.append_assoc]
  exact List.drop_left' (by simp [Fec.le32, Fec.le16, fecHeaderSizePlus2])

/-- **FEC reduction.**  A decoder is fed ANY list of genuine packets of the sender's ratio (any
order, duplicates, losses, late arrivals…: the premise of `C07_dec_sound`).  Given the conclusion of
`C07_dec_sound` for that run, EVERY payload the FEC branch of `kcpInput` hands to the core's `Input`
— with `regular = true` (a data packet that arrived) or `regular = false` (recovered) — is byte-equal
to a payload the peer's FEC encoder was handed, i.e. to a KCP datagram the peer's core emitted.
FEC-recovered input is a replay of genuine datagrams; nothing else ever reaches the core. -/
theorem C01_fec_reduction {C : CodecNew} (grp : FecDec.Family) (d p : Nat) (dec : Decoder) (pkts : List Bytes)
    (hgen : ∀ q ∈ pkts, FecDec.GenuinePkt C grp d p q)
    (C07_dec_sound : ∀ r ∈ (FecDec.feed C dec pkts).2,
      ∃ G : Group, grp (G.base / u32 G.n) = some G ∧ G.WF ∧ G.d = d ∧ G.p = p ∧
        (∃ j, j < G.n ∧ G.packet C j ∈ pkts) ∧
        ∃ k, k < G.d ∧ r = pad G.maxLen (G.bodies.getD k []) ∧ trim r = some (G.payloads.getD k [])) :
    ∀ c ∈ (C01_fecRun C dec pkts).2,
      ∃ (G : Group) (k : Nat), grp (G.base / u32 G.n) = some G ∧ G.WF ∧ k < G.d ∧
        c.1 = G.payloads.getD k [] ∧ (c.2 = true → G.packet C k ∈ pkts) := by
  intro c hc
  rcases (C01_fecRun_calls C dec pkts).2 c hc with ⟨h1, q, hq', hf, hpl⟩ | ⟨h1, r, hr, htr⟩
  · obtain ⟨G, j, hgrp, hG, _, _, hj, rfl⟩ := hgen q hq'
    have hjd : j < G.d := by
      rw [FecDec.flag_packet] at hf
      by_cases hlt : j < G.d
      · exact hlt
      · rw [if_neg hlt] at hf
        exact absurd hf (by decide)
    exact ⟨G, j, hgrp, hG, hjd, by rw [hpl, C01_packet_payload C G hG j hjd], fun _ => hq'⟩
  · obtain ⟨G, hgrp, hG, _, _, _, k, hk, _, hk2⟩ := C07_dec_sound r hr
    refine ⟨G, k, hgrp, hG, hk, ?_, fun ht => ?_⟩
    · rw [hk2] at htr
      exact (Option.some.inj htr).symm
    · rw [h1] at ht; cases ht

end fec

/-- **Replays with either flag are already in the network of `C01_core`.**  Handing `B`'s `Input` a
datagram `A` has emitted, with ANY `regular` flag (`false` for FEC-recovered input: `Input` then only
skips the `rmt_wnd` / RTT updates), any `ackNoDelay`, any clock, IS the delivery step `dlv` of the
two-core system — so `C01_core`, `C01_core_msg` and the invariants `InvR`/`InvS` (proved for all flags)
cover FEC-recovered input without change. -/
theorem C01_fec_calls_are_replays (S : Sys) (pl : Bytes) (reg a : Bool) (now : U32) (h : pl ∈ S.A.wire) :
    ∃ i, sstep S (.dlv i reg a now) = { S with B := step S.B (.input pl reg a now) } := by
  obtain ⟨i, hi⟩ := List.getElem?_of_mem h
  exact ⟨i, by simp [sstep, hi]⟩

end KcpVerif.Props
