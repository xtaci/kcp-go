import KcpVerif.Generated
/-!
C12 — source obligation: the extractor lists every `< <= > >=` in the package whose operands are
32-bit sequence numbers / timestamps (by name and by uint32 type flow) and are NOT the result of
`_itimediff`.  The hand-written model cannot notice a NEW raw comparison in the source; this
obligation can: it is re-checked against the regenerated table on every run.
-/
namespace KcpVerif.Props
open KcpVerif.Gen

/-- no ordering decision on sequence numbers or timestamps bypasses `_itimediff` -/
theorem C12_no_raw_order_comparisons : rawOrderComparisons = [] := by decide

/-- the only range checks against the FEC wrap value are the documented ones -/
theorem C12_paws_range_checks_known :
    pawsRangeChecks = ["fec.go:fecDecoder.decode:in.seqid() >= dec.paws"] := by decide +kernel

end KcpVerif.Props
