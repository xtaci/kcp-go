import KcpVerif.Lemmas.RingIter
/-!
C20 — the ring buffer is a FIFO queue for every operation sequence.

All theorems quantify over every well-formed ring `WF r` — every capacity ≥ 2, every head/tail
position, wrapped or not — which is a superset of the states reachable from `NewRingBuffer`.
The element type `α` and the closure-state type `σ` are arbitrary.
-/
namespace KcpVerif.Props
open KcpVerif.Gen KcpVerif.Ring

variable {α σ : Type}

/-- `NewRingBuffer(n)` is well formed, empty, and has the documented capacity.  Uses
`2 ≤ RINGBUFFER_MIN` from the regenerated constants. -/
theorem C20_new_wf (n : Int) :
    WF (Ring.new n : Ring α) ∧ (Ring.new n : Ring α).abs = [] ∧
    (Ring.new n : Ring α).size = if n ≤ (RINGBUFFER_MIN : Int) then RINGBUFFER_MIN else n.toNat :=
  ⟨(rep_new n).wf, (rep_new n).abs, size_new n⟩

/-- `Push` appends at the back, whether or not it has to grow first. -/
theorem C20_push {r : Ring α} (h : WF r) (x : α) :
    WF (r.push x) ∧ (r.push x).abs = r.abs ++ [x] :=
  rep_iff.1 (h.rep.push x)

/-- `Pop` returns the head (`none` = "empty") and leaves the tail of the queue. -/
theorem C20_pop {r : Ring α} (h : WF r) :
    r.pop.1 = r.abs.head?.map some ∧ WF r.pop.2 ∧ r.pop.2.abs = r.abs.tail :=
  ⟨h.rep.pop_fst, rep_iff.1 h.rep.pop_snd⟩

/-- `Peek` returns the head without changing anything. -/
theorem C20_peek {r : Ring α} (h : WF r) : r.peek = r.abs.head?.map some :=
  h.rep.peek

/-- `Discard(n)` drops `n` elements from the front (all of them if `n ≥ len`) and returns how
many it dropped — through the `Clear` shortcut, the contiguous branch and the wrapping branch. -/
theorem C20_discard {r : Ring α} (h : WF r) (n : Nat) :
    (r.discard n).1 = min n r.abs.length ∧ WF (r.discard n).2 ∧ (r.discard n).2.abs = r.abs.drop n :=
  ⟨h.rep.discard_fst n, rep_iff.1 (h.rep.discard_snd n)⟩

/-- `Clear` empties the queue. -/
theorem C20_clear {r : Ring α} (h : WF r) : WF r.clear ∧ r.clear.abs = [] :=
  rep_iff.1 h.rep.clear

/-- `Len` is the length of the queue. -/
theorem C20_len {r : Ring α} (h : WF r) : r.len = r.abs.length :=
  h.rep.len_eq

theorem C20_isEmpty {r : Ring α} (h : WF r) : r.isEmpty = r.abs.isEmpty :=
  h.rep.isEmpty

/-- `IsFull` holds exactly when `Len() == MaxLen()`, i.e. one slot is left empty. -/
theorem C20_isFull {r : Ring α} (h : WF r) : r.isFull = true ↔ r.abs.length + 1 = r.size :=
  h.rep.isFull_iff

/-- `MaxLen` is the capacity minus the one slot kept empty, and the queue never exceeds it. -/
theorem C20_maxLen {r : Ring α} (h : WF r) :
    r.maxLen = (r.size : Int) - 1 ∧ (r.abs.length : Int) ≤ r.maxLen := by
  refine ⟨rfl, ?_⟩
  have := h.rep.length_lt
  unfold Ring.maxLen
  omega

/-- `grow` keeps the queue, normalises the layout to `head = 0`, `tail = len`, and chooses the new
capacity by regime: below `RINGBUFFER_MIN` → `RINGBUFFER_MIN`; below `RINGBUFFER_EXP` → doubled;
otherwise +10 % rounded up.  The capacity strictly increases. -/
theorem C20_grow_preserves {r : Ring α} (h : WF r) :
    WF r.grow ∧ r.grow.abs = r.abs ∧ r.grow.head = 0 ∧ r.grow.tail = r.len ∧
    r.grow.size =
      (if r.size < RINGBUFFER_MIN then RINGBUFFER_MIN
       else if r.size < RINGBUFFER_EXP then r.size * 2
       else r.size + (r.size + 9) / 10) ∧
    r.size < r.grow.size :=
  ⟨h.rep.grow.wf, h.rep.grow.abs, rfl, rfl, size_grow r,
    by rw [size_grow]; exact lt_growSize (by have := h.size_ge; omega)⟩

/-- capacity after `Push`: it grows exactly when the ring was full -/
theorem C20_push_size (r : Ring α) (x : α) :
    (r.push x).size = if r.isFull then r.grow.size else r.size := by
  rw [size_push, size_grow]

/-- `ForEach` visits the elements head first, threads the closure state, writes back what the
callback leaves in each visited element, and stops after (and including) the first element on
which the callback returns `false`: final closure state and resulting queue are those of
`mapUntil`.  `f` is any slot-level callback that acts on stored elements as `g` does. -/
theorem C20_forEach_spec {r : Ring α} (h : WF r) {f : σ → Option α → CbRes σ α}
    {g : σ → α → σ × α × Bool} (hfg : Lifts f g) (s : σ) :
    (r.forEach f s).1 = (mapUntil g s r.abs).1 ∧ WF (r.forEach f s).2 ∧
    (r.forEach f s).2.abs = (mapUntil g s r.abs).2 :=
  ⟨(h.rep.forEach hfg s).1, rep_iff.1 (h.rep.forEach hfg s).2⟩

/-- `ForEachReverse` does the same from the back: `mapUntil` on the reversed queue. -/
theorem C20_forEachReverse_spec {r : Ring α} (h : WF r) {f : σ → Option α → CbRes σ α}
    {g : σ → α → σ × α × Bool} (hfg : Lifts f g) (s : σ) :
    (r.forEachReverse f s).1 = (mapUntil g s r.abs.reverse).1 ∧ WF (r.forEachReverse f s).2 ∧
    (r.forEachReverse f s).2.abs = (mapUntil g s r.abs.reverse).2.reverse :=
  ⟨(h.rep.forEachReverse hfg s).1, rep_iff.1 (h.rep.forEachReverse hfg s).2⟩

/-- `mapUntil` keeps the length (iterators never add or remove elements) … -/
theorem C20_mapUntil_length (g : σ → α → σ × α × Bool) (s : σ) (q : List α) :
    (mapUntil g s q).2.length = q.length := by
  induction q generalizing s with
  | nil => rfl
  | cons a q ih =>
    simp only [mapUntil]
    split
    · simp [ih]
    · simp

/-- … and with a callback that always continues it is `List.map` (sanity of the specification) -/
theorem C20_mapUntil_map (h : α → α) (s : σ) (q : List α) :
    mapUntil (fun s a => (s, h a, true)) s q = (s, q.map h) := by
  induction q with
  | nil => rfl
  | cons a q ih => simp [mapUntil, ih]

/-- On a well-formed ring every index and slice expression of every method is in range
(`Ring.AccessesInRange` lists them site by site): no method panics, and the clamping of the
model's `List` operations never takes effect. -/
theorem C20_no_out_of_range {r : Ring α} (h : WF r) : AccessesInRange r :=
  h.rep.accessesInRange

/-- Every slot that still holds an element lies in the live range; since `WF` is preserved by
`Pop`, `Discard` and `Clear` (above), the slots they vacate hold the zero value afterwards. -/
theorem C20_freed_slots_cleared {r : Ring α} (h : WF r) (i : Nat) (a : α)
    (hi : r.elems[i]? = some (some a)) : i < r.size ∧ r.Live i := by
  have hlt : i < r.size := (List.getElem?_eq_some_iff.mp hi).1
  refine ⟨hlt, ?_⟩
  apply Classical.byContradiction
  intro hn
  rw [h.dead i hlt hn] at hi
  cases hi

/-- in particular: the slot a successful `Pop` read from is zeroed -/
theorem C20_pop_clears_slot {r : Ring α} (h : WF r) (hne : r.abs ≠ []) :
    r.pop.2.elems[r.head]? = some none := by
  have h0 : r.len ≠ 0 := fun hc => hne (h.rep.len_zero_iff.1 hc)
  have hh : r.head < r.elems.length := h.head_lt
  simp [Ring.pop, h0, hh]

/-- and after `Clear` every slot is zero -/
theorem C20_clear_all_slots {r : Ring α} (h : WF r) (i : Nat) (hi : i < r.size) :
    r.clear.elems[i]? = some none :=
  getElem?_clear_of_dead h.dead hi

/-- For every op sequence from every well-formed start, all outputs of the ring equal those of
the list queue started from `abs r`, the final ring is well formed and represents the final
queue. -/
theorem C20_ring_is_queue {r : Ring α} (h : WF r) (ops : List (Op σ α)) :
    (runRing r ops).1 = (runList r.abs ops).1 ∧ WF (runRing r ops).2 ∧
    (runRing r ops).2.abs = (runList r.abs ops).2 :=
  ⟨(h.rep.run ops).1, rep_iff.1 (h.rep.run ops).2⟩

/-- from a fresh buffer of any requested size: the ring is the queue started empty -/
theorem C20_ring_is_queue_from_new (n : Int) (ops : List (Op σ α)) :
    (runRing (Ring.new n : Ring α) ops).1 = (runList [] ops).1 :=
  ((rep_new n).run ops).1

/-! ### non-vacuity: `WF r` and `Lifts f g` hold of concrete wrapped, full, about-to-grow states -/

def exWrapped : Ring Nat := ⟨6, 2, [some 5, some 6, none, none, none, none, some 3, some 4]⟩

def exFull : Ring Nat := ⟨5, 4, [some 4, some 5, some 6, some 7, none, some 1, some 2, some 3]⟩

/-- both layouts are reached from a fresh buffer through the public operations, which is how they are shown well formed -/
theorem C20_exWrapped_eq :
    exWrapped = (runRing (σ := Unit) (Ring.new 0)
      [.push 0, .push 0, .push 0, .push 0, .push 1, .push 2, .discard 4, .pop, .pop,
       .push 3, .push 4, .push 5, .push 6]).2 := by decide +kernel

theorem C20_exFull_eq :
    exFull = (runRing (σ := Unit) (Ring.new 8)
      [.push 0, .push 0, .push 0, .push 0, .push 0, .discard 4, .pop,
       .push 1, .push 2, .push 3, .push 4, .push 5, .push 6, .push 7]).2 := by decide +kernel

theorem C20_exWrapped_wf : WF exWrapped := by
  rw [C20_exWrapped_eq]; exact (C20_ring_is_queue (C20_new_wf 0).1 _).2.1

theorem C20_exFull_wf : WF exFull := by
  rw [C20_exFull_eq]; exact (C20_ring_is_queue (C20_new_wf 8).1 _).2.1

example : exWrapped.tail < exWrapped.head ∧ exWrapped.abs = [3, 4, 5, 6] := by decide +kernel
example : exFull.isFull = true ∧ exFull.abs = [1, 2, 3, 4, 5, 6, 7] := by decide +kernel

-- push on the full wrapped ring grows 8 → 16 and re-bases the layout (C20_push, C20_grow_preserves)
example : (exFull.push 8).size = 16 ∧ (exFull.push 8).head = 0 ∧ (exFull.push 8).tail = 8 ∧
    (exFull.push 8).abs = [1, 2, 3, 4, 5, 6, 7, 8] := by decide +kernel
-- pop / peek at the wrap point (C20_pop, C20_peek, C20_pop_clears_slot)
example : exWrapped.pop.1 = some (some 3) ∧ exWrapped.peek = some (some 3) ∧
    exWrapped.pop.2.elems[6]? = some none ∧ exWrapped.pop.2.abs = [4, 5, 6] := by decide +kernel
-- Discard across the array end (wrapping branch), exactly to the array end, and beyond len (C20_discard)
example : (exWrapped.discard 3).1 = 3 ∧ (exWrapped.discard 3).2.head = 1 ∧ (exWrapped.discard 3).2.abs = [6] := by decide +kernel
example : (exWrapped.discard 2).2.head = 0 ∧ (exWrapped.discard 2).2.abs = [5, 6] := by decide +kernel
example : (exWrapped.discard 9).1 = 4 ∧ (exWrapped.discard 9).2.abs = [] := by decide +kernel

def exCb (s : Nat) (a : Nat) : Nat × Nat × Bool := (s * 31 + a, a + 10, a % 3 != 1)

example : Lifts (liftCb exCb) exCb := lifts_liftCb exCb
-- the list-level specification itself: 3 continues, 4 stops (and is still updated), 5 and 6 untouched
example : mapUntil exCb 0 [3, 4, 5, 6] = (3 * 31 + 4, [13, 14, 5, 6]) := by decide +kernel
-- ForEach over the wrapped ring (C20_forEach_spec) …
example : (exWrapped.forEach (liftCb exCb) 0).1 = 3 * 31 + 4 ∧
    (exWrapped.forEach (liftCb exCb) 0).2.abs = [13, 14, 5, 6] := by decide +kernel
-- … and ForEachReverse: 6, 5 continue, 4 stops (C20_forEachReverse_spec)
example : (exWrapped.forEachReverse (liftCb exCb) 0).1 = (6 * 31 + 5) * 31 + 4 ∧
    (exWrapped.forEachReverse (liftCb exCb) 0).2.abs = [3, 14, 15, 16] := by decide +kernel
-- a whole sequence with outputs (C20_ring_is_queue)
example : (runRing exFull [Op.pop, .push 8, .push 9, .forEachReverse exCb 0, .discard 3, .len, .isEmpty]).1 =
    [.slot (some (some 1)), .unit, .unit, .st ((9 * 31 + 8) * 31 + 7), .num 3, .num 5, .bool false] := by decide +kernel

end KcpVerif.Props
