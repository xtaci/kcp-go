/-
C05 (FEC part) — the FEC decoder cannot crash or bloat on ARBITRARY (forged) packets (DESIGN 7.5):
`Model/Fec.Decoder.decode` (fec.go `fecDecoder.decode`, with the repairs of findings D13, D15, D18), for
ANY codec constructor `C` and ANY packet contents.  `InvDec` (`Lemmas/FecBound`) is the size/shape
invariant of a decoder state; NOTHING is assumed about `newest`.
-/
import KcpVerif.Lemmas.FecBound

namespace KcpVerif.Props
open KcpVerif.Gen KcpVerif.Fec KcpVerif.Lemmas.FecBound

/-- `newFECDecoder(d, p)`, when it does not return nil, returns a state satisfying the invariant. -/
theorem C05_fec_inv_new (C : CodecNew) (d p : Nat) (dec : Decoder) (h : Decoder.new C d p = some dec) :
    InvDec dec := by
  obtain ⟨⟨hd, hp, hn⟩, e⟩ := (Lemmas.FecDec.Decoder.new_eq C d p dec).1 h
  rw [e]
  exact inv_of_sets_nil hd hp rfl hn rfl Lemmas.AutoTune.wf_init rfl

-- non-vacuity: the constructor succeeds
example : ∃ dec, Decoder.new rsNew 2 1 = some dec := ⟨_, rfl⟩
example : ∃ dec, Decoder.new rsNew 2 1 = some dec ∧ InvDec dec := ⟨_, rfl, C05_fec_inv_new rsNew 2 1 _ rfl⟩

/-- The main step: on a byte string of admissible length (`fecHeaderSize ≤ len ≤ mtuLimit`, the guards
    of the callers) `decode` does not panic and the new state satisfies the invariant. -/
theorem C05_fec_decode_total (C : CodecNew) (dec : Decoder) (inp : Bytes) (h : InvDec dec)
    (h1 : fecHeaderSize ≤ inp.length) (h2 : inp.length ≤ mtuLimit) :
    (dec.decode C inp).panic = false ∧ InvDec (dec.decode C inp).st :=
  decode_total C dec inp h h1 h2

-- non-vacuity: a concrete 8-byte packet satisfies the size hypotheses
example : fecHeaderSize ≤ ([0, 0, 0, 0, 0xf1, 0, 9, 9] : Bytes).length ∧
    ([0, 0, 0, 0, 0xf1, 0, 9, 9] : Bytes).length ≤ mtuLimit := by decide

/-- O3: an input shorter than the FEC header panics (state untouched) — the length guard of the
    callers is necessary. -/
theorem C05_fec_short_input_panics (C : CodecNew) (dec : Decoder) (inp : Bytes)
    (h : inp.length < fecHeaderSize) :
    (dec.decode C inp).panic = true ∧ (dec.decode C inp).st = dec :=
  by rw [Lemmas.FecDec.decode_eq, if_pos h]; exact ⟨rfl, rfl⟩

example : ([1, 2, 3, 4, 5] : Bytes).length < fecHeaderSize := by decide

/-- The invariant bounds the number of shard sets: at most `maxShardSets + 1`, whatever value
    `newest` has (the products `newest·n` may wrap; ids half the id space away are discarded). -/
theorem C05_fec_sets_bound (dec : Decoder) (h : InvDec dec) : dec.sets.length ≤ maxShardSets + 1 :=
  sets_le h

-- non-vacuity and tightness: four packets of four consecutive groups of a 2/1 sender leave
-- exactly `maxShardSets + 1` shard sets
example : ∃ dec0, Decoder.new rsNew 2 1 = some dec0 ∧
    (run rsNew dec0 [[0, 0, 0, 0, 0xf1, 0, 9, 9], [3, 0, 0, 0, 0xf1, 0, 9, 9],
      [6, 0, 0, 0, 0xf1, 0, 9, 9], [9, 0, 0, 0, 0xf1, 0, 9, 9]]).sets.length = maxShardSets + 1 :=
  ⟨_, rfl, by decide +kernel⟩

/-- Footprint after ANY history of packets of admissible length fed to a new decoder. -/
theorem C05_fec_footprint (C : CodecNew) (d p : Nat) (dec0 : Decoder) (pkts : List Bytes)
    (h0 : Decoder.new C d p = some dec0)
    (hp : ∀ q ∈ pkts, fecHeaderSize ≤ q.length ∧ q.length ≤ mtuLimit) :
    (run C dec0 pkts).sets.length ≤ maxShardSets + 1 ∧
    heldPackets (run C dec0 pkts) ≤ (maxShardSets + 1) * 255 ∧
    heldBytes (run C dec0 pkts) ≤ (maxShardSets + 1) * 255 * mtuLimit ∧
    (run C dec0 pkts).tune.pulses.length = maxAutoTuneSamples ∧
    (run C dec0 pkts).tune.count ≤ maxAutoTuneSamples := by
  have h := inv_run C (C05_fec_inv_new C d p dec0 h0) pkts hp
  exact ⟨sets_le h, held_le_const h, heldBytes_le h, (ring_in_range h).1, (ring_in_range h).2.1⟩

-- non-vacuity: the hypotheses are satisfiable (constructor succeeds, packets of admissible length)
example : ∃ dec0, Decoder.new rsNew 2 1 = some dec0 ∧
    ∀ q ∈ ([[0, 0, 0, 0, 0xf1, 0, 9, 9], [7, 7, 7, 7, 7, 7]] : List Bytes),
      fecHeaderSize ≤ q.length ∧ q.length ≤ mtuLimit := ⟨_, rfl, by decide⟩

/-- No call of such a history panics. -/
theorem C05_fec_never_panics (C : CodecNew) (d p : Nat) (dec0 : Decoder) (pkts : List Bytes)
    (h0 : Decoder.new C d p = some dec0)
    (hp : ∀ q ∈ pkts, fecHeaderSize ≤ q.length ∧ q.length ≤ mtuLimit)
    (pre : List Bytes) (q : Bytes) (post : List Bytes) (hsplit : pkts = pre ++ q :: post) :
    ((run C dec0 pre).decode C q).panic = false :=
  run_never_panics C (C05_fec_inv_new C d p dec0 h0) pkts hp pre q post hsplit

-- non-vacuity of `hsplit`: a history splits into a prefix, a next packet and a rest
example : ([[0, 0, 0, 0, 0xf1, 0, 9, 9], [7, 7, 7, 7, 7, 7], [1, 0, 0, 0, 0xf1, 0, 9, 9]] : List Bytes) =
    [[0, 0, 0, 0, 0xf1, 0, 9, 9]] ++ [7, 7, 7, 7, 7, 7] :: [[1, 0, 0, 0, 0xf1, 0, 9, 9]] := rfl

/-- Every index used by the copy loop of `FindPeriod` (`pulses[(head + i) % maxAutoTuneSamples]`,
    `i < count`) is inside the ring, after any history. -/
theorem C05_fec_findPeriod_in_range (C : CodecNew) (d p : Nat) (dec0 : Decoder) (pkts : List Bytes)
    (h0 : Decoder.new C d p = some dec0)
    (hp : ∀ q ∈ pkts, fecHeaderSize ≤ q.length ∧ q.length ≤ mtuLimit) (i : Nat)
    (hi : i < (run C dec0 pkts).tune.count) :
    ((run C dec0 pkts).tune.head + i) % maxAutoTuneSamples < (run C dec0 pkts).tune.pulses.length :=
  (ring_in_range (inv_run C (C05_fec_inv_new C d p dec0 h0) pkts hp)).2.2 i hi

-- non-vacuity: after one packet the ring holds one sample, so `i = 0` qualifies
example : ∃ dec0, Decoder.new rsNew 2 1 = some dec0 ∧
    0 < (run rsNew dec0 [[0, 0, 0, 0, 0xf1, 0, 9, 9]]).tune.count := ⟨_, rfl, by decide +kernel⟩

end KcpVerif.Props
