import KcpVerif.Lemmas.Wait
/-!
# C13 — blocked Read / Write / Accept always wake: data, deadline, close, error

Theorems about the LTS `Model/Wait` (the blocking loops of sess.go transcribed control point by
control point, tied to the code by trace acceptance `wait` and by the regenerated facts
`Gen.wait…`).  "Wakes" is stated as *enabledness under maximal progress*: in a state where the
awaited condition holds for a blocked caller some thread step is enabled, hence virtual time
(`tick`, which needs a quiescent state) cannot advance while somebody sleeps on a condition that
holds.  "Exactly at the deadline" is: never a timeout before the loaded deadline, and time cannot
pass the deadline in force while the caller is blocked.

Defects (DESIGN sections 6 and 13.3): D7, D7b (found by this check), D5 are repaired in the repository
(`fix:` commits); for each the failing run of the *original* loops is proved here on the model
and the theorem that failed is proved for the repaired loops.  D8 (Accept loads its deadline
once; a deadline change wakes one of several waiters) is a recorded finding: counterexamples
proved, theorem stated for the single-caller case.
-/
namespace KcpVerif.Props
open KcpVerif KcpVerif.Wait

/-- the tree being checked has the three repairs (re-point, re-arm, chain wake).  If one of them
is reverted the extractor regenerates `Gen.wait…`, this theorem fails and with it the check. -/
theorem C13_source_is_repaired (async : Bool) : cfgOfSource async = cfgFixed async := by
  cases async <;> decide

/-- hence every hypothesis `cfg.repoint = true`, `cfg.rearm = true`, `cfg.chain = true` of the
theorems below is discharged for the checked tree, for both timer-channel semantics -/
theorem C13_source_flags (async : Bool) :
    (cfgOfSource async).repoint = true ∧ (cfgOfSource async).rearm = true ∧ (cfgOfSource async).chain = true := by
  rw [C13_source_is_repaired]; exact ⟨rfl, rfl, rfl⟩

/-- the wake-up branches stop and drain the timer before going back to RESET_TIMER — what
`Thread.stopDrain` transcribes; without the drain a stale expiry survives `Reset` under
`asynctimerchan=1` and `TimerInv.armed_buf` (hence `C13_timeout_never_early`) would be false.
`testing/synctest` refuses `asynctimerchan=1`, so this side of the model is tied by this extracted
fact only, not by traces. -/
theorem C13_source_drains : (Gen.waitReadDrains && Gen.waitWriteDrains) = true := by decide

def stuckPast (cfg : Cfg) (s : State) (i : Nat) (cell : Option Time) : Bool :=
  quiescent cfg s && (s.ths[i]?.map (·.pc) == some .sel) &&
    (match cell with | some d => decide (d < s.sh.now) | none => false)

/-- D7: deadline 500 set, `Read` blocks, deadline cleared, deadline 300 set: at +1000 the
caller is still blocked (original loops: `c` stays nil after `Reset`). -/
def d7Run : List Label :=
  [.setRD (some 500), .call 0 64, .thr 0 .go, .thr 0 .go,
   .setRD none, .thr 0 .tok, .thr 0 .go, .thr 0 .go, .thr 0 .go,
   .setRD (some 300), .thr 0 .tok, .thr 0 .go, .thr 0 .go, .thr 0 .go,
   .tick 300, .fire 0, .tick 1000]

theorem C13_D7_deadline_reset_counterexample (async : Bool) :
    (run (cfgOrig async) (init [.read] 1) d7Run).map (fun s => stuckPast (cfgOrig async) s 0 s.sh.rd) = some true := by
  cases async <;> decide

/-- the same for `Write` (window full) -/
def d7RunW : List Label :=
  [.setWD (some 500), .call 0 64, .thr 0 .go, .thr 0 .go, .thr 0 .go,
   .setWD none, .thr 0 .tok, .thr 0 .go, .thr 0 .go, .thr 0 .go, .thr 0 .go,
   .setWD (some 300), .thr 0 .tok, .thr 0 .go, .thr 0 .go, .thr 0 .go, .thr 0 .go,
   .tick 300, .fire 0, .tick 1000]

theorem C13_D7_deadline_reset_counterexample_write (async : Bool) :
    (run (cfgOrig async) (init [.write] 1 1) d7RunW).map (fun s => stuckPast (cfgOrig async) s 0 s.sh.wd) = some true := by
  cases async <;> decide

/-- D7b: `Read` blocks without a deadline, then deadline 300 is set: the wake-up does not go back
to RESET_TIMER (no timer exists), the deadline is never loaded. -/
def d7bRun : List Label :=
  [.call 0 64, .thr 0 .go, .thr 0 .go, .tick 100,
   .setRD (some 300), .thr 0 .tok, .thr 0 .go, .thr 0 .go, .tick 1000]

theorem C13_D7b_late_set_counterexample (async : Bool) :
    (run (cfgOrig async) (init [.read] 1) d7bRun).map (fun s => stuckPast (cfgOrig async) s 0 s.sh.rd) = some true := by
  cases async <;> decide

/-- D5: two readers blocked, two messages arrive in one datagram (one token): reader 0 takes one
message and returns, reader 1 stays blocked although a message is readable, and nothing can move. -/
def d5Run : List Label :=
  [.call 0 64, .call 1 64, .thr 0 .go, .thr 0 .go, .thr 1 .go, .thr 1 .go, .tick 100,
   .arrive [8, 8], .thr 0 .tok, .thr 0 .go, .thr 0 .go]

theorem C13_D5_multireader_counterexample (async : Bool) :
    (run (cfgOrig async) (init [.read, .read] 1) d5Run).map
      (fun s => quiescent (cfgOrig async) s && decide (0 < s.sh.readable) && (s.ths[1]?.map (·.pc) == some .sel))
      = some true := by
  cases async <;> decide

/-- D8 (Accept): the deadline is loaded once at entry; set while blocked it is never honoured.
This is the code as it is (also in the repaired tree): recorded finding. -/
def d8AcceptRun : List Label :=
  [.call 0 64, .thr 0 .go, .tick 100, .setLD (some 300), .tick 1000]

theorem C13_D8_accept_deadline_counterexample (cfg : Cfg) :
    (run cfg (init [.accept] 1) d8AcceptRun).map (fun s => stuckPast cfg s 0 s.sh.ld) = some true := by
  rcases cfg with ⟨_ | _, _ | _, _ | _, _ | _⟩ <;> decide

/-- D8 (several waiters): deadline 300, two readers block, the deadline is moved to 700: one
token, reader 0 re-arms, reader 1 keeps its old timer and times out at 300 < 700.
Holds for the repaired loops too: recorded finding. -/
def d8MultiRun : List Label :=
  [.setRD (some 300), .call 0 64, .call 1 64, .thr 0 .go, .thr 0 .go,
   .thr 0 .tok, .thr 0 .go, .thr 0 .go, .thr 0 .go, .thr 1 .go, .thr 1 .go, .tick 100,
   .setRD (some 700), .thr 0 .tok, .thr 0 .go, .thr 0 .go, .thr 0 .go,
   .tick 300, .fire 1, .thr 1 .timeout]

theorem C13_D8_multi_deadline_counterexample (async : Bool) :
    (run (cfgFixed async) (init [.read, .read] 1) d8MultiRun).map
      (fun s => (s.ths[1]?.map (fun t => (t.ret, t.retAt)) == some (some .timeout, 300)) && (s.sh.rd == some 700))
      = some true := by
  cases async <;> decide

/-- Single reader, single writer — every interleaving of arrivals, acknowledgements, pumps, deadline
operations with the check-then-wait window: if the caller sits in its `select` while what it waits
for holds, the wake-up token is there, so the caller can move and virtual time cannot advance.
(Readers: holds with or without the chain wake.) -/
theorem C13_no_lost_wakeup_1 {cfg : Cfg} {kinds : List Kind} {wnd infl : Nat} {s : State} {i : Nat} {t : Thread}
    (h : Reach cfg (init kinds wnd infl) s) (hi : s.ths[i]? = some t) (hp : t.pc = .sel) :
    (t.kind = .read → SingleK .read kinds → 0 < s.sh.readable →
      s.sh.rtok = true ∧ t.canStep cfg s.sh = true ∧ ∀ t', step cfg s (.tick t') = none) ∧
    (t.kind = .write → SingleK .write kinds → s.sh.inflight < s.sh.wnd →
      s.sh.wtok = true ∧ t.canStep cfg s.sh = true ∧ ∀ t', step cfg s (.tick t') = none) := by
  have key : ∀ {k}, k ≠ .accept → t.kind = k → SingleK k kinds → s.sh.ready k →
      s.sh.tok k = true ∧ t.canStep cfg s.sh = true ∧ ∀ t', step cfg s (.tick t') = none := by
    intro k hna hk hs hrd
    have htok := reach_ready hna hs h i t hi hk hp hrd
    have hcs := (TStep.tok (cfg := cfg) hk hna hp htok).canStep
    exact ⟨htok, hcs, tick_none_of_canStep (List.mem_of_getElem? hi) hcs⟩
  exact ⟨key nofun, key nofun⟩

example : SingleK .read [.read, .write, .accept] ∧ SingleK .write [.read, .write, .accept] := by
  exact ⟨.cons_self (by decide), .cons_ne (by decide) (.cons_self (by decide))⟩

/-- Never early, any number of callers of any kind (repaired loops, both timer semantics): a caller
returns `timeout` only when the deadline value it loaded at its last RESET_TIMER (Accept: at
entry) has been reached. -/
theorem C13_timeout_never_early {cfg : Cfg} {kinds : List Kind} {wnd infl : Nat} {s s' : State} {i : Nat}
    (hc : cfg.repoint = true) (hr : cfg.rearm = true)
    (h : Reach cfg (init kinds wnd infl) s) (hs : step cfg s (.thr i .timeout) = some s') :
    ∃ t d, s.ths[i]? = some t ∧ t.pc = .sel ∧ t.seen = some d ∧ d ≤ s.sh.now := by
  cases step_inv hs with
  | @thr _ _ t r hi hrr =>
    have hinv := reach_timerInv hc hr h t (List.mem_of_getElem? hi)
    -- the only row for the choice `timeout` is the one at `sel`, guarded by `c && buf`
    cases tstep_inv hrr with
    | timeout hp hcc hb =>
      have hw : t.waiting := Or.inr (Or.inr hp)
      cases hseen : t.seen with
      | none => exact absurd hcc (by rw [(hinv.no_deadline hw hseen).1]; nofun)
      | some d =>
        rcases (hinv.deadline hw d hseen).2 with ⟨_, hb'⟩ | ⟨_, _, hd⟩
        · exact absurd hb (by rw [hb']; nofun)
        · exact ⟨t, d, hi, hp, hseen, hd⟩
  | env hl => cases hl

/-- One reader (resp. one writer), repaired loops, every sequence of deadline
operations before and while the call is blocked (none→set, set→later, set→earlier, set→past,
set→zero→set):
* the loaded deadline is the one in the cell unless a wake-up token is pending (every `Set*`
  issues one, and it is consumed before time advances);
* blocked past the deadline in force ⇒ the caller can move (token, timer expiry or timeout case),
  so time does not advance;
* a `tick` never jumps over the deadline in force of a blocked caller.
Together with `C13_timeout_never_early`: the call times out at exactly the deadline in force. -/
theorem C13_deadline_exact_1 {cfg : Cfg} {kinds : List Kind} {wnd infl : Nat} {s : State} {i : Nat} {t : Thread}
    (hc : cfg.repoint = true) (hr : cfg.rearm = true)
    (h : Reach cfg (init kinds wnd infl) s) (hi : s.ths[i]? = some t) (hp : t.pc = .sel)
    (hcell : (t.kind = .read ∧ SingleK .read kinds ∧ cell = s.sh.rd ∧ tok = s.sh.rtok) ∨
             (t.kind = .write ∧ SingleK .write kinds ∧ cell = s.sh.wd ∧ tok = s.sh.wtok)) :
    (cell = t.seen ∨ tok = true) ∧
    (∀ d, cell = some d → d ≤ s.sh.now → t.canStep cfg s.sh = true) ∧
    (∀ d t' s', cell = some d → step cfg s (.tick t') = some s' → t' ≤ d) := by
  obtain ⟨k, hk, hna, hs, rfl, rfl⟩ :
      ∃ k, t.kind = k ∧ k ≠ .accept ∧ SingleK k kinds ∧ cell = s.sh.cell k ∧ tok = s.sh.tok k := by
    rcases hcell with ⟨hk, hs, hc, ht⟩ | ⟨hk, hs, hc, ht⟩
    · exact ⟨.read, hk, nofun, hs, hc, ht⟩
    · exact ⟨.write, hk, nofun, hs, hc, ht⟩
  have hm : t ∈ s.ths := List.mem_of_getElem? hi
  have hinv := reach_timerInv hc hr h t hm
  have hw : t.waiting := Or.inr (Or.inr hp)
  have hcoh := reach_coh hr hna hs h i t hi hk hw
  have htok : s.sh.tok k = true → t.canStep cfg s.sh = true := fun h1 => (TStep.tok hk hna hp h1).canStep
  refine ⟨hcoh, ?_, ?_⟩
  · intro d hd hle
    rcases hcoh with h1 | h1
    · exact canStep_deadline_passed hinv hp (h1 ▸ hd) hle
    · exact htok h1
  · intro d t' s' hd hs
    rcases hcoh with h1 | h1
    · exact tick_le_loaded hinv hm hp (h1 ▸ hd) hs
    · exact absurd ((tick_none_of_canStep hm (htok h1) t').symm.trans hs) nofun

/-- `die` / `chSocketReadError` / `chSocketWriteError` / the listener's channels are closed channels:
every caller blocked on them has the corresponding exit enabled — any number of callers, any
variant of the loops — and time cannot advance while one of them is still blocked. -/
theorem C13_close_err_wake {cfg : Cfg} {s : State} {t : Thread} (ht : t ∈ s.ths) (hp : t.pc = .sel) :
    (t.kind = .read → s.sh.die = true → (tstep cfg s.sh t .die).map (·.t.ret) = some (some .closed)) ∧
    (t.kind = .read → s.sh.rerr = true → (tstep cfg s.sh t .err).map (·.t.ret) = some (some .sockerr)) ∧
    (t.kind = .write → s.sh.die = true → (tstep cfg s.sh t .die).map (·.t.ret) = some (some .closed)) ∧
    (t.kind = .write → s.sh.werr = true → (tstep cfg s.sh t .err).map (·.t.ret) = some (some .sockerr)) ∧
    (t.kind = .accept → s.sh.ldie = true → (tstep cfg s.sh t .die).map (·.t.ret) = some (some .closed)) ∧
    (t.kind = .accept → s.sh.lerr = true → (tstep cfg s.sh t .err).map (·.t.ret) = some (some .sockerr)) ∧
    ((t.kind = .read ∧ (s.sh.die = true ∨ s.sh.rerr = true)) ∨ (t.kind = .write ∧ (s.sh.die = true ∨ s.sh.werr = true)) ∨
      (t.kind = .accept ∧ (s.sh.ldie = true ∨ s.sh.lerr = true)) → ∀ t', step cfg s (.tick t') = none) := by
  have die : ∀ {k}, t.kind = k → s.sh.dead k = true → TStep cfg s.sh t .die ⟨s.sh, t.finish .closed s.sh.now⟩ :=
    fun hk hd => .die hk (Or.inl hp) hd
  have err : ∀ {k}, t.kind = k → s.sh.err k = true → TStep cfg s.sh t .err ⟨s.sh, t.finish .sockerr s.sh.now⟩ :=
    fun hk he => .err hk (Or.inl hp) he
  refine ⟨fun hk hd => ?_, fun hk hd => ?_, fun hk hd => ?_, fun hk hd => ?_, fun hk hd => ?_, fun hk hd => ?_, ?_⟩
  · rw [(die hk hd).tstep_eq]; rfl
  · rw [(err hk hd).tstep_eq]; rfl
  · rw [(die hk hd).tstep_eq]; rfl
  · rw [(err hk hd).tstep_eq]; rfl
  · rw [(die hk hd).tstep_eq]; rfl
  · rw [(err hk hd).tstep_eq]; rfl
  · intro hcase
    apply tick_none_of_canStep ht
    rcases hcase with ⟨hk, hd | hd⟩ | ⟨hk, hd | hd⟩ | ⟨hk, hd | hd⟩
    · exact (die hk hd).canStep
    · exact (err hk hd).canStep
    · exact (die hk hd).canStep
    · exact (err hk hd).canStep
    · exact (die hk hd).canStep
    · exact (err hk hd).canStep

/-- After Close: `Write` fails at the poll that precedes every test of the window (the only way to
`check` is through `pre`, and with `die` closed `pre` has no `go`); `Read` still returns data that
was received (`check` does not look at `die`; at most `len(b)` bytes, and what it hands out plus
what stays — leftover in `bufptr` and queued messages — is exactly what was there) and fails once
nothing is readable; a second `Close` reports an error. -/
theorem C13_after_close {cfg : Cfg} {sh : Sh} {t : Thread} {ch : Choice} {r : TRes} (hd : sh.die = true) :
    (t.kind = .write → t.pc = .pre → tstep cfg sh t ch = some r →
      r.t.pc = .done ∧ (r.t.ret = some .closed ∨ r.t.ret = some .sockerr)) ∧
    (t.kind = .write → tstep cfg sh t ch = some r → r.t.pc = .check → t.pc = .pre) ∧
    (t.kind = .read → t.pc = .check → 0 < sh.readable → tstep cfg sh t .go = some r →
      r.t.ret = some .ok ∧ r.t.got ≤ t.bsz ∧
      r.t.got + r.sh.left + r.sh.queue.sum = sh.left + sh.queue.sum) ∧
    (t.kind = .read → t.pc = .check → sh.readable = 0 → tstep cfg sh t .go = some r → r.t.pc = .sel) ∧
    (∀ s : State, s.sh = sh → closeResult s = .closed ∧
      ∀ s', step cfg s .close = some s' → s'.sh.die = true ∧ closeResult s' = .closed) := by
  refine ⟨?_, ?_, ?_, ?_, ?_⟩
  · intro hk hp hs
    cases tstep_inv hs with
    | poll _ _ _ hd' => exact absurd (hd.symm.trans hd') nofun
    | err => exact ⟨rfl, Or.inr rfl⟩
    | die => exact ⟨rfl, Or.inl rfl⟩
    | _ => rw [hp] at *; contradiction
  · intro hk hs hpc
    -- the rows that end at `check`: Write's poll, and RESET_TIMER and the wake-up of a reader
    have top : ∀ {k}, t.kind = k → k.top ≠ .check := fun hk' => by rw [← hk', hk]; nofun
    cases tstep_inv hs with
    | poll _ hp => exact hp
    | load hk' => exact absurd hpc (top hk')
    | again hk' =>
      split at hpc
      · cases hpc
      · exact absurd hpc (top hk')
    | _ => cases hpc
  · intro hk hp hpos hs
    cases hx : take sh.left sh.queue t.bsz with
    | none =>
      have := take_none hx
      simp [Sh.readable, this.1, this.2] at hpos
    | some x =>
      cases hs.symm.trans (TStep.readOk hk hp hx).tstep_eq
      have hc := take_conserves hx
      exact ⟨rfl, hc.2, hc.1⟩
  · intro hk hp hz hs
    cases hx : take sh.left sh.queue t.bsz with
    | none =>
      cases hs.symm.trans (TStep.blockR hk hp hx).tstep_eq
      rfl
    | some x =>
      have := take_some_pos hx
      simp only [Sh.readable] at hz; omega
  · intro s hs
    subst hs
    refine ⟨by simp [closeResult, hd], ?_⟩
    intro s' hs'
    simp only [step] at hs'
    cases hs'
    simp [closeResult]

/-- `AcceptKCP` returns on backlog, listener close, socket error, or on the deadline it read **at
entry**: each of these enables an exit of every blocked Accept caller (any number of callers),
time cannot pass the loaded deadline, and the timeout is never early
(`C13_timeout_never_early`).  A deadline stored while Accept is blocked is *not* observed:
`C13_D8_accept_deadline_counterexample` (recorded finding D8). -/
theorem C13_accept_wake {cfg : Cfg} {kinds : List Kind} {wnd infl : Nat} {s : State} {t : Thread}
    (hc : cfg.repoint = true) (hr : cfg.rearm = true)
    (h : Reach cfg (init kinds wnd infl) s) (ht : t ∈ s.ths) (hk : t.kind = .accept) (hp : t.pc = .sel) :
    (0 < s.sh.backlog → (tstep cfg s.sh t .tok).map (·.t.ret) = some (some .ok) ∧ ∀ t', step cfg s (.tick t') = none) ∧
    (s.sh.ldie = true → ∀ t', step cfg s (.tick t') = none) ∧
    (s.sh.lerr = true → ∀ t', step cfg s (.tick t') = none) ∧
    (∀ d, t.seen = some d → (d ≤ s.sh.now → t.canStep cfg s.sh = true) ∧
      ∀ t' s', step cfg s (.tick t') = some s' → t' ≤ d) := by
  have hinv := reach_timerInv hc hr h t ht
  refine ⟨fun hb => ?_, fun hd => ?_, fun hd => ?_, fun d hs => ?_⟩
  · have hrow := TStep.acceptOk (cfg := cfg) hk hp hb
    exact ⟨by rw [hrow.tstep_eq]; rfl, tick_none_of_canStep ht hrow.canStep⟩
  · exact tick_none_of_canStep ht (TStep.die hk (Or.inl hp) hd).canStep
  · exact tick_none_of_canStep ht (TStep.err hk (Or.inl hp) hd).canStep
  · exact ⟨fun hle => canStep_deadline_passed hinv hp hs hle, fun t' s' hst => tick_le_loaded hinv ht hp hs hst⟩

/-- Readers, any number (chain wake in place): whenever data is readable, a wake-up token is
pending or some reader is about to test for data.  Hence if any reader sleeps in its `select` while
data is readable, some caller can move and time cannot advance: readable data is never left
unclaimed while someone is waiting.  (False for the original loops: `C13_D5_multireader_counterexample`.)

Writers: free window is re-announced by every `update()` (the `pump` event; `kcpInput` does the
same), so a writer sleeping with free window is woken at the next pump — at most one interval
later per waiter; between pumps free window *can* stay unclaimed with ≥ 2 writers (the code has
no chain wake for writers).  Deadline *changes* wake only one of several waiters:
`C13_D8_multi_deadline_counterexample` (recorded finding). -/
theorem C13_multi_waiter {cfg : Cfg} {kinds : List Kind} {wnd infl : Nat} {s : State}
    (hchain : cfg.chain = true) (h : Reach cfg (init kinds wnd infl) s) :
    (0 < s.sh.readable →
      (s.sh.rtok = true ∨ ∃ (j : Nat) (t : Thread), s.ths[j]? = some t ∧ t.aboutToCheck) ∧
      ∀ t ∈ s.ths, t.kind = .read → t.pc = .sel → quiescent cfg s = false ∧ ∀ t', step cfg s (.tick t') = none) ∧
    (∀ s', step cfg s .pump = some s' → s.sh.die = false → s.sh.inflight < s.sh.wnd →
      s'.sh.wtok = true ∧
      ∀ t ∈ s'.ths, t.kind = .write → t.pc = .sel → quiescent cfg s' = false ∧ ∀ t', step cfg s' (.tick t') = none) := by
  constructor
  · intro hpos
    have hinv := reach_dataInv hchain h hpos
    refine ⟨hinv, ?_⟩
    intro t ht hk hp
    have : ∃ t0 ∈ s.ths, t0.canStep cfg s.sh = true := by
      rcases hinv with htok | ⟨j, t0, hj, h0⟩
      · exact ⟨t, ht, (TStep.tok hk nofun hp htok).canStep⟩
      · exact ⟨t0, List.mem_of_getElem? hj, canStep_aboutToCheck h0⟩
    obtain ⟨t0, ht0, hcs⟩ := this
    exact ⟨not_quiescent_of_canStep ht0 hcs, tick_none_of_canStep ht0 hcs⟩
  · intro s' hs hd hroom
    have htok : s'.sh.wtok = true := by
      simp [step, hd] at hs
      rw [← hs]; simp [hroom]
    refine ⟨htok, ?_⟩
    intro t ht hk hp
    have hcs := (TStep.tok (cfg := cfg) (sh := s'.sh) hk nofun hp htok).canStep
    exact ⟨not_quiescent_of_canStep ht hcs, tick_none_of_canStep ht hcs⟩

/-- Partial reads.  A `Read` whose buffer is smaller than the next message takes `len(b)` bytes and
leaves the rest in `bufptr`; that rest is readable for the next reader, and the chain wake — which
runs *after* `bufptr` has been updated — passes the token on (the patch /verif/seeded/C13-2 moves it
before the update, and the check reports it). -/
theorem C13_partial_read_chains {cfg : Cfg} {sh : Sh} {t : Thread} {r : TRes} {m : Nat} {q : List Nat}
    (hchain : cfg.chain = true) (hk : t.kind = .read) (hp : t.pc = .check)
    (hl : sh.left = 0) (hq : sh.queue = m :: q) (hb : t.bsz < m) (hs : tstep cfg sh t .go = some r) :
    r.t.ret = some .ok ∧ r.t.got = t.bsz ∧ r.sh.left = m - t.bsz ∧ r.sh.queue = q ∧ r.sh.rtok = true := by
  have hpos : 0 < m - t.bsz := by omega
  have hx : take sh.left sh.queue t.bsz = some ⟨m - t.bsz, q, t.bsz⟩ := by
    simp only [take, hl, hq, Nat.lt_irrefl, if_false, Nat.not_le.mpr hb]
  cases hs.symm.trans (TStep.readOk hk hp hx).tstep_eq
  simp [Thread.finish, hchain, more, hpos]

/-- … and with leftover bytes alone (`len(bufptr) > 0`, no message queued) no reader stays asleep:
`DataInv` counts the leftover as readable (any number of readers, chain wake in place). -/
theorem C13_multi_waiter_partial {cfg : Cfg} {kinds : List Kind} {wnd infl : Nat} {s : State}
    (hchain : cfg.chain = true) (h : Reach cfg (init kinds wnd infl) s) (hleft : 0 < s.sh.left) :
    (s.sh.rtok = true ∨ ∃ (j : Nat) (t : Thread), s.ths[j]? = some t ∧ t.aboutToCheck) ∧
    ∀ t ∈ s.ths, t.kind = .read → t.pc = .sel → quiescent cfg s = false ∧ ∀ t', step cfg s (.tick t') = none :=
  (C13_multi_waiter hchain h).1 (by simp only [Sh.readable]; omega)

/-- Between two environment events / ticks only thread steps and timer expiries happen (maximal
progress).  Such a phase is finite: at most `measure s` steps from `s` (`tstep_measure`) — so a quiescent
state is always reached; nobody spins. -/
theorem C13_progress_terminates {cfg : Cfg} {s s' : State} (ls : List Label)
    (hall : ∀ l ∈ ls, l.isProgress = true) (hr : run cfg s ls = some s') :
    ls.length + measure s' ≤ measure s ∧ ls.length ≤ measure s := by
  have := run_measure ls hall hr
  exact ⟨this, by omega⟩

/-- Time is never stuck either: in a quiescent state a `tick` to any later instant up to the next
timer expiry is enabled (and no further, `tick_iff`), at which instant the expiry is enabled. -/
theorem C13_time_advances {cfg : Cfg} {s : State} {t' : Time} (hq : quiescent cfg s = true) (hlt : s.sh.now < t')
    (harm : ∀ t ∈ s.ths, ∀ w, t.armed = some w → t' ≤ w) : (step cfg s (.tick t')).isSome = true := by
  rw [tick_iff.mpr ⟨hlt, hq, harm, rfl⟩]; rfl

/-- Repaired loops, any number of callers of every kind.  In the quiescent
state that ends a phase every caller is idle, has returned, or
is blocked in its `select`, and a caller that is still blocked has **none** of its wake-up conditions:
* Read: nothing readable (leftover bytes included; chain wake), session open, no socket error;
* Write: session open, no socket error, and — one writer — the window is full;
* Accept: empty backlog, listener open, no socket error;
* the deadline it loaded lies strictly in the future; for one reader / one writer so does the deadline
  in force (the cell).
Contrapositive = liveness: once data has arrived (enough of it: one `Read` per message or leftover),
the window has opened, the deadline (finite) has been reached, Close or a socket error has happened, the
call has returned when the phase ends, i.e. within the same virtual instant, after finitely many steps.
Not covered (recorded finding D8): a deadline changed while ≥ 2 callers are blocked, or while
Accept is blocked, is honoured only as the *loaded* value. -/
theorem C13_blocked_call_returns {cfg : Cfg} {kinds : List Kind} {wnd infl : Nat} {s : State} {t : Thread}
    (hc : cfg.repoint = true) (hr : cfg.rearm = true) (hchain : cfg.chain = true)
    (h : Reach cfg (init kinds wnd infl) s) (hq : quiescent cfg s = true) (ht : t ∈ s.ths) :
    (t.pc = .idle ∨ t.pc = .done ∨ t.pc = .sel) ∧
    (t.pc = .sel →
      (t.kind = .read → s.sh.readable = 0 ∧ s.sh.die = false ∧ s.sh.rerr = false) ∧
      (t.kind = .write → s.sh.die = false ∧ s.sh.werr = false ∧ (SingleK .write kinds → s.sh.wnd ≤ s.sh.inflight)) ∧
      (t.kind = .accept → s.sh.backlog = 0 ∧ s.sh.ldie = false ∧ s.sh.lerr = false) ∧
      (∀ d, t.seen = some d → s.sh.now < d) ∧
      (t.kind = .read → SingleK .read kinds → ∀ d, s.sh.rd = some d → s.sh.now < d) ∧
      (t.kind = .write → SingleK .write kinds → ∀ d, s.sh.wd = some d → s.sh.now < d)) := by
  have hns := not_canStep_of_quiescent hq ht
  refine ⟨quiescent_pcs hq ht (reach_pcOK h t ht), ?_⟩
  intro hp
  obtain ⟨i, hi⟩ := List.getElem?_of_mem ht
  -- none of the exits of the `select` is ready
  have hx := mt (canStep_sel (cfg := cfg) (sh := s.sh) hp).mpr (by rw [hns]; nofun)
  simp only [not_or, Bool.not_eq_true] at hx
  obtain ⟨htok, _, herr, hdead, _⟩ := hx
  have late : ∀ {P : Nat → Prop}, (∀ d, P d → d ≤ s.sh.now → t.canStep cfg s.sh = true) → ∀ d, P d → s.sh.now < d :=
    fun hP d hd => Nat.lt_of_not_le fun hle => absurd (hP d hd hle) (by rw [hns]; nofun)
  refine ⟨?_, ?_, ?_, ?_, ?_, ?_⟩
  · intro hk
    rw [hk] at hdead herr
    refine ⟨?_, hdead, herr⟩
    rcases Nat.eq_zero_or_pos s.sh.readable with h0 | hpos
    · exact h0
    · have := ((C13_multi_waiter hchain h).1 hpos).2 t ht hk hp
      simp [hq] at this
  · intro hk
    rw [hk] at hdead herr
    refine ⟨hdead, herr, fun hs => Nat.le_of_not_lt fun hroom => ?_⟩
    have := ((C13_no_lost_wakeup_1 (cfg := cfg) h hi hp).2 hk hs hroom).2.1
    simp [hns] at this
  · intro hk
    rw [hk] at hdead herr htok
    exact ⟨Nat.eq_zero_of_not_pos (by simpa [Sh.tok] using htok), hdead, herr⟩
  · exact late fun d hd hle => canStep_deadline_passed (reach_timerInv hc hr h t ht) hp hd hle
  · intro hk hs
    exact late (C13_deadline_exact_1 (cell := s.sh.rd) (tok := s.sh.rtok) hc hr h hi hp (Or.inl ⟨hk, hs, rfl, rfl⟩)).2.1
  · intro hk hs
    exact late (C13_deadline_exact_1 (cell := s.sh.wd) (tok := s.sh.wtok) hc hr h hi hp (Or.inr ⟨hk, hs, rfl, rfl⟩)).2.1

/-! ## non-vacuity and the repaired loops on the defect schedules -/

/-- possible outcomes (return, virtual time) of caller `i` under maximal progress, for a schedule of
environment events at given instants -/
def outcomes (cfg : Cfg) (s0 : State) (evs : List (Time × Label)) (endAt : Time) (i : Nat) : List (Option (Ret × Time)) :=
  let final := evs.foldl (fun ss e =>
      settleAll cfg ((ss.flatMap (advance cfg 16 e.1)).filterMap (fun s => step cfg s e.2))) [s0]
  ((final.flatMap (advance cfg 16 endAt)).map fun s =>
    match s.ths[i]? with
    | some t => if t.pc = .done then t.ret.map (fun r => (r, t.retAt)) else none
    | none => none).eraseDups

/-- D7 schedule (set 500, call, clear at 100, set 300 at 200): the original loops never return, the
repaired loops time out at exactly 300 -/
example : outcomes (cfgOrig false) (init [.read] 1)
    [(0, .setRD (some 500)), (0, .call 0 64), (100, .setRD none), (200, .setRD (some 300))] 1000 0 = [none] := by decide +kernel
example : outcomes (cfgFixed false) (init [.read] 1)
    [(0, .setRD (some 500)), (0, .call 0 64), (100, .setRD none), (200, .setRD (some 300))] 1000 0
      = [some (.timeout, 300)] := by decide +kernel
/-- D7b schedule (call, set 300 at 100) -/
example : outcomes (cfgOrig false) (init [.write] 1 1) [(0, .call 0 64), (100, .setWD (some 300))] 1000 0 = [none] := by decide +kernel
example : outcomes (cfgFixed false) (init [.write] 1 1) [(0, .call 0 64), (100, .setWD (some 300))] 1000 0
    = [some (.timeout, 300)] := by decide +kernel
/-- D5 schedule: both readers return at 100 with the chain wake -/
example : outcomes (cfgFixed false) (init [.read, .read] 1) [(0, .call 0 64), (0, .call 1 64), (100, .arrive [8, 8])] 1000 1
    = [some (.ok, 100)] := by decide +kernel
example : (outcomes (cfgOrig false) (init [.read, .read] 1) [(0, .call 0 64), (0, .call 1 64), (100, .arrive [8, 8])] 1000 1).contains none
    = true := by decide +kernel
/-- partial reads (the schedule on which /verif/seeded/C13-2 is caught): two readers with 100-byte buffers, one message of
200 bytes, no further traffic: both return at +100 (100 bytes each, see `C13_partial_read_chains`);
without the chain wake the second one sleeps on 100 readable bytes -/
example : outcomes (cfgFixed false) (init [.read, .read] 1) [(0, .call 0 100), (0, .call 1 100), (100, .arrive [200])] 1000 1
    = [some (.ok, 100)] := by decide +kernel
example : (outcomes (cfgOrig false) (init [.read, .read] 1) [(0, .call 0 100), (0, .call 1 100), (100, .arrive [200])] 1000 1).contains none
    = true := by decide +kernel
/-- a reachable state with leftover bytes only (hypothesis of `C13_multi_waiter_partial`) -/
example : (run (cfgFixed false) (init [.read] 1)
    [.arrive [8], .call 0 3, .thr 0 .go, .thr 0 .go]).map (fun s => (s.sh.left, s.sh.queue, s.ths.map (·.got)))
    = some (5, [], [3]) := by decide +kernel
/-- the termination measure of a state with two fresh calls (2 × (27 + rank 8)); hypotheses of
`C13_blocked_call_returns` are met by the quiescent blocked state of the last example below -/
example : (run (cfgFixed false) (init [.read, .read] 1) [.call 0 64, .call 1 64]).map measure = some 70 := by decide +kernel
/-- set→past: returns at the instant of the change -/
example : outcomes (cfgFixed true) (init [.read] 1)
    [(0, .setRD (some 700)), (0, .call 0 64), (200, .setRD (some 100))] 1000 0 = [some (.timeout, 200)] := by decide +kernel
/-- Close wakes the writer blocked on a full window (caller 1; the reader, caller 0, returns likewise).  The accepter
is not woken by this event: it waits on the listener's `ldie`, which `lclose` sets (`C13_close_err_wake`). -/
example : outcomes (cfgFixed false) (init [.read, .write, .accept] 1 1)
    [(0, .call 0 64), (0, .call 1 64), (0, .call 2 64), (50, .close)] 1000 1 = [some (.closed, 50)] := by decide +kernel
theorem C13_reach_of_run {cfg : Cfg} {s0 s s' : State} (ls : List Label) (h : Reach cfg s0 s)
    (hr : run cfg s ls = some s') : Reach cfg s0 s' :=
  h.run ls hr

/-- a reachable state in which the hypotheses of `C13_deadline_exact_1` hold: the only reader is
blocked with deadline 300 loaded, the only writer is blocked on a full window -/
example : (run (cfgFixed false) (init [.read, .write] 1 1)
    [.setRD (some 300), .call 0 64, .thr 0 .go, .thr 0 .go, .thr 0 .tok, .thr 0 .go, .thr 0 .go, .thr 0 .go,
     .call 1 64, .thr 1 .go, .thr 1 .go, .thr 1 .go]).map
    (fun s => decide (s.sh.rd = some 300) && (s.ths.map (·.pc) == [.sel, .sel]) &&
      (s.ths.map (·.seen) == [some 300, none]) && quiescent (cfgFixed false) s) = some true := by decide +kernel

end KcpVerif.Props
