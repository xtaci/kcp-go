/-
C07 — FEC reconstructs exactly the missing packets from any k of n (DESIGN 7.7).

Objects: `Model/Fec` (fec.go `fecEncoder.encode`, `fecDecoder.decode`, and the size check of
`kcpInput`, `trim`), specification vocabulary `Lemmas/FecSpec` (`Group`, `Group.packet`, `Lawful`).

The theorems hold for the model instantiated with ANY codec constructor
`C : CodecNew` (Go: `reedsolomon.New`) that satisfies the list-level MDS law `Lawful C`
("`Encode` returns p shards of the common length; `ReconstructData` returns the d data shards
from any ≥ d shards of a codeword").  `C07_rs_mds` proves (Mathlib) that the construction
klauspost/reedsolomon uses — the systematic Vandermonde matrix `V·(V_top)⁻¹`, any field, injective
nodes — has exactly this property in matrix form (any d symbols determine the data; the decoding
procedure "invert the selected rows, multiply" returns it).  The executable GF(2^8) instance
`Fec.rsNew` that the correspondence driver runs IS proved lawful in `Props/C07Field`
(`C07_rsNew_lawful : C07_rsNew_lawful_full`; GF(2^8) with polynomial 0x11D is a field, the list
Gauss–Jordan is correct, `buildMatrix` is the systematic Vandermonde matrix), where the decoder
theorems are restated for `rsNew` without any hypothesis about the code (`C07_*_rsNew`).
`Lawful` is restricted to the ratios the FEC layer accepts (`1 ≤ d`, `1 ≤ p`, `d + p ≤ 256`).
Completeness over whole histories (the hypothesis of `C07_dec_any_k` discharged) is in `Props/C07Hist`.
-/
import KcpVerif.Lemmas.FecEnc
import KcpVerif.Lemmas.FecHistMain
import KcpVerif.Lemmas.RSBridge

namespace KcpVerif.Props
open KcpVerif.Gen KcpVerif.Fec KcpVerif.AutoTune KcpVerif.Lemmas.FecSpec
open KcpVerif.Lemmas

/-- The systematic Vandermonde construction of klauspost's `buildMatrix` is an MDS code over any
    field: (1) the first d symbols of a codeword are the data, (2) any d symbols at distinct
    positions determine the data, (3) inverting the selected rows and multiplying — what
    `ReconstructData` does — returns the data. -/
theorem C07_rs_mds {F : Type*} [Field F] {d n : ℕ} (h : d ≤ n) {x : Fin n → F}
    (hx : Function.Injective x) (v : Fin d → F) :
    (∀ i : Fin d, (Matrix.mulVec (RS.sysMatrix h x) v) (Fin.castLE h i) = v i) ∧
    (∀ (s : Fin d → Fin n), Function.Injective s → ∀ w : Fin d → F,
      (∀ i, (Matrix.mulVec (RS.sysMatrix h x) v) (s i) = (Matrix.mulVec (RS.sysMatrix h x) w) (s i)) → v = w) ∧
    (∀ (s : Fin d → Fin n), Function.Injective s →
      Matrix.mulVec ((RS.sysMatrix h x).submatrix s id)⁻¹
        (fun i => (Matrix.mulVec (RS.sysMatrix h x) v) (s i)) = v) :=
  ⟨fun i => RS.encode_systematic h hx v i,
   fun s hs w heq => RS.data_determined h hx s hs v w heq,
   fun s hs => RS.decode_encode h hx s hs v⟩

/-- the statement that closes the gap between the abstract code and the executable one: the
    executable GF(2^8) instance satisfies the law.  Its proof is `Lemmas/RSBridge.rsNew_lawful` (GF(2^8) is
    a field, the list-level Gauss–Jordan is correct; Mathlib), restated as `C07_rsNew_lawful` in
    `Props/C07Field`. -/
def C07_rsNew_lawful_full : Prop := Lawful rsNew

/-- the corollary of `RSBridge.rsNew_lawful` at the ratios 1/1 … 3/3 and one data vector (not an
    evaluation): every one of the 2^n presence patterns with at least d shards reconstructs the data -/
theorem C07_rsNew_law_instances :
    ∀ d ∈ [1, 2, 3], ∀ p ∈ [1, 2, 3],
      let data := (List.range d).map fun i => [UInt8.ofNat (17 * i + 3), UInt8.ofNat (200 - i), 0, 255]
      ((rsNew d p).enc data).length = p ∧
      ∀ m ∈ List.range (2 ^ (d + p)),
        let present := (List.range (d + p)).map fun i => m.testBit i
        d ≤ present.count true →
          (rsNew d p).recon (mask present (data ++ (rsNew d p).enc data)) = some data := by
  intro d hd p hp data
  have hd' : 0 < d ∧ d ≤ 3 := by revert d; decide
  have hp' : 0 < p ∧ p ≤ 3 := by revert p; decide
  have hn : d + p ≤ 256 := by omega
  have hdl : data.length = d := by rw [List.length_map, List.length_range]
  have hsz : ∀ s ∈ data, s.length = 4 := by
    intro s hs
    obtain ⟨i, -, rfl⟩ := List.mem_map.1 hs
    rfl
  refine ⟨RSBridge.rsNew_lawful.enc_length d p data hd'.1 hp'.1 hn hdl, ?_⟩
  intro m _ present hcnt
  have hpl : present.length = d + p := by rw [List.length_map, List.length_range]
  exact RSBridge.rsNew_lawful.recon d p 4 data present hd'.1 hp'.1 hn (by decide) hdl hsz hpl hcnt

/-- `enc_group`: feeding the `d` datagrams of a group (payloads `G.payloads`, each buffer with
    `payloadOffset + 2` bytes of room in front) to an encoder standing at the group start `G.base`
    yields, call by call, the data packet `prefix ++ G.packet C i` (= `seq | F1 | le16 (len+2) |
    payload`) and, at the last call when the time test holds, the `p` parity packets
    `zeros ++ G.packet C (d+k)` (= `seq | F2 | k-th parity of the bodies zero-padded to the longest`);
    no parity when the time test fails; in both cases the encoder ends at the next group start. -/
theorem C07_enc_group {C : CodecNew} (hC : Lawful C) {G : Group} (hG : G.WF) {e : Encoder}
    (h : FecEnc.EncInv C e) (hd : e.d = G.d) (hp : e.p = G.p) (hs : e.shardCount = 0)
    (hn : e.next = G.base) {bs : List Bytes}
    (hpl : bs.map (List.drop (e.payloadOffset + 2)) = G.payloads)
    (hlen : ∀ b ∈ bs, e.payloadOffset + 2 ≤ b.length ∧ b.length ≤ mtuLimit) (cont : Bool) :
    (FecEnc.encodeMany e bs cont).1 = { e with next := advance G.base G.n e.paws } ∧
    (FecEnc.encodeMany e bs cont).2.length = G.d ∧
    ∀ i, i < G.d → (FecEnc.encodeMany e bs cont).2[i]? = some
      ((bs.getD i []).take e.headerOffset ++ G.packet C i,
       if i + 1 = G.d ∧ cont = true then
         (List.range G.p).map (fun k => List.replicate e.headerOffset 0 ++ G.packet C (G.d + k))
       else []) :=
  FecEnc.enc_group hC hG h hd hp hs hn hpl hlen cont

/-- the invariant used above holds for every encoder the constructor returns and is kept by every
    non-panicking `encode` (so `C07_enc_group` applies to every group of a session) -/
theorem C07_enc_invariant {C : CodecNew} :
    (∀ {d p off : Nat} {e : Encoder}, Encoder.new C d p off = some e → FecEnc.EncInv C e) ∧
    (∀ {e : Encoder} {b : Bytes} {cont : Bool}, FecEnc.EncInv C e → (e.encode b cont).panic = false →
      FecEnc.EncInv C (e.encode b cont).st) :=
  ⟨fun h => FecEnc.inv_new h, fun h hp => FecEnc.inv_encode h hp⟩

/-- `wrap_groups`: the wrap value `paws`, the encoder's ids and the decoder's horizon at the wrap. -/
theorem C07_wrap_groups {C : CodecNew} :
    -- the wrap value is a multiple of the group size, just below 2^32
    (∀ n, 0 < n → n ≤ 256 → (pawsOf n).toNat % n = 0 ∧ (pawsOf n).toNat < 2 ^ 32 ∧
        2 ^ 32 - (pawsOf n).toNat ≤ n) ∧
    -- encoder: ids stay below paws, the id's residue IS the shard index, a group never straddles
    (∀ e : Encoder, FecEnc.EncInv C e →
        e.next.toNat < e.paws.toNat ∧ e.next.toNat % e.n = e.shardCount ∧
        e.next.toNat - e.shardCount + e.n ≤ e.paws.toNat) ∧
    -- after a group: the next group start, 0 exactly at paws
    (∀ G : Group, G.WF →
        (advance G.base G.n (pawsOf G.n)).toNat
          = (if G.base.toNat + G.n = (pawsOf G.n).toNat then 0 else G.base.toNat + G.n) ∧
        (advance G.base G.n (pawsOf G.n)).toNat % G.n = 0) ∧
    -- decoder: the step from the last group before the wrap to group 0 is a small positive age,
    -- inside the discard horizon, and that group's shard set survives `discardShards`
    (∀ n, 0 < n → n ≤ 256 →
        0 < itimediff 0 (pawsOf n - u32 n) ∧ itimediff 0 (pawsOf n - u32 n) ≤ 2 * n ∧
        itimediff 0 (pawsOf n - u32 n) ≤ ((maxShardSets * n : Nat) : Int) ∧
        ∀ pk, (discard n 0 [{ id := (pawsOf n - u32 n) / u32 n, pkts := pk }]).length = 1) :=
  ⟨fun n hn _ => ⟨FecDec.paws_multiple n, FecDec.paws_lt n, FecDec.paws_gap hn⟩,
   fun _ h => ⟨h.next_lt, h.pos, FecEnc.group_below_paws h⟩,
   fun _ hG => ⟨(FecEnc.group_next hG).2.1, (FecEnc.group_next hG).2.2⟩,
   fun _ hn hn' => ⟨(FecEnc.wrap_gap hn hn').1, (FecEnc.wrap_gap hn hn').2,
      FecEnc.wrap_within_horizon hn hn', fun pk => FecEnc.wrap_not_discarded hn hn' pk⟩⟩

/-- `dec_any_k`: a decoder of the sender's ratio whose shard set for the group holds the packets
    with indices `got` (`d − 1` distinct ones, data or parity, in any order) receives packet `j`,
    a further one.  It returns exactly the zero-padded bodies of the data packets that are not among
    the `d` received, in index order (nothing when all data packets are there), and `trim` — the
    size check of `kcpInput` — turns each into the original payload with its exact length. -/
theorem C07_dec_any_k {C : CodecNew} (hC : Lawful C) {G : Group} (hG : G.WF) (dec : Decoder)
    (hM : FecDec.Matches C G dec) (got : List Nat) (hnd : got.Pairwise (· ≠ ·))
    (hb : ∀ i ∈ got, i < G.n)
    (hset : FecDec.held (G.base / u32 G.n) dec = got.map (G.packet C))
    (hlen : got.length + 1 = G.d) (j : Nat) (hj : j < G.n) (hnot : j ∉ got) :
    (dec.decode C (G.packet C j)).recovered
      = (List.range G.d).filterMap
          (fun k => if k ∈ got ++ [j] then none else some (pad G.maxLen (G.bodies.getD k []))) ∧
    (dec.decode C (G.packet C j)).recovered.map trim
      = (List.range G.d).filterMap
          (fun k => if k ∈ got ++ [j] then none else some (some (G.payloads.getD k []))) ∧
    (dec.decode C (G.packet C j)).panic = false := by
  obtain ⟨h1, h2⟩ := FecDec.decode_completes hC hG dec hM got hnd hb hset hlen j hj hnot
  refine ⟨h1, ?_, h2⟩
  rw [h1]
  exact FecDec.missing_trim hG _

/-- earlier calls (fewer than `d` distinct packets so far) and duplicates return nothing -/
theorem C07_dec_earlier_nothing {C : CodecNew} {G : Group} (hG : G.WF) (dec : Decoder)
    (hM : FecDec.Matches C G dec) (got : List Nat) (hb : ∀ i ∈ got, i < G.n)
    (hset : FecDec.held (G.base / u32 G.n) dec = got.map (G.packet C)) (j : Nat) (hj : j < G.n) :
    (j ∉ got → got.length + 1 < G.d → (dec.decode C (G.packet C j)).recovered = []) ∧
    (j ∈ got → (dec.decode C (G.packet C j)).recovered = [] ∧
                (dec.decode C (G.packet C j)).st.sets = dec.sets) :=
  ⟨fun hnot hlen => FecDec.decode_incomplete_recovered hG dec hM got hb hset hlen j hj hnot,
   fun hmem => ⟨(FecDec.decode_duplicate hG dec hM got hb hset j hj hmem).1,
                (FecDec.decode_duplicate hG dec hM got hb hset j hj hmem).2.2.2⟩⟩

/-- `dec_sound`: a fresh `d/p` decoder is fed ANY list of genuine packets of `d/p` groups (the
    family `grp` assigns to each shard id the group that lives there): any order, duplicates,
    interleaving, late arrivals after a recovery, losses.  Every shard it ever returns is the
    zero-padded body of an original data packet of a group of which some packet was fed, and `trim`
    of it is exactly that packet's payload. -/
theorem C07_dec_sound {C : CodecNew} (hC : Lawful C) (grp : FecDec.Family) (d p : Nat) (dec : Decoder)
    (hnew : Decoder.new C d p = some dec) (pkts : List Bytes)
    (hgen : ∀ q ∈ pkts, FecDec.GenuinePkt C grp d p q) :
    ∀ r ∈ (FecDec.feed C dec pkts).2,
      ∃ G : Group, grp (G.base / u32 G.n) = some G ∧ G.WF ∧ G.d = d ∧ G.p = p ∧
        (∃ j, j < G.n ∧ G.packet C j ∈ pkts) ∧
        ∃ k, k < G.d ∧ r = pad G.maxLen (G.bodies.getD k []) ∧ trim r = some (G.payloads.getD k []) :=
  FecHist.dec_sound hC grp d p dec hnew pkts hgen

/-- `fresh_decoder_anywhere` (regression theorem for finding D13): a FRESH decoder recovers a group at
    ANY position of the id space — no hypothesis on `G.base` beyond well-formedness, in particular
    ids ≥ 2^31 where the signed age comparison with the initial `newestShardId = 0` is negative
    (kcp-go before fix 34efa23 discarded every shard set at once for such ids). -/
theorem C07_fresh_decoder_anywhere {C : CodecNew} (hC : Lawful C) {G : Group} (hG : G.WF) (dec : Decoder)
    (hnew : Decoder.new C G.d G.p = some dec) (idxs : List Nat) (hnd : idxs.Pairwise (· ≠ ·))
    (hb : ∀ i ∈ idxs, i < G.n) (hlen : idxs.length = G.d) :
    (FecDec.feed C dec (idxs.map (G.packet C))).2
      = (List.range G.d).filterMap
          (fun k => if k ∈ idxs then none else some (pad G.maxLen (G.bodies.getD k []))) ∧
    ((FecDec.feed C dec (idxs.map (G.packet C))).2).map trim
      = (List.range G.d).filterMap
          (fun k => if k ∈ idxs then none else some (some (G.payloads.getD k []))) :=
  ⟨FecHist.fresh_decoder_anywhere hC hG dec hnew idxs hnd hb hlen,
   (congrArg (List.map trim) (FecHist.fresh_decoder_anywhere hC hG dec hnew idxs hnd hb hlen)).trans
     (FecDec.missing_trim hG idxs)⟩

-- non-vacuity: a well-formed 2/1 group at id 3000000000 ≥ 2^31
example : FecDec.Example.exHigh.WF ∧ 2 ^ 31 ≤ FecDec.Example.exHigh.base.toNat :=
  ⟨FecDec.Example.exHigh_wf, by decide⟩

/-- `parity_loss_harmless`: (1) when the time test fails at the end of a group the encoder emits no
    parity and its state is the same as if it had (ids advance identically, `skipParity`);
    (2) a decode call on a data packet whose shard set holds data packets only — all parity lost or
    skipped — returns nothing, in any decoder state.  (That data packets reach KCP in `kcpInput`
    before and regardless of `decode` is a fact of the session model, `Model/SessFec`, not of this
    statement.) -/
theorem C07_parity_loss_harmless {C : CodecNew} :
    (∀ (e : Encoder) (b : Bytes), FecEnc.EncInv C e → e.payloadOffset + 2 ≤ b.length →
        b.length ≤ mtuLimit → e.shardCount + 1 = e.d →
        (e.encode b false).parity = [] ∧ (e.encode b false).st = (e.encode b true).st) ∧
    (∀ (dec : Decoder) (inp : Bytes),
        (∀ q ∈ ((lookup (seqid inp / u32 dec.n) dec.sets).getD
            { id := seqid inp / u32 dec.n, pkts := [] }).pkts, flag q = typeData) →
        flag inp = typeData →
        ((lookup (seqid inp / u32 dec.n) dec.sets).getD
            { id := seqid inp / u32 dec.n, pkts := [] }).pkts.length < dec.d →
        (dec.decode C inp).recovered = []) :=
  ⟨fun _ _ h h1 h2 hl =>
      ⟨(FecEnc.encode_last_skip h1 h2 hl).1,
       (FecEnc.encode_last_st (cont := false) h h1 h2 hl).trans
         (FecEnc.encode_last_st (cont := true) h h1 h2 hl).symm⟩,
   fun dec inp hset hinp hcnt => FecDec.decode_all_data C dec inp hset hinp hcnt⟩

-- a well-formed group (d = 2, p = 1, payloads of different sizes) and, for any lawful code, the
-- decode call that completes it from the parity packet and one data packet
example : FecDec.Example.exG.WF := FecDec.Example.exG_wf

example {C : CodecNew} (hC : Lawful C) (dec : Decoder) (hM : FecDec.Matches C FecDec.Example.exG dec)
    (hset : FecDec.held (FecDec.Example.exG.base / u32 FecDec.Example.exG.n) dec
              = [2].map (FecDec.Example.exG.packet C)) :
    (dec.decode C (FecDec.Example.exG.packet C 0)).recovered.map trim = [some [4]] := by
  have h := (C07_dec_any_k hC FecDec.Example.exG_wf dec hM [2] (by simp) (by decide) hset (by decide) 0
    (by decide) (by decide)).2.1
  rw [h]; decide

-- the decoder constructor accepts the ratio of that group
example {C : CodecNew} : ∃ dec, Decoder.new C 2 1 = some dec := ⟨_, rfl⟩

end KcpVerif.Props
