import KcpVerif.Lemmas.SessIn
import KcpVerif.Lemmas.Crc32
/-!
C06 — packets failing the integrity check have no effect at all.

The gate theorems are about `Model/SessIn` with the core, the FEC decoder, the reader and the
cipher all abstract: `σ` is *everything* behind `kcpInput`, so "`r.st = s`" is equality of the whole
session state, for any core.  The CRC theorems are about the executable bitwise CRC-32 of
`Model/Crc32` (tied to `hash/crc32` by the component `sessin`).
-/
namespace KcpVerif.Props
open KcpVerif.Gen KcpVerif.SessIn

/-- the stored checksum: little-endian field right after the nonce (offset 16) of the decrypted datagram -/
def storedCrc (c : Cipher) (data : Bytes) : BitVec 32 := le32 (c.dec data) nonceSize
/-- the CRC-covered bytes: everything after the crypt header (offset 20) of the decrypted datagram -/
def covered (c : Cipher) (data : Bytes) : Bytes := (c.dec data).drop cryptHeaderSize

theorem C06_le32_drop (d : Bytes) (n : Nat) : le32 (d.drop n) 0 = le32 d n := by
  simp only [le32, List.getD, List.getElem?_drop, Nat.add_zero, Nat.add_assoc]

/-- the model's comparison is the one on Go's offsets 16 and 20 -/
theorem C06_gate_offsets (c : Cipher) (data : Bytes) :
    (c.crc (((c.dec data).drop nonceSize).drop crcSize) ≠ le32 ((c.dec data).drop nonceSize) 0)
      ↔ c.crc (covered c data) ≠ storedCrc c data := by
  simp only [covered, storedCrc, C06_le32_drop, List.drop_drop, nonceSize, crcSize, cryptHeaderSize]

/-- `.block` is every CRC cipher: CFB, salsa20, xor, none -/
theorem C06_cryptGate_block (c : Cipher) (data : Bytes) (hk : c.kind = .block) :
    cryptGate c data =
      if data.length < cryptHeaderSize then .short
      else if c.crc (covered c data) ≠ storedCrc c data then .csum
      else .ok (covered c data) := by
  have h := C06_gate_offsets c data
  unfold cryptGate
  rw [hk]
  simp only []
  split
  · rfl
  · by_cases hc : c.crc (covered c data) ≠ storedCrc c data
    · rw [if_pos (h.mpr hc), if_pos hc]
    · rw [if_neg (fun x => hc (h.mp x)), if_neg hc]
      simp only [covered, List.drop_drop, nonceSize, crcSize, cryptHeaderSize]

theorem C06_cryptGate_block_fail (c : Cipher) (data : Bytes) (hk : c.kind = .block)
    (h : data.length < cryptHeaderSize ∨ c.crc (covered c data) ≠ storedCrc c data) :
    cryptGate c data = if data.length < cryptHeaderSize then .short else .csum := by
  rw [C06_cryptGate_block c data hk]
  by_cases hs : data.length < cryptHeaderSize
  · rw [if_pos hs, if_pos hs]
  · rw [if_neg hs, if_neg hs, if_pos (h.resolve_left hs)]

theorem C06_cryptGate_block_pass (c : Cipher) (data : Bytes) (hk : c.kind = .block)
    (hl : cryptHeaderSize ≤ data.length) (hc : c.crc (covered c data) = storedCrc c data) :
    cryptGate c data = .ok (covered c data) := by
  rw [C06_cryptGate_block c data hk, if_neg (Nat.not_lt.mpr hl), if_neg (not_not_intro hc)]

theorem C06_cryptGate_aead_fail (c : Cipher) (data : Bytes) (ns ov : Nat) (hk : c.kind = .aead ns ov)
    (h : data.length < ns + ov ∨ c.aopen (data.take ns) (data.drop ns) = none) :
    cryptGate c data = if data.length < ns + ov then .short else .csum := by
  rw [cryptGate_aead c data ns ov hk]
  by_cases hs : data.length < ns + ov
  · rw [if_pos hs, if_pos hs]
  · rw [if_neg hs, if_neg hs, h.resolve_left hs]

theorem C06_refused_session {σ : Type} (c : Cipher) (kcpInput : σ → Bytes → σ) (s : σ) (data : Bytes)
    (P : Prop) [Decidable P] (hg : cryptGate c data = if P then .short else .csum) :
    (sessionPacketInput c kcpInput s data).st = s ∧
    (sessionPacketInput c kcpInput s data).delivered = none ∧
    (sessionPacketInput c kcpInput s data).counters = (if P then [] else [Counter.InCsumErrors]) := by
  by_cases hP : P
  · rw [sessionPacketInput_short c kcpInput s data (by rw [hg, if_pos hP]), if_pos hP]
    exact ⟨rfl, rfl, rfl⟩
  · rw [sessionPacketInput_csum c kcpInput s data (by rw [hg, if_neg hP]), if_neg hP]
    exact ⟨rfl, rfl, rfl⟩

theorem C06_refused_listener {σ : Type} (w : World σ) (c : Cipher) (l : Listener σ) (data : Bytes) (a : String)
    (P : Prop) [Decidable P] (hg : cryptGate c data = if P then .short else .csum) :
    (listenerInput w c l data a).l = l ∧
    (listenerInput w c l data a).dec = (if P then .drop .short else .drop .csum) := by
  unfold listenerInput
  rw [hg]
  by_cases hP : P
  · simp only [if_pos hP, and_self]
  · simp only [if_neg hP, and_self]

/-- **gate, dialled or accepted session, CRC ciphers**: a datagram that is too short to carry nonce
and CRC, or whose CRC does not match, leaves the ENTIRE session state unchanged (core, FEC
decoder, reader buffer, OOB callback: all of `σ`), nothing is handed to `kcpInput`, and the only
trace is `InCsumErrors` — counted exactly when the datagram was long enough to be checked. -/
theorem C06_gate_session {σ : Type} (c : Cipher) (kcpInput : σ → Bytes → σ) (s : σ) (data : Bytes)
    (hk : c.kind = .block)
    (h : data.length < cryptHeaderSize ∨ c.crc (covered c data) ≠ storedCrc c data) :
    (sessionPacketInput c kcpInput s data).st = s ∧
    (sessionPacketInput c kcpInput s data).delivered = none ∧
    (sessionPacketInput c kcpInput s data).counters =
      (if data.length < cryptHeaderSize then [] else [Counter.InCsumErrors]) :=
  C06_refused_session c kcpInput s data _ (C06_cryptGate_block_fail c data hk h)

/-- **gate, AEAD**: too short for nonce + tag, or `Open` fails ⇒ no effect but the counter. -/
theorem C06_gate_aead {σ : Type} (c : Cipher) (kcpInput : σ → Bytes → σ) (s : σ) (data : Bytes)
    (ns ov : Nat) (hk : c.kind = .aead ns ov)
    (h : data.length < ns + ov ∨ c.aopen (data.take ns) (data.drop ns) = none) :
    (sessionPacketInput c kcpInput s data).st = s ∧
    (sessionPacketInput c kcpInput s data).delivered = none ∧
    (sessionPacketInput c kcpInput s data).counters =
      (if data.length < ns + ov then [] else [Counter.InCsumErrors]) :=
  C06_refused_session c kcpInput s data _ (C06_cryptGate_aead_fail c data ns ov hk h)

/-- **gate, listener, CRC ciphers**: the same premises leave the listener untouched — same session
table, same session objects (no `Close`, no input), same accept queue; no session is created. -/
theorem C06_gate_listener {σ : Type} (w : World σ) (c : Cipher) (l : Listener σ) (data : Bytes) (a : String)
    (hk : c.kind = .block)
    (h : data.length < cryptHeaderSize ∨ c.crc (covered c data) ≠ storedCrc c data) :
    (listenerInput w c l data a).l = l ∧
    (listenerInput w c l data a).dec =
      (if data.length < cryptHeaderSize then .drop .short else .drop .csum) :=
  C06_refused_listener w c l data a _ (C06_cryptGate_block_fail c data hk h)

/-- **gate, listener, AEAD** -/
theorem C06_gate_listener_aead {σ : Type} (w : World σ) (c : Cipher) (l : Listener σ) (data : Bytes) (a : String)
    (ns ov : Nat) (hk : c.kind = .aead ns ov)
    (h : data.length < ns + ov ∨ c.aopen (data.take ns) (data.drop ns) = none) :
    (listenerInput w c l data a).l = l ∧
    (listenerInput w c l data a).dec =
      (if data.length < ns + ov then .drop .short else .drop .csum) :=
  C06_refused_listener w c l data a _ (C06_cryptGate_aead_fail c data ns ov hk h)

/-- converse direction (the gate is not the trivial "drop everything"): whatever reaches
`kcpInput` passed the integrity check, and it is exactly the bytes after the crypt header. -/
theorem C06_delivered_passed_check {σ : Type} (c : Cipher) (kcpInput : σ → Bytes → σ) (s : σ) (data p : Bytes)
    (hk : c.kind = .block) (hd : (sessionPacketInput c kcpInput s data).delivered = some p) :
    cryptHeaderSize ≤ data.length ∧ c.crc (covered c data) = storedCrc c data ∧ p = covered c data ∧
    (sessionPacketInput c kcpInput s data).st = kcpInput s p := by
  by_cases h : data.length < cryptHeaderSize ∨ c.crc (covered c data) ≠ storedCrc c data
  · rw [(C06_gate_session c kcpInput s data hk h).2.1] at hd
    cases hd
  · have hl : cryptHeaderSize ≤ data.length := Nat.le_of_not_lt fun x => h (Or.inl x)
    have hc : c.crc (covered c data) = storedCrc c data := Decidable.byContradiction fun x => h (Or.inr x)
    rw [sessionPacketInput_ok c kcpInput s data _ (C06_cryptGate_block_pass c data hk hl hc)] at hd ⊢
    by_cases hm : (covered c data).length < minPacket
    · rw [if_pos hm] at hd
      cases hd
    · rw [if_neg hm] at hd ⊢
      cases hd
      exact ⟨hl, hc, rfl, rfl⟩

/-- a valid datagram is let through: with `C06_delivered_passed_check` the gate is characterised in
both directions -/
theorem C06_valid_is_delivered {σ : Type} (c : Cipher) (kcpInput : σ → Bytes → σ) (s : σ) (data : Bytes)
    (hk : c.kind = .block) (hl : cryptHeaderSize ≤ data.length)
    (hc : c.crc (covered c data) = storedCrc c data) (hm : minPacket ≤ (covered c data).length) :
    (sessionPacketInput c kcpInput s data).delivered = some (covered c data) := by
  rw [sessionPacketInput_ok c kcpInput s data _ (C06_cryptGate_block_pass c data hk hl hc),
    if_neg (Nat.not_lt.mpr hm)]

open KcpVerif.Crc32 in
/-- linearity: the checksum of `a ⊕ e` is the checksum of `a` XOR the zero-init, zero-xorout
register run over `e` -/
theorem C06_crc32_linear (a e : List UInt8) (h : a.length = e.length) :
    crc32 (xorBytes a e) = crc32 a ^^^ update 0 e :=
  KcpVerif.Crc32.crc32_xor a e h

open KcpVerif.Crc32 in
/-- **burst theorem**: an error pattern `e` (same length as the covered bytes `a`) whose bits — in
the order the CRC consumes them, least significant bit of each byte first — are zeros, then a burst
of at most 32 bits containing at least one 1, then zeros, always changes the CRC-32. -/
theorem C06_crc32_burst (a e : List UInt8) (i j : Nat) (burst : List Bool)
    (hlen : a.length = e.length)
    (hbits : bitsOf e = List.replicate i false ++ burst ++ List.replicate j false)
    (hb : burst.length ≤ 32) (hne : true ∈ burst) :
    crc32 (xorBytes a e) ≠ crc32 a :=
  KcpVerif.Crc32.crc32_burst a e i j burst hlen hbits hb hne

/-- any change of the stored CRC changes the verdict of a datagram that passed -/
theorem C06_crc_field_change (c : Cipher) (data data' : Bytes)
    (hpass : c.crc (covered c data) = storedCrc c data)
    (hcov : covered c data' = covered c data) (hfield : storedCrc c data' ≠ storedCrc c data) :
    c.crc (covered c data') ≠ storedCrc c data' := by
  rw [hcov, hpass]; exact fun h => hfield h.symm

open KcpVerif.Crc32 in
/-- **corruption in transit never reaches the core** (CRC ciphers, Lean CRC-32 model as the
checksum): take a datagram that passes, corrupt its covered (decrypted) bytes by a burst of ≤ 32
bits, leave the stored CRC alone — the session state is unchanged and `InCsumErrors` is counted. -/
theorem C06_burst_has_no_effect {σ : Type} (c : Cipher) (kcpInput : σ → Bytes → σ) (s : σ)
    (data data' e : Bytes) (i j : Nat) (burst : List Bool)
    (hk : c.kind = .block) (hcrc : c.crc = crc32)
    (hpass : c.crc (covered c data) = storedCrc c data)
    (hl : cryptHeaderSize ≤ data'.length)
    (hfield : storedCrc c data' = storedCrc c data)
    (hcov : covered c data' = xorBytes (covered c data) e)
    (hlen : (covered c data).length = e.length)
    (hbits : bitsOf e = List.replicate i false ++ burst ++ List.replicate j false)
    (hb : burst.length ≤ 32) (hne : true ∈ burst) :
    (sessionPacketInput c kcpInput s data').st = s ∧
    (sessionPacketInput c kcpInput s data').delivered = none ∧
    (sessionPacketInput c kcpInput s data').counters = [Counter.InCsumErrors] := by
  have hne' : c.crc (covered c data') ≠ storedCrc c data' := by
    rw [hfield, ← hpass, hcov, hcrc]
    exact C06_crc32_burst _ e i j burst hlen hbits hb hne
  have h := C06_gate_session c kcpInput s data' hk (Or.inr hne')
  have hs : ¬ data'.length < cryptHeaderSize := by omega
  simpa [hs] using h

def c06Cipher : Cipher := { kind := .block, dec := id, crc := Crc32.crc32, aopen := fun _ _ => none }

/-- 16 nonce bytes, the CRC-32 of twelve zero bytes (0x7BD5C66F, little endian), 12 payload bytes -/
def c06Good : Bytes := List.replicate 16 7 ++ [0x6f, 0xc6, 0xd5, 0x7b] ++ List.replicate 12 0

-- the hypotheses of `C06_valid_is_delivered` are satisfiable (a datagram passes) …
example : (sessionPacketInput c06Cipher (fun (n : Nat) _ => n + 1) 0 c06Good).delivered = some (List.replicate 12 0) := by
  decide +kernel
-- … and those of `C06_gate_session` too: one payload bit flipped, the state stays 0, counter set
example : (sessionPacketInput c06Cipher (fun (n : Nat) _ => n + 1) 0 (c06Good.set 25 1)).st = 0 ∧
    (sessionPacketInput c06Cipher (fun (n : Nat) _ => n + 1) 0 (c06Good.set 25 1)).counters = [Counter.InCsumErrors] := by
  decide +kernel
example : (sessionPacketInput c06Cipher (fun (n : Nat) _ => n + 1) 0 (c06Good.take 19)).counters = [] := by
  decide +kernel

-- the hypotheses of `C06_crc32_burst` are satisfiable: a full 32-bit burst (bits 15..46 of an
-- 8-byte string) changes the checksum of EVERY 8-byte string
example (a : List UInt8) (h : a.length = 8) :
    Crc32.crc32 (Crc32.xorBytes a [0, 0x80, 0xff, 0xff, 0xff, 0x7f, 0, 0]) ≠ Crc32.crc32 a :=
  C06_crc32_burst a _ 15 17 (List.replicate 32 true) (by simp [h]) (by decide) (by decide) (by decide)

-- the bound 32 is sharp: the 33-bit pattern of the generator polynomial x^32+x^26+…+x+1 (highest
-- degree first) has a zero linear CRC, i.e. XOR-ing it into the covered bytes is NOT detected
example : Crc32.run 0 [true, false, false, false, false, false, true, false, false, true, true, false, false, false,
    false, false, true, false, false, false, true, true, true, false, true, true, false, true, true, false, true, true,
    true] = 0 := by decide +kernel

end KcpVerif.Props
