import KcpVerif.Props.C05
/-!
C11 — the protocol core's own conversation check (`core_conv_check` of DESIGN 7.11): a datagram whose first segment
carries a foreign conversation id — one the listener routed to an existing session without being able to read a
conversation id (parity, short data frame), or any stale or forged one — is rejected by `Input` (negative return code;
−1 when it holds a whole header: `C05_input_ret_conv`), leaves the WHOLE core state equal and makes the core
transmit nothing.  So traffic of another conversation is never merged into the stream.
-/
namespace KcpVerif.Props
open KcpVerif.Kcp KcpVerif.Total

theorem C11_core_conv_check (k : Kcp) (d : Bytes) (regular ackNoDelay : Bool) (now : U32)
    (hconv : rd32 d 0 ≠ k.conv) :
    (input k d regular ackNoDelay now).k = k ∧ (input k d regular ackNoDelay now).outs = [] ∧
    (input k d regular ackNoDelay now).ret < 0 :=
  C05_input_reject_first_noop k d regular ackNoDelay now (Or.inr (Or.inl hconv))

/-- the rejection depends neither on the packet type nor on the state -/
theorem C11_core_conv_ret (k : Kcp) (d : Bytes) (regular ackNoDelay : Bool) (now : U32) :
    (input k d regular ackNoDelay now).ret = inputRet k.conv d :=
  C05_input_ret_spec k d regular ackNoDelay now

/-- non-vacuity: a well-formed PUSH header of conversation 9 fed to a core of conversation 7 -/
example : (input (Kcp.new 7) (encodeHdr 9 81 0 32 0 0 0 0) true false 0).ret = -1 := by decide

end KcpVerif.Props
