import KcpVerif.Lemmas.CfbSem
import KcpVerif.Lemmas.CfbShell
/-!
C08 — ciphers round-trip every length and equal textbook CFB.

Model: `KcpVerif/Model/Cfb.lean` (the unrolled helpers of crypt.go over an explicit two-slice
memory).  All statements are for EVERY packet length (no bound but the xor shell's table of
`mtuLimit` bytes), every block function `E` that maps blocks to blocks, both block sizes, and both memory layouts (`alias = true`: the call
`Encrypt(buf, buf)`; `alias = false`: a separate destination with arbitrary contents, possibly
longer than the packet).
-/
namespace KcpVerif.Props
open KcpVerif.Cfb

/-- contract of `cipher.Block.Encrypt` as far as CFB needs it: a block maps to a block -/
def BlockFn (bs : Nat) (E : Bytes → Bytes) : Prop := ∀ x : Bytes, x.length = bs → (E x).length = bs

/-- the IV a cipher of block size `bs` sees: `block.Encrypt(tbl, initialVector)` reads the first
block; `crypto/cipher.NewCFBEncrypter(block, initialVector[:bs])` -/
def iv (bs : Nat) : Bytes := Gen.initialVector.take bs

/-- wire compatibility: the IV in the source is the one every deployed peer uses (the value is
written out here and in the harness; `Gen.initialVector` is regenerated from crypt.go on every run) -/
theorem C08_iv_pinned :
    Gen.initialVector = [167, 115, 79, 156, 18, 172, 27, 1, 164, 21, 242, 193, 252, 120, 230, 107] := by
  decide

theorem C08_iv_fits (bs : Nat) (h : bs = 8 ∨ bs = 16) : bs ≤ Gen.initialVector.length := by
  rcases h with rfl | rfl <;> decide

/-- **unrolled encrypt = textbook CFB.**  The call does not panic, `dst[0:len(src)]` holds the
textbook ciphertext, the rest of `dst` is untouched, and `src` is untouched unless it is the
same memory. -/
theorem C08_enc_unrolled_eq_textbook (bs : Nat) (hbs : bs = 8 ∨ bs = 16) (E : Bytes → Bytes)
    (hE : BlockFn bs E) (src dst : Bytes) (alias : Bool) (hlen : src.length ≤ dst.length)
    (hal : alias = true → dst = src) :
    ∃ r, encrypt E bs src dst alias = some r ∧
      r.dst = cfbEnc E bs (iv bs) src ++ dst.drop src.length ∧
      r.src = (if alias then r.dst else src) := by
  have hiv := C08_iv_fits bs hbs
  rcases hbs with rfl | rfl
  · refine ⟨_, rfl, ?_⟩
    rw [encrypt8_eq_steps]
    exact call_eq_textbook (enc_mode E 8 (by decide)) hE (by decide) hiv true src dst alias [] hlen hal
  · refine ⟨_, rfl, ?_⟩
    rw [encrypt16_eq_steps]
    exact call_eq_textbook (enc_mode E 16 (by decide)) hE (by decide) hiv false src dst alias [] hlen hal

/-- **unrolled decrypt = textbook CFB**, in place and out of place; the result does not depend
on what the working buffer held (`next0`). -/
theorem C08_dec_unrolled_eq_textbook (bs : Nat) (hbs : bs = 8 ∨ bs = 16) (E : Bytes → Bytes)
    (hE : BlockFn bs E) (src dst : Bytes) (alias : Bool) (next0 : Bytes)
    (hlen : src.length ≤ dst.length) (hal : alias = true → dst = src) :
    ∃ r, decrypt E bs src dst alias next0 = some r ∧
      r.dst = cfbDec E bs (iv bs) src ++ dst.drop src.length ∧
      r.src = (if alias then r.dst else src) := by
  have hiv := C08_iv_fits bs hbs
  rcases hbs with rfl | rfl
  · refine ⟨_, rfl, ?_⟩
    rw [decrypt8_eq_steps]
    exact call_eq_textbook (dec_mode E 8 (by decide)) hE (by decide) hiv true src dst alias next0 hlen hal
  · refine ⟨_, rfl, ?_⟩
    rw [decrypt16_eq_steps]
    exact call_eq_textbook (dec_mode E 16 (by decide)) hE (by decide) hiv false src dst alias next0 hlen hal

theorem C08_iv_length (bs : Nat) (h : bs = 8 ∨ bs = 16) : (iv bs).length = bs := by
  have := C08_iv_fits bs h
  rw [iv, List.length_take]; omega

theorem C08_bs_pos (bs : Nat) (h : bs = 8 ∨ bs = 16) : 0 < bs := by
  rcases h with rfl | rfl <;> decide

theorem C08_cfb_length (bs : Nat) (hbs : bs = 8 ∨ bs = 16) (E : Bytes → Bytes) (hE : BlockFn bs E)
    (x : Bytes) : (cfbEnc E bs (iv bs) x).length = x.length :=
  length_cfbEnc E bs (C08_bs_pos bs hbs) hE x (iv bs) (C08_iv_length bs hbs)

theorem C08_cfb_dec_enc (bs : Nat) (hbs : bs = 8 ∨ bs = 16) (E : Bytes → Bytes) (hE : BlockFn bs E)
    (x : Bytes) : cfbDec E bs (iv bs) (cfbEnc E bs (iv bs) x) = x :=
  cfbDec_cfbEnc E bs (C08_bs_pos bs hbs) hE x (iv bs) (C08_iv_length bs hbs)

/-- **CFB round trip**, every length, all four combinations of in-place / out-of-place
encryption and decryption, no property of `E` beyond "blocks to blocks". -/
theorem C08_cfb_roundtrip (bs : Nat) (hbs : bs = 8 ∨ bs = 16) (E : Bytes → Bytes)
    (hE : BlockFn bs E) (next0 x d1 d2 : Bytes) (a1 a2 : Bool)
    (h1 : x.length ≤ d1.length) (h2 : x.length ≤ d2.length) :
    RoundTripAt (encrypt E bs) (fun s d a => decrypt E bs s d a next0) x d1 d2 a1 a2 := by
  have hl := C08_cfb_length bs hbs E hE x
  have hrt := C08_cfb_dec_enc bs hbs E hE x
  refine RoundTripAt.of_spec (F := cfbEnc E bs (iv bs)) (G := cfbDec E bs (iv bs)) ?_ ?_ hl hrt h1 h2
  · intro d a hd ha
    obtain ⟨r, e, hr, _⟩ := C08_enc_unrolled_eq_textbook bs hbs E hE x d a hd ha
    refine ⟨r, e, ?_⟩
    rw [hr, ← hl, List.take_left' rfl]
  · intro d a hd ha
    obtain ⟨r, e, hr, _⟩ := C08_dec_unrolled_eq_textbook bs hbs E hE _ d a next0 hd ha
    refine ⟨r, e, ?_⟩
    rw [hr, hrt, hl, List.take_left' rfl]

theorem C08_stream_roundtrip_none (x d1 d2 : Bytes) (a1 a2 : Bool)
    (h1 : x.length ≤ d1.length) (h2 : x.length ≤ d2.length) :
    RoundTripAt (fun s d a => some (noneCrypt s d a)) (fun s d a => some (noneCrypt s d a))
      x d1 d2 a1 a2 := by
  refine RoundTripAt.of_spec (F := id) (G := id) ?_ ?_ rfl rfl h1 h2
  · intro d a _ ha; exact ⟨_, rfl, none_spec x d a ha⟩
  · intro d a _ ha; exact ⟨_, rfl, none_spec x d a ha⟩

/-- any table at least as long as the packet (that of `NewSimpleXORBlockCrypt` has `mtuLimit` bytes) -/
theorem C08_stream_roundtrip_xor (tbl x d1 d2 : Bytes) (a1 a2 : Bool) (ht : x.length ≤ tbl.length)
    (h1 : x.length ≤ d1.length) (h2 : x.length ≤ d2.length) :
    RoundTripAt (fun s d a => some (xorCrypt tbl s d a)) (fun s d a => some (xorCrypt tbl s d a))
      x d1 d2 a1 a2 := by
  have hl : (xorB x tbl).length = x.length := by rw [length_xorB]; omega
  refine RoundTripAt.of_spec (F := fun s => xorB s tbl) (G := fun s => xorB s tbl) ?_ ?_ hl ?_ h1 h2
  · intro d a _ _; exact ⟨_, rfl, xor_spec tbl x d a ht⟩
  · intro d a _ _; exact ⟨_, rfl, xor_spec tbl _ d a (hl ▸ ht)⟩
  · exact xorB_cancel _ _ ht

theorem C08_salsa_spec (ks : Bytes → Nat → UInt8) (src dst : Bytes) (alias : Bool)
    (hlen : src.length ≤ dst.length) (hal : alias = true → dst = src) :
    (salsaEncrypt ks src dst alias).dst.take src.length = salsaF ks src ∧
    (salsaDecrypt ks src dst alias).dst.take src.length = salsaF ks src := by
  by_cases h : src.length < 8
  · simp only [salsaEncrypt, salsaDecrypt, salsaF, if_pos h]
    exact ⟨take_write0 _ src, take_write0 _ src⟩
  · have := salsa_body_spec ks src dst alias (by omega) hlen hal
    simp only [salsaEncrypt, salsaDecrypt, salsaF, if_neg h]
    exact ⟨this, this⟩

/-- salsa20 shell (first 8 bytes = nonce, copied; rest XOR keystream(nonce)): round trip for
EVERY length, every layout, every keystream function.  It rests on `copy(dst, src)` in the short
branch (the repair of defect D4): without it the statement fails for 1..7 bytes out of place, see
`C08_salsa_short_counterexample_prerepair`. -/
theorem C08_stream_roundtrip_salsa20 (ks : Bytes → Nat → UInt8) (x d1 d2 : Bytes)
    (a1 a2 : Bool) (h1 : x.length ≤ d1.length) (h2 : x.length ≤ d2.length) :
    RoundTripAt (fun s d a => some (salsaEncrypt ks s d a)) (fun s d a => some (salsaDecrypt ks s d a))
      x d1 d2 a1 a2 := by
  refine RoundTripAt.of_spec (F := salsaF ks) (G := salsaF ks) ?_ ?_ (length_salsaF ks x)
    (salsaF_involutive ks x) h1 h2
  · intro d a hd ha; exact ⟨_, rfl, (C08_salsa_spec ks x d a hd ha).1⟩
  · intro d a hd ha; exact ⟨_, rfl, (C08_salsa_spec ks _ d a hd ha).2⟩

/-- defect D4: with the body that lacks the `copy` a 1-byte packet encrypted into a separate buffer is
not written at all, so the round trip returns whatever the destination held.  The oracle
`salsa20-short-outofplace` replays exactly this on the real code and reports it should the
defect come back. -/
theorem C08_salsa_short_counterexample_prerepair :
    ¬ ∀ (ks : Bytes → Nat → UInt8) (x d1 d2 : Bytes) (a1 a2 : Bool),
      x.length ≤ d1.length → x.length ≤ d2.length →
      RoundTripAt (fun s d a => some (salsaCryptPreRepair ks s d a))
        (fun s d a => some (salsaCryptPreRepair ks s d a)) x d1 d2 a1 a2 := by
  intro h
  obtain ⟨m1, e1, m2, e2, r⟩ := h (fun _ _ => 0) [1] [9] [7] false false (by decide) (by decide)
  -- nothing is written in either call: `m1.dst = [9]`, `m2.dst = [7]`, and `[7] ≠ [1]`
  cases e1
  cases e2
  exact absurd r (by decide)

/-- **stream / xor / none round trip**: for every packet of at most `mtuLimit` bytes (the
xor table's length; salsa20 and none need no bound), in place and out of place in all four
combinations. -/
theorem C08_stream_roundtrip (ks : Bytes → Nat → UInt8) (tbl : Bytes) (ht : tbl.length = Gen.mtuLimit)
    (x d1 d2 : Bytes) (a1 a2 : Bool) (hx : x.length ≤ Gen.mtuLimit)
    (h1 : x.length ≤ d1.length) (h2 : x.length ≤ d2.length) :
    RoundTripAt (fun s d a => some (salsaEncrypt ks s d a)) (fun s d a => some (salsaDecrypt ks s d a))
        x d1 d2 a1 a2 ∧
    RoundTripAt (fun s d a => some (xorCrypt tbl s d a)) (fun s d a => some (xorCrypt tbl s d a))
        x d1 d2 a1 a2 ∧
    RoundTripAt (fun s d a => some (noneCrypt s d a)) (fun s d a => some (noneCrypt s d a))
        x d1 d2 a1 a2 :=
  ⟨C08_stream_roundtrip_salsa20 ks x d1 d2 a1 a2 h1 h2,
   C08_stream_roundtrip_xor tbl x d1 d2 a1 a2 (ht ▸ hx) h1 h2,
   C08_stream_roundtrip_none x d1 d2 a1 a2 h1 h2⟩

/-- **AEAD inside the packet buffer.**  Given the two laws of an AEAD (`Seal` adds exactly
`overhead` bytes; `Open` undoes `Seal` under the same nonce), the wrapper `aeadCrypt.Seal`
called with a destination prefix `dst` inside a buffer of capacity `cap`
* returns (no panic) exactly when the sealed packet fits the capacity — so Go's `append` inside
  `aead.Seal` never reallocates: the result is `dst` followed by the ciphertext and is at most
  `cap` long — and opening what follows `dst` gives back the plaintext;
* refuses (panics, `none`) exactly when it would not fit.
(`dst == nil` is the other refusal of the Go code; sessions pass `buf[:nonceSize]`.) -/
theorem C08_aead_in_buffer (sealF : Bytes → Bytes → Bytes) (openF : Bytes → Bytes → Option Bytes)
    (overhead cap : Nat)
    (hseal : ∀ n p, (sealF n p).length = p.length + overhead)
    (hopen : ∀ n p, openF n (sealF n p) = some p)
    (dst nonce pt : Bytes) (hcap : dst.length ≤ cap) :
    (dst.length + pt.length + overhead ≤ cap →
      ∃ out, aeadSeal sealF overhead cap dst nonce pt = some out ∧
        out.length = dst.length + pt.length + overhead ∧ out.length ≤ cap ∧
        out.take dst.length = dst ∧ openF nonce (out.drop dst.length) = some pt) ∧
    (cap < dst.length + pt.length + overhead → aeadSeal sealF overhead cap dst nonce pt = none) := by
  constructor
  · intro h
    refine ⟨dst ++ sealF nonce pt, ?_, ?_, ?_, ?_, ?_⟩
    · exact aeadSeal_fits sealF overhead cap dst nonce pt h
    · rw [List.length_append, hseal]; omega
    · rw [List.length_append, hseal]; omega
    · rw [List.take_left' rfl]
    · rw [List.drop_left' rfl, hopen]
  · intro h
    simp only [aeadSeal]; rw [if_pos (by omega)]

/-- the way sess.go calls it: `Seal(buf[:ns], buf[:ns], buf[ns:], nil)` on a pooled buffer of
capacity `mtuLimit`; a packet (nonce + plaintext) of at most `mtuLimit - overhead` bytes —
which is what `SetMtu` reserves (`mtu -= aead.Overhead()`) — is never refused -/
theorem C08_aead_session_fits (sealF : Bytes → Bytes → Bytes) (overhead : Nat) (nonce pt : Bytes)
    (h : nonce.length + pt.length + overhead ≤ Gen.mtuLimit) :
    aeadSeal sealF overhead Gen.mtuLimit nonce nonce pt = some (nonce ++ sealF nonce pt) :=
  aeadSeal_fits sealF overhead Gen.mtuLimit nonce nonce pt h

theorem C08_toy_blockFn (key : Bytes) (bs : Nat) : BlockFn bs (toyE key) := by
  intro x hx; simp [toyE, hx]

/-- the hypotheses of the CFB theorems are satisfiable by a non-trivial state: a 301-byte packet
(2 groups, 2 leftover blocks, 13 tail bytes for 16-byte blocks), separate longer destination -/
example := C08_enc_unrolled_eq_textbook 16 (Or.inr rfl) (toyE [7, 1]) (C08_toy_blockFn _ _)
  (List.replicate 301 5) (List.replicate 310 9) false
  (by rw [List.length_replicate, List.length_replicate]; omega) (by intro h; cases h)

example := C08_dec_unrolled_eq_textbook 8 (Or.inl rfl) (toyE [7, 1]) (C08_toy_blockFn _ _)
  (List.replicate 301 5) (List.replicate 301 5) true [0xaa] (Nat.le_refl _) (fun _ => rfl)

example : RoundTripAt (encrypt (toyE [3]) 8) (fun s d a => decrypt (toyE [3]) 8 s d a [1, 2])
    (List.replicate 77 200) (List.replicate 80 1) (List.replicate 77 2) true false :=
  C08_cfb_roundtrip 8 (Or.inl rfl) (toyE [3]) (C08_toy_blockFn _ _) [1, 2] _ _ _ true false
    (by rw [List.length_replicate, List.length_replicate]; omega)
    (by rw [List.length_replicate, List.length_replicate]; omega)

/-- a concrete run of the model (the values the real `encrypt8` produces with the same toy
cipher are compared on every check by the component `cfb`) -/
example : (encrypt8 (toyE [1, 2, 3]) [0, 1, 2, 3, 4, 5, 6, 7, 8, 9] [0, 0, 0, 0, 0, 0, 0, 0, 0, 0, 0xee] false).m.dst.length = 11 := by
  decide

example : ∃ (sealF : Bytes → Bytes → Bytes) (openF : Bytes → Bytes → Option Bytes),
    (∀ n p, (sealF n p).length = p.length + 16) ∧ (∀ n p, openF n (sealF n p) = some p) :=
  ⟨fun _ p => p ++ List.replicate 16 0, fun _ c => some (c.take (c.length - 16)),
    by intro n p; simp, by intro n p; simp⟩

end KcpVerif.Props
