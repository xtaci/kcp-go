import KcpVerif.Lemmas.SysDrainFair
import KcpVerif.Lemmas.SysDrainCex
/-! C03 — a stalled reader throttles the sender and transfer resumes afterwards. -/
namespace KcpVerif.Props
open KcpVerif.Gen KcpVerif.Kcp KcpVerif.Live

/-- the probe back-off stays between `IKCP_PROBE_INIT` and `IKCP_PROBE_LIMIT` -/
theorem C03_nextProbeWait_bounds (w : U32) (hlim : w ≤ u32 IKCP_PROBE_LIMIT) :
    u32 IKCP_PROBE_INIT ≤ nextProbeWait w ∧ nextProbeWait w ≤ u32 IKCP_PROBE_LIMIT := by
  refine ⟨?_, by rw [BitVec.le_def]; exact SysC.npw_le w⟩
  unfold nextProbeWait
  simp only []
  -- the wait raised to the floor is between 500 and 120000, so adding its half does not wrap and stays above the floor
  have h0 : 500 ≤ (if w < u32 IKCP_PROBE_INIT then u32 IKCP_PROBE_INIT else w).toNat ∧
      (if w < u32 IKCP_PROBE_INIT then u32 IKCP_PROBE_INIT else w).toNat ≤ 120000 := by
    rw [BitVec.le_def] at hlim
    refine ite_cases (P := fun x : U32 => 500 ≤ x.toNat ∧ x.toNat ≤ 120000) (fun _ => by decide) (fun h => ?_)
    rw [BitVec.lt_def] at h
    exact ⟨Nat.le_of_not_lt h, hlim⟩
  generalize (if w < u32 IKCP_PROBE_INIT then u32 IKCP_PROBE_INIT else w) = w0 at h0 ⊢
  refine ite_ind (P := fun x : U32 => u32 IKCP_PROBE_INIT ≤ x) (by decide) ?_
  have h2 : (2 : U32).toNat = 2 := rfl
  rw [BitVec.le_def, BitVec.toNat_add, BitVec.toNat_udiv, h2, Nat.mod_eq_of_lt (by omega)]
  show 500 ≤ _
  omega

/-- while the peer advertises a zero window the probe timer is armed: either it was (re)armed by
this flush with a wait in `[IKCP_PROBE_INIT, IKCP_PROBE_LIMIT]`, or it is still pending -/
theorem C03_probe_armed (k : Kcp) (now : U32) (h0 : k.rmt_wnd = 0)
    (hlim : k.probe_wait ≤ u32 IKCP_PROBE_LIMIT) :
    (u32 IKCP_PROBE_INIT ≤ (probePhase k now).probe_wait ∧
      (probePhase k now).probe_wait ≤ u32 IKCP_PROBE_LIMIT ∧
      (probePhase k now).ts_probe = now + (probePhase k now).probe_wait) ∨
    ((probePhase k now) = k ∧ k.probe_wait ≠ 0 ∧ ¬ itimediff now k.ts_probe ≥ 0) := by
  by_cases h1 : k.probe_wait = 0
  · rw [probePhase_arm k now h0 h1]; left
    refine ⟨?_, ?_, rfl⟩ <;> simp only [u32, IKCP_PROBE_INIT, IKCP_PROBE_LIMIT] <;> decide
  · by_cases h2 : itimediff now k.ts_probe ≥ 0
    · rw [probePhase_fire k now h0 h1 h2]; left
      exact ⟨(C03_nextProbeWait_bounds _ hlim).1, (C03_nextProbeWait_bounds _ hlim).2, rfl⟩
    · exact Or.inr ⟨probePhase_wait k now h0 h1 h2, h1, h2⟩

/-- a due probe timer schedules a WASK in the same flush -/
theorem C03_probe_fires (k : Kcp) (now : U32) (h0 : k.rmt_wnd = 0) (h1 : k.probe_wait ≠ 0)
    (h2 : itimediff now k.ts_probe ≥ 0) :
    (probePhase k now).probe = k.probe ||| u32 IKCP_ASK_SEND := by
  rw [probePhase_fire k now h0 h1 h2]

/-- once a non-zero window is known the probe state is reset -/
theorem C03_probe_reset (k : Kcp) (now : U32) (h : k.rmt_wnd ≠ 0) :
    (probePhase k now).probe_wait = 0 ∧ (probePhase k now).ts_probe = 0 := by
  rw [probePhase_open k now h]; exact ⟨rfl, rfl⟩

/-! `inStep` (Lemmas/KcpInput.lean) is the body of one iteration of `inputLoop` for a segment that passed
the header checks; `inSt`/`inK2` are the loop result and the connection before the closing flush of
`input` (`input_eq`, `inputLoop_succ` are proved by `rfl`). -/

/-- A WASK processed by `inputLoop` sets the ASK_TELL bit of `probe` (whatever `una`, `wnd`, packet
type); later segments of the same datagram and the rest of `Input` never clear it; the next flush
of EITHER type writes a WINS header carrying `wnd_unused` as computed at that flush and
`una = rcv_nxt`, and clears `probe` (the header is in the output unless the flush panics). -/
theorem C03_wask_answered (regular : Bool) (conv : U32) (cmd frg : BitVec 8) (wnd : BitVec 16) (ts sn una : U32)
    (payload : Bytes) (st : InLoop) (hc : cmd.toNat = IKCP_CMD_WASK) :
    (inStep regular conv cmd frg wnd ts sn una payload st).k.probe = st.k.probe ||| u32 IKCP_ASK_TELL ∧
    (inStep regular conv cmd frg wnd ts sn una payload st).k.probe &&& u32 IKCP_ASK_TELL ≠ 0 ∧
    (∀ (st' : InLoop) fuel data, st'.k.probe &&& u32 IKCP_ASK_TELL ≠ 0 →
      (inputLoop regular fuel data st').k.probe &&& u32 IKCP_ASK_TELL ≠ 0) ∧
    (∀ (k : Kcp) full now, k.probe &&& u32 IKCP_ASK_TELL ≠ 0 →
      (flush k full now).k.probe = 0 ∧
      ((flush k full now).panic = false → ∃ pre post, (flush k full now).outs.flatten =
        pre ++ encodeHdr k.conv (BitVec.ofNat 8 IKCP_CMD_WINS) 0 (wndUnused k) (flAck k).sc.ts (flAck k).sc.sn
          k.rcv_nxt 0 ++ post)) := by
  have h1 : (inStep regular conv cmd frg wnd ts sn una payload st).k.probe = st.k.probe ||| u32 IKCP_ASK_TELL := by
    rw [inStep_probe, if_pos hc]
  exact ⟨h1, by rw [h1]; exact tell_or _, fun st' fuel data h => inputLoop_tell_mono regular fuel data st' h,
    fun k full now h => flush_wins k full now h⟩

/-- non-vacuity: a WASK datagram through `Input`, then an ack-only flush: exactly one WINS header -/
example : (input (Kcp.new 7) [7,0,0,0, 83,0, 32,0, 0,0,0,0, 0,0,0,0, 0,0,0,0, 0,0,0,0] true false 0).k.probe = 2 ∧
    (flush (input (Kcp.new 7) [7,0,0,0, 83,0, 32,0, 0,0,0,0, 0,0,0,0, 0,0,0,0, 0,0,0,0] true false 0).k false 5).outs =
      [encodeHdr 7 84 0 32 0 0 0 0] := by decide

/-- the same at the level of `Input`: if the parse loop ends with ASK_TELL set (e.g. the datagram
contained a WASK) and `Input` returns 0, then either `Input` flushed and the WINS is in ITS output
(and `probe` is clear), or the bit is still set in the resulting state for the next flush. -/
theorem C03_wask_answered_input (k : Kcp) (data : Bytes) (regular ackNoDelay : Bool) (now : U32)
    (ht : (inSt k data regular).k.probe &&& u32 IKCP_ASK_TELL ≠ 0)
    (hr : (input k data regular ackNoDelay now).ret = 0) (hp : (input k data regular ackNoDelay now).panic = false) :
    (input k data regular ackNoDelay now).k.probe &&& u32 IKCP_ASK_TELL ≠ 0 ∨
    ((input k data regular ackNoDelay now).k.probe = 0 ∧
      ∃ pre post, (input k data regular ackNoDelay now).outs.flatten =
        pre ++ encodeHdr k.conv (BitVec.ofNat 8 IKCP_CMD_WINS) 0 (wndUnused (inK2 k data regular now))
          (flAck (inK2 k data regular now)).sc.ts (flAck (inK2 k data regular now)).sc.sn
          (inK2 k data regular now).rcv_nxt 0 ++ post) := by
  have h2 : (inK2 k data regular now).probe &&& u32 IKCP_ASK_TELL ≠ 0 ∧ (inK2 k data regular now).conv = k.conv := by
    have hconv : (inSt k data regular).k.conv = k.conv := Frame.inputLoop_conv regular _ data { k := k }
    have hcw : ∀ a u, (cwndOnAck a u).probe = a.probe ∧ (cwndOnAck a u).conv = a.conv := fun a u => by
      obtain ⟨_, _, e⟩ := cwndOnAck_shape a u
      rw [e]; exact ⟨rfl, rfl⟩
    have hua : ∀ a rtt, (updateAck a rtt).probe = a.probe ∧ (updateAck a rtt).conv = a.conv := fun a rtt => by
      obtain ⟨_, _, _, e⟩ := updateAck_shape a rtt
      rw [e]; exact ⟨rfl, rfl⟩
    unfold inK2
    rw [(hcw _ _).1, (hcw _ _).2]
    split
    · rw [(hua _ _).1, (hua _ _).2]; exact ⟨ht, hconv⟩
    · exact ⟨ht, hconv⟩
  let Q : InRes → Prop := fun r => r.ret = 0 → r.panic = false → r.k.probe &&& u32 IKCP_ASK_TELL ≠ 0 ∨
    (r.k.probe = 0 ∧ ∃ pre post, r.outs.flatten =
      pre ++ encodeHdr k.conv (BitVec.ofNat 8 IKCP_CMD_WINS) 0 (wndUnused (inK2 k data regular now))
        (flAck (inK2 k data regular now)).sc.ts (flAck (inK2 k data regular now)).sc.sn
        (inK2 k data regular now).rcv_nxt 0 ++ post)
  suffices h : Q (input k data regular ackNoDelay now) from h hr hp
  have hfl : ∀ full, Q ⟨(flush (inK2 k data regular now) full now).k, 0, (flush (inK2 k data regular now) full now).outs,
      (flush (inK2 k data regular now) full now).panic⟩ := by
    intro full _ hpf
    have := flush_wins (inK2 k data regular now) full now h2.1
    rw [h2.2] at this
    exact Or.inr ⟨this.1, this.2 hpf⟩
  rw [Live.input_eq]
  refine ite_cases (P := Q) (fun _ hr _ => absurd hr (by show ¬ (-1 : Int) = 0; decide)) fun _ => ?_
  refine ite_cases (P := Q) (fun _ _ hp => nomatch hp) fun _ => ?_
  refine ite_cases (P := Q) (fun c3 hr _ => absurd hr (by show ¬ (inSt k data regular).ret = 0; omega)) fun _ => ?_
  exact ite_ind (hfl true) (ite_ind (hfl false) (ite_ind (hfl false) fun _ _ => Or.inl h2.1))

/-- A successful `Recv` that starts with a full delivery queue (`|rcv_queue| ≥ rcv_wnd`, the
advertised window was 0) and ends below `rcv_wnd` sets ASK_TELL, so the next flush announces the
re-opened window without waiting for a probe. -/
theorem C03_reopen_announced (k : Kcp) (buflen : Nat) (hok : (recv k buflen).n ≥ 0)
    (hfull : k.rcv_queue.length ≥ k.rcv_wnd.toNat)
    (hopen : (recv k buflen).k.rcv_queue.length < (recv k buflen).k.rcv_wnd.toNat) :
    (recv k buflen).k.probe = k.probe ||| u32 IKCP_ASK_TELL ∧
    (recv k buflen).k.probe &&& u32 IKCP_ASK_TELL ≠ 0 := by
  rw [recv_of_nonneg k buflen hok] at hopen ⊢
  have h : (recvK k).probe = k.probe ||| u32 IKCP_ASK_TELL := by
    unfold recvK at hopen ⊢
    simp only [] at hopen ⊢
    by_cases c3 : (moveReady { k with rcv_queue := (popMsg k.rcv_queue).rest }).rcv_queue.length <
        (moveReady { k with rcv_queue := (popMsg k.rcv_queue).rest }).rcv_wnd.toNat ∧
        decide (k.rcv_queue.length ≥ k.rcv_wnd.toNat) = true
    · rw [if_pos c3]; rfl
    · rw [if_neg c3] at hopen
      exact absurd ⟨hopen, by simpa using hfull⟩ c3
  exact ⟨h, by rw [h]; exact tell_or _⟩

/-- non-vacuity: window 1, one queued message; reading it re-opens the window -/
example : (recv { Kcp.new 1 with rcv_wnd := 1, rcv_queue := [{ data := [1] }] } 10).k.probe = 2 := by decide

/-- Every segment of a REGULAR datagram that passes the header checks — any of the four commands,
any `una`, `sn`, window state, duplicate or not — sets `rmt_wnd := wnd`; segments recovered by FEC
(`regular = false`) never touch `rmt_wnd`. -/
theorem C03_window_learned (regular : Bool) (conv : U32) (cmd frg : BitVec 8) (wnd : BitVec 16) (ts sn una : U32)
    (payload : Bytes) (st : InLoop) :
    (inStep regular conv cmd frg wnd ts sn una payload st).k.rmt_wnd =
      if regular then wnd.setWidth 32 else st.k.rmt_wnd := by
  obtain ⟨_, _, _, _, _, _, _, hf⟩ := inStep_frame regular conv cmd frg wnd ts sn una payload st
  rw [hf]

/-- With `rmt_wnd = 0` the effective window of phase 4 is 0 whatever `snd_wnd`, `cwnd`, `nocwnd`
are, and a flush of either type admits nothing: `snd_queue` and `snd_nxt` are unchanged, no segment
is appended to `snd_buf`, and an ack-only flush leaves `snd_buf` itself unchanged.  Explicit
hypothesis: `snd_nxt` is not behind `snd_una` in the signed comparison the code uses (fewer than
2^31 segments in flight). -/
theorem C03_throttled_admits_nothing (k : Kcp) (full : Bool) (now : U32) (h0 : k.rmt_wnd = 0)
    (hfl : itimediff k.snd_nxt k.snd_una ≥ 0) :
    (∀ conv q buf c, admitSegs conv k.snd_una 0 now q buf k.snd_nxt c = ⟨q, buf, k.snd_nxt, c⟩) ∧
    flAd k now = ⟨k.snd_queue, k.snd_buf, k.snd_nxt, 0⟩ ∧
    (flush k full now).k.snd_queue = k.snd_queue ∧ (flush k full now).k.snd_nxt = k.snd_nxt ∧
    (flush k full now).k.snd_buf.length = k.snd_buf.length ∧
    (flush k false now).k.snd_buf = k.snd_buf := by
  have hz : ∀ conv q buf c, admitSegs conv k.snd_una 0 now q buf k.snd_nxt c = ⟨q, buf, k.snd_nxt, c⟩ := by
    intro conv q buf c
    exact admitSegs_closed conv k.snd_una 0 now q buf k.snd_nxt c (by rw [show k.snd_una + 0 = k.snd_una from by bv_omega]; exact hfl)
  have had : flAd k now = ⟨k.snd_queue, k.snd_buf, k.snd_nxt, 0⟩ := by
    rw [flAd_eq, effWnd_zero k h0]
    exact hz _ _ _ _
  obtain ⟨_, _, _, _, _, _, hk⟩ := flush_frame k full now
  obtain ⟨_, _, _, _, _, _, hk'⟩ := flush_frame k false now
  obtain ⟨pw, tp, h4⟩ := flF4_frame k now
  refine ⟨hz, had, by rw [hk, had], by rw [hk, had], ?_, ?_⟩
  · rw [hk]
    show (flX k full now).done.length = _
    rw [flX_done, List.length_map, had]
  · rw [hk']
    show (flX k false now).done = _
    rw [flX_ackonly, h4, had]

/-- non-vacuity: a throttled sender with queued data -/
example : (flush { Kcp.new 1 with rmt_wnd := 0, snd_queue := [{ data := [1] }] } true 0).k.snd_queue.length = 1 := by
  decide

/-- For every PUSH that passes the header checks (so `payload.length ≤ mtuLimit`), in every state:
* at or beyond the top of the window: NOT acknowledged, receive side untouched;
* otherwise acknowledged, and exactly one of
  - already delivered (`sn` before `rcv_nxt`): receive side untouched,
  - already held in `rcv_buf`: buffered ∪ queued segments unchanged,
  - new: the segment is stored — `rcv_queue ++ rcv_buf` afterwards is the old `rcv_queue` followed
    by `rcv_buf` with the segment inserted — and there is no panic.
There is no branch that acknowledges and drops a new in-window segment. -/
theorem C03_no_ack_without_store (regular : Bool) (conv : U32) (cmd frg : BitVec 8) (wnd : BitVec 16) (ts sn una : U32)
    (payload : Bytes) (st : InLoop) (hc : cmd.toNat = IKCP_CMD_PUSH) (hlen : payload.length ≤ mtuLimit) :
    let k' := (inStep regular conv cmd frg wnd ts sn una payload st).k
    (¬ itimediff sn (st.k.rcv_nxt + st.k.rcv_wnd) < 0 ∧ k'.acklist = st.k.acklist ∧
      k'.rcv_buf = st.k.rcv_buf ∧ k'.rcv_queue = st.k.rcv_queue ∧ k'.rcv_nxt = st.k.rcv_nxt) ∨
    (itimediff sn (st.k.rcv_nxt + st.k.rcv_wnd) < 0 ∧ k'.acklist = st.k.acklist ++ [⟨sn, ts⟩] ∧
      ((itimediff sn st.k.rcv_nxt < 0 ∧ k'.rcv_buf = st.k.rcv_buf ∧ k'.rcv_queue = st.k.rcv_queue) ∨
       (itimediff sn st.k.rcv_nxt ≥ 0 ∧ st.k.rcv_buf.any (fun x => x.sn = sn) = true ∧
          k'.rcv_queue ++ k'.rcv_buf = st.k.rcv_queue ++ st.k.rcv_buf) ∨
       (itimediff sn st.k.rcv_nxt ≥ 0 ∧ st.k.rcv_buf.any (fun x => x.sn = sn) = false ∧
          (inStep regular conv cmd frg wnd ts sn una payload st).panic = false ∧
          pushSeg conv cmd frg wnd ts sn una payload ∈ k'.rcv_queue ++ k'.rcv_buf ∧
          k'.rcv_queue ++ k'.rcv_buf =
            st.k.rcv_queue ++ heapInsert (pushSeg conv cmd frg wnd ts sn una payload) st.k.rcv_buf))) := by
  intro k'
  obtain ⟨h1, h2, h3, _, h5, h6⟩ := inPre_rcv (regular := regular) (wnd := wnd) (una := una) st.k
  have := (SysC.inFr_push_cases regular st ⟨conv, cmd, frg, wnd, ts, sn, una, payload⟩ hc hlen _ rfl).2.2.2
  simp only [h1, h2, h5] at this
  -- `k'`, as the four cases give it; `moveReady` redistributes `rcv_queue ++ rcv_buf` and leaves the ack list alone
  have hk : ∀ {K : Kcp}, (SysW.inFr regular st ⟨conv, cmd, frg, wnd, ts, sn, una, payload⟩).k = K → k' = K := fun e => e
  have hmv : ∀ K : Kcp, (moveReady K).rcv_queue ++ (moveReady K).rcv_buf = K.rcv_queue ++ K.rcv_buf :=
    fun K => moveLoop_concat _ _ _ _
  rcases this with ⟨hw, e, _⟩ | ⟨hw, ⟨e, _, hn⟩ | ⟨e, _, hn, hdup⟩ | ⟨e, ep, hn, hnd⟩⟩
  · rw [hk e]; exact Or.inl ⟨hw, h3, h5, h6, h1⟩
  · rw [hk e]; exact Or.inr ⟨hw, by rw [← h3]; rfl, Or.inl ⟨hn, rfl, h6⟩⟩
  · rw [hk e]
    refine Or.inr ⟨hw, by rw [← h3]; rfl, Or.inr (Or.inl ⟨hn, ?_, ?_⟩)⟩
    · obtain ⟨x, hx, hxs⟩ := hdup
      exact List.any_eq_true.mpr ⟨x, hx, by simpa using hxs⟩
    · rw [hmv, ← h6]; rfl
  · rw [hk e]
    have hcat := (hmv (SysC.withAck (inPre regular wnd una st.k) ⟨sn, ts⟩
      (heapInsert (pushSeg conv cmd frg wnd ts sn una payload) st.k.rcv_buf))).trans
        (congrArg (· ++ heapInsert (pushSeg conv cmd frg wnd ts sn una payload) st.k.rcv_buf) h6)
    refine Or.inr ⟨hw, by rw [← h3]; rfl, Or.inr (Or.inr ⟨hn, ?_, ep, ?_, hcat⟩)⟩
    · cases hd : st.k.rcv_buf.any (fun x => x.sn = sn) with
      | false => rfl
      | true => obtain ⟨x, hx, hxs⟩ := List.any_eq_true.mp hd; exact absurd (by simpa using hxs) (hnd x hx)
    · rw [hcat]; exact List.mem_append_right _ (Kcp.mem_heapInsert.2 (Or.inl rfl))

/-- non-vacuity: an out-of-order PUSH (sn 1) is acknowledged AND stored; with `rcv_wnd = 1` the same
PUSH is beyond the window: not acknowledged, not stored -/
example :
    (input (Kcp.new 7) [7,0,0,0, 81,0, 32,0, 9,0,0,0, 1,0,0,0, 0,0,0,0, 1,0,0,0, 0xAA] true false 0).k.acklist = [⟨1, 9⟩] ∧
    (input (Kcp.new 7) [7,0,0,0, 81,0, 32,0, 9,0,0,0, 1,0,0,0, 0,0,0,0, 1,0,0,0, 0xAA] true false 0).k.rcv_buf.map
      (fun s => s.sn) = [1] ∧
    (input { Kcp.new 7 with rcv_wnd := 1 } [7,0,0,0, 81,0, 32,0, 9,0,0,0, 1,0,0,0, 0,0,0,0, 1,0,0,0, 0xAA] true false 0
      ).k.acklist = [] := by
  decide

/-- With `rmt_wnd = 0`, an armed probe timer that is due makes the SAME flush (either type) write a
WASK header, multiplies `probe_wait` by 3/2 (capped, `nextProbeWait`) and re-arms the timer at
`now + probe_wait`: probing never stops while the remote window is 0, whatever was lost. -/
theorem C03_probe_wask_emitted (k : Kcp) (full : Bool) (now : U32) (h0 : k.rmt_wnd = 0) (h1 : k.probe_wait ≠ 0)
    (h2 : itimediff now k.ts_probe ≥ 0) :
    (flush k full now).k.probe_wait = nextProbeWait k.probe_wait ∧
    (flush k full now).k.ts_probe = now + nextProbeWait k.probe_wait ∧
    ((flush k full now).panic = false → ∃ pre post, (flush k full now).outs.flatten =
      pre ++ encodeHdr k.conv (BitVec.ofNat 8 IKCP_CMD_WASK) 0 (wndUnused k) (flAck k).sc.ts (flAck k).sc.sn k.rcv_nxt 0
        ++ post) := by
  have hpp := probePhase_fire { k with acklist := [] } now h0 h1 h2
  have hf := flush_probe_timer k full now
  refine ⟨by rw [hf.1, hpp], by rw [hf.2, hpp], ?_⟩
  have hg := (grow_F3b k now).trans (grow_F3b_end k full now)
  have hconv : (flF2 k now).k.conv = k.conv := by rw [flF2_k, hpp]
  unfold flF3a at hg
  rw [if_pos (flF2_send k now h0 h1 h2), hconv] at hg
  exact hdr_on_wire _ hg

/-- `probe_wait ≤ IKCP_PROBE_LIMIT` (the hypothesis of `C03_probe_armed`) is kept by every operation
with arbitrary arguments and holds in every state reachable from `NewKCP`. -/
theorem C03_probe_wait_reachable (conv : U32) (ops : List Op) (k : Kcp) (op : Op) :
    (k.probe_wait ≤ u32 IKCP_PROBE_LIMIT → (step k op).probe_wait ≤ u32 IKCP_PROBE_LIMIT) ∧
    (run (Kcp.new conv) ops).probe_wait ≤ u32 IKCP_PROBE_LIMIT := by
  have hfl : ∀ (k : Kcp) full now, k.probe_wait ≤ u32 IKCP_PROBE_LIMIT →
      (flush k full now).k.probe_wait ≤ u32 IKCP_PROBE_LIMIT := by
    intro k full now h
    rcases flush_pw k full now with e | e | e | e
    · rw [e]; simp only [u32, IKCP_PROBE_LIMIT]; decide
    · rw [e]; simp only [u32, IKCP_PROBE_LIMIT, IKCP_PROBE_INIT]; decide
    · rw [e]; exact (C03_nextProbeWait_bounds _ h).2
    · rw [e]; exact h
  have hstep : ∀ (k : Kcp) (op : Op), k.probe_wait ≤ u32 IKCP_PROBE_LIMIT →
      (step k op).probe_wait ≤ u32 IKCP_PROBE_LIMIT := fun k op h =>
    inv_step (P := fun x => x.probe_wait ≤ u32 IKCP_PROBE_LIMIT) (ok := fun _ _ => True) (keeps_steps hfl) k op h trivial
  refine ⟨hstep k op, inv_run hstep _ ops ?_⟩
  unfold Kcp.new; simp only [u32, IKCP_PROBE_LIMIT]; decide

/-! ### Tier 2, the safety half in the closed system (Model/Sys.lean), arbitrary histories

`SysC.Cons` (Lemmas/SysDrainCons.lean) is the cross-endpoint consistency invariant for ARBITRARY
histories of the one-directional system: genuine frames in flight, A's send buffer contiguous, B's
`rcv_nxt` not beyond A's `snd_nxt`, B HAS (delivered, or holds in its reorder buffer) every segment
below A's `snd_una`, every segment flagged `acked` at A, every entry of its own ack list and every ACK
in flight.  It is preserved by the unfair network (`SysC.cons_shuffle`: any drop / duplication /
reordering of what is in flight) and by every event of the closed system
(`SysC.cons_step`; A's `Input`: `SysC.cons_inA`, B's: `SysC.cons_dlvB`). -/

open KcpVerif.Sys KcpVerif.SysC in
/-- **A throttled sender puts no new sequence number on the wire.**  In any consistent state in which A
has learned a zero window (`rmt_wnd = 0`), a FULL flush of A admits nothing — `snd_nxt` and the send
queue are unchanged — and every PUSH frame it writes carries a sequence number below the old
`snd_nxt`: a retransmission.  (`NoWrap`: fewer than 2^31 segments so far.) -/
theorem C03_closed_throttled_no_new_sn {p : Par} {s : State} {gab gba : GLink} (h : Cons p s gab gba)
    (hnw : NoWrap p.base s) (h0 : s.A.rmt_wnd = 0) :
    (Sys.step s .flushA).A.snd_nxt = s.A.snd_nxt ∧ (Sys.step s .flushA).A.snd_queue = s.A.snd_queue ∧
    ∀ fr ∈ SysW.flushFrs s.A true (clk s.now), fr.cmd.toNat = IKCP_CMD_PUSH → o p.base fr.sn < o p.base s.A.snd_nxt := by
  have hc := h.acon
  have hfl : itimediff s.A.snd_nxt s.A.snd_una ≥ 0 := by
    unfold NoWrap at hnw
    have := itd p.base s.A.snd_nxt s.A.snd_una (by omega) (by have := hc.2; omega)
    have := hc.2
    omega
  obtain ⟨_, _, t3, t4, _, _⟩ := C03_throttled_admits_nothing s.A true (clk s.now) h0 hfl
  obtain ⟨_, _, _, _, _, _, g7⟩ := flush_gen p.base s.A (clk s.now) h.aK h.aack h.acon
    (by rw [h.aconv]; exact h.atag) h.aq hnw
  refine ⟨t4, t3, fun fr hfr hp => ?_⟩
  have := (g7 fr hfr).2.2 hp
  rw [t4] at this
  exact this

open KcpVerif.SysC in
/-- **Nothing B has is ever dropped, and B acknowledges only what it has.**  For a receiver with nothing
to send and ANY datagram of genuine frames from the sender (new, duplicate, old, out of order, beyond
the window; `N` = the sender's `snd_nxt` as an offset): after `Input`'s parse loop `rcv_nxt` has not
gone back and is not beyond `N`, every segment the receiver had (delivered or in the reorder buffer)
it still has, and every entry of the ack list is an old entry or is for a segment it has now.  The
same holds for `Recv` (`SysC.recv_rcvStep`). -/
theorem C03_receiver_keeps_what_it_has (base : U32) (N : Nat) (hN : N < 2 ^ 31) (frs : List Wire.Frm) (k : Kcp)
    (hsb : k.snd_buf = []) (hfr : ∀ fr ∈ frs, DataLike fr ∧ (fr.cmd.toNat = IKCP_CMD_PUSH → o base fr.sn < N))
    (h2 : o base k.rcv_nxt ≤ N) (h3 : ∀ x ∈ k.rcv_buf, o base x.sn < N) :
    RcvStep base N k (SysW.inFrs true frs { k := k }).k ∧ (SysW.inFrs true frs { k := k }).panic = false :=
  let h := inFrs_rcv base N hN frs { k := k } hsb hfr h2 h3 rfl
  ⟨h.1, h.2.1⟩

/-- the full statement of the resume half (not proved): the reader of B pauses for any duration, every
WASK / WINS / ACK datagram of a finite period is lost, then the reader resumes and the network is fair:
A's backlog drains.  `Old.run` would refute it (the acked-head wedge); on `Sys.run` it is the
general drain theorem restricted to histories of this shape. -/
def C03_resume_full : Prop :=
  ∀ (p : SysC.Par) (s : Sys.State) (gab gba : SysC.GLink), SysC.Cons p s gab gba →
    ∃ T : Nat, ∀ evs : List Sys.Ev, (∀ ev ∈ evs, SysC.isSend ev = false) →
      s.now + T ≤ (Sys.run s evs).now → (Sys.run s evs).A.waitSnd = 0

/-! ### Tier 2, zero-window probing in the closed system (arbitrary histories)

One probe round as a chain of five phases with deadlines (Lemmas/SysDrainProbe*.lean), each preserved
or advanced by every event of the fair system, from ANY consistent state — whatever was lost before:

* `Z0` — A's `rmt_wnd` is 0 and the probe timer is not armed: A's next full flush (by `T0`) arms it
  `IKCP_PROBE_INIT` ahead;
* `ZA` — armed for `P`: flushes before `P` leave it alone, the first flush at or after `P` (by
  `T1 ≥ P + interval_A`) writes a WASK and re-arms with the backed-off wait (≤ `IKCP_PROBE_LIMIT`);
* `ZW` — the WASK is on its way, at B by `T1 + D`; B's `Input` sets ASK_TELL;
* `ZT` — B owes the answer: its next flush of either kind (by `T1 + D + interval_B`) writes a WINS, and
  every frame of that flush carries the window computed at that flush;
* `ZR` — that datagram is on its way, at A by `T1 + D + interval_B + D`; A takes over its window.

Run hypothesis (`SysC.ProbeHyp`, a check on single states): fewer than 2^30 segments, and B's receive
queue is not full and `rcv_wnd < 65536` (else the answer is again 0 — correctly — and the round
repeats).  `PInv` (an invariant of every event): an armed timer is at most `IKCP_PROBE_LIMIT` = 120 s
ahead of the clock and at most one interval behind A's next flush. -/

open KcpVerif.Sys KcpVerif.SysC in
/-- **the flush of a sender with a closed remote window** at time `t`: arms the probe timer, leaves it
alone before its time, or writes a WASK frame -/
theorem C03_closed_probe_flush (K : Kcp) (t IA T0 T1 : Nat) (h0 : K.rmt_wnd = 0) (hiv : K.interval.toNat = IA)
    (hz : (K.probe_wait = 0 ∧ t ≤ T0 ∧ T0 + IKCP_PROBE_INIT + IA ≤ T1 ∧ T1 < t + IKCP_PROBE_INIT + 2 ^ 31) ∨
      (K.probe_wait ≠ 0 ∧ t ≤ T1 ∧ ∃ P, K.ts_probe = clk P ∧ P + IA ≤ T1 ∧ T1 < P + 2 ^ 31)) :
    ((flush K true (clk t)).k.probe_wait ≠ 0 ∧ t + (flush K true (clk t)).interval.toNat ≤ T1 ∧
      ∃ P, (flush K true (clk t)).k.ts_probe = clk P ∧ P + IA ≤ T1 ∧ T1 < P + 2 ^ 31) ∨
    (∃ fr ∈ SysW.flushFrs K true (clk t), fr.cmd.toNat = IKCP_CMD_WASK) :=
  zA_flush K t IA T0 T1 h0 hiv hz

open KcpVerif.Sys KcpVerif.SysC in
/-- **the phases on B's side and on the way back** (`ZW`, `ZT`, `ZR`): every event keeps the phase, moves
to a later one within its deadline, or opens A's remote window -/
theorem C03_closed_probe_answer {p : Par} {s : State} {gab gba : GLink} (h : Cons p s gab gba) (hnw : NoWrap p.base s)
    (T2 T3 T4 IB : Nat) (ht : Tm IB s) (hT3 : T2 + IB ≤ T3) (hT4 : T3 + s.D ≤ T4) (hQ : QB s) (ev : Ev)
    (hQ' : QB (Sys.step s ev)) (hp' : (Sys.step s ev).panic = false) (hz : ZW T2 s ∨ ZT T3 s ∨ ZR T4 s) :
    (ZW T2 (Sys.step s ev) ∨ ZT T3 (Sys.step s ev) ∨ ZR T4 (Sys.step s ev)) ∨ (Sys.step s ev).A.rmt_wnd ≠ 0 :=
  zB_step h hnw T2 T3 T4 IB ht hT3 hT4 hQ ev hQ' hz

open KcpVerif.Sys KcpVerif.SysC in
/-- **the bound on the probe timer is an invariant**: `PInv` is kept by every event -/
theorem C03_closed_probe_timer_bounded {p : Par} {s : State} {gab gba : GLink} (h : Cons p s gab gba)
    (hnw : NoWrap p.base s) (IA : Nat) (hIA : IA < 2 ^ 30) (hta : TmA IA s) (hpi : PInv IA s) (ev : Ev) :
    PInv IA (Sys.step s ev) :=
  pinv_step h hnw IA hIA hta hpi ev

open KcpVerif.Sys KcpVerif.SysC in
/-- **one probe round, bound by phase**: from a consistent state in phase `Z0` or `ZA`, in every run
whose clock passes `T1 + D + interval_B + D`, A's `rmt_wnd` is non-zero in some state of the run -/
theorem C03_probe_round {p : Par} {IA IB : Nat} {s : State} (hi : Inv p IA IB s) (T0 T1 : Nat)
    (hz : Z0 IA T0 T1 s ∨ ZA IA T1 s) (evs : List Ev) (hr : RunP (ProbeHyp p) s evs)
    (hnow : T1 + s.D + IB + s.D < (Sys.run s evs).now) :
    ∃ a b, evs = a ++ b ∧ (Sys.run s a).A.rmt_wnd ≠ 0 :=
  let ⟨a, b, e, h, _⟩ := probe_round hi T0 T1 hz evs hr hnow
  ⟨a, b, e, h⟩

open KcpVerif.Sys KcpVerif.SysC in
/-- **zero-window probing, with the 120 s cap**: two fresh endpoints, ANY history `pre` of writes, reads,
events and network faults (every WASK and WINS of the past may have been lost); from the state it
leaves, over fair links, in every run whose clock advances by more than
`IKCP_PROBE_LIMIT + 2·interval_A + D + interval_B + D` ms there is a state in which A's `rmt_wnd` is
non-zero — the sender has learned a window that B computed when its receive queue was not full. -/
theorem C03_zero_window_probe_bound (A B : Kcp) (D t0 : Nat) (ndA ndB : Bool) (hinit : ConsInit A B)
    (hpw : A.probe_wait = 0) (hIA : A.interval.toNat < 2 ^ 29) (pre : List NetEv)
    (hpre : NetNoWrap A.snd_nxt (Sys.init A B D t0 ndA ndB) pre) (evs : List Ev)
    (hr : RunP (ProbeHyp ⟨A.snd_nxt, A.conv, 0, 0, 0⟩) (netRun (Sys.init A B D t0 ndA ndB) pre) evs)
    (hnow : (netRun (Sys.init A B D t0 ndA ndB) pre).now + IKCP_PROBE_LIMIT + 2 * A.interval.toNat +
      (netRun (Sys.init A B D t0 ndA ndB) pre).D + B.interval.toNat + (netRun (Sys.init A B D t0 ndA ndB) pre).D <
      (Sys.run (netRun (Sys.init A B D t0 ndA ndB) pre) evs).now) :
    ∃ a b, evs = a ++ b ∧ (Sys.run (netRun (Sys.init A B D t0 ndA ndB) pre) a).A.rmt_wnd ≠ 0 := by
  obtain ⟨hi, hpi⟩ := inv_pinv_netRun (by omega) pre _ (inv_init A B D t0 ndA ndB hinit)
    (pinv_init A B D t0 ndA ndB hpw) hpre
  obtain ⟨a, b, e, h, _⟩ := probe_opens hIA _ _ evs ⟨hi, hpi, rfl⟩ (fun _ _ => trivial) hr (by omega)
  exact ⟨a, b, e, h⟩

/-! non-vacuity of `C03_probe_round` (and of the invariants behind `C03_zero_window_probe_bound`): B has
a receive window of one segment (`wedgeB`); A writes two messages and flushes, B takes the first into
its queue (now full) and the second into the reorder buffer and acknowledges both with `wnd = 0`; A
processes the ACKs (`rmt_wnd = 0`, its ACK-triggered flush arms the probe timer: `ts_probe = 1500`); the
reader returns and reads both; the WINS that B's `Recv` schedules is flushed and LOST (`shuffle [] []`).
In the state this leaves: `rmt_wnd = 0`, phase `ZA` with `P = 1500`, `T1 = 1510`.  Then 53 rounds of
"10 ticks, flushes, deliveries, read": the run hypotheses hold and the clock reaches 1530 > 1520. -/

def c03ProbePre : List SysC.NetEv :=
  [.fair (.send [1]), .fair (.send [2]), .fair .flushA, .fair .dlvB, .fair .flushB, .fair .dlvA,
   .fair .read, .fair .read, .fair .flushB, .shuffle [] []]
def c03ProbeRound : List Sys.Ev := List.replicate 10 .tick ++ [.flushA, .dlvB, .flushB, .dlvA, .read]
def c03ProbeEvs : List Sys.Ev := (List.replicate 53 c03ProbeRound).flatten

set_option maxRecDepth 1000000 in
/-- the run is evaluated once; the two examples below are its parts (so in the scenarios further down) -/
theorem c03Probe_run :
    1510 + 0 + 10 + 0 < (Sys.run (SysC.netRun (Sys.init SysC.wedgeA SysC.wedgeB 0 1000) c03ProbePre) c03ProbeEvs).now ∧
    SysC.RunP (SysC.ProbeHyp ⟨SysC.wedgeA.snd_nxt, SysC.wedgeA.conv, 0, 0, 0⟩)
      (SysC.netRun (Sys.init SysC.wedgeA SysC.wedgeB 0 1000) c03ProbePre) c03ProbeEvs := by
  decide +kernel

set_option maxRecDepth 1000000 in
example : SysC.ConsInit SysC.wedgeA SysC.wedgeB ∧ SysC.wedgeA.probe_wait = 0 ∧
    SysC.NetNoWrap SysC.wedgeA.snd_nxt (Sys.init SysC.wedgeA SysC.wedgeB 0 1000) c03ProbePre ∧
    (SysC.netRun (Sys.init SysC.wedgeA SysC.wedgeB 0 1000) c03ProbePre).A.rmt_wnd = 0 ∧
    (SysC.netRun (Sys.init SysC.wedgeA SysC.wedgeB 0 1000) c03ProbePre).ba = [] ∧
    (SysC.netRun (Sys.init SysC.wedgeA SysC.wedgeB 0 1000) c03ProbePre).got = [1, 2] ∧
    SysC.ZA 10 1510 (SysC.netRun (Sys.init SysC.wedgeA SysC.wedgeB 0 1000) c03ProbePre) ∧
    1510 + 0 + 10 + 0 < (Sys.run (SysC.netRun (Sys.init SysC.wedgeA SysC.wedgeB 0 1000) c03ProbePre) c03ProbeEvs).now :=
  ⟨by decide +kernel, by decide +kernel, by decide +kernel, by decide +kernel, by decide +kernel, by decide +kernel,
   ⟨by decide +kernel, by decide +kernel, by decide +kernel, 1500, by decide +kernel, by decide +kernel, by decide +kernel⟩, c03Probe_run.1⟩
set_option maxRecDepth 1000000 in
example : SysC.RunP (SysC.ProbeHyp ⟨SysC.wedgeA.snd_nxt, SysC.wedgeA.conv, 0, 0, 0⟩)
    (SysC.netRun (Sys.init SysC.wedgeA SysC.wedgeB 0 1000) c03ProbePre) c03ProbeEvs := c03Probe_run.2

/-! ### `resume`: the reader was away, every WASK / WINS of that period may be lost, it returns

The history `pre` is arbitrary (`netRun`): it contains the period in which nobody reads at B — B's
queue fills, it advertises `wnd = 0`, A stops numbering segments (`C03_closed_throttled_no_new_sn`, the
standstill half) — and any loss of probes and answers.  In the state it leaves the reader is back: from
now on it reads whenever there is something to read (`QOk`), the links are fair, the writer has stopped.  Then the transfer completes: the window is re-opened by a probe
round (`C03_zero_window_probe_bound`), the queued segments are numbered and acknowledged one stage after
the other (Lemmas/SysDrainFair.lean).  Hypotheses as in `C02_drain_general_partial` (Props/C02.lean):
`SysC.FairHyp` in every state of the run — head timers within `Rmax`, a send window at A,
`0 < rcv_wnd < 65536`, the reader condition; congestion control may be on or off; stale `wnd = 0`
frames still on their way to A at the return are covered (they arrive within `D`); B's queue may fill
up between two reads. -/

open KcpVerif.Sys KcpVerif.SysC in
theorem C03_resume_partial (A B : Kcp) (D t0 : Nat) (ndA ndB : Bool) (hinit : ConsInit A B)
    (hpw : A.probe_wait = 0) (hIA : A.interval.toNat < 2 ^ 29) (pre : List NetEv)
    (hpre : NetNoWrap A.snd_nxt (Sys.init A B D t0 ndA ndB) pre) (Rmax : Nat) (hR : Rmax + A.interval.toNat < 2 ^ 31)
    (evs : List Ev) (hns : ∀ ev ∈ evs, isSend ev = false)
    (hr : RunP (FairHyp ⟨A.snd_nxt, A.conv, 0, 0, 0⟩ Rmax A.interval.toNat) (netRun (Sys.init A B D t0 ndA ndB) pre) evs)
    (hnow : (netRun (Sys.init A B D t0 ndA ndB) pre).now + 1 + (netRun (Sys.init A B D t0 ndA ndB) pre).A.waitSnd *
      (fairStage Rmax A.interval.toNat B.interval.toNat (netRun (Sys.init A B D t0 ndA ndB) pre).D + 2) ≤
      (Sys.run (netRun (Sys.init A B D t0 ndA ndB) pre) evs).now) :
    (Sys.run (netRun (Sys.init A B D t0 ndA ndB) pre) evs).A.waitSnd = 0 := by
  obtain ⟨hi, hpi⟩ := inv_pinv_netRun (by omega) pre _ (inv_init A B D t0 ndA ndB hinit)
    (pinv_init A B D t0 ndA ndB hpw) hpre
  exact drain_fair_any hIA hR hi hpi (arrOk_netRun pre _ (arrOk_init A B D t0 ndA ndB)) evs hns hr hnow

/-! what `C03_resume_partial` does not cover (the full statement stays `C03_resume_full` above): the
derivation of `TmrOk` from the number of earlier timeouts (the RTO backoff of a segment is not capped in
kcp-go, so a bound on the head's timer is a hypothesis), and a writer that goes on writing. -/

/-! non-vacuity of `C03_resume_partial`, and three scenarios evaluated (the run hypotheses hold in
every state: `runFairChk_sound`, `Rmax = 300`; the length hypothesis `hnow` of the theorem asks for
`WaitSnd · (fairStage + 2)` > 120 s of clock per waiting segment, which only needs more idle rounds —
the worst-case bound is dominated by the 120 s probe back-off cap).

1. B has a receive window of 4; A writes six one-byte messages and flushes while nobody reads: B queues
   four, buffers two, acknowledges all six with `wnd = 0`; A processes the ACKs (`rmt_wnd = 0`, probe
   timer armed for t = 1500) and the writer writes three more messages, which stay in the queue.  The
   reader returns and reads six messages; the WINS this schedules is flushed and LOST.  State:
   `rmt_wnd = 0`, three segments queued, nothing in flight.  Then 55 rounds of "10 ticks, flushes,
   deliveries, four reads": the WASK goes out at t = 1500, the window re-opens, the three segments are
   numbered, delivered, read and acknowledged by t = 1510. -/

def c03ResA : Kcp := Kcp.noDelay (Kcp.new 7) 1 10 2 1
def c03ResB : Kcp := Kcp.wndSize (Kcp.noDelay (Kcp.new 7) 1 10 2 1) 32 4
def c03ResPre : List SysC.NetEv :=
  [.fair (.send [1]), .fair (.send [2]), .fair (.send [3]), .fair (.send [4]), .fair (.send [5]), .fair (.send [6]),
   .fair .flushA, .fair .dlvB, .fair .flushB, .fair .dlvA,
   .fair (.send [7]), .fair (.send [8]), .fair (.send [9]),
   .fair .read, .fair .read, .fair .read, .fair .read, .fair .read, .fair .read, .fair .flushB, .shuffle [] []]
def c03ResRound : List Sys.Ev := List.replicate 10 .tick ++ [.flushA, .dlvB, .flushB, .dlvA, .read, .read, .read, .read]
def c03ResEvs : List Sys.Ev := (List.replicate 55 c03ResRound).flatten

set_option maxRecDepth 1000000 in
theorem c03Res_run :
    (SysC.ConsInit c03ResA c03ResB ∧ c03ResA.probe_wait = 0 ∧ c03ResA.interval.toNat = 10 ∧
    SysC.NetNoWrap c03ResA.snd_nxt (Sys.init c03ResA c03ResB 0 1000) c03ResPre ∧
    (SysC.netRun (Sys.init c03ResA c03ResB 0 1000) c03ResPre).A.rmt_wnd = 0 ∧
    (SysC.netRun (Sys.init c03ResA c03ResB 0 1000) c03ResPre).A.snd_buf = [] ∧
    (SysC.netRun (Sys.init c03ResA c03ResB 0 1000) c03ResPre).A.snd_queue.length = 3 ∧
    (SysC.netRun (Sys.init c03ResA c03ResB 0 1000) c03ResPre).B.rcv_queue = [] ∧
    (SysC.netRun (Sys.init c03ResA c03ResB 0 1000) c03ResPre).got = [1, 2, 3, 4, 5, 6] ∧
    (∀ ev ∈ c03ResEvs, SysC.isSend ev = false) ∧
    (Sys.run (SysC.netRun (Sys.init c03ResA c03ResB 0 1000) c03ResPre) c03ResEvs).A.waitSnd = 0 ∧
    (Sys.run (SysC.netRun (Sys.init c03ResA c03ResB 0 1000) c03ResPre) c03ResEvs).got = [1, 2, 3, 4, 5, 6, 7, 8, 9]) ∧
    SysC.runFairChk c03ResA.snd_nxt 300 10 (SysC.netRun (Sys.init c03ResA c03ResB 0 1000) c03ResPre) c03ResEvs = true := by
  decide +kernel

set_option maxRecDepth 1000000 in
example : SysC.ConsInit c03ResA c03ResB ∧ c03ResA.probe_wait = 0 ∧ c03ResA.interval.toNat = 10 ∧
    SysC.NetNoWrap c03ResA.snd_nxt (Sys.init c03ResA c03ResB 0 1000) c03ResPre ∧
    (SysC.netRun (Sys.init c03ResA c03ResB 0 1000) c03ResPre).A.rmt_wnd = 0 ∧
    (SysC.netRun (Sys.init c03ResA c03ResB 0 1000) c03ResPre).A.snd_buf = [] ∧
    (SysC.netRun (Sys.init c03ResA c03ResB 0 1000) c03ResPre).A.snd_queue.length = 3 ∧
    (SysC.netRun (Sys.init c03ResA c03ResB 0 1000) c03ResPre).B.rcv_queue = [] ∧
    (SysC.netRun (Sys.init c03ResA c03ResB 0 1000) c03ResPre).got = [1, 2, 3, 4, 5, 6] ∧
    (∀ ev ∈ c03ResEvs, SysC.isSend ev = false) ∧
    (Sys.run (SysC.netRun (Sys.init c03ResA c03ResB 0 1000) c03ResPre) c03ResEvs).A.waitSnd = 0 ∧
    (Sys.run (SysC.netRun (Sys.init c03ResA c03ResB 0 1000) c03ResPre) c03ResEvs).got = [1, 2, 3, 4, 5, 6, 7, 8, 9] :=
  c03Res_run.1
set_option maxRecDepth 1000000 in
example : SysC.RunP (SysC.FairHyp ⟨c03ResA.snd_nxt, c03ResA.conv, 0, 0, 0⟩ 300 10)
    (SysC.netRun (Sys.init c03ResA c03ResB 0 1000) c03ResPre) c03ResEvs :=
  SysC.runFairChk_sound ⟨c03ResA.snd_nxt, c03ResA.conv, 0, 0, 0⟩ 300 10 _ _ c03Res_run.2

/-! 2. the same with congestion control ON (`nocwnd = 0`, fresh `cwnd = 0`): the history first lets the
congestion window open to 2, the reader stays away until B's queue of four is full and A has learned
`wnd = 0` with five messages still queued; the reader returns, the WINS is lost; along 58 rounds the
window re-opens at t = 1500 and everything is delivered, read and acknowledged. -/

def c03CcA : Kcp := Kcp.noDelay (Kcp.new 7) 1 10 2 0
def c03CcB : Kcp := Kcp.wndSize (Kcp.noDelay (Kcp.new 7) 1 10 2 0) 32 4
def c03CcPre : List SysC.NetEv :=
  [.fair (.send [1]), .fair (.send [2]), .fair (.send [3]), .fair (.send [4]), .fair (.send [5]), .fair (.send [6]),
   .fair .flushA, .fair .flushA, .fair .dlvB, .fair .flushB, .fair .dlvA, .fair .flushA, .fair .dlvB, .fair .flushB,
   .fair .dlvA, .fair .flushA, .fair .dlvB, .fair .flushB, .fair .dlvA,
   .fair (.send [7]), .fair (.send [8]), .fair (.send [9]),
   .fair .read, .fair .read, .fair .read, .fair .read, .fair .read, .fair .read, .fair .flushB, .shuffle [] []]
def c03CcEvs : List Sys.Ev := (List.replicate 58 c03ResRound).flatten

set_option maxRecDepth 1000000 in
theorem c03Cc_run :
    (SysC.ConsInit c03CcA c03CcB ∧ c03CcA.probe_wait = 0 ∧ c03CcA.nocwnd = 0 ∧ c03CcA.cwnd = 0 ∧
    SysC.NetNoWrap c03CcA.snd_nxt (Sys.init c03CcA c03CcB 0 1000) c03CcPre ∧
    (SysC.netRun (Sys.init c03CcA c03CcB 0 1000) c03CcPre).A.rmt_wnd = 0 ∧
    (SysC.netRun (Sys.init c03CcA c03CcB 0 1000) c03CcPre).A.snd_buf = [] ∧
    (SysC.netRun (Sys.init c03CcA c03CcB 0 1000) c03CcPre).A.snd_queue.length = 5 ∧
    (SysC.netRun (Sys.init c03CcA c03CcB 0 1000) c03CcPre).B.rcv_queue = [] ∧
    (∀ ev ∈ c03CcEvs, SysC.isSend ev = false) ∧
    (Sys.run (SysC.netRun (Sys.init c03CcA c03CcB 0 1000) c03CcPre) c03CcEvs).A.waitSnd = 0 ∧
    (Sys.run (SysC.netRun (Sys.init c03CcA c03CcB 0 1000) c03CcPre) c03CcEvs).got = [1, 2, 3, 4, 5, 6, 7, 8, 9]) ∧
    SysC.runFairChk c03CcA.snd_nxt 300 10 (SysC.netRun (Sys.init c03CcA c03CcB 0 1000) c03CcPre) c03CcEvs = true := by
  decide +kernel

set_option maxRecDepth 1000000 in
example : SysC.ConsInit c03CcA c03CcB ∧ c03CcA.probe_wait = 0 ∧ c03CcA.nocwnd = 0 ∧ c03CcA.cwnd = 0 ∧
    SysC.NetNoWrap c03CcA.snd_nxt (Sys.init c03CcA c03CcB 0 1000) c03CcPre ∧
    (SysC.netRun (Sys.init c03CcA c03CcB 0 1000) c03CcPre).A.rmt_wnd = 0 ∧
    (SysC.netRun (Sys.init c03CcA c03CcB 0 1000) c03CcPre).A.snd_buf = [] ∧
    (SysC.netRun (Sys.init c03CcA c03CcB 0 1000) c03CcPre).A.snd_queue.length = 5 ∧
    (SysC.netRun (Sys.init c03CcA c03CcB 0 1000) c03CcPre).B.rcv_queue = [] ∧
    (∀ ev ∈ c03CcEvs, SysC.isSend ev = false) ∧
    (Sys.run (SysC.netRun (Sys.init c03CcA c03CcB 0 1000) c03CcPre) c03CcEvs).A.waitSnd = 0 ∧
    (Sys.run (SysC.netRun (Sys.init c03CcA c03CcB 0 1000) c03CcPre) c03CcEvs).got = [1, 2, 3, 4, 5, 6, 7, 8, 9] :=
  c03Cc_run.1
set_option maxRecDepth 1000000 in
example : SysC.RunP (SysC.FairHyp ⟨c03CcA.snd_nxt, c03CcA.conv, 0, 0, 0⟩ 300 10)
    (SysC.netRun (Sys.init c03CcA c03CcB 0 1000) c03CcPre) c03CcEvs :=
  SysC.runFairChk_sound ⟨c03CcA.snd_nxt, c03CcA.conv, 0, 0, 0⟩ 300 10 _ _ c03Cc_run.2

/-! 3. a receive window of ONE segment (`wedgeB`): every arrival fills B's queue until the next read, so
"B's queue is never full" (`SysC.runFullChk`) fails along this run while the reader condition holds.  A
writes three messages and flushes, B takes the first and drops the other two (out of window), its ACK
carries `wnd = 0`; a fourth message is queued; the reader reads; the WINS is lost.  State: `rmt_wnd = 0`,
one segment outstanding, one queued.  Along 25 rounds the timer of the outstanding segment fires at
t = 1200 and everything is delivered, read and acknowledged. -/

def c03W1Pre : List SysC.NetEv :=
  [.fair (.send [1]), .fair (.send [2]), .fair (.send [3]), .fair .flushA, .fair .dlvB, .fair .flushB, .fair .dlvA,
   .fair (.send [4]), .fair .read, .fair .read, .fair .flushB, .shuffle [] []]
def c03W1Round : List Sys.Ev :=
  List.replicate 10 .tick ++ [.flushA, .dlvB, .read, .flushB, .dlvA, .read, .flushA, .dlvB, .read, .flushB, .dlvA]
def c03W1Evs : List Sys.Ev := (List.replicate 25 c03W1Round).flatten

theorem c03W1_run :
    (SysC.ConsInit SysC.wedgeA SysC.wedgeB ∧ SysC.wedgeB.rcv_wnd.toNat = 1 ∧
    SysC.NetNoWrap SysC.wedgeA.snd_nxt (Sys.init SysC.wedgeA SysC.wedgeB 0 1000) c03W1Pre ∧
    (SysC.netRun (Sys.init SysC.wedgeA SysC.wedgeB 0 1000) c03W1Pre).A.rmt_wnd = 0 ∧
    (SysC.netRun (Sys.init SysC.wedgeA SysC.wedgeB 0 1000) c03W1Pre).A.waitSnd = 2 ∧
    (SysC.netRun (Sys.init SysC.wedgeA SysC.wedgeB 0 1000) c03W1Pre).B.rcv_queue = [] ∧
    (∀ ev ∈ c03W1Evs, SysC.isSend ev = false) ∧
    SysC.runFullChk SysC.wedgeA.snd_nxt 300 10 (SysC.netRun (Sys.init SysC.wedgeA SysC.wedgeB 0 1000) c03W1Pre) c03W1Evs = false ∧
    (Sys.run (SysC.netRun (Sys.init SysC.wedgeA SysC.wedgeB 0 1000) c03W1Pre) c03W1Evs).A.waitSnd = 0 ∧
    (Sys.run (SysC.netRun (Sys.init SysC.wedgeA SysC.wedgeB 0 1000) c03W1Pre) c03W1Evs).got = [1, 2, 3, 4]) ∧
    SysC.runFairChk SysC.wedgeA.snd_nxt 300 10 (SysC.netRun (Sys.init SysC.wedgeA SysC.wedgeB 0 1000) c03W1Pre) c03W1Evs = true := by
  decide +kernel

set_option maxRecDepth 1000000 in
example : SysC.ConsInit SysC.wedgeA SysC.wedgeB ∧ SysC.wedgeB.rcv_wnd.toNat = 1 ∧
    SysC.NetNoWrap SysC.wedgeA.snd_nxt (Sys.init SysC.wedgeA SysC.wedgeB 0 1000) c03W1Pre ∧
    (SysC.netRun (Sys.init SysC.wedgeA SysC.wedgeB 0 1000) c03W1Pre).A.rmt_wnd = 0 ∧
    (SysC.netRun (Sys.init SysC.wedgeA SysC.wedgeB 0 1000) c03W1Pre).A.waitSnd = 2 ∧
    (SysC.netRun (Sys.init SysC.wedgeA SysC.wedgeB 0 1000) c03W1Pre).B.rcv_queue = [] ∧
    (∀ ev ∈ c03W1Evs, SysC.isSend ev = false) ∧
    SysC.runFullChk SysC.wedgeA.snd_nxt 300 10 (SysC.netRun (Sys.init SysC.wedgeA SysC.wedgeB 0 1000) c03W1Pre) c03W1Evs = false ∧
    (Sys.run (SysC.netRun (Sys.init SysC.wedgeA SysC.wedgeB 0 1000) c03W1Pre) c03W1Evs).A.waitSnd = 0 ∧
    (Sys.run (SysC.netRun (Sys.init SysC.wedgeA SysC.wedgeB 0 1000) c03W1Pre) c03W1Evs).got = [1, 2, 3, 4] :=
  c03W1_run.1
set_option maxRecDepth 1000000 in
example : SysC.RunP (SysC.FairHyp ⟨SysC.wedgeA.snd_nxt, SysC.wedgeA.conv, 0, 0, 0⟩ 300 10)
    (SysC.netRun (Sys.init SysC.wedgeA SysC.wedgeB 0 1000) c03W1Pre) c03W1Evs :=
  SysC.runFairChk_sound ⟨SysC.wedgeA.snd_nxt, SysC.wedgeA.conv, 0, 0, 0⟩ 300 10 _ _ c03W1_run.2

/-! 4. ALL hypotheses of `C03_resume_partial` at once, the length included — by evaluation only (`#guard`,
not a kernel proof: the run has 170 000 events): flush interval 5000 ms at both ends, one segment written,
flushed and lost; 34 rounds of "5000 ticks, flushes, deliveries, read" take the clock to t = 161 500,
beyond `1 + 1 · (fairStage 300 5000 5000 0 + 2) = 155 306` ms after the start; `FairHyp` holds in every
state, and the segment is delivered and acknowledged. -/

def c03LongA : Kcp := Kcp.noDelay (Kcp.new 7) 1 5000 2 1
def c03LongPre : List SysC.NetEv := [.fair (.send [1]), .fair .flushA, .shuffle [] []]
def c03LongRound : List Sys.Ev := List.replicate 5000 .tick ++ [.flushA, .dlvB, .read, .flushB, .dlvA]
def c03LongEvs : List Sys.Ev := (List.replicate 34 c03LongRound).flatten

#guard decide (SysC.ConsInit c03LongA c03LongA ∧ c03LongA.probe_wait = 0 ∧ c03LongA.interval.toNat = 5000 ∧
    SysC.NetNoWrap c03LongA.snd_nxt (Sys.init c03LongA c03LongA 0 1000) c03LongPre ∧ (∀ ev ∈ c03LongEvs, SysC.isSend ev = false))
#guard SysC.runFairChk c03LongA.snd_nxt 300 5000 (SysC.netRun (Sys.init c03LongA c03LongA 0 1000) c03LongPre) c03LongEvs
#guard decide ((SysC.netRun (Sys.init c03LongA c03LongA 0 1000) c03LongPre).now + 1 +
    (SysC.netRun (Sys.init c03LongA c03LongA 0 1000) c03LongPre).A.waitSnd * (SysC.fairStage 300 5000 5000 0 + 2) ≤
    (Sys.run (SysC.netRun (Sys.init c03LongA c03LongA 0 1000) c03LongPre) c03LongEvs).now)
#guard (Sys.run (SysC.netRun (Sys.init c03LongA c03LongA 0 1000) c03LongPre) c03LongEvs).A.waitSnd == 0

end KcpVerif.Props
