import KcpVerif.Props.C01
import KcpVerif.Props.C01Msg
import KcpVerif.Lemmas.C01SessRef
/-!
C01 — session level, configuration without cipher and FEC (DESIGN.md 7.1 items 5–6): two sessions of
`Model/Sess.lean` (the model the `sess` component ties op by op to real `UDPSession`s) joined by a replay-only
network.  Sessions refine cores (`Lemmas/C01SessRef.lean`); the theorems of the core are read through the refinement.
-/
namespace KcpVerif.Props
open KcpVerif.Recv KcpVerif.C01

/-- the closing step of every session-level C01 theorem (plain and FEC): a writer `x` and a reader `y` matched by a
run of the two-core system from fresh cores; `C01_core_partial` read through `Sim` -/
theorem C01_sim_core {x y : SessG} {kA kB : Kcp} (hA : Fresh kA) (hB : Fresh kB) (hsn : kB.rcv_nxt = kA.snd_nxt)
    {cops : List SOp} (h : Sim x y (srun ⟨{ k := kA }, { k := kB }⟩ cops)) (hL : x.log.length < 2 ^ 32) :
    ∃ m, y.rd ++ y.s.bufptr = bytesOf (x.log.take m) := by
  rw [h.a.log] at hL ⊢
  -- bounds `B.dl.length` for the range hypotheses of `C01_core_partial`
  have hbehind := (C01_reader_behind kA kB hA hB hsn cops hL).1
  exact ⟨_, Eq.trans h.r (C01_core_partial kA kB hA hB hsn cops (by omega) (by omega)).1⟩

/-- the same as a prefix of what the writer's `WriteBuffers` has accepted -/
theorem C01_sim_prefix {x y : SessG} {kA kB : Kcp} (hA : Fresh kA) (hB : Fresh kB) (hsn : kB.rcv_nxt = kA.snd_nxt)
    {cops : List SOp} (h : Sim x y (srun ⟨{ k := kA }, { k := kB }⟩ cops)) (hL : x.log.length < 2 ^ 32) :
    y.rd <+: x.wr := by
  obtain ⟨m, hm⟩ := C01_sim_core hA hB hsn h hL
  rw [h.w.wr_eq h.a, bytesOf_append]
  exact ((List.prefix_append _ _).trans (hm ▸ bytesOf_take_prefix _ _)).trans (List.prefix_append _ _)

/-- every run of the two plain sessions is matched by a run of their two cores -/
theorem C01_session_sim (sA sB : Sess) (hA : Fresh sA.k) (hbB : sB.bufptr = []) (hm : 0 < sA.k.mss.toNat)
    (ops : List SSOp) :
    ∃ cops : List SOp, Sim (ssrun ⟨{ s := sA }, { s := sB }⟩ ops).A (ssrun ⟨{ s := sA }, { s := sB }⟩ ops).B
      (srun ⟨{ k := sA.k }, { k := sB.k }⟩ cops) :=
  ssrun_sim ops ⟨{ s := sA }, { s := sB }⟩ ⟨{ k := sA.k }, { k := sB.k }⟩ (.init sA sB hA hm hbB)

/-- **`C01_session_plain`.**  Sessions `A` (writer) and `B` (reader) without cipher and FEC, fresh
cores with matching initial sequence numbers, any `stream` flag on either side (message mode is the
session default; the flag is part of the initial state), `mss > 0` at `A`, no unread leftover at `B`.
ANY interleaving of: arbitrary session operations of `A` (`WriteBuffers` of any slices at any clock —
admitted or blocked —, `Read` with any buffer length, `update`, `SetWriteDelay`, `SetACKNoDelay`,
`SetNoDelay`, `SetWindowSize`, `SetMtu` with any arguments, and `packetInput` of ARBITRARY bytes, e.g.
everything `B` emits, forged or not); arbitrary session operations of `B` other than `packetInput`;
deliveries to `B.packetInput` of any datagram `A` has emitted so far (any later time, any number of
times, any order, or never).  Range hypothesis: `A` has numbered fewer than 2^32 segments.

Then the concatenation of everything `B.Read` has returned is a prefix of the concatenation of all
buffers `A.WriteBuffers` has accepted. -/
theorem C01_session_plain (sA sB : Sess) (hA : Fresh sA.k) (hB : Fresh sB.k) (hbB : sB.bufptr = [])
    (hsn : sB.k.rcv_nxt = sA.k.snd_nxt) (hm : 0 < sA.k.mss.toNat) (ops : List SSOp)
    (hL : (ssrun ⟨{ s := sA }, { s := sB }⟩ ops).A.log.length < 2 ^ 32) :
    (ssrun ⟨{ s := sA }, { s := sB }⟩ ops).B.rd <+: (ssrun ⟨{ s := sA }, { s := sB }⟩ ops).A.wr := by
  obtain ⟨cops, h⟩ := C01_session_sim sA sB hA hbB hm ops
  exact C01_sim_prefix hA hB hsn h hL

/-- the sharper form: what `B.Read` has returned followed by the unread rest of the last message is
exactly the payload of the first `m` segments `A` has numbered, for some `m` -/
theorem C01_session_plain_exact (sA sB : Sess) (hA : Fresh sA.k) (hB : Fresh sB.k) (hbB : sB.bufptr = [])
    (hsn : sB.k.rcv_nxt = sA.k.snd_nxt) (hm : 0 < sA.k.mss.toNat) (ops : List SSOp)
    (hL : (ssrun ⟨{ s := sA }, { s := sB }⟩ ops).A.log.length < 2 ^ 32) :
    ∃ m, (ssrun ⟨{ s := sA }, { s := sB }⟩ ops).B.rd ++ (ssrun ⟨{ s := sA }, { s := sB }⟩ ops).B.s.bufptr =
        bytesOf ((ssrun ⟨{ s := sA }, { s := sB }⟩ ops).A.log.take m) ∧
      (ssrun ⟨{ s := sA }, { s := sB }⟩ ops).A.wr =
        bytesOf ((ssrun ⟨{ s := sA }, { s := sB }⟩ ops).A.log ++
          (ssrun ⟨{ s := sA }, { s := sB }⟩ ops).A.s.k.snd_queue.map content) := by
  obtain ⟨cops, h⟩ := C01_session_sim sA sB hA hbB hm ops
  obtain ⟨m, hm'⟩ := C01_sim_core hA hB hsn h hL
  exact ⟨m, hm', h.w.wr_eq h.a⟩

/-- **`WriteBuffers` is all or nothing, and a session only sends whole messages.**  For one session
with `mss > 0` initially, after ANY sequence of session operations: the bytes accepted so far are
exactly the payload bytes of `log ++ snd_queue`, in order, and every segment numbered or queued has
`frg = 0` — `WriteBuffers` cuts every slice into chunks of at most `mss` bytes, so `Send` never fragments
and never refuses with −2, in message mode as well as in stream mode. -/
theorem C01_session_single_fragment (s0 : Sess) (hf : Fresh s0.k) (hm : 0 < s0.k.mss.toNat) (ops : List SessOp) :
    (sessRun { s := s0 } ops).wr =
        bytesOf ((sessRun { s := s0 } ops).log ++ (sessRun { s := s0 } ops).s.k.snd_queue.map content) ∧
      ∀ c ∈ (sessRun { s := s0 } ops).log ++ (sessRun { s := s0 } ops).s.k.snd_queue.map content, c.1 = 0 := by
  obtain ⟨cops, hc, hk, _, hw⟩ := sessRun_run ops { s := s0 } { k := s0.k } ⟨rfl, rfl, rfl, rfl⟩
  have hz := run_whole cops { k := s0.k } hc (by simp [pendFrgs, hf.sq])
  unfold pendFrgs at hz
  rw [← hk.log, ← hk.k] at hz
  exact ⟨(hw ⟨fresh_invAcc s0.k hf hm, rfl⟩).wr_eq hk, fun c hc => hz c.1 (List.mem_map.mpr ⟨c, hc, rfl⟩)⟩

/-- the chunking loop of `WriteBuffers` on one slice: when it does not panic it is a sequence of
core `Send`s each carrying at most `mss` bytes -/
theorem C01_sendChunks_le_mss (k : Kcp) (b : Bytes) (hp : (Sess.sendChunks (b.length + 1) k b).panic = false) :
    ∃ ops : List Op, (∀ o ∈ ops, ∃ c : Bytes, o = .send c ∧ c.length ≤ k.mss.toNat) ∧
      (run { k := k } ops).k = (Sess.sendChunks (b.length + 1) k b).k ∧ (run { k := k } ops).dead = false := by
  obtain ⟨ops, h1, h2, h3, _⟩ := sendChunks_run (b.length + 1) b { k := k } rfl hp
  exact ⟨ops, h1, h3, h2.dead⟩

/-- `WriteBuffers` reports the total length of the slices when admitted and 0 when it blocks -/
theorem C01_session_write_all_or_nothing (s : Sess) (v : List Bytes) (now : U32)
    (hp : (s.writeBuffers v now).panic = false) :
    (s.writeBuffers v now).n = if (s.writeBuffers v now).blocked then 0 else v.flatten.length := by
  have hsum : (v.map List.length).sum = v.flatten.length := by simp [List.length_flatten]
  by_cases h : s.k.waitSnd < s.k.snd_wnd.toNat
  · by_cases hp1 : (Sess.sendAll v s.k).panic = true
    · rw [wb_panic s v now h hp1] at hp; cases hp
    · have hp1' : (Sess.sendAll v s.k).panic = false := by simpa using hp1
      by_cases hc : wbFlush s v
      · rw [wb_flush s v now h hp1' hc]; exact hsum
      · rw [wb_noflush s v now h hp1' hc]; exact hsum
  · rw [wb_blocked s v now h]; rfl

/-- `A` (congestion control off) writes the slices `[1,2,3]` and `[4,5]` (two messages in one datagram,
flushed at once: write delay off), the network delivers the datagram twice, `B` reads with a 2-byte
buffer, a 1-byte buffer and large ones; `A` retransmits, the retransmission is delivered too -/
def C01_exSess : List SSOp :=
  [.a (.noDelay 1 10 2 1), .a (.write [[1, 2, 3], [4, 5]] 0), .dlv 0 5, .dlv 0 6, .b (.read 2), .b (.read 1), .b (.read 100),
   .b (.read 100), .b (.update 20), .a (.update 300), .dlv 1 301, .b (.read 100)]

set_option maxRecDepth 1000000 in
example : Fresh (Sess.new 7).k ∧ (Sess.new 7).bufptr = [] ∧ 0 < (Sess.new 7).k.mss.toNat ∧
    (ssrun ⟨{ s := Sess.new 7 }, { s := Sess.new 7 }⟩ C01_exSess).A.wr = [1, 2, 3, 4, 5] ∧
    (ssrun ⟨{ s := Sess.new 7 }, { s := Sess.new 7 }⟩ C01_exSess).A.log = [(0, [1, 2, 3]), (0, [4, 5])] ∧
    (ssrun ⟨{ s := Sess.new 7 }, { s := Sess.new 7 }⟩ C01_exSess).B.rd = [1, 2, 3, 4, 5] ∧
    (ssrun ⟨{ s := Sess.new 7 }, { s := Sess.new 7 }⟩ C01_exSess).A.dead = false ∧
    (ssrun ⟨{ s := Sess.new 7 }, { s := Sess.new 7 }⟩ C01_exSess).B.dead = false := by
  refine ⟨⟨by decide, by decide, by decide, by decide, by decide⟩, by decide, by decide, by decide, by decide,
    by decide, by decide, by decide⟩

end KcpVerif.Props
