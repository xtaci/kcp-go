import KcpVerif.Model.Kcp
import KcpVerif.Lemmas.KcpShape
import KcpVerif.Lemmas.KcpLiveFlush
import KcpVerif.Lemmas.KcpLive
import KcpVerif.Lemmas.KcpState
import KcpVerif.Lemmas.KcpTimer
import KcpVerif.Lemmas.KcpMove
import KcpVerif.Lemmas.KcpHead
import KcpVerif.Lemmas.SysProgress
import KcpVerif.Lemmas.SysDrainCex
import KcpVerif.Lemmas.SysDrainConsStep
import KcpVerif.Lemmas.SysWedgeRepaired
import KcpVerif.Lemmas.SysDrainReturn
import KcpVerif.Lemmas.SysDrainPush
import KcpVerif.Lemmas.SysDrainHeadAck
import KcpVerif.Lemmas.SysDrainOrder
import KcpVerif.Lemmas.SysDrainAll
import KcpVerif.Lemmas.SysDrainFair
/-! C02 — eventual delivery: a healed network always drains the backlog. -/
namespace KcpVerif.Props
open KcpVerif.Gen KcpVerif.Kcp KcpVerif.Live

/-- cumulative acknowledgement: `una` removes leading segments only, so the send buffer only ever shrinks
from the front and what remains is a suffix (which ones: `C02_una_cumulative`) -/
theorem C02_parseUna_suffix (k : Kcp) (una : U32) :
    (parseUna k una).1.snd_buf = k.snd_buf.drop (parseUna k una).2 ∧ (parseUna k una).2 ≤ k.snd_buf.length :=
  ⟨rfl, unaCount_le una k.snd_buf⟩

/-! `cause`, `segAfter`, `emit` (Lemmas/KcpXmit.lean) are the decision cascade, the segment left in
`snd_buf` and the write into the output buffer; `xmitOne_eq` proves `xmitOne` equal to them. -/

/-- For an un-acked segment that was sent before (`xmit > 0`) and whose timer is due, for EVERY
fast-resend setting, `fastack` value and admission count: the segment is sent (by the fast, early or
timeout branch; `f := emit …`, `xmit` incremented); if it is the timeout branch, `fastack` is reset
to 0 and the loss is counted; and the sentinel `fastack = 0xFFFFFFFF` always ends in the timeout
branch — it never suppresses the retransmission. -/
theorem C02_fastack_cleared (now resent : U32) (wnd : BitVec 16) (una : U32) (newSegs : Nat) (st : XmitSt) (s : Seg)
    (ha : s.acked = false) (hx : s.xmit ≠ 0) (hd : itimediff now s.resendts ≥ 0) :
    ∃ s', (xmitOne now resent wnd una newSegs st s).done = st.done ++ [s'] ∧
      (xmitOne now resent wnd una newSegs st s).f = emit st.f s' ∧
      s'.xmit = s.xmit + 1 ∧ s'.ts = now ∧ s'.sn = s.sn ∧ s'.data = s.data ∧ s'.acked = false ∧
      (cause now resent newSegs s = .fast ∨ cause now resent newSegs s = .early ∨ cause now resent newSegs s = .timeout) ∧
      (cause now resent newSegs s = .timeout →
        s'.fastack = 0 ∧ (xmitOne now resent wnd una newSegs st s).lost = st.lost + 1) ∧
      (s.fastack = 0xFFFFFFFF#32 → cause now resent newSegs s = .timeout) := by
  have hc := cause_due now resent newSegs s hx hd
  have hne : cause now resent newSegs s ≠ .none := by
    rcases hc with h | h | h <;> rw [h] <;> exact fun c => by cases c
  refine ⟨segAfter now resent wnd una newSegs st.f.k.rx_rto st.f.k.nodelay s, xmitOne_done _ _ _ _ _ _ _, ?_, ?_, ?_,
    (segAfter_id _ _ _ _ _ _ _ _).1, (segAfter_id _ _ _ _ _ _ _ _).2.1, ?_, hc, ?_, fun hf => cause_sentinel _ _ _ _ hx hf hd⟩
  · rw [xmitOne_f, if_neg (fun h => h.elim (by simp [ha]) hne)]
  · rw [segAfter_sent _ _ _ _ _ _ _ _ ha hne]
    rcases hc with h | h | h <;> rw [h] <;> rfl
  · rw [segAfter_sent _ _ _ _ _ _ _ _ ha hne]; rfl
  · rw [segAfter_acked, ha]
  · intro h
    constructor
    · rw [segAfter_sent _ _ _ _ _ _ _ _ ha hne, h]; rfl
    · rw [xmitOne_eq, if_neg (by simp [ha])]
      simp only [h, ↓reduceIte]

/-- non-vacuity: a segment carrying the sentinel whose timer is due -/
example : ∃ s : Seg, s.acked = false ∧ s.xmit ≠ 0 ∧ itimediff 1000 s.resendts ≥ 0 ∧ s.fastack = 0xFFFFFFFF#32 :=
  ⟨{ xmit := 2, resendts := 900, fastack := 0xFFFFFFFF#32 }, by decide⟩

/-- A full flush at `now`, any state.  Let `buf` be the send buffer after admission (phase 4; it
extends the old `snd_buf`).
1. the new `snd_buf` is `buf` with `segAfter` applied to every element (same order, same `sn`s);
2. every un-acked segment sent before whose timer is due takes a sending branch — whatever the
   windows (`rmt_wnd`, `cwnd`, `snd_wnd`) are — and, if the flush does not panic, its bytes
   (header with the new `ts`/`wnd`/`una`, then data) are in the output;
3. after the flush no un-acked segment is due: `itimediff now s'.resendts < 0`, provided
   `0 < s'.rto < 2^31` (explicit side condition: beyond it the signed comparison is meaningless); a timer
   at `now + rto` is read back as exactly `rto` ahead — that the segments transmitted by this flush have
   their timer there is `C02_retx_armed_sent_timer`;
4. the returned interval is at most `interval` and at most every positive `resendts − now`. -/
theorem C02_retx_armed (k : Kcp) (now : U32) :
    (∃ t, (flAd k now).buf = k.snd_buf ++ t) ∧
    (flush k true now).k.snd_buf =
      (flAd k now).buf.map (segAfter now (resentOf k) (wndUnused k) k.rcv_nxt (flAd k now).count k.rx_rto k.nodelay) ∧
    (∀ s ∈ (flAd k now).buf, s.acked = false → s.xmit ≠ 0 → itimediff now s.resendts ≥ 0 →
      cause now (resentOf k) (flAd k now).count s ≠ .none ∧
      ((flush k true now).panic = false → ∃ pre post, (flush k true now).outs.flatten =
        pre ++ segBytes (segAfter now (resentOf k) (wndUnused k) k.rcv_nxt (flAd k now).count k.rx_rto k.nodelay s) ++ post)) ∧
    (∀ s' ∈ (flush k true now).k.snd_buf, s'.acked = false → 0 < s'.rto.toNat → s'.rto.toNat < 2 ^ 31 →
      itimediff now s'.resendts < 0 ∧
      (s'.ts = now ∧ s'.xmit ≠ 0 → s'.resendts = now + s'.rto → itimediff s'.resendts now = s'.rto.toNat)) ∧
    (flush k true now).interval ≤ k.interval ∧
    (∀ s' ∈ (flush k true now).k.snd_buf, s'.acked = false → itimediff s'.resendts now > 0 →
      ((flush k true now).interval.toNat : Int) ≤ itimediff s'.resendts now) := by
  have hX := flX_spec k now
  have hdone := hX.done.trans (List.nil_append _)
  have hnear := hX.next_near
  have hsent := hX.sent
  have hle := hX.next_le
  obtain ⟨_, _, st, ss, cw, inc, hk⟩ := flush_frame k true now
  have hsb : (flush k true now).k.snd_buf = (flX k true now).done := by rw [hk]
  have hiv : (flush k true now).interval = (flX k true now).next := by rw [flush_eq]
  refine ⟨flAd_prefix k now, by rw [hsb, hdone], ?_, ?_, by rw [hiv]; exact hle, ?_⟩
  · intro s hs ha hx hd
    have hne : cause now (resentOf k) (flAd k now).count s ≠ .none := by
      rcases cause_due now (resentOf k) (flAd k now).count s hx hd with h | h | h <;> rw [h] <;>
        exact fun c => by cases c
    refine ⟨hne, fun hp => ?_⟩
    rw [flush_panic] at hp
    obtain ⟨pre, post, hw⟩ := hsent s hs ha hne ((grow_F5 k true now).noPanic hp)
    obtain ⟨t, ht⟩ := (grow_F5 k true now).liveWire
    exact ⟨pre, post ++ t, by rw [flush_wire, ht, hw]; simp⟩
  · intro s' hs' ha' h0 h31
    rw [hsb, hdone] at hs'
    obtain ⟨s, hs, rfl⟩ := List.mem_map.mp hs'
    rw [segAfter_acked] at ha'
    by_cases hc : cause now (resentOf k) (flAd k now).count s = .none
    · rw [segAfter_none _ _ _ _ _ _ _ _ (Or.inr hc)]
      refine ⟨(cause_none _ _ _ _ hc).2, fun _ hr => ?_⟩
      rw [segAfter_none _ _ _ _ _ _ _ _ (Or.inr hc)] at h0 h31
      rw [hr]; exact (Serial.itimediff_add_self now s.rto h31).1
    · have hr : (segAfter now (resentOf k) (wndUnused k) k.rcv_nxt (flAd k now).count k.rx_rto k.nodelay s).resendts =
          now + (segAfter now (resentOf k) (wndUnused k) k.rcv_nxt (flAd k now).count k.rx_rto k.nodelay s).rto := by
        rw [segAfter_sent _ _ _ _ _ _ _ _ ha' hc]
        exact retimed_resendts _ _ _ _ _ hc
      rw [hr]
      have := Serial.itimediff_add_self now _ h31
      exact ⟨by rw [this.2]; omega, fun _ _ => this.1⟩
  · intro s' hs' ha' hd
    rw [hsb, hdone] at hs'
    obtain ⟨s, hs, rfl⟩ := List.mem_map.mp hs'
    rw [segAfter_acked] at ha'
    have h := hnear s hs ha' hd
    rw [Serial.ofInt_itimediff, BitVec.le_def] at h
    rw [hiv, ← Serial.itimediff_pos_toNat _ _ hd]
    exact Int.ofNat_le.mpr h

/-- a segment transmitted by a full flush has its timer exactly `rto` ahead (the part of 3 that
identifies "transmitted by this flush" through `segAfter`) -/
theorem C02_retx_armed_sent_timer (k : Kcp) (now : U32) (s : Seg) (hs : s ∈ (flAd k now).buf) (ha : s.acked = false)
    (hc : cause now (resentOf k) (flAd k now).count s ≠ .none) :
    (segAfter now (resentOf k) (wndUnused k) k.rcv_nxt (flAd k now).count k.rx_rto k.nodelay s) ∈ (flush k true now).k.snd_buf ∧
    (segAfter now (resentOf k) (wndUnused k) k.rcv_nxt (flAd k now).count k.rx_rto k.nodelay s).resendts =
      now + (segAfter now (resentOf k) (wndUnused k) k.rcv_nxt (flAd k now).count k.rx_rto k.nodelay s).rto := by
  refine ⟨?_, ?_⟩
  · rw [(C02_retx_armed k now).2.1]; exact List.mem_map.mpr ⟨s, hs, rfl⟩
  · rw [segAfter_sent _ _ _ _ _ _ _ _ ha hc]; exact retimed_resendts _ _ _ _ _ hc

/-! `inStep` (Lemmas/KcpInput.lean) is the body of one iteration of `inputLoop` for a segment that passed
the header checks (`inputLoop_succ` proves the unrolling by `rfl`). -/

/-- Every PUSH whose `sn` is below the top of the receive window — new, duplicate, or already
delivered (`sn < rcv_nxt`) — is put on the ack list, whatever else the step does; a PUSH at or
above the top is not (and leaves the whole receive side alone); no later step of the same `Input`
removes an entry. -/
theorem C02_ack_owed_listed (regular : Bool) (conv : U32) (cmd frg : BitVec 8) (wnd : BitVec 16) (ts sn una : U32)
    (payload : Bytes) (st : InLoop) (hc : cmd.toNat = IKCP_CMD_PUSH) :
    (itimediff sn (st.k.rcv_nxt + st.k.rcv_wnd) < 0 →
      (inStep regular conv cmd frg wnd ts sn una payload st).k.acklist = st.k.acklist ++ [⟨sn, ts⟩]) ∧
    (¬ itimediff sn (st.k.rcv_nxt + st.k.rcv_wnd) < 0 →
      (inStep regular conv cmd frg wnd ts sn una payload st).k.acklist = st.k.acklist) ∧
    (∀ fuel data, ∃ t, (inputLoop regular fuel data st).k.acklist = st.k.acklist ++ t) := by
  refine ⟨inStep_push_acklist regular conv cmd frg wnd ts sn una payload st hc, fun hw => ?_,
    fun fuel data => inputLoop_acklist_mono regular fuel data st⟩
  rw [inStep_push_refused regular conv cmd frg wnd ts sn una payload st hc hw]
  exact (inPre_rcv regular wnd una st.k).2.2.1

/-- the ack list is always flushed, even with an empty list nothing remains -/
theorem C02_flush_empties_acklist (k : Kcp) (full : Bool) (now : U32) : (flush k full now).k.acklist = [] := by
  obtain ⟨_, _, _, _, _, _, h⟩ := flush_frame k full now
  rw [h]

/-- A flush of either type with a non-empty ack list empties it and — the jitter filter always
keeps the LAST entry (`total − 1 = i`) — writes at least the ACK header of the last entry, carrying
`una = rcv_nxt` and the current `wnd_unused`; unless the flush panics (buffer too small, C05/C10)
that header is in the output. -/
theorem C02_ack_owed_sent (k : Kcp) (full : Bool) (now : U32) (a : Ack) (hl : k.acklist.getLast? = some a) :
    (flush k full now).k.acklist = [] ∧
    ((flush k full now).panic = false → ∃ pre post, (flush k full now).outs.flatten =
      pre ++ encodeHdr k.conv (BitVec.ofNat 8 IKCP_CMD_ACK) 0 (wndUnused k) a.ts a.sn k.rcv_nxt 0 ++ post) := by
  refine ⟨C02_flush_empties_acklist k full now, fun hp => ?_⟩
  rw [flush_panic] at hp
  have hg := grow_ack_end k full now
  have hl' := ackFlush_last (wndUnused k) k.rcv_nxt k.acklist.length k.acklist 0
    ⟨{ k := k }, { cmd := BitVec.ofNat 8 IKCP_CMD_ACK }⟩ a hl (by omega) (hg.noPanic hp)
  obtain ⟨pre, hw⟩ := hl'.1
  obtain ⟨post, hpost⟩ := hg.keeps hw
  exact ⟨pre, post, by rw [flush_wire, hpost]⟩

/-- non-vacuity: two owed acks, the first one stale (`sn 4 < rcv_nxt 6`) and dropped by the filter,
the last one always sent, with `una = rcv_nxt = 6` -/
example : (flush { Kcp.new 1 with acklist := [⟨4, 8⟩, ⟨5, 9⟩], rcv_nxt := 6 } false 0).outs =
    [encodeHdr 1 82 0 32 9 5 6 0] := by decide

/-- `Input` itself flushes as soon as the ack list reaches `mtu / 24` entries (and at once with
`ackNoDelay`): after every `Input` that parsed its datagram to the end (`ret = 0`, no panic) the
list is empty or shorter than `mtu / 24`. -/
theorem C02_ack_owed_input_flushes (k : Kcp) (data : Bytes) (regular ackNoDelay : Bool) (now : U32)
    (hr : (input k data regular ackNoDelay now).ret = 0) (hp : (input k data regular ackNoDelay now).panic = false) :
    (input k data regular ackNoDelay now).k.acklist = [] ∨
    ((input k data regular ackNoDelay now).k.acklist.length <
        ((input k data regular ackNoDelay now).k.mtu / u32 IKCP_OVERHEAD).toNat ∧
      (ackNoDelay = true → False)) := by
  refine Kcp.input_cases (S := fun _ => True) (Q := fun r => r.ret = 0 → r.panic = false →
      r.k.acklist = [] ∨ (r.k.acklist.length < (r.k.mtu / u32 IKCP_OVERHEAD).toNat ∧ (ackNoDelay = true → False)))
    trivial (fun _ hr => by have : (-1 : Int) = 0 := hr; omega) (fun _ _ _ _ hp => nomatch hp)
    (fun st _ _ hlt hr => by have : st.ret = 0 := hr; omega) (fun st _ _ _ _ _ => ?_) hr hp
  -- a flush of either type empties the list; without one the two thresholds of `Input` were not reached
  exact Kcp.inputFin_cases
    (Q := fun r => r.k.acklist = [] ∨ (r.k.acklist.length < (r.k.mtu / u32 IKCP_OVERHEAD).toNat ∧ (ackNoDelay = true → False)))
    (fun _ => Or.inl (C02_flush_empties_acklist _ _ _)) (fun _ _ => Or.inl (C02_flush_empties_acklist _ _ _))
    (fun _ h5 h6 => (Nat.eq_zero_or_pos _).imp List.eq_nil_of_length_eq_zero fun hpos => ⟨h5, fun hnd => h6 ⟨hnd, hpos⟩⟩)

/-- The theorem that excludes the acked-head wedge.  After `shrink_buf` — in any state — the head
of `snd_buf`, if any, is NOT flagged `acked` and `snd_una` is its `sn` (`snd_nxt` for an empty
buffer): `HeadLive` (Lemmas/KcpLive.lean).  `shrink_buf` runs in the prologue of every step of the
parse loop and again after `parse_ack`, so EVERY valid segment of ANY command leaves the
connection `HeadLive`, the rest of the parse loop keeps it, and so does the remainder of `Input`
up to its closing flush (`inK2`: RTT sample and cwnd update).  An individually acknowledged segment
can therefore never again be the head that pins `snd_una`. -/
theorem C02_acked_head_leaves (k : Kcp) :
    (shrinkBuf k).snd_buf = k.snd_buf.dropWhile (fun s => s.acked) ∧
    (match (shrinkBuf k).snd_buf with
      | s :: _ => s.acked = false ∧ (shrinkBuf k).snd_una = s.sn
      | [] => (shrinkBuf k).snd_una = k.snd_nxt) ∧
    (∀ regular conv cmd frg wnd ts sn una payload (st : InLoop),
      HeadLive (inStep regular conv cmd frg wnd ts sn una payload st).k) ∧
    (∀ regular fuel data (st : InLoop), HeadLive st.k → HeadLive (inputLoop regular fuel data st).k) ∧
    (∀ data regular now, HeadLive k → HeadLive (inK2 k data regular now)) := by
  refine ⟨by rw [shrinkBuf_eq, dropAcked_eq_dropWhile], ?_, inStep_headLive, inputLoop_headLive, ?_⟩
  · have hl := shrinkBuf_headLive k
    unfold HeadLive at hl
    have hn : (shrinkBuf k).snd_nxt = k.snd_nxt := by rw [shrinkBuf_eq]
    rw [hn] at hl
    exact hl
  · intro data regular now h
    have hst : HeadLive (inSt k data regular).k := inputLoop_headLive regular _ data { k := k } h
    unfold inK2
    obtain ⟨_, _, e⟩ := cwndOnAck_shape
      (if (inSt k data regular).updRtt ∧ regular ∧ itimediff now (inSt k data regular).latest ≥ 0
       then updateAck (inSt k data regular).k (now - (inSt k data regular).latest) else (inSt k data regular).k)
      k.snd_una
    rw [e]
    refine HeadLive.of_same rfl rfl rfl ?_
    split
    · obtain ⟨_, _, _, e⟩ := updateAck_shape (inSt k data regular).k (now - (inSt k data regular).latest)
      rw [e]
      exact HeadLive.of_same rfl rfl rfl hst
    · exact hst

/-- `parse_una(u)` + `shrink_buf`: the leading segments with `itimediff u sn > 0` are removed (the
first remaining one is not covered by `u`), then `shrink_buf` also removes every leading segment that
was already acknowledged individually (`acked`, the lazy-delete flag of `parse_ack`); the new head
(if any) is therefore NOT flagged and `snd_una` becomes its `sn`, or `snd_nxt` for an empty buffer.
Every valid incoming segment of ANY command does this first (`inPre` is the common prologue of
`inStep`), so a lost final ACK is repaired by the `una` of any later segment.  Individually
acknowledged heads are covered too: an ACK for the head's own `sn` (inside `[snd_una, snd_nxt)`)
followed by the second `shrink_buf` of the ACK path removes the head — and every flagged segment
behind it — at once, and `snd_una` advances to the next live segment (or `snd_nxt`).  Flagged
segments stay in `snd_buf` only while an un-acknowledged segment is in front of them. -/
theorem C02_una_cumulative (k : Kcp) (u : U32) :
    (shrinkBuf (parseUna k u).1).snd_buf =
      (k.snd_buf.dropWhile (fun s => decide (itimediff u s.sn > 0))).dropWhile (fun s => s.acked) ∧
    (match k.snd_buf.dropWhile (fun s => decide (itimediff u s.sn > 0)) with
      | s :: _ => ¬ itimediff u s.sn > 0
      | [] => True) ∧
    (match (shrinkBuf (parseUna k u).1).snd_buf with
      | s :: _ => s.acked = false ∧ (shrinkBuf (parseUna k u).1).snd_una = s.sn
      | [] => (shrinkBuf (parseUna k u).1).snd_una = k.snd_nxt) ∧
    (∀ regular wnd, (inPre regular wnd u k).snd_buf =
      (k.snd_buf.dropWhile (fun s => decide (itimediff u s.sn > 0))).dropWhile (fun s => s.acked)) ∧
    (∀ s rest, k.snd_buf = s :: rest → itimediff s.sn k.snd_una ≥ 0 → itimediff s.sn k.snd_nxt < 0 →
      (shrinkBuf (parseAck k s.sn)).snd_buf = rest.dropWhile (fun s => s.acked) ∧
      (match rest.dropWhile (fun s => s.acked) with
        | t :: _ => t.acked = false ∧ (shrinkBuf (parseAck k s.sn)).snd_una = t.sn
        | [] => (shrinkBuf (parseAck k s.sn)).snd_una = k.snd_nxt)) := by
  have hb : (shrinkBuf (parseUna k u).1).snd_buf =
      (k.snd_buf.dropWhile (fun s => decide (itimediff u s.sn > 0))).dropWhile (fun s => s.acked) := by
    rw [shrinkBuf_eq]; unfold parseUna; simp only []
    rw [drop_unaCount, dropAcked_eq_dropWhile]
  refine ⟨hb, ?_, ?_, ?_, ?_⟩
  · cases hd : k.snd_buf.dropWhile (fun s => decide (itimediff u s.sn > 0)) with
    | nil => trivial
    | cons s rest =>
      have := List.head?_dropWhile_not (fun s : Seg => decide (itimediff u s.sn > 0)) k.snd_buf
      rw [hd] at this
      simpa using this
  · exact (C02_acked_head_leaves (parseUna k u).1).2.1
  · intro regular wnd
    unfold inPre
    rw [shrinkBuf_eq]; unfold parseUna; simp only []
    rw [drop_unaCount, dropAcked_eq_dropWhile]
    cases regular <;> rfl
  · intro s rest hk h1 h2
    have hsb : (shrinkBuf (parseAck k s.sn)).snd_buf = rest.dropWhile (fun s => s.acked) := by
      rw [parseAck_head_leaves k s rest hk h1 h2, dropAcked_eq_dropWhile]
    refine ⟨hsb, ?_⟩
    have hl := (C02_acked_head_leaves (parseAck k s.sn)).2.1
    rw [hsb] at hl
    obtain ⟨b, hf⟩ := Kcp.parseAck_shape k s.sn
    rw [show (parseAck k s.sn).snd_nxt = k.snd_nxt by rw [hf]] at hl
    exact hl

/-- `HeadLive` as an invariant of reachable states: together with "no queued segment carries the
acked flag" (`LiveInv`, Lemmas/KcpHead.lean) it is kept by every operation with arbitrary arguments —
also by the flushes (admission into an empty buffer makes a fresh, un-flagged segment numbered
`snd_nxt = snd_una` the head; phase 5 never touches `acked` or `sn`) — and holds in every state
reachable from `NewKCP`: `snd_una` is ALWAYS the `sn` of a live head (or `snd_nxt`). -/
theorem C02_acked_head_leaves_reachable (conv : U32) (ops : List Op) (k : Kcp) (op : Op) :
    (LiveInv k → LiveInv (step k op)) ∧ LiveInv (Kcp.new conv) ∧ HeadLive (run (Kcp.new conv) ops) :=
  ⟨step_live k op, new_live conv, (run_live _ ops (new_live conv)).1⟩

/-- the wedge scenario: sn 5 (head) and sn 6 are outstanding, sn 6 was acknowledged first (flagged,
kept behind the live head); the reordered ACK for sn 5 now removes BOTH and `snd_una` reaches
`snd_nxt = 7` (with a `shrink_buf` that keeps flagged heads, as kcp-go had before 475aa81, segment 6 stays at the head and pins `snd_una`) -/
example :
    (shrinkBuf (parseAck
      { Kcp.new 1 with snd_una := 5, snd_nxt := 7, snd_buf := [{ sn := 5 }, { sn := 6, acked := true }] } 5)).snd_buf = [] ∧
    (shrinkBuf (parseAck
      { Kcp.new 1 with snd_una := 5, snd_nxt := 7, snd_buf := [{ sn := 5 }, { sn := 6, acked := true }] } 5)).snd_una = 7 := by
  decide

/-- The move loop runs to a fixpoint: afterwards the head of `rcv_buf`, if it is the next expected
segment, is blocked only by a full delivery queue.  `MoveFix` (Lemmas/KcpLive.lean) is that
statement about a connection; it is established by `moveReady`, hence by every successful `Recv`
and by every `parse_data` that stores or sees a duplicate, and kept by the remaining branches. -/
theorem C02_heap_top_advances (wnd : Nat) (buf q : List Seg) (nxt : U32) (k : Kcp) (s : Seg) (buflen : Nat) :
    (∀ h rest, (moveLoop wnd buf q nxt).buf = h :: rest → h.sn = (moveLoop wnd buf q nxt).nxt →
        (moveLoop wnd buf q nxt).q.length ≥ wnd) ∧
    MoveFix (moveReady k) ∧
    (MoveFix k → MoveFix (parseData k s).k) ∧
    ((parseData k s).rep = false → (parseData k s).panic = false → MoveFix (parseData k s).k) ∧
    (MoveFix k → MoveFix (recv k buflen).k) ∧
    ((recv k buflen).n ≥ 0 → MoveFix (recv k buflen).k) := by
  exact ⟨moveLoop_fix wnd buf q nxt, moveReady_fix k, parseData_fix k s,
    parseData_cases (P := fun r => r.rep = false → r.panic = false → MoveFix r.k) k s (fun _ hr => nomatch hr)
      (fun _ _ _ _ => moveReady_fix _) (fun _ _ _ _ hp => nomatch hp) (fun _ _ _ _ _ => moveReady_fix _),
    recv_fix k buflen, recv_ok_fix k buflen⟩

/-- non-vacuity: a blocked head (queue full) and a moved head -/
example : (moveLoop 1 [{ sn := 5 }, { sn := 6 }] [] 5).buf = [{ sn := 6 }] ∧
    (moveLoop 1 [{ sn := 5 }, { sn := 6 }] [] 5).nxt = 6 := by decide

/-- The dead-link flag `state` is written by phase 5 but read by nothing: changing it in the input
state changes nothing but `state` in the result of `flush`, `input`, `recv`, `send`, the setters,
`update`, and nothing at all in what they return or send. -/
theorem C02_dead_link_only_flag (k : Kcp) (v : U32) :
    (∀ full now,
      (∃ w, (flush { k with state := v } full now).k = { (flush k full now).k with state := w }) ∧
      (flush { k with state := v } full now).outs = (flush k full now).outs ∧
      (flush { k with state := v } full now).interval = (flush k full now).interval ∧
      (flush { k with state := v } full now).panic = (flush k full now).panic) ∧
    (∀ data regular ackNoDelay now,
      (∃ w, (input { k with state := v } data regular ackNoDelay now).k =
        { (input k data regular ackNoDelay now).k with state := w }) ∧
      (input { k with state := v } data regular ackNoDelay now).ret = (input k data regular ackNoDelay now).ret ∧
      (input { k with state := v } data regular ackNoDelay now).outs = (input k data regular ackNoDelay now).outs ∧
      (input { k with state := v } data regular ackNoDelay now).panic = (input k data regular ackNoDelay now).panic) ∧
    (∀ buflen,
      (∃ w, (recv { k with state := v } buflen).k = { (recv k buflen).k with state := w }) ∧
      (recv { k with state := v } buflen).n = (recv k buflen).n ∧
      (recv { k with state := v } buflen).data = (recv k buflen).data) ∧
    (∀ buffer,
      (∃ w, (send { k with state := v } buffer).k = { (send k buffer).k with state := w }) ∧
      (send { k with state := v } buffer).ret = (send k buffer).ret ∧
      (send { k with state := v } buffer).panic = (send k buffer).panic) ∧
    (∀ now,
      (∃ w, (update { k with state := v } now).k = { (update k now).k with state := w }) ∧
      (update { k with state := v } now).outs = (update k now).outs ∧
      (update { k with state := v } now).interval = (update k now).interval ∧
      (update { k with state := v } now).panic = (update k now).panic) ∧
    peekSize { k with state := v } = peekSize k ∧ waitSnd { k with state := v } = waitSnd k ∧
    (∀ now, check { k with state := v } now = check k now) ∧
    (∀ m, (∃ w, (setMtu { k with state := v } m).1 = { (setMtu k m).1 with state := w }) ∧
      (setMtu { k with state := v } m).2 = (setMtu k m).2) ∧
    (∀ s r, ∃ w, wndSize { k with state := v } s r = { wndSize k s r with state := w }) ∧
    (∀ nd iv rs nc, ∃ w, noDelay { k with state := v } nd iv rs nc = { noDelay k nd iv rs nc with state := w }) := by
  have h : KSE { k with state := v } k := ⟨v, rfl⟩
  exact ⟨fun full now => flush_se h full now, fun data regular ackNoDelay now => input_se h data regular ackNoDelay now,
    fun n => recv_se h n, fun b => send_se h b, fun now => update_se h now, (misc_se h).1, (misc_se h).2.1, (misc_se h).2.2.1,
    (misc_se h).2.2.2.1, (misc_se h).2.2.2.2.1, (misc_se h).2.2.2.2.2⟩

/-- non-vacuity: `state` IS written — a segment at the dead-link threshold sets it -/
example : (emit { k := Kcp.new 1 } { xmit := 20 }).k.state = 0xFFFFFFFF#32 := by decide

/-! `Op`, `step`, `run` (Lemmas/KcpLiveOps.lean): the state-changing operations with all their arguments.
`TimerInv k` (Lemmas/KcpTimer.lean): every segment of `snd_buf` that has been sent (`xmit ≠ 0`) has
`resendts = ts + rto`, and no segment of `snd_queue` has been sent. -/

/-- `TimerInv` is kept by every operation with arbitrary arguments (any datagram bytes, any clock
value, any buffer) and holds in every state reachable from `NewKCP`. -/
theorem C02_retx_timer_invariant (conv : U32) (ops : List Op) (k : Kcp) (op : Op) :
    (TimerInv k → TimerInv (step k op)) ∧ TimerInv (Kcp.new conv) ∧ TimerInv (run (Kcp.new conv) ops) :=
  ⟨step_timer k op, new_timer conv, run_timer _ ops (new_timer conv)⟩

/-- Hence in every reachable state, for every sent segment of `snd_buf` — un-acked or not — and every
clock value `now` that is not before the segment's last transmission: the time left on its timer
is `rto − (now − ts)`, so `itimediff resendts now ≤ rto`: a retransmission is never further away
than the segment's own rto.  Side condition explicit: `rto < 2^31`. -/
theorem C02_retx_armed_reachable (conv : U32) (ops : List Op) (s : Seg) (now : U32)
    (hs : s ∈ (run (Kcp.new conv) ops).snd_buf) (hx : s.xmit ≠ 0) (hr : s.rto.toNat < 2 ^ 31)
    (hn : itimediff now s.ts ≥ 0) :
    s.resendts = s.ts + s.rto ∧
    itimediff s.resendts now = (s.rto.toNat : Int) - itimediff now s.ts ∧
    itimediff s.resendts now ≤ s.rto.toNat := by
  have ht := (run_timer _ ops (new_timer conv)).1 s hs hx
  exact ⟨ht, timer_remaining s now ht hr hn⟩

/-- non-vacuity: Send, a first flush (cwnd is still 0: nothing admitted), a second full flush at 200:
the segment is in `snd_buf` with `xmit = 1`, `ts = 200`, `rto = 200`, `resendts = 400` -/
example : (run (Kcp.new 1) [.send [1, 2, 3], .flush true 100, .flush true 200]).snd_buf.map
    (fun s => (s.xmit, s.ts, s.rto, s.resendts)) = [(1, 200, 200, 400)] := by decide

/-- The `retx_armed` statement in full for reachable states: after a full flush at `now` of any state
reachable from `NewKCP`, every un-acked segment of `snd_buf` that has been sent has
`0 < itimediff resendts now ≤ rto` — its retransmission is pending and at most one `rto` away.
Explicit side conditions: `0 < rto < 2^31`; the clock value `now` is not before the segment's last
transmission time `ts` in the signed 32-bit comparison (no other assumption on clock values in
the history); `xmit` has not wrapped to 0. -/
theorem C02_retx_armed_after_flush (conv : U32) (ops : List Op) (now : U32) (s' : Seg)
    (hs : s' ∈ (flush (run (Kcp.new conv) ops) true now).k.snd_buf) (ha : s'.acked = false) (hx : s'.xmit ≠ 0)
    (h0 : 0 < s'.rto.toNat) (hr : s'.rto.toNat < 2 ^ 31) (hn : itimediff now s'.ts ≥ 0) :
    0 < itimediff s'.resendts now ∧ itimediff s'.resendts now ≤ s'.rto.toNat := by
  have hreach : (flush (run (Kcp.new conv) ops) true now).k = run (Kcp.new conv) (ops ++ [.flush true now]) := by
    rw [run_append]; rfl
  have ht : s'.resendts = s'.ts + s'.rto := by
    rw [hreach] at hs
    exact (run_timer _ _ (new_timer conv)).1 s' hs hx
  have hnd := ((C02_retx_armed (run (Kcp.new conv) ops) now).2.2.2.1 s' hs ha h0 hr).1
  have hrem := timer_remaining s' now ht hr hn
  have hanti := timer_antisymm s' now ht hr hn
  refine ⟨?_, hrem.2⟩
  omega

/-- `MoveFix` — a deliverable head of `rcv_buf` is blocked only by a full delivery queue — is kept by
every operation with arbitrary arguments and holds in every state reachable from `NewKCP`.  The
only hypothesis (`wndOk`, `True` for all other operations): `WndSize` does not ENLARGE `rcv_wnd`
while segments are buffered (settings before traffic); after such a call the head stays in
`rcv_buf` until the next `Recv`/`parse_data` runs the move loop. -/
theorem C02_heap_top_reachable (conv : U32) (ops : List Op) (k : Kcp) (op : Op) :
    (MoveFix k → wndOk k op → MoveFix (step k op)) ∧
    (runWndOk (Kcp.new conv) ops → MoveFix (run (Kcp.new conv) ops)) :=
  ⟨step_fix k op, run_fix _ ops (new_fix conv)⟩

/-- the hypothesis is needed: enlarging the window with a deliverable head in `rcv_buf` -/
example : ¬ MoveFix (wndSize
    { Kcp.new 1 with rcv_wnd := 1, rcv_nxt := 1, rcv_queue := [{ sn := 0 }], rcv_buf := [{ sn := 1 }] } 0 2) := by
  intro h
  have := h { sn := 1 } [] rfl rfl
  revert this
  decide

/-! Tier 2: the closed two-endpoint system (Model/Sys.lean) -/

/-- **Bounded acknowledgement latency.**  On the closed system with loss-free in-order links of
one-way delay `D`, started with the settings `CleanInit` (in particular `2 D + interval_B <
rx_minrto_A`), in every reachable state every segment still waiting in A's send buffer was
transmitted at a time `t` with `now ≤ t + 2 D + interval_B`: its PUSH is still on the way, or its ACK
is listed at B with B's next flush at most `D + interval_B` after `t`, or a frame whose `una` covers
it is on the way back.  Time cannot pass `t + 2 D + interval_B` with the segment un-acknowledged
(a `tick` is refused while a datagram or a flush is due), so the send buffer drains with this delay.
Same run hypotheses as `C18_clean_path_partial` (`RunOk`: room in B's receive queue, fewer than 2^31
segments). -/
theorem C02_clean_ack_latency (A B : Kcp) (D t0 : Nat) (ndA ndB : Bool) (hinit : SysC.CleanInit A B D)
    (evs : List Sys.Ev) (hrun : SysC.RunOk A.snd_nxt (Sys.init A B D t0 ndA ndB) evs) :
    ∀ x ∈ (Sys.run (Sys.init A B D t0 ndA ndB) evs).A.snd_buf, x.acked = false ∧
      ∃ t, x.ts = Sys.clk t ∧ t ≤ (Sys.run (Sys.init A B D t0 ndA ndB) evs).now ∧
        (Sys.run (Sys.init A B D t0 ndA ndB) evs).now ≤ t + 2 * D + B.interval.toNat := by
  obtain ⟨gab, gba, hc, _⟩ := SysC.clean_run (p := SysC.parOf A B) evs _ [] []
    (SysC.clean_init A B D t0 ndA ndB hinit) hrun
  intro x hx
  obtain ⟨t, ht, htn, hage⟩ := hc.age_nat (hc.aseg x hx)
  rw [SysC.run_D evs _] at hage
  exact ⟨(hc.aseg x hx).1, t, ht, htn, hage⟩

/-- non-vacuity of the latency theorem: the run of `Props/C18.lean` (nodelay, `D = 3`), stopped while
the segment is un-acknowledged at `now = 1003 ≤ 1000 + 2·3 + 10` -/
example : SysC.RunOk (Kcp.noDelay (Kcp.new 7) 1 10 2 1).snd_nxt
    (Sys.init (Kcp.noDelay (Kcp.new 7) 1 10 2 1) (Kcp.noDelay (Kcp.new 7) 1 10 2 1) 3 1000)
    [.send [1, 2, 3], .flushA, .tick, .tick, .tick] := by decide +kernel
example : ((Sys.run (Sys.init (Kcp.noDelay (Kcp.new 7) 1 10 2 1) (Kcp.noDelay (Kcp.new 7) 1 10 2 1) 3 1000)
    [.send [1, 2, 3], .flushA, .tick, .tick, .tick]).A.snd_buf.map (fun x => (x.sn, x.ts, x.acked))) =
    [(0, 1000, false)] := by decide +kernel

/-- the Tier-1 invariants of one endpoint, as far as the drain theorem needs them -/
def C02_EndpointOk (k : Kcp) : Prop := Total.InvK k ∧ TimerInv k ∧ 0 < k.rcv_wnd.toNat ∧ k.rcv_wnd.toNat < 2 ^ 31

/-- **the drain theorem (full statement, not proved)**: from ANY pair of endpoint states that satisfy
the per-endpoint invariants (arbitrary history of losses, duplicates and reorderings before `T0`),
with ANY datagrams still in flight (arbitrary bytes — whatever the past left behind), if from now on
the links are the fair FIFO links of `Sys` (every datagram delivered after `D`) and the reader keeps
reading, then for every number of writer bytes already queued there is a schedule-independent bound
after which `A.WaitSnd = 0`: every sufficiently long run whose clock has advanced far enough has an
empty send side.  (`fragments ≤ rcv_wnd` — finding O1 — is needed in message mode.) -/
def C02_drain_full : Prop :=
  ∀ (s : Sys.State), C02_EndpointOk s.A → C02_EndpointOk s.B → s.A.conv = s.B.conv →
    (∀ x ∈ s.A.snd_queue ++ s.A.snd_buf, x.frg.toNat < s.B.rcv_wnd.toNat) →
    ∃ T : Nat, ∀ evs : List Sys.Ev, (∀ ev ∈ evs, ∀ b, ev ≠ .send b) →
      s.now + T ≤ (Sys.run s evs).now → (Sys.run s evs).A.waitSnd = 0

/-! Clean history.  `SysC.Keep` (Lemmas/SysCleanInv.lean): no event modifies a segment in A's send buffer or brings an old
sequence number back.  Together with the latency bound of the invariant this gives a progress step
with an explicit bound and, once the writer has stopped, the drain.  These theorems are about a clean
history; arbitrary endpoint states with arbitrary datagrams in flight (retransmissions, duplicate and
out-of-order arrivals, zero-window probing) are the subject of the sections after them.

The clock passes through every value (`SysC.run_reaches`); the latency bound applies at the first
moment past `2 D + interval_B`, and `SysC.Keep` carries the conclusion to every later state. -/

open KcpVerif.Sys KcpVerif.SysC in
/-- **Progress step (clean history).**  Let `s₁` be any state reached from a clean start
(`CleanInit`, `WinInit`) and `s₂` any state reached from `s₁` by any events (more `Send`s included)
after more than `2 D + interval_B` milliseconds.  Then `snd_una` of A at `s₂` is at
or beyond `snd_nxt` of A at `s₁`: every segment that had been admitted at `s₁` — the segment `snd_una`
in particular — has been delivered to B and its acknowledgement has reached A.  Only run hypothesis:
`NoWrap` (fewer than 2^31 segments queued over the run). -/
theorem C02_progress_step_clean (A B : Kcp) (D t0 : Nat) (ndA ndB : Bool) (hinit : CleanInit A B D) (hwin : WinInit A B)
    (evs1 evs2 : List Ev) (hrun : RunNoWrap A.snd_nxt (Sys.init A B D t0 ndA ndB) (evs1 ++ evs2))
    (ht1 : (Sys.run (Sys.init A B D t0 ndA ndB) evs1).now + 2 * D + B.interval.toNat <
      (Sys.run (Sys.init A B D t0 ndA ndB) (evs1 ++ evs2)).now) :
    o A.snd_nxt (Sys.run (Sys.init A B D t0 ndA ndB) evs1).A.snd_nxt ≤
      o A.snd_nxt (Sys.run (Sys.init A B D t0 ndA ndB) (evs1 ++ evs2)).A.snd_una := by
  obtain ⟨hr1, hr2⟩ := runNoWrap_split A.snd_nxt evs1 evs2 _ hrun
  obtain ⟨gab, gba, hc, hw, _⟩ := cleanwin_run (p := parOf A B) evs1 _ [] []
    (clean_init A B D t0 ndA ndB hinit) (win_init A B D t0 ndA ndB hinit hwin) hr1
  rw [SysC.run_append] at ht1 ⊢
  exact (clean_progress_ever hc hw evs2 hr2 (by rw [run_D]; exact ht1)).2

open KcpVerif.Sys KcpVerif.SysC in
/-- **Drain (clean history).**  If moreover the send queue of A is empty at `s₁` and the writer does
not `Send` afterwards, then at `s₂` nothing is waiting to be sent or acknowledged:
`A.WaitSnd = 0`, `2 D + interval_B` after the writer stopped. -/
theorem C02_drain_clean (A B : Kcp) (D t0 : Nat) (ndA ndB : Bool) (hinit : CleanInit A B D) (hwin : WinInit A B)
    (evs1 evs2 : List Ev) (hrun : RunNoWrap A.snd_nxt (Sys.init A B D t0 ndA ndB) (evs1 ++ evs2))
    (hq : (Sys.run (Sys.init A B D t0 ndA ndB) evs1).A.snd_queue = []) (hns : ∀ ev ∈ evs2, isSend ev = false)
    (ht1 : (Sys.run (Sys.init A B D t0 ndA ndB) evs1).now + 2 * D + B.interval.toNat <
      (Sys.run (Sys.init A B D t0 ndA ndB) (evs1 ++ evs2)).now) :
    (Sys.run (Sys.init A B D t0 ndA ndB) (evs1 ++ evs2)).A.waitSnd = 0 := by
  obtain ⟨hr1, hr2⟩ := runNoWrap_split A.snd_nxt evs1 evs2 _ hrun
  obtain ⟨gab, gba, hc, hw, _⟩ := cleanwin_run (p := parOf A B) evs1 _ [] []
    (clean_init A B D t0 ndA ndB hinit) (win_init A B D t0 ndA ndB hinit hwin) hr1
  rw [SysC.run_append] at ht1 ⊢
  exact clean_drain_ever hc hw evs2 hr2 hq hns (by rw [run_D]; exact ht1)

open KcpVerif.Sys KcpVerif.SysC in
/-- `C02_progress_step_clean` for a state `s₂` reached less than 2^31 ms after `s₁` (`ht2`, which the proof does not use) -/
theorem C02_clean_progress_step (A B : Kcp) (D t0 : Nat) (ndA ndB : Bool) (hinit : CleanInit A B D) (hwin : WinInit A B)
    (evs1 evs2 : List Ev) (hrun : RunNoWrap A.snd_nxt (Sys.init A B D t0 ndA ndB) (evs1 ++ evs2))
    (ht1 : (Sys.run (Sys.init A B D t0 ndA ndB) evs1).now + 2 * D + B.interval.toNat <
      (Sys.run (Sys.init A B D t0 ndA ndB) (evs1 ++ evs2)).now)
    (ht2 : (Sys.run (Sys.init A B D t0 ndA ndB) (evs1 ++ evs2)).now <
      (Sys.run (Sys.init A B D t0 ndA ndB) evs1).now + 2 ^ 31) :
    o A.snd_nxt (Sys.run (Sys.init A B D t0 ndA ndB) evs1).A.snd_nxt ≤
      o A.snd_nxt (Sys.run (Sys.init A B D t0 ndA ndB) (evs1 ++ evs2)).A.snd_una :=
  C02_progress_step_clean A B D t0 ndA ndB hinit hwin evs1 evs2 hrun ht1

open KcpVerif.Sys KcpVerif.SysC in
/-- `C02_drain_clean` with the same bound `ht2` among the hypotheses -/
theorem C02_clean_drain (A B : Kcp) (D t0 : Nat) (ndA ndB : Bool) (hinit : CleanInit A B D) (hwin : WinInit A B)
    (evs1 evs2 : List Ev) (hrun : RunNoWrap A.snd_nxt (Sys.init A B D t0 ndA ndB) (evs1 ++ evs2))
    (hq : (Sys.run (Sys.init A B D t0 ndA ndB) evs1).A.snd_queue = []) (hns : ∀ ev ∈ evs2, isSend ev = false)
    (ht1 : (Sys.run (Sys.init A B D t0 ndA ndB) evs1).now + 2 * D + B.interval.toNat <
      (Sys.run (Sys.init A B D t0 ndA ndB) (evs1 ++ evs2)).now)
    (ht2 : (Sys.run (Sys.init A B D t0 ndA ndB) (evs1 ++ evs2)).now <
      (Sys.run (Sys.init A B D t0 ndA ndB) evs1).now + 2 ^ 31) :
    (Sys.run (Sys.init A B D t0 ndA ndB) (evs1 ++ evs2)).A.waitSnd = 0 :=
  C02_drain_clean A B D t0 ndA ndB hinit hwin evs1 evs2 hrun hq hns ht1

/-- **the progress step from an arbitrary state (full statement, not proved)**: in `Sys`, from ANY
pair of endpoint states satisfying the per-endpoint invariants, with any datagrams in flight, the
segment `snd_una` of A is delivered and its acknowledgement reaches A within the time to its next
retransmission plus `2 D + interval_A + interval_B`: whenever the clock has advanced that far,
`snd_una` has moved -/
def C02_progress_step_full : Prop :=
  ∀ (s : Sys.State) (x : Seg), C02_EndpointOk s.A → C02_EndpointOk s.B → s.A.conv = s.B.conv →
    s.A.snd_buf.head? = some x → x.sn = s.A.snd_una → x.xmit ≠ 0 →
    ∀ evs : List Sys.Ev,
      s.now + (itimediff x.resendts (Sys.clk s.now)).toNat + 2 * s.D + s.A.interval.toNat + s.B.interval.toNat <
        (Sys.run s evs).now →
      (Sys.run s evs).A.snd_una ≠ s.A.snd_una

/-! non-vacuity of the two theorems: nodelay mode, `D = 3`, interval 10; 3 bytes are queued and flushed
at t = 1000 (`evs1`); `evs2` is the canonical schedule up to t = 1017 > 1000 + 2·3 + 10 -/

def c02A : Kcp := Kcp.noDelay (Kcp.new 7) 1 10 2 1
def c02Evs1 : List Sys.Ev := [.send [1, 2, 3], .flushA]
def c02Evs2 : List Sys.Ev :=
  [.tick, .tick, .tick, .dlvB, .read, .flushB, .tick, .tick, .tick, .dlvA, .tick, .tick, .tick, .tick, .flushA,
   .tick, .tick, .tick, .flushB, .tick, .tick, .tick, .tick]

example : SysC.CleanInit c02A c02A 3 ∧ SysC.WinInit c02A c02A := by decide +kernel
theorem c02Clean_run : SysC.RunNoWrap c02A.snd_nxt (Sys.init c02A c02A 3 1000) (c02Evs1 ++ c02Evs2) ∧
    ((Sys.run (Sys.init c02A c02A 3 1000) c02Evs1).now = 1000 ∧
    (Sys.run (Sys.init c02A c02A 3 1000) c02Evs1).A.snd_queue = [] ∧
    (Sys.run (Sys.init c02A c02A 3 1000) c02Evs1).A.snd_buf.length = 1 ∧
    (Sys.run (Sys.init c02A c02A 3 1000) (c02Evs1 ++ c02Evs2)).now = 1017 ∧
    (∀ ev ∈ c02Evs2, SysC.isSend ev = false)) := by decide +kernel

set_option maxRecDepth 100000 in
example : SysC.RunNoWrap c02A.snd_nxt (Sys.init c02A c02A 3 1000) (c02Evs1 ++ c02Evs2) := c02Clean_run.1
set_option maxRecDepth 100000 in
example : (Sys.run (Sys.init c02A c02A 3 1000) c02Evs1).now = 1000 ∧
    (Sys.run (Sys.init c02A c02A 3 1000) c02Evs1).A.snd_queue = [] ∧
    (Sys.run (Sys.init c02A c02A 3 1000) c02Evs1).A.snd_buf.length = 1 ∧
    (Sys.run (Sys.init c02A c02A 3 1000) (c02Evs1 ++ c02Evs2)).now = 1017 ∧
    (∀ ev ∈ c02Evs2, SysC.isSend ev = false) := c02Clean_run.2

/-! ### with a `shrink_buf` that keeps flagged heads the drain statement is false: the acked-head wedge

Finding W1 of DESIGN.md 13.3, reproduced on kcp-go before 475aa81 (`notes/C02_wedge_test.go.txt`).  There
`parse_ack` only FLAGGED a segment (`acked := true`), it left the send buffer when a later `una` passed it,
and `shrink_buf` put `snd_una` on the head of the buffer even if the head was flagged.  If B acknowledges a segment it
could not yet deliver (receive queue full: the ACK carries `una = sn` and `wnd = 0`), the only
carriers of the `una` that releases it are B's later frames — and when there is no later data, that is
the single window update sent after the reader drained the queue.  Lose it, and let a stale frame (a
reordered or duplicated earlier datagram with `wnd > 0`) disarm A's zero-window probe: both sides are
silent for ever, A's `WaitSnd` stays positive, and — when the flagged segments fill
`min(snd_wnd, rmt_wnd)` — nothing written afterwards is ever put on the wire.

Everything in this section is about that `Input` (`Old.input`, `Old.step`, `Old.run` of
Model/SysOld.lean: the transcription of `Input` / `shrink_buf` before 475aa81).  `SysC.wedgeState` is reached by the fault
history `wedge1 … wedge3` (one reordering, one loss; `rcv_wnd = 1`, `D = 0`). -/

theorem c02Wedge_eval : SysC.Stuck SysC.wedgeState ∧
    (SysC.wedgeState.A.snd_buf.map (fun x => (x.sn, x.acked)) = [(2, true)] ∧
      SysC.wedgeState.A.snd_buf.length = 1 ∧ SysC.wedgeState.A.snd_nxt = 3 ∧ SysC.wedgeState.got = [0, 1, 2]) ∧
    0 < SysC.wedgeState.A.interval.toNat ∧ 0 < SysC.wedgeState.B.interval.toNat := by
  decide +kernel

/-- the state after the fault history is stuck -/
theorem C02_wedge_stuck_prerepair : SysC.Stuck SysC.wedgeState := c02Wedge_eval.1

/-- **the wedge (pre-repair)**: from `wedgeState`, for EVERY continuation on the perfect network — any
schedule, any further `Send`s — A's send buffer still holds the flagged segment 2 (`WaitSnd ≥ 1`),
nothing is ever admitted (`snd_nxt = 3`), no datagram is in flight and the reader has received nothing
beyond the three bytes it already had -/
theorem C02_wedge_forever_prerepair (evs : List Sys.Ev) :
    (Old.run SysC.wedgeState evs).A.snd_buf.map (fun x => (x.sn, x.acked)) = [(2, true)] ∧
    1 ≤ (Old.run SysC.wedgeState evs).A.waitSnd ∧ (Old.run SysC.wedgeState evs).A.snd_nxt = 3 ∧
    (Old.run SysC.wedgeState evs).ab = [] ∧ (Old.run SysC.wedgeState evs).ba = [] ∧
    (Old.run SysC.wedgeState evs).got = [0, 1, 2] := by
  obtain ⟨h1, h2, h3, h4⟩ := SysC.stuck_run evs _ C02_wedge_stuck_prerepair
  have e := c02Wedge_eval.2.1
  refine ⟨by rw [h2]; exact e.1, ?_, by rw [h4]; exact e.2.2.1, h1.ab, h1.ba, by rw [h3]; exact e.2.2.2⟩
  unfold waitSnd
  rw [h2, e.2.1]
  exact Nat.le_add_right 1 _

/-- `C02_drain_full` with the pre-repair `Input` -/
def C02_drain_full_prerepair : Prop :=
  ∀ (s : Sys.State), C02_EndpointOk s.A → C02_EndpointOk s.B → s.A.conv = s.B.conv →
    (∀ x ∈ s.A.snd_queue ++ s.A.snd_buf, x.frg.toNat < s.B.rcv_wnd.toNat) →
    ∃ T : Nat, ∀ evs : List Sys.Ev, (∀ ev ∈ evs, ∀ b, ev ≠ .send b) →
      s.now + T ≤ (Old.run s evs).now → (Old.run s evs).A.waitSnd = 0

/-- its hypotheses hold in the wedge state … -/
theorem C02_wedge_endpoints_ok : C02_EndpointOk SysC.wedgeState.A ∧ C02_EndpointOk SysC.wedgeState.B ∧
    SysC.wedgeState.A.conv = SysC.wedgeState.B.conv ∧
    (∀ x ∈ SysC.wedgeState.A.snd_queue ++ SysC.wedgeState.A.snd_buf, x.frg.toNat < SysC.wedgeState.B.rcv_wnd.toNat) := by
  unfold C02_EndpointOk TimerInv SegTimer
  decide +kernel

/-- … so **the drain statement is false for that `Input`**: no bound `T` works, because the clock of
the stuck system runs on (`SysC.stuck_rounds_now`) while `WaitSnd` stays 1 -/
theorem C02_drain_refuted_prerepair : ¬ C02_drain_full_prerepair := by
  intro h
  obtain ⟨a, b, c, d⟩ := C02_wedge_endpoints_ok
  obtain ⟨T, hT⟩ := h SysC.wedgeState a b c d
  have hnow := SysC.stuck_rounds_now T SysC.wedgeState C02_wedge_stuck_prerepair c02Wedge_eval.2.2.1 c02Wedge_eval.2.2.2
  have := hT (SysC.stuckRounds T) (SysC.stuckRounds_nosend T) (by rw [hnow]; exact Nat.le_refl _)
  have := (C02_wedge_forever_prerepair (SysC.stuckRounds T)).2.1
  omega

open KcpVerif.SysC in
/-- **Consistency after ANY history.**  Two fresh cores with one conversation id (`ConsInit`), data
from A to B, any sequence of fair events and network faults (`NetEv`), fewer than 2^31 segments
(`NetNoWrap`).  In the state reached: nothing panicked; A's send buffer holds exactly the sequence
numbers `snd_una … snd_nxt − 1`; B's `rcv_nxt` is not beyond A's `snd_nxt`; and B HAS — delivered to
its queue, or waiting in its reorder buffer — every segment A has released (below `snd_una`), every
segment flagged `acked` in A's send buffer, and every entry of its own ack list.  So no fault pattern
makes A forget a segment B does not have, and no acknowledgement is ever sent for a segment that is
then dropped. -/
theorem C02_consistency_any_history (A B : Kcp) (D t0 : Nat) (ndA ndB : Bool) (hinit : ConsInit A B)
    (evs : List NetEv) (hrun : NetNoWrap A.snd_nxt (Sys.init A B D t0 ndA ndB) evs) :
    (netRun (Sys.init A B D t0 ndA ndB) evs).panic = false ∧
    Contig A.snd_nxt (netRun (Sys.init A B D t0 ndA ndB) evs).A ∧
    o A.snd_nxt (netRun (Sys.init A B D t0 ndA ndB) evs).B.rcv_nxt ≤ o A.snd_nxt (netRun (Sys.init A B D t0 ndA ndB) evs).A.snd_nxt ∧
    (∀ sn, o A.snd_nxt sn < o A.snd_nxt (netRun (Sys.init A B D t0 ndA ndB) evs).A.snd_una →
      Has A.snd_nxt (netRun (Sys.init A B D t0 ndA ndB) evs).B.rcv_nxt (netRun (Sys.init A B D t0 ndA ndB) evs).B.rcv_buf sn) ∧
    (∀ x ∈ (netRun (Sys.init A B D t0 ndA ndB) evs).A.snd_buf, x.acked = true →
      Has A.snd_nxt (netRun (Sys.init A B D t0 ndA ndB) evs).B.rcv_nxt (netRun (Sys.init A B D t0 ndA ndB) evs).B.rcv_buf x.sn) ∧
    (∀ a ∈ (netRun (Sys.init A B D t0 ndA ndB) evs).B.acklist,
      Has A.snd_nxt (netRun (Sys.init A B D t0 ndA ndB) evs).B.rcv_nxt (netRun (Sys.init A B D t0 ndA ndB) evs).B.rcv_buf a.sn) := by
  obtain ⟨gab, gba, hc⟩ := cons_netRun (p := ⟨A.snd_nxt, A.conv, 0, 0, 0⟩) evs _ [] []
    (cons_init A B D t0 ndA ndB hinit) hrun
  exact ⟨hc.np, hc.acon, hc.bub, hc.arel, hc.ahas, hc.back⟩

/-- non-vacuity: the fault history of the wedge, replayed on `Sys.step` as a `NetEv` history
(the held-back datagram is removed by one `shuffle` and re-inserted by another, the window update is
dropped by a third) -/
example : SysC.ConsInit SysC.wedgeA SysC.wedgeB := by decide +kernel

set_option maxRecDepth 200000 in
/-- **The model of the current code does not wedge on that history.**  The fault history of
`C02_wedge_forever_prerepair`, event for event, on `Sys.step` (`SysC.rep1 … repState`): when
A inputs `[ACK 2, una 2, wnd 0]` the flagged segment 2 is at the head of the send buffer and leaves it
at once (`snd_una = 3`, send buffer empty), so after the history `WaitSnd = 0` although the window
update was lost; and a byte written afterwards is admitted, delivered and acknowledged within 49 ms of
the canonical schedule. -/
theorem C02_wedge_repaired :
    SysC.rep2.A.snd_buf = [] ∧ SysC.rep2.A.snd_una = 3 ∧
    SysC.repState.A.waitSnd = 0 ∧ SysC.repState.got = [0, 1, 2] ∧ SysC.repState.ba = [] ∧
    SysC.repAfter.A.waitSnd = 0 ∧ SysC.repAfter.got = [0, 1, 2, 3] ∧ SysC.repAfter.now = 1049 := by
  decide +kernel

/-! Each of the following theorems is about ANY state satisfying `SysC.Cons` (which `C02_consistency_any_history` establishes
after any fault history) and the fair system from there on. -/

open KcpVerif.Sys KcpVerif.SysC in
/-- **Phase D — the cumulative acknowledgement arrives.**  When A inputs the head datagram of the link
B → A, its `snd_una` ends at or beyond the `una` of every frame in it. -/
theorem C02_phase_una_arrives {p : Par} {s : State} {t0 : Nat} {frs : List Wire.Frm} {gab grest : GLink}
    (h : Cons p s gab ((t0, frs) :: grest)) (hnw : NoWrap p.base s) (hdue : t0 ≤ s.now) :
    ∀ fr ∈ frs, o p.base fr.una ≤ o p.base (Sys.step s .dlvA).A.snd_una := phase_D h hnw hdue

open KcpVerif.Sys KcpVerif.SysC in
/-- **Phase C — an owed acknowledgement is flushed.**  B's scheduled flush with a non-empty ack list
puts a datagram on the link that arrives `D` later and contains a frame with `una = rcv_nxt`. -/
theorem C02_phase_ack_flushed {p : Par} {s : State} {gab gba : GLink} (h : Cons p s gab gba) (hack : s.B.acklist ≠ []) :
    ∃ fr0 frs0 pre post, (Sys.step s .flushB).ba = s.ba ++ pre ++ [⟨s.now + s.D, Wire.encFrames frs0⟩] ++ post ∧
      fr0 ∈ frs0 ∧ fr0.una = s.B.rcv_nxt := phase_C h hack

open KcpVerif.Sys KcpVerif.SysC in
/-- **The return path, composed, with its bound.**  In any consistent state in which B has passed the
sequence number with offset `U`, owes an acknowledgement and has its next flush at or before `T`
(`now ≤ T`), in EVERY later state of the fair system whose clock is past `T + D` A's `snd_una` is
beyond `U` — whatever datagrams (genuine, stale, duplicated) are still in flight in both directions,
whatever A and B send and receive in between, whether the acknowledgement leaves with the scheduled
flush or with an ACK-only flush at the end of an `Input`. -/
theorem C02_phase_return {p : Par} {s : State} {gab gba : GLink} (h : Cons p s gab gba) (U T : Nat)
    (hB : U < o p.base s.B.rcv_nxt) (hack : s.B.acklist ≠ []) (hnf : s.nfB ≤ T) (hnow : s.now ≤ T)
    (evs : List Ev) (hnw : RunNoWrap p.base s evs) (ht : T + s.D < (Sys.run s evs).now) :
    U < o p.base (Sys.run s evs).A.snd_una :=
  ret_done U T evs s gab gba h (Or.inr (Or.inl ⟨⟨hB, hack⟩, hnf, hnow⟩)) hnw ht

open KcpVerif.Sys KcpVerif.SysC in
/-- **Phase A — the retransmission is emitted.**  In any consistent state, a FULL flush of A at a time
when the timer of an un-acknowledged segment of its send buffer is due (or the segment has never been
sent) puts a datagram on the link that arrives `D` later and contains the PUSH of that segment: no
window, no counter and no other segment can prevent it. -/
theorem C02_phase_retx_emitted {p : Par} {s : State} {gab gba : GLink} (h : Cons p s gab gba) (x : Seg)
    (hx : x ∈ s.A.snd_buf) (hna : x.acked = false) (hdue : x.xmit = 0 ∨ itimediff (clk s.now) x.resendts ≥ 0) :
    ∃ fr0 frs0 pre post, (Sys.step s .flushA).ab = s.ab ++ pre ++ [⟨s.now + s.D, Wire.encFrames frs0⟩] ++ post ∧
      fr0 ∈ frs0 ∧ fr0.cmd.toNat = IKCP_CMD_PUSH ∧ fr0.sn = x.sn := phase_A h x hx hna hdue

open KcpVerif.Sys KcpVerif.SysC in
/-- **The request and the way back composed: a retransmission whose ACK was lost.**  In any consistent state in
which a PUSH of a segment B has already delivered is on its way to B, arriving by `T2`, and B flushes at
least every `I` ms (`Tm`): B re-acknowledges it (it is inside the window whatever the window is), the
ACK leaves with B's next flush or with the ACK-only flush of that `Input`, and in EVERY later state of
the fair system whose clock is past `T2 + I + D` A's `snd_una` is beyond `U` (any offset below B's
`rcv_nxt`): A has released everything B had delivered.  Run hypothesis `RunSmall`: fewer than 2^30
segments, receive window below 2^30. -/
theorem C02_phase_lost_ack {p : Par} {s : State} {gab gba : GLink} (h : Cons p s gab gba) (U T2 I : Nat) (ht : Tm I s)
    (hpush : PushOld p.base U T2 s) (evs : List Ev) (hsm : RunSmall p.base s evs)
    (hnow : T2 + I + s.D < (Sys.run s evs).now) :
    U < o p.base (Sys.run s evs).A.snd_una :=
  ret2_done U T2 I evs s gab gba h ht (Or.inr hpush.pushed) hsm hnow

/-! non-vacuity of the hypotheses of `C02_phase_return`: after `Send`, A's flush and B's `Input` (`D = 0`)
the state is consistent (by `cons_netRun`), B has passed offset 0, owes an ACK, and flushes by t = 1010 -/

instance netNoWrapDec (base : U32) : (s : Sys.State) → (evs : List SysC.NetEv) → Decidable (SysC.NetNoWrap base s evs)
  | s, [] => by unfold SysC.NetNoWrap; infer_instance
  | s, ev :: rest => by
    unfold SysC.NetNoWrap
    have := netNoWrapDec base (SysC.netStep s ev) rest
    infer_instance

def c02RetEvs : List SysC.NetEv := [.fair (.send [0]), .fair .flushA, .fair .dlvB]

example : (∃ gab gba, SysC.Cons ⟨SysC.wedgeA.snd_nxt, SysC.wedgeA.conv, 0, 0, 0⟩
      (SysC.netRun (Sys.init SysC.wedgeA SysC.wedgeB 0 1000) c02RetEvs) gab gba) ∧
    (SysC.netRun (Sys.init SysC.wedgeA SysC.wedgeB 0 1000) c02RetEvs).B.acklist ≠ [] ∧
    0 < SysC.o SysC.wedgeA.snd_nxt (SysC.netRun (Sys.init SysC.wedgeA SysC.wedgeB 0 1000) c02RetEvs).B.rcv_nxt ∧
    (SysC.netRun (Sys.init SysC.wedgeA SysC.wedgeB 0 1000) c02RetEvs).nfB ≤ 1010 ∧
    (SysC.netRun (Sys.init SysC.wedgeA SysC.wedgeB 0 1000) c02RetEvs).now ≤ 1010 :=
  ⟨SysC.cons_netRun c02RetEvs _ [] [] (SysC.cons_init _ _ 0 1000 false false (by decide +kernel)) (by decide +kernel),
   by decide +kernel, by decide +kernel, by decide +kernel, by decide +kernel⟩

open KcpVerif.Sys KcpVerif.SysC in
/-- **The progress step for a head segment whose ACK was lost — all phases, with the bound.**  Any
consistent state (`Cons`, after any fault history), A's head live (`LiveInv`), B flushing at least every
`IB` ms (`Tm`), A every `IA` ms.  The head of A's send buffer has offset `U`, was sent before, its timer
is at `R`, B has already delivered it (`P1`; `T1 ≥ R + IA` bounds A's next flush, e.g.
`T1 = max(R, now) + IA`).  Then in EVERY later state of the fair system whose clock is past
`T1 + D + IB + D`, A's `snd_una` is beyond `U`: the segment was retransmitted by A's first flush at or
after `R` (earlier if a fast retransmission fired), re-acknowledged by B, and released — whatever
datagrams were in flight, whatever else both sides did in between.  This is
`resendts − now + interval_A + 2 D + interval_B` of the full statement.  `RunSmall`: fewer than 2^30
segments, receive window below 2^30. -/
theorem C02_progress_step_lost_ack {p : Par} {s : State} {gab gba : GLink} (h : Cons p s gab gba) (hl : Live.LiveInv s.A)
    (U R T1 IA IB : Nat) (hT : R + IA ≤ T1 ∧ T1 < R + 2 ^ 31) (ht : Tm IB s) (h1 : P1 p U R T1 IA s)
    (evs : List Ev) (hsm : RunSmall p.base s evs) (hnow : T1 + s.D + IB + s.D < (Sys.run s evs).now) :
    U < o p.base (Sys.run s evs).A.snd_una :=
  retG_done h hl U R T1 IA IB hT ht h1.toH.toG evs (runSmall_runP U evs s gab gba h h1.rb hsm) hnow

/-! An individual ACK for the HEAD of the send buffer releases it (`shrink_buf` pops flagged heads), so the frame that
lets `snd_una` pass `U` is any frame with `una` beyond `U` or an ACK for `U` itself (`SysC.Rel`), and B
owes one as soon as its ack list holds an entry for `U` — whether or not it could move the segment to
its delivery queue (the jitter filter keeps entries at or beyond `rcv_nxt`).  Hence the queue-full case needs no
detour over `Recv` and WINS for the head. -/

open KcpVerif.Sys KcpVerif.SysC in
/-- **`C02_progress_step` for the head segment.**  Any consistent state (`Cons`: after any fault
history), A's head live (`LiveInv`), B flushing at least every `IB` ms (`Tm`), A every `IA` ms.  The head
of A's send buffer has offset `U`, was sent before, its timer is at `R`; B is not behind it
(`U ≤ rcv_nxt` — B has delivered everything below A's head; it need NOT have the segment `U`, its queue
may be full when the segment arrives); `T1 ≥ R + IA` bounds A's next flush (`P1H`).  Then in EVERY later
state of the fair system whose clock is past `T1 + D + IB + D`, A's `snd_una` is beyond `U`:
retransmitted by the first flush at or after `R`, accepted or re-acknowledged by B (the ACK entry for
`U` is listed even if the delivery queue is full), the releasing frame flushed within `IB`, input by A
within `D`.  Run hypothesis `RunSmallH`: fewer than 2^30 segments, `1 ≤ rcv_wnd < 2^30`. -/
theorem C02_progress_step_head {p : Par} {s : State} {gab gba : GLink} (h : Cons p s gab gba) (hl : Live.LiveInv s.A)
    (U R T1 IA IB : Nat) (hT : R + IA ≤ T1 ∧ T1 < R + 2 ^ 31) (ht : Tm IB s) (h1 : P1H p U R T1 IA s)
    (evs : List Ev) (hsm : RunSmallH p.base s evs) (hnow : T1 + s.D + IB + s.D < (Sys.run s evs).now) :
    U < o p.base (Sys.run s evs).A.snd_una :=
  retH3_done h hl U R T1 IA IB hT ht h1 evs hsm hnow

open KcpVerif.Sys KcpVerif.SysC in
/-- **Phase D, general**: a frame that releases `U` (`una` beyond `U`, or an ACK for the head `U`) input by
A moves `snd_una` beyond `U`. -/
theorem C02_phase_release_arrives {p : Par} {s : State} {t0 : Nat} {frs : List Wire.Frm} {gab grest : GLink}
    (h : Cons p s gab ((t0, frs) :: grest)) (hnw : NoWrap p.base s) (hdue : t0 ≤ s.now) (U : Nat)
    (hU : U ≤ o p.base s.A.snd_una) (hrel : ∃ fr ∈ frs, Rel p.base U fr) :
    U < o p.base (Sys.step s .dlvA).A.snd_una := phase_D_rel h hnw hdue U hU hrel

/-! `SysC.Side`: A's head live, B's reorder buffer sorted at or after `rcv_nxt`, the move loop at its fixpoint; it holds
together with `Cons` after ANY fault history from two fresh cores (`SysC.cons_side_netRun`). -/

open KcpVerif.Sys KcpVerif.SysC in
/-- **B is not behind A's head whenever its delivery queue is not full** — in particular at every
`tick` of the system with a fair reader (a `tick` is refused while something is readable).  From
`Cons.arel` (B has everything below `snd_una`), the order of the reorder buffer and the fixpoint of the
move loop. -/
theorem C02_receiver_not_behind {p : Par} {s : State} {gab gba : GLink} (h : Cons p s gab gba) (hs : Side p.base s)
    (hq : s.B.rcv_queue.length < s.B.rcv_wnd.toNat) :
    o p.base s.A.snd_una ≤ o p.base s.B.rcv_nxt := not_behind h hs.srt hs.fix hq

open KcpVerif.Sys KcpVerif.SysC in
/-- **`C02_progress_step`** — the head segment, arbitrary reachable state, fair network and fair reader
from now on.  Hypotheses: `Cons` and `Side` (both hold after ANY fault history, see above); B's delivery
queue is not full now (true at every `tick`); B flushes at least every `IB` ms (`Tm`), A every `IA` ms
with its next flush at or before `T1 ≥ R + IA` (e.g. `T1 = max(R, now) + IA`); the head `x` of A's send
buffer has been sent before and its timer is at `R`.  Conclusion: in EVERY later state of the fair
system whose clock is past `T1 + D + IB + D`, `snd_una` is beyond `x.sn` — the segment has been
retransmitted, accepted or re-acknowledged, and released.  Bound: `resendts − now + interval_A + 2 D +
interval_B` as in `C02_progress_step_full`.  Run hypothesis `RunSmallH` (fewer than 2^30 segments,
`1 ≤ rcv_wnd < 2^30`); data from A to B only. -/
theorem C02_progress_step {p : Par} {s : State} {gab gba : GLink} (h : Cons p s gab gba) (hs : Side p.base s)
    (hq : s.B.rcv_queue.length < s.B.rcv_wnd.toNat) (x : Seg) (rest : List Seg) (hb : s.A.snd_buf = x :: rest)
    (hxm : x.xmit ≠ 0) (R T1 IA IB : Nat) (hxr : x.resendts = clk R) (hT : R + IA ≤ T1 ∧ T1 < R + 2 ^ 31)
    (hiv : s.A.interval.toNat = IA) (hnf : s.nfA ≤ T1) (hnw : s.now ≤ T1) (ht : Tm IB s)
    (evs : List Ev) (hsm : RunSmallH p.base s evs) (hnow : T1 + s.D + IB + s.D < (Sys.run s evs).now) :
    o p.base x.sn < o p.base (Sys.run s evs).A.snd_una :=
  retH3_done h hs.live (o p.base x.sn) R T1 IA IB hT ht
    ⟨⟨x, rest, hb, rfl, hxm, hxr⟩, hiv, hnf, hnw, head_not_behind h hs hq hb⟩ evs hsm hnow

/-! non-vacuity of `C02_progress_step`: A sends one byte and flushes, the network loses the datagram
(`shuffle [] []`).  The state is consistent (`cons_side_netRun`), the head has `xmit = 1` and its timer at
t = 1200 (`rx_rto = 200`), A's next flush is at 1010 ≤ T1 = 1210, B flushes every 10 ms, its queue is
empty: every hypothesis holds with `R = 1200`, `IA = IB = 10`, `T1 = 1210`. -/

def c02LostPush : List SysC.NetEv := [.fair (.send [0]), .fair .flushA, .shuffle [] []]

example : (∃ gab gba, SysC.Cons ⟨SysC.wedgeA.snd_nxt, SysC.wedgeA.conv, 0, 0, 0⟩
      (SysC.netRun (Sys.init SysC.wedgeA SysC.wedgeB 0 1000) c02LostPush) gab gba ∧
      SysC.Side SysC.wedgeA.snd_nxt (SysC.netRun (Sys.init SysC.wedgeA SysC.wedgeB 0 1000) c02LostPush)) ∧
    (SysC.netRun (Sys.init SysC.wedgeA SysC.wedgeB 0 1000) c02LostPush).ab = [] ∧
    (SysC.netRun (Sys.init SysC.wedgeA SysC.wedgeB 0 1000) c02LostPush).A.snd_buf.map
      (fun x => (x.xmit, x.resendts)) = [(1, Sys.clk 1200)] ∧
    (SysC.netRun (Sys.init SysC.wedgeA SysC.wedgeB 0 1000) c02LostPush).A.interval.toNat = 10 ∧
    (SysC.netRun (Sys.init SysC.wedgeA SysC.wedgeB 0 1000) c02LostPush).nfA ≤ 1210 ∧
    (SysC.netRun (Sys.init SysC.wedgeA SysC.wedgeB 0 1000) c02LostPush).B.rcv_queue.length <
      (SysC.netRun (Sys.init SysC.wedgeA SysC.wedgeB 0 1000) c02LostPush).B.rcv_wnd.toNat ∧
    SysC.Tm 10 (SysC.netRun (Sys.init SysC.wedgeA SysC.wedgeB 0 1000) c02LostPush) :=
  ⟨SysC.cons_side_netRun c02LostPush _ [] [] (SysC.cons_init _ _ 0 1000 false false (by decide +kernel))
      (SysC.side_init _ _ 0 1000 false false (by decide +kernel)) (by decide +kernel),
   by decide +kernel, by decide +kernel, by decide +kernel, by decide +kernel, by decide +kernel, ⟨by decide +kernel, by decide +kernel⟩⟩

open KcpVerif.Sys KcpVerif.SysC in
/-- **`C02_progress_step` for EVERY head**: as `C02_progress_step`, but the head may also be a segment
that has never been sent (`xmit = 0`: admitted by an ACK-only flush) — the next FULL flush of A, at or
before `T1`, transmits it whatever the time (take `R = now`).  `P1G`, Lemmas/SysDrainHeadAck.lean. -/
theorem C02_progress_step_every_head {p : Par} {s : State} {gab gba : GLink} (h : Cons p s gab gba) (hs : Side p.base s)
    (hq : s.B.rcv_queue.length < s.B.rcv_wnd.toNat) (x : Seg) (rest : List Seg) (hb : s.A.snd_buf = x :: rest)
    (R T1 IA IB : Nat) (hx : x.xmit = 0 ∨ (x.xmit ≠ 0 ∧ x.resendts = clk R)) (hT : R + IA ≤ T1 ∧ T1 < R + 2 ^ 31)
    (hiv : s.A.interval.toNat = IA) (hnf : s.nfA ≤ T1) (hnw : s.now ≤ T1) (ht : Tm IB s)
    (evs : List Ev) (hsm : RunSmallH p.base s evs) (hnow : T1 + s.D + IB + s.D < (Sys.run s evs).now) :
    o p.base x.sn < o p.base (Sys.run s evs).A.snd_una :=
  retG3_done h hs.live (o p.base x.sn) R T1 IA IB hT ht
    ⟨⟨x, rest, hb, rfl, hx⟩, hiv, hnf, hnw, head_not_behind h hs hq hb⟩ evs hsm hnow

/-! The drain with an empty send queue (writer stopped).  The progress step is iterated: a stage starts at a clock tick (the scheduler ticks only when the reader
has nothing to read, so the receive queue is not full and B is not behind A's head — `SysC.QOk` is the
only thing asked of the reader), lasts `stageLen = Rmax + IA + D + IB + D + 1` ms, and releases the head.
Every numbered segment is acknowledged after `|snd_buf|` stages.  Run hypotheses, each a check on single
states (`SysC.DrainHyp`; Boolean form `SysC.runChk`): fewer than 2^30 segments and `1 ≤ rcv_wnd < 2^30`
(`Small`), the reader condition `QOk`, and `TmrOk Rmax`: the retransmission timer of the head is never
more than `Rmax` ms ahead of the clock — the place where the unbounded RTO backoff of a segment
(`rto += rx_rto` at every timeout, no cap in kcp-go) enters the bound.  What is NOT covered: a non-empty
send queue (the window/zero-window-probe chain: `C02_drain_general_partial`) and the derivation of
`TmrOk` from a bound on the number of earlier timeouts. -/

open KcpVerif.Sys KcpVerif.SysC in
/-- **drain, last segment**: one numbered segment outstanding, nothing queued, the writer has stopped —
after the progress-step bound `WaitSnd = 0`, for ever.  Any consistent state, no other run hypothesis
than `RunSmallH`. -/
theorem C02_drain_last {p : Par} {s : State} {gab gba : GLink} (h : Cons p s gab gba) (hs : Side p.base s)
    (hq : s.B.rcv_queue.length < s.B.rcv_wnd.toNat) (x : Seg) (hb : s.A.snd_buf = [x]) (hsq : s.A.snd_queue = [])
    (R T1 IA IB : Nat) (hx : x.xmit = 0 ∨ (x.xmit ≠ 0 ∧ x.resendts = clk R)) (hT : R + IA ≤ T1 ∧ T1 < R + 2 ^ 31)
    (hiv : s.A.interval.toNat = IA) (hnf : s.nfA ≤ T1) (hnw : s.now ≤ T1) (ht : Tm IB s)
    (evs : List Ev) (hns : ∀ ev ∈ evs, isSend ev = false) (hsm : RunSmallH p.base s evs)
    (hnow : T1 + s.D + IB + s.D < (Sys.run s evs).now) :
    (Sys.run s evs).A.waitSnd = 0 := by
  have hhl : s.A.snd_una = x.sn := (headLive_head hs.live.1 hb).2
  have hrb := head_not_behind h hs hq hb
  have hprog := retG3_done h hs.live (o p.base x.sn) R T1 IA IB hT ht
    ⟨⟨x, [], hb, rfl, hx⟩, hiv, hnf, hnw, hrb⟩ evs hsm hnow
  have hrn := runSmallH_noWrap p.base evs s hsm
  obtain ⟨i1, i2⟩ := idle_run evs s hsq hns
  obtain ⟨g1, g2, hc⟩ := cons_run evs s gab gba h hrn
  have hcon := hc.acon
  have h0 := h.acon.cons hb
  rw [hhl, List.length_nil] at h0
  have h1 := hcon.2
  rw [i2] at h1
  have hlen : (Sys.run s evs).A.snd_buf.length = 0 := by omega
  unfold waitSnd
  rw [i1, hlen]; rfl

open KcpVerif.Sys KcpVerif.SysC in
/-- **one stage of the drain**: from a consistent state whose receive queue is not full, whatever the
run does (the writer may go on writing), after `Rmax + IA + D + IB + D` ms the send buffer is one shorter
than it was, up to the segments numbered in the meantime. -/
theorem C02_drain_stage {p : Par} {IA IB Rmax : Nat} {s : State} (hi : Inv p IA IB s) (hR : Rmax + IA < 2 ^ 31)
    (hq : s.B.rcv_queue.length < s.B.rcv_wnd.toNat) (n : Nat) (hlen : s.A.snd_buf.length ≤ n + 1)
    (evs : List Ev) (hr : RunP (DrainHyp p Rmax IA) s evs)
    (hnow : s.now + Rmax + IA + s.D + IB + s.D < (Sys.run s evs).now) :
    (Sys.run s evs).A.snd_buf.length ≤ n + (o p.base (Sys.run s evs).A.snd_nxt - o p.base s.A.snd_nxt) :=
  drain_stage hi hR hq n hlen evs hr hnow

open KcpVerif.Sys KcpVerif.SysC in
/-- **`C02_drain`, send queue empty** (the induction): two fresh endpoints, ANY history `pre` of writes,
events and network faults (loss, duplication, reordering, delay — `netRun`); in the state `s` it leaves
the writer stops with nothing queued and the receive queue is not full.  From then on the links are fair
(no loss after `s`) and the reader is fair (`QOk`).  Then once the clock has advanced by
`|snd_buf| · (Rmax + IA + D + IB + D + 1)` ms, `WaitSnd = 0`, and whenever the receive queue is not full
the receiver has handed every numbered segment to the reader's queue (`rcv_nxt = snd_nxt`). -/
theorem C02_drain_partial (A B : Kcp) (D t0 : Nat) (ndA ndB : Bool) (hinit : ConsInit A B) (pre : List NetEv)
    (hpre : NetNoWrap A.snd_nxt (Sys.init A B D t0 ndA ndB) pre) (Rmax : Nat) (hR : Rmax + A.interval.toNat < 2 ^ 31)
    (hq : (netRun (Sys.init A B D t0 ndA ndB) pre).B.rcv_queue.length <
      (netRun (Sys.init A B D t0 ndA ndB) pre).B.rcv_wnd.toNat)
    (hsq : (netRun (Sys.init A B D t0 ndA ndB) pre).A.snd_queue = [])
    (evs : List Ev) (hns : ∀ ev ∈ evs, isSend ev = false)
    (hr : RunP (DrainHyp ⟨A.snd_nxt, A.conv, 0, 0, 0⟩ Rmax A.interval.toNat) (netRun (Sys.init A B D t0 ndA ndB) pre) evs)
    (hnow : (netRun (Sys.init A B D t0 ndA ndB) pre).now + (netRun (Sys.init A B D t0 ndA ndB) pre).A.snd_buf.length *
      stageLen Rmax A.interval.toNat B.interval.toNat (netRun (Sys.init A B D t0 ndA ndB) pre).D ≤
      (Sys.run (netRun (Sys.init A B D t0 ndA ndB) pre) evs).now) :
    (Sys.run (netRun (Sys.init A B D t0 ndA ndB) pre) evs).A.waitSnd = 0 ∧
    ((Sys.run (netRun (Sys.init A B D t0 ndA ndB) pre) evs).B.rcv_queue.length <
        (Sys.run (netRun (Sys.init A B D t0 ndA ndB) pre) evs).B.rcv_wnd.toNat →
      (Sys.run (netRun (Sys.init A B D t0 ndA ndB) pre) evs).B.rcv_nxt =
        (Sys.run (netRun (Sys.init A B D t0 ndA ndB) pre) evs).A.snd_nxt) := by
  have hi := inv_netRun pre _ (inv_init A B D t0 ndA ndB hinit) hpre
  have hw := drain_all hR _ _ hi hq (Nat.le_refl _) hsq evs hns hr hnow
  have hsm : RunSmallH A.snd_nxt _ evs := runP_smallH A.snd_nxt evs _ (RunP.mono (fun _ h => h.1) evs _ hr)
  exact ⟨hw, (inv_run evs _ hi (runSmallH_noWrap A.snd_nxt evs _ hsm)).delivered hw⟩

/-- the full statement of the drain: ANY reachable state (in particular a
non-empty send queue, a closed or zero remote window), fair links and a fair reader from now on ⇒ a
bound depending on the state only after which `WaitSnd = 0`.  `C02_drain_partial` is the case "send queue
empty"; `C02_drain_general_partial` (below) proves it for every send queue with the explicit bound
`1 + WaitSnd · (fairStage + 2)` under two more checks on the states of the run: `TmrOk Rmax` (the timer of
the head is never more than `Rmax` ahead — the RTO backoff of a segment is not capped in kcp-go, so a
bound in terms of the start state alone would have to count the timeouts of every later head) and the
window configuration `0 < snd_wnd < 2^31`, `rcv_wnd < 65536`. -/
def C02_drain_repaired_full : Prop :=
  ∀ (A B : Kcp) (D t0 : Nat) (ndA ndB : Bool), SysC.ConsInit A B → ∀ (pre : List SysC.NetEv),
    SysC.NetNoWrap A.snd_nxt (Sys.init A B D t0 ndA ndB) pre →
    ∃ T : Nat, ∀ evs : List Sys.Ev, (∀ ev ∈ evs, SysC.isSend ev = false) →
      SysC.RunP (fun s => (SysC.Small A.snd_nxt s ∧ 0 < s.B.rcv_wnd.toNat) ∧ SysC.QOk s)
        (SysC.netRun (Sys.init A B D t0 ndA ndB) pre) evs →
      (SysC.netRun (Sys.init A B D t0 ndA ndB) pre).now + T ≤
        (Sys.run (SysC.netRun (Sys.init A B D t0 ndA ndB) pre) evs).now →
      (Sys.run (SysC.netRun (Sys.init A B D t0 ndA ndB) pre) evs).A.waitSnd = 0

/-! non-vacuity of `C02_drain_partial`: two one-byte messages are written and flushed, the network loses
both datagrams (`shuffle [] []`); then 65 rounds of "10 ticks, A flushes, deliveries, B flushes,
deliveries, reads".  Both timers stand at t = 1200 (`rx_rto = 200`), after the timeout the RTO is 300:
`Rmax = 300`, `stageLen = 321`, and the run lasts 650 ≥ 2 · 321 ms.  Every hypothesis is checked by
evaluation (`runChk_sound`). -/

def c02DrainPre : List SysC.NetEv := [.fair (.send [1]), .fair (.send [2]), .fair .flushA, .shuffle [] []]
def c02DrainRound : List Sys.Ev :=
  List.replicate 10 .tick ++ [.flushA, .dlvB, .dlvB, .flushB, .dlvA, .dlvA, .read, .read]
def c02DrainEvs : List Sys.Ev := (List.replicate 65 c02DrainRound).flatten

set_option maxRecDepth 1000000 in
theorem c02Drain_run :
    (SysC.ConsInit c02A c02A ∧ SysC.NetNoWrap c02A.snd_nxt (Sys.init c02A c02A 0 1000) c02DrainPre ∧
    (SysC.netRun (Sys.init c02A c02A 0 1000) c02DrainPre).A.snd_buf.length = 2 ∧
    (SysC.netRun (Sys.init c02A c02A 0 1000) c02DrainPre).ab = [] ∧
    (SysC.netRun (Sys.init c02A c02A 0 1000) c02DrainPre).A.snd_queue = [] ∧
    (∀ ev ∈ c02DrainEvs, SysC.isSend ev = false) ∧
    (SysC.netRun (Sys.init c02A c02A 0 1000) c02DrainPre).now + 2 * SysC.stageLen 300 10 10 0 ≤
      (Sys.run (SysC.netRun (Sys.init c02A c02A 0 1000) c02DrainPre) c02DrainEvs).now) ∧
    SysC.runChk c02A.snd_nxt 300 10 (SysC.netRun (Sys.init c02A c02A 0 1000) c02DrainPre) c02DrainEvs = true := by
  decide +kernel

set_option maxRecDepth 1000000 in
example : SysC.ConsInit c02A c02A ∧ SysC.NetNoWrap c02A.snd_nxt (Sys.init c02A c02A 0 1000) c02DrainPre ∧
    (SysC.netRun (Sys.init c02A c02A 0 1000) c02DrainPre).A.snd_buf.length = 2 ∧
    (SysC.netRun (Sys.init c02A c02A 0 1000) c02DrainPre).ab = [] ∧
    (SysC.netRun (Sys.init c02A c02A 0 1000) c02DrainPre).A.snd_queue = [] ∧
    (∀ ev ∈ c02DrainEvs, SysC.isSend ev = false) ∧
    (SysC.netRun (Sys.init c02A c02A 0 1000) c02DrainPre).now + 2 * SysC.stageLen 300 10 10 0 ≤
      (Sys.run (SysC.netRun (Sys.init c02A c02A 0 1000) c02DrainPre) c02DrainEvs).now := c02Drain_run.1
set_option maxRecDepth 1000000 in
example : SysC.RunP (SysC.DrainHyp ⟨c02A.snd_nxt, c02A.conv, 0, 0, 0⟩ 300 10)
    (SysC.netRun (Sys.init c02A c02A 0 1000) c02DrainPre) c02DrainEvs :=
  SysC.runChk_sound ⟨c02A.snd_nxt, c02A.conv, 0, 0, 0⟩ 300 10 _ _ c02Drain_run.2

/-! The drain with a non-empty send queue (congestion control on or off), reader condition only.  The induction is over `WaitSnd = |snd_buf| + |snd_queue|`.  Without `Send`, `|snd_queue| + snd_nxt` is
constant, so `WaitSnd` falls exactly by the advance of `snd_una`.  A
stage starts at a clock tick — the scheduler ticks only when the reader has nothing to read, so B's
queue is not full (`QOk`) and B is not behind A's head — and makes `snd_una` advance within `fairStage`:

* something is outstanding: the head of the send buffer is released (`C02_progress_step_every_head`);
* nothing is outstanding, something is queued: until A numbers a segment every PUSH still on its way
  to B is old, so nothing but the reader changes B's receive side and its queue stays not full.  Within
  `quietLen`: whatever was on its way to A at the start has arrived (every datagram arrives within `D`, the
  clock cannot pass an undelivered one); one probe round makes A's `rmt_wnd` non-zero
  (`C03_zero_window_probe_bound`) and it stays so, every datagram on its way to A now carrying a non-zero
  window; A numbers a segment within two flushes: with congestion control on, `cwnd` may be 0 at the first one
  (a fresh core, or `cwnd` clamped to `rmt_wnd = 0` by an ACK), but every flush leaves `cwnd ≥ 1` and with nothing
  outstanding no ACK changes it.  Then the new head is released.

Run hypotheses, all checks on single states (`SysC.FairHyp`; Boolean form `SysC.runFairChk`): `Small`;
`0 < rcv_wnd < 65536`; the reader condition `QOk` (a reader with nothing to read has not left the queue
full — B's queue MAY be full between two reads); `TmrOk Rmax`: the retransmission timer of the head is
never more than `Rmax` ms ahead — the place where the uncapped RTO backoff enters the bound; `CfgA`:
`0 < snd_wnd < 2^31`.  Nothing is asked of the start state beyond reachability. -/

open KcpVerif.Sys KcpVerif.SysC in
/-- **one stage of the general drain**: from a tick state with something waiting, `snd_una` advances within
`fairStage` -/
theorem C02_drain_stage_general {p : Par} {IA IB Rmax : Nat} (hIA : IA < 2 ^ 29) (hR : Rmax + IA < 2 ^ 31) {s : State}
    (hi : Inv p IA IB s) (hpi : PInv IA s) (ha : ArrOk s) (hqB : s.B.rcv_queue.length < s.B.rcv_wnd.toNat)
    (hw : 0 < s.A.waitSnd) (evs : List Ev) (hns : ∀ ev ∈ evs, isSend ev = false)
    (hr : RunP (FairHyp p Rmax IA) s evs) (hnow : s.now + fairStage Rmax IA IB s.D < (Sys.run s evs).now) :
    o p.base s.A.snd_una < o p.base (Sys.run s evs).A.snd_una :=
  stage_fair hIA hR hi hpi ha hqB hw evs hns hr hnow

open KcpVerif.Sys KcpVerif.SysC in
/-- **`C02_drain`, any send queue, congestion control on or off, fair reader**: two fresh endpoints, ANY
history `pre` of writes, reads, events and network faults (loss, duplication, reordering); from the
state it leaves the writer stops, the links are fair and the reader reads whenever there is something
to read.  Once the clock has advanced by `1 + WaitSnd · (fairStage + 2)` ms, with
`fairStage = quietLen + 1 + (Rmax + IA + 2·D + IB)` and
`quietLen = (D + 1) + (IKCP_PROBE_LIMIT + 2·IA + 2·D + IB + 1) + 2·IA`, `WaitSnd = 0`; and whenever B's
queue is not full the receiver has handed every numbered segment to the reader's queue. -/
theorem C02_drain_general_partial (A B : Kcp) (D t0 : Nat) (ndA ndB : Bool) (hinit : ConsInit A B)
    (hpw : A.probe_wait = 0) (hIA : A.interval.toNat < 2 ^ 29) (pre : List NetEv)
    (hpre : NetNoWrap A.snd_nxt (Sys.init A B D t0 ndA ndB) pre) (Rmax : Nat) (hR : Rmax + A.interval.toNat < 2 ^ 31)
    (evs : List Ev) (hns : ∀ ev ∈ evs, isSend ev = false)
    (hr : RunP (FairHyp ⟨A.snd_nxt, A.conv, 0, 0, 0⟩ Rmax A.interval.toNat) (netRun (Sys.init A B D t0 ndA ndB) pre) evs)
    (hnow : (netRun (Sys.init A B D t0 ndA ndB) pre).now + 1 + (netRun (Sys.init A B D t0 ndA ndB) pre).A.waitSnd *
      (fairStage Rmax A.interval.toNat B.interval.toNat (netRun (Sys.init A B D t0 ndA ndB) pre).D + 2) ≤
      (Sys.run (netRun (Sys.init A B D t0 ndA ndB) pre) evs).now) :
    (Sys.run (netRun (Sys.init A B D t0 ndA ndB) pre) evs).A.waitSnd = 0 ∧
    ((Sys.run (netRun (Sys.init A B D t0 ndA ndB) pre) evs).B.rcv_queue.length <
        (Sys.run (netRun (Sys.init A B D t0 ndA ndB) pre) evs).B.rcv_wnd.toNat →
      (Sys.run (netRun (Sys.init A B D t0 ndA ndB) pre) evs).B.rcv_nxt =
        (Sys.run (netRun (Sys.init A B D t0 ndA ndB) pre) evs).A.snd_nxt) := by
  obtain ⟨hi, hpi⟩ := inv_pinv_netRun (by omega) pre _ (inv_init A B D t0 ndA ndB hinit)
    (pinv_init A B D t0 ndA ndB hpw) hpre
  have ha := arrOk_netRun pre _ (arrOk_init A B D t0 ndA ndB)
  have hw := drain_fair_any hIA hR hi hpi ha evs hns hr hnow
  exact ⟨hw, (inv_run evs _ hi (fair_noWrap evs _ hr)).delivered hw⟩

end KcpVerif.Props
