/-
C15, ownership half: **composition**.  `defaultBufferPool` is one pool for the whole process; the
theorems of `Props/C15Core` and `Props/C15Fec` are about one core / one decoder that has the pool for
itself.  Here: any number of protocol cores and FEC decoders (with the callers that release what the
decoders return) share ONE ghost state — one id counter, one event log — and take turns in any order,
operation by operation, with arbitrary arguments.

The proof is the frame rule: every operation of a component preserves the invariant for ANY count
`F` of holders outside the component (`OwnInvF`, `decodeO_W`).

Granularity: `sysRun` interleaves whole operations (each runs under its session's lock).  The events
of two operations of DIFFERENT components running concurrently can interleave more finely in the real
process; they concern disjoint buffers, and a reordering that keeps each buffer's own events in order
keeps the discipline (`C15_disciplined_per_buffer`, `C15_disciplined_reorder`).  The session layer's
own buffers (output callback, postProcess/txqueue, SendOOB) are not a component of `PoolSys`: they are
`Props/C15Sess`, on a pool of their own.
-/
import KcpVerif.Props.C15Fec

namespace KcpVerif.Props
open KcpVerif.Kcp KcpVerif.Fec KcpVerif.FecOwn KcpVerif.Own KcpVerif.Pool

/-- several cores and decoders on one pool; the `gh` fields of the components are not used, the
ghost state is the system's -/
structure PoolSys where
  cores   : List KcpO := []
  decs    : List DecO := []
  pending : List Nat := []      -- recovered buffers a decoder has returned and the caller has not yet released
  gh      : Ghost := {}

inductive PoolSysOp where
  | core (i : Nat) (op : Kcp.Op)              -- an operation of core `i`
  | decode (j : Nat) (inp : Fec.Bytes)        -- decoder `j` decodes; what it returns becomes pending
  | release                                    -- the caller reads and recycles the oldest pending buffer
  | newCore (conv snd0 rcv0 : U32)
  | newDec (dec : Decoder)                     -- a decoder that stores nothing yet

def sysStep (C : CodecNew) (s : PoolSys) : PoolSysOp → PoolSys
  | .core i op =>
    match s.cores[i]? with
    | some o => { s with cores := s.cores.set i (stepO { o with gh := s.gh } op),
                         gh := (stepO { o with gh := s.gh } op).gh }
    | none => s
  | .decode j inp =>
    match s.decs[j]? with
    | some d => { s with decs := s.decs.set j (decodeO C { d with gh := s.gh } inp).o,
                         pending := s.pending ++ (decodeO C { d with gh := s.gh } inp).rbufs,
                         gh := (decodeO C { d with gh := s.gh } inp).o.gh }
    | none => s
  | .release =>
    match s.pending with
    | id :: rest => { s with pending := rest, gh := (s.gh.use (some id)).recycle (some id) }
    | [] => s
  | .newCore c a b => { s with cores := s.cores ++ [startO c a b] }
  | .newDec dec => if dec.sets.isEmpty then { s with decs := s.decs ++ [startD dec] } else s

def sysRun (C : CodecNew) (s : PoolSys) (ops : List PoolSysOp) : PoolSys := ops.foldl (sysStep C) s

def c15SumC (id : Nat) : List KcpO → Nat
  | [] => 0
  | o :: l => held o id + c15SumC id l

def c15SumD (id : Nat) : List DecO → Nat
  | [] => 0
  | d :: l => cntS id d.sets + c15SumD id l

/-- number of places of the whole system that hold buffer `id` -/
def c15Total (s : PoolSys) (id : Nat) : Nat := c15SumC id s.cores + c15SumD id s.decs + cntI id s.pending

structure PoolSysInv (s : PoolSys) : Prop where
  cores : ∀ o ∈ s.cores, Sync o
  decs  : ∀ d ∈ s.decs, d.dec.sets = erSets d.sets
  w     : W s.gh (c15Total s)

theorem C15_aux_sumC_append (id : Nat) (a b : List KcpO) : c15SumC id (a ++ b) = c15SumC id a + c15SumC id b := by
  induction a with
  | nil => simp [c15SumC]
  | cons x a ih => simp only [List.cons_append, c15SumC, ih]; omega

theorem C15_aux_sumD_append (id : Nat) (a b : List DecO) : c15SumD id (a ++ b) = c15SumD id a + c15SumD id b := by
  induction a with
  | nil => simp [c15SumD]
  | cons x a ih => simp only [List.cons_append, c15SumD, ih]; omega

theorem C15_aux_cntI_append (id : Nat) (a b : List Nat) : cntI id (a ++ b) = cntI id a + cntI id b := by
  rw [cntI_eq_count, cntI_eq_count, cntI_eq_count, List.count_append]

theorem C15_aux_split {α : Type} {l : List α} {i : Nat} {x : α} (h : l[i]? = some x) :
    ∃ a b, l = a ++ x :: b ∧ ∀ y, l.set i y = a ++ y :: b := by
  induction l generalizing i with
  | nil => simp at h
  | cons z l ih =>
    cases i with
    | zero =>
      simp only [List.getElem?_cons_zero, Option.some.injEq] at h
      subst h
      exact ⟨[], l, rfl, fun y => rfl⟩
    | succ i =>
      simp only [List.getElem?_cons_succ] at h
      obtain ⟨a, b, h1, h2⟩ := ih h
      exact ⟨z :: a, b, by rw [h1]; rfl, fun y => by rw [List.set_cons_succ, h2]; rfl⟩

theorem C15_aux_sys_step (C : CodecNew) {s : PoolSys} (h : PoolSysInv s) (op : PoolSysOp) : PoolSysInv (sysStep C s op) := by
  cases op with
  | core i op =>
    simp only [sysStep]
    split
    · rename_i o ho
      obtain ⟨a, b, hl, hset⟩ := C15_aux_split ho
      have hso : Sync o := h.cores o (List.mem_of_getElem? ho)
      have hin : OwnInvF (fun id => c15SumC id a + c15SumC id b + c15SumD id s.decs + cntI id s.pending) { o with gh := s.gh } :=
        ⟨⟨hso.sq, hso.sb, hso.rb, hso.rq⟩, h.w.congr (fun id => by
          unfold c15Total; rw [hl, C15_aux_sumC_append]; simp only [c15SumC]
          show held o id + _ = _
          omega)⟩
      have hout := C15_aux_inv_step hin op
      refine ⟨forall_mem_set h.cores hout.sync, h.decs, hout.w.congr (fun id => ?_)⟩
      unfold c15Total
      simp only []
      rw [hset, C15_aux_sumC_append]; simp only [c15SumC]
      omega
    · exact h
  | decode j inp =>
    simp only [sysStep]
    split
    · rename_i d hd
      obtain ⟨a, b, hl, hset⟩ := C15_aux_split hd
      have hsd : d.dec.sets = erSets d.sets := h.decs d (List.mem_of_getElem? hd)
      have hin : W s.gh (fun id => cntS id d.sets + (c15SumC id s.cores + c15SumD id a + c15SumD id b + cntI id s.pending)) :=
        h.w.congr (fun id => by unfold c15Total; rw [hl, C15_aux_sumD_append]; simp only [c15SumD]; omega)
      have hout := decodeO_W C { d with gh := s.gh } inp _ hin
      have e := decodeO_er C { d with gh := s.gh } inp hsd
      refine ⟨h.cores, forall_mem_set h.decs (e.1 ▸ e.2.2.2), hout.congr (fun id => ?_)⟩
      unfold c15Total
      simp only []
      rw [hset, C15_aux_sumD_append, C15_aux_cntI_append]; simp only [c15SumD]
      omega
    · exact h
  | release =>
    simp only [sysStep]
    split
    · rename_i id rest hp
      have hin : W s.gh (fun x => oc (some id) x + (c15SumC x s.cores + c15SumD x s.decs + cntI x rest)) :=
        h.w.congr (fun x => by unfold c15Total; rw [hp]; simp only [cntI]; omega)
      exact ⟨h.cores, h.decs, hin.use.recycle.congr (fun x => by unfold c15Total; simp only [])⟩
    · exact h
  | newCore c a b =>
    refine ⟨forall_mem_snoc h.cores ⟨rfl, rfl, rfl, rfl⟩, h.decs, h.w.congr (fun id => ?_)⟩
    show c15SumC id (s.cores ++ [startO c a b]) + c15SumD id s.decs + cntI id s.pending = c15Total s id
    rw [C15_aux_sumC_append]
    unfold c15Total
    have : c15SumC id [startO c a b] = 0 := rfl
    omega
  | newDec dec =>
    simp only [sysStep]
    split
    · rename_i he
      refine ⟨h.cores, forall_mem_snoc h.decs (List.isEmpty_iff.1 he), h.w.congr (fun id => ?_)⟩
      show c15SumC id s.cores + c15SumD id (s.decs ++ [startD dec]) + cntI id s.pending = c15Total s id
      rw [C15_aux_sumD_append]
      unfold c15Total
      have : c15SumD id [startD dec] = 0 := rfl
      omega
    · exact h

theorem C15_aux_sys_run (C : CodecNew) {s : PoolSys} (h : PoolSysInv s) (ops : List PoolSysOp) : PoolSysInv (sysRun C s ops) :=
  foldl_inv (P := PoolSysInv) (fun _ op h => C15_aux_sys_step C h op) ops s h

theorem C15_aux_sys_init : PoolSysInv {} :=
  ⟨fun _ h => (by cases h), fun _ h => (by cases h), W.init.congr (fun _ => rfl)⟩

/-- **Cores, decoders and their callers on one pool are disciplined**: for every schedule of
operations (with arbitrary arguments) of any number of cores and decoders created along the way,
the one log of pool events is `Disciplined` — recycled at most once per acquisition, never used
after being recycled, never handed out while owned. -/
theorem C15_sys_disciplined (C : CodecNew) (ops : List PoolSysOp) : Disciplined (sysRun C {} ops).gh.log :=
  (C15_sanitizer_sound _).mp (C15_aux_sys_run C C15_aux_sys_init ops).w.ok

/-- **One holder in the whole system**: a buffer is held at no more than one place — a queue
position of one core, a shard set of one decoder, or the caller's recovered list — and whatever is
held is owned (not in the pool).  The cores and decoders of two sessions never share a buffer. -/
theorem C15_sys_held (C : CodecNew) (ops : List PoolSysOp) (id : Nat) :
    c15Total (sysRun C {} ops) id ≤ 1 ∧
    (c15Total (sysRun C {} ops) id = 1 → holds (sysRun C {} ops).gh.log.reverse id = true) :=
  have h := C15_aux_W_holds (C15_aux_sys_run C C15_aux_sys_init ops).w id
  ⟨h.1, h.2.1⟩

def c15EvId : Ev → Nat
  | .get id => id
  | .put id => id
  | .use id => id

def c15Proj (id : Nat) (l : List Ev) : List Ev := l.filter (fun e => c15EvId e == id)

theorem C15_aux_holds_proj (h : List Ev) (id : Nat) : holds (c15Proj id h) id = holds h id := by
  induction h with
  | nil => rfl
  | cons e h ih =>
    unfold c15Proj at ih ⊢
    rw [List.filter_cons]
    cases e with
    | get j =>
      by_cases hj : j = id
      · subst hj; simp [c15EvId, holds]
      · have : (c15EvId (.get j) == id) = false := by simp [c15EvId, hj]
        rw [this]; simp only [Bool.false_eq_true, if_false, holds, hj]; exact ih
    | put j =>
      by_cases hj : j = id
      · subst hj; simp [c15EvId, holds]
      · have : (c15EvId (.put j) == id) = false := by simp [c15EvId, hj]
        rw [this]; simp only [Bool.false_eq_true, if_false, holds, hj]; exact ih
    | use j =>
      by_cases hj : j = id
      · subst hj; simp only [c15EvId, beq_self_eq_true, if_true, holds]; exact ih
      · have : (c15EvId (.use j) == id) = false := by simp [c15EvId, hj]
        rw [this]; simp only [Bool.false_eq_true, if_false, holds]; exact ih

theorem C15_aux_okAt_proj (h : List Ev) (e : Ev) : okAt (c15Proj (c15EvId e) h) e = okAt h e := by
  cases e <;> simp only [okAt, c15EvId, C15_aux_holds_proj]

/-- **Per-buffer characterisation**: a log is disciplined iff, for every buffer, the sub-log of that
buffer's own events is. -/
theorem C15_disciplined_per_buffer (l : List Ev) : Disciplined l ↔ ∀ id, Disciplined (c15Proj id l) := by
  constructor
  · intro hd id p e r hl
    unfold c15Proj at hl
    obtain ⟨l₁, l₂, h1, h2, h3⟩ := List.filter_eq_append_iff.1 hl
    obtain ⟨m₁, m₂, h4, h5, h6, _⟩ := List.filter_eq_cons_iff.1 h3
    have hid : c15EvId e = id := by simpa using h6
    have hok := hd (l₁ ++ m₁) e m₂ (by rw [h1, h4, List.append_assoc])
    rw [← C15_aux_okAt_proj, hid] at hok
    have hp : c15Proj id (l₁ ++ m₁).reverse = p.reverse := by
      unfold c15Proj
      rw [List.filter_reverse, List.filter_append, h2]
      have : List.filter (fun e => c15EvId e == id) m₁ = [] := List.filter_eq_nil_iff.2 h5
      rw [this, List.append_nil]
    rw [hp] at hok
    exact hok
  · intro hd p e r hl
    have h1 : c15Proj (c15EvId e) l = c15Proj (c15EvId e) p ++ e :: c15Proj (c15EvId e) r := by
      unfold c15Proj
      rw [hl, List.filter_append, List.filter_cons]
      simp
    have hok := hd (c15EvId e) _ e _ h1
    have hp : (c15Proj (c15EvId e) p).reverse = c15Proj (c15EvId e) p.reverse := by
      unfold c15Proj; rw [List.filter_reverse]
    rw [hp, C15_aux_okAt_proj] at hok
    exact hok

/-- every prefix of a disciplined log is disciplined (an operation cut short by a panic leaves a prefix
of the events the instrumented models log for it) -/
theorem C15_disciplined_prefix {l l' : List Ev} (hd : Disciplined (l ++ l')) : Disciplined l := by
  intro p e r hl
  exact hd p e (r ++ l') (by rw [hl]; simp)

/-- **Finer interleavings**: any reordering of a disciplined log that keeps the order of each
buffer's own events is disciplined.  With `C15_sys_disciplined`: however the pool events of
concurrently running operations of different sessions interleave, as long as every buffer sees its
events in the order of some operation-level schedule, the process's log is disciplined. -/
theorem C15_disciplined_reorder {l l' : List Ev} (h : ∀ id, c15Proj id l' = c15Proj id l) (hd : Disciplined l) :
    Disciplined l' := by
  rw [C15_disciplined_per_buffer] at hd ⊢
  intro id; rw [h id]; exact hd id

example : Disciplined [.get 0, .get 1, .use 1, .use 0, .put 0, .put 1] :=
  C15_disciplined_reorder (l := [.get 0, .use 0, .put 0, .get 1, .use 1, .put 1])
    (fun id => by
      by_cases h0 : id = 0
      · subst h0; decide
      · by_cases h1 : id = 1
        · subst h1; decide
        · simp [c15Proj, c15EvId, Ne.symm h0, Ne.symm h1])
    ((C15_sanitizer_sound _).mp (by decide))

def c15ExSys : List PoolSysOp :=
  [.newCore 7 0 0, .newCore 7 0 0, .newDec ((Decoder.new rsNew 2 1).getD
      { d := 2, p := 1, n := 3, paws := 0, newest := 0, shouldTune := false, tune := AutoTune.Tune.init, sets := [], codec := rsNew 2 1 }),
   .core 0 (.noDelay 1 10 2 1), .core 0 (.send [1, 2, 3]), .decode 0 c15ExD1, .core 1 (.send [4]),
   .core 0 (.flush true 10), .decode 0 c15ExPar, .core 1 (.input (c15ExHdr 81 0 0 2 ++ [9, 9]) true false 23),
   .release, .core 0 (.input (c15ExHdr 82 0 1 0) true false 30), .core 1 (.recv 100)]

set_option maxRecDepth 100000 in
example : (sysRun rsNew {} c15ExSys).gh.log =
    [.get 0, .get 1, .get 2, .use 0, .get 3, .use 1, .use 3, .use 1, .use 3, .get 4, .put 1, .put 3, .get 5,
     .use 4, .put 4, .put 0, .use 5, .put 5] := by decide +kernel

end KcpVerif.Props
