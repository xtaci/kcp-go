/-
C15 — Close releases goroutines and callbacks; pooled buffers have one owner.

Part (a), ownership: the discipline `Disciplined` on get/put/use event logs and its consequences; the sanitizer
that runs inside the real code (`Pool.sanitize`, same state machine as /repo/verif_pool_on.go) accepts
exactly the disciplined logs.

Part (b), lifecycle: on the LTS `Model/Lifecycle` of postProcess / update / readLoop / monitor, after
`Close` every execution is finite and ends with all loops returned.
-/
import KcpVerif.Lemmas.Pool
import KcpVerif.Lemmas.Lifecycle

namespace KcpVerif.Props
open KcpVerif KcpVerif.Pool

/-! ### (a) ownership discipline -/

/-- `holds h id`: in the history `h` (most recent event first) the most recent get/put event of
buffer `id` is a get, i.e. somebody owns `id`. -/
def holds : List Ev → Nat → Bool
  | [], _ => false
  | .get j :: h, id => if j = id then true else holds h id
  | .put j :: h, id => if j = id then false else holds h id
  | .use _ :: h, id => holds h id

/-- event `e` is legal after history `h`: put and use need an owner, get needs that there is none
(the buffer is fresh or in the pool). -/
def okAt (h : List Ev) : Ev → Bool
  | .get id => !holds h id
  | .put id => holds h id
  | .use id => holds h id

/-- A log is disciplined when every event is legal after the events that precede it. -/
def Disciplined (l : List Ev) : Prop :=
  ∀ p e r, l = p ++ e :: r → okAt p.reverse e = true

/-- the sanitizer's `owned` is what the history says is held -/
def Agree (s : St) (h : List Ev) : Prop := ∀ id, id ∈ s.owned ↔ holds h id = true

/-- `Pool.mem_remove` -/
theorem C15_aux_mem_remove (l : List Nat) (a b : Nat) : a ∈ remove l b ↔ a ∈ l ∧ a ≠ b :=
  mem_remove l a b

theorem C15_aux_agree_init : Agree St.init [] := by
  intro id; simp [St.init, holds]

theorem Agree.holds_eq {s : St} {h : List Ev} (ha : Agree s h) (id : Nat) :
    holds h id = decide (id ∈ s.owned) := by
  have := ha id
  by_cases hm : id ∈ s.owned <;> simp_all

theorem C15_aux_step_ok_iff {s : St} {h : List Ev} (ha : Agree s h) (e : Ev) :
    (step s e).v = .ok ↔ okAt h e = true := by
  cases e with
  | get id =>
    rw [okAt, ha.holds_eq]
    by_cases hm : id ∈ s.owned <;> simp [step, hm]
  | put id | use id =>
    rw [okAt, ha.holds_eq]
    by_cases hm : id ∈ s.owned
    · simp [step, hm]
    · by_cases hf : id ∈ s.free <;> simp [step, hm, hf]

theorem C15_aux_step_agree {s : St} {h : List Ev} (ha : Agree s h) (e : Ev) (hok : (step s e).v = .ok) :
    Agree (step s e).st (e :: h) := by
  intro x
  cases e with
  | get id =>
    by_cases hm : id ∈ s.owned
    · simp [step, hm] at hok
    · by_cases hx : id = x
      · subst hx; simp [step, hm, holds]
      · have hx' : ¬ x = id := fun h => hx h.symm
        simp [step, hm, holds, hx, hx', ha x]
  | put id =>
    by_cases hm : id ∈ s.owned
    · by_cases hx : id = x
      · subst hx; simp [step, hm, holds, C15_aux_mem_remove]
      · have hx' : ¬ x = id := fun h => hx h.symm
        simp [step, hm, holds, hx, hx', C15_aux_mem_remove, ha x]
    · by_cases hf : id ∈ s.free <;> simp [step, hm, hf] at hok
  | use id =>
    by_cases hm : id ∈ s.owned
    · simp [step, hm, holds, ha x]
    · by_cases hf : id ∈ s.free <;> simp [step, hm, hf] at hok

/-- `C15_sanitizer_sound` from any sanitizer state and a history that `Agree`: what the induction on the log needs -/
theorem C15_aux_sanitizeFrom_iff (l : List Ev) : ∀ (s : St) (h : List Ev), Agree s h →
    (sanitizeFrom s l = .ok ↔ ∀ p e r, l = p ++ e :: r → okAt (p.reverse ++ h) e = true) := by
  induction l with
  | nil =>
    intro s h _
    constructor
    · intro _ p e r hl
      cases p <;> simp at hl
    · intro _; rfl
  | cons e l ih =>
    intro s h ha
    rw [sanitizeFrom_cons_ok]
    constructor
    · intro ⟨hv, hs⟩ p e' r hl
      cases p with
      | nil =>
        simp only [List.nil_append, List.cons.injEq] at hl
        rw [← hl.1]
        simpa using (C15_aux_step_ok_iff ha e).mp hv
      | cons x p' =>
        simp only [List.cons_append, List.cons.injEq] at hl
        have := (ih _ _ (C15_aux_step_agree ha e hv)).mp hs p' e' r hl.2
        rw [← hl.1]
        simpa [List.reverse_cons, List.append_assoc] using this
    · intro hall
      have hv : (step s e).v = .ok := by
        apply (C15_aux_step_ok_iff ha e).mpr
        simpa using hall [] e l rfl
      refine ⟨hv, (ih _ _ (C15_aux_step_agree ha e hv)).mpr ?_⟩
      intro p e' r hl
      have := hall (e :: p) e' r (by simp [hl])
      simpa [List.reverse_cons, List.append_assoc] using this

/-- **The sanitizer is sound and complete for the discipline**: the verdict function that runs
inside the real code accepts a log iff the log is disciplined. -/
theorem C15_sanitizer_sound (l : List Ev) : sanitize l = .ok ↔ Disciplined l := by
  have := C15_aux_sanitizeFrom_iff l St.init [] C15_aux_agree_init
  simpa [sanitize, Disciplined] using this

example : sanitize [.get 0, .use 0, .get 1, .put 0, .get 0, .put 1, .put 0] = .ok := by decide
example : sanitize [.get 0, .put 0, .put 0] = .doublePut := by decide
example : sanitize [.get 0, .put 0, .use 0] = .useAfterPut := by decide
example : sanitize [.put 7] = .foreignPut := by decide
example : sanitize [.get 0, .get 0] = .alias := by decide

/-- the newer part `x` of a history decides who holds `id` if it has a `get` or `put` of `id`, else the older part `y` does -/
theorem holds_append (x y : List Ev) (id : Nat) (b : Bool) :
    holds (x ++ y) id = b → (if b then Ev.get id else .put id) ∈ x ∨ holds y id = b := by
  induction x with
  | nil => exact Or.inr
  | cons e x ih =>
    intro h
    have tl : holds (x ++ y) id = b → (if b then Ev.get id else .put id) ∈ e :: x ∨ holds y id = b :=
      fun h => (ih h).imp_left (List.mem_cons_of_mem _)
    cases e with
    | get j =>
      by_cases hj : j = id
      · subst hj; simp only [List.cons_append, holds, if_true] at h; subst h; exact Or.inl (by simp)
      · simp only [List.cons_append, holds, hj, if_false] at h; exact tl h
    | put j =>
      by_cases hj : j = id
      · subst hj; simp only [List.cons_append, holds, if_true] at h; subst h; exact Or.inl (by simp)
      · simp only [List.cons_append, holds, hj, if_false] at h; exact tl h
    | use j => exact tl h

theorem C15_aux_holds_of_append_put (x y : List Ev) (id : Nat) :
    holds (x ++ .put id :: y) id = true → .get id ∈ x :=
  fun h => (holds_append x _ id true h).resolve_right (by simp [holds])

theorem C15_aux_not_holds_of_append_get (x y : List Ev) (id : Nat) :
    holds (x ++ .get id :: y) id = false → .put id ∈ x :=
  fun h => (holds_append x _ id false h).resolve_right (by simp [holds])

theorem holds_mem_get {h : List Ev} {id : Nat} (hh : holds h id = true) : .get id ∈ h :=
  (holds_append h [] id true (by rwa [List.append_nil])).resolve_right (by simp [holds])

theorem Disciplined.mid {l a b c : List Ev} {e1 e2 : Ev} (hd : Disciplined l) (hl : l = a ++ e1 :: (b ++ e2 :: c)) :
    okAt (b.reverse ++ e1 :: a.reverse) e2 = true := by
  have h := hd (a ++ e1 :: b) e2 c (by simp [hl])
  simpa only [List.reverse_append, List.reverse_cons, List.append_assoc, List.singleton_append] using h

/-- **A buffer is recycled at most once per acquisition**: between two puts of the same buffer in
a disciplined log there is a get of it. -/
theorem C15_put_once {l a b c : List Ev} {id : Nat} (hd : Disciplined l)
    (hl : l = a ++ .put id :: (b ++ .put id :: c)) : .get id ∈ b := by
  have := C15_aux_holds_of_append_put _ _ _ (hd.mid hl)
  simpa using this

/-- **A buffer is never used after it has been recycled** (until it is acquired again). -/
theorem C15_no_use_after_put {l a b c : List Ev} {id : Nat} (hd : Disciplined l)
    (hl : l = a ++ .put id :: (b ++ .use id :: c)) : .get id ∈ b := by
  have := C15_aux_holds_of_append_put _ _ _ (hd.mid hl)
  simpa using this

/-- **One owner**: a buffer is not handed out twice without having been recycled in between
(so packets of concurrent sessions cannot share a buffer). -/
theorem C15_one_owner {l a b c : List Ev} {id : Nat} (hd : Disciplined l)
    (hl : l = a ++ .get id :: (b ++ .get id :: c)) : .put id ∈ b := by
  have := C15_aux_not_holds_of_append_get _ _ _ (by simpa [okAt] using hd.mid hl)
  simpa using this

/-- every use and every put is preceded by a get of the same buffer -/
theorem C15_use_needs_get {l p r : List Ev} {id : Nat} (hd : Disciplined l)
    (hl : l = p ++ .use id :: r ∨ l = p ++ .put id :: r) : .get id ∈ p := by
  rcases hl with hl | hl
  · have := holds_mem_get (hd p (.use id) r hl)
    simpa using this
  · have := holds_mem_get (hd p (.put id) r hl)
    simpa using this

/-- the capacity test of `bufferPool.Put`: only buffers of capacity `mtuLimit` enter the pool -/
theorem C15_pool_accepts_full_only (c : Nat) : putAccepts c = true ↔ c = Gen.mtuLimit := by
  simp [putAccepts]

-- non-vacuity: a disciplined log with reuse, and undisciplined ones
example : Disciplined [.get 0, .use 0, .put 0, .get 0, .put 0] :=
  (C15_sanitizer_sound _).mp (by decide)
example : ¬ Disciplined [.get 0, .put 0, .put 0] :=
  fun h => absurd ((C15_sanitizer_sound _).mpr h) (by decide)

/-- What the full ownership property says about the code: every event log the KCP core, the FEC
codec and the session layer can produce (all sites listed in notes/C15.md) is disciplined.  It is
proved for the logs of the core in Props/C15Core (`C15_core_code_disciplined`) and of the FEC
decoder in Props/C15Fec (`C15_fec_code_disciplined`), on models that carry buffer ids; this file
proves the checker (`C15_sanitizer_sound`), and the check runs on the real code's logs on every
run (trace acceptance, component `pool`, and `VerifPoolReports` at the end of every other component). -/
def C15_code_disciplined_full (codeLog : List Ev → Prop) : Prop :=
  -- `codeLog l`: "l is the pool event log of some execution of the package"
  ∀ l, codeLog l → Disciplined l

/-! ### (b) lifecycle: Close terminates the loops and the callback -/

open KcpVerif.Life

/-- invariants of every reachable session state -/
structure WF (s : Sess) : Prop where
  noDieBlocked : s.pp = .selNoDie → 0 < s.q     -- `chDie = nil` only while the queue is non-empty
  txNeedsQ     : s.pp ≠ .exited → 0 < s.tx → 0 < s.q  -- datagrams wait in txqueue only while requests wait
  txExit       : s.pp = .exited → s.tx = 0       -- postProcess returns with an empty txqueue
  updAlive     : s.die = false → s.upd ≠ .stopped
  ppAlive      : s.die = false → s.pp ≠ .exited

/-- the session, and for a client session its transport, have been closed -/
def Closed (s : Sess) : Prop := s.die = true ∧ (s.rl ≠ .absent → s.connOpen = false)

/-- every loop has returned and the callback is not queued any more -/
def Exited (s : Sess) : Prop :=
  s.pp = .exited ∧ s.upd = .stopped ∧ (s.rl = .absent ∨ s.rl = .exited)

inductive Run : Sess → List Lbl → Sess → Prop
  | nil (s : Sess) : Run s [] s
  | cons {s s' s'' : Sess} {l : Lbl} {ls : List Lbl} : next s l = some s' → Run s' ls s'' → Run s (l :: ls) s''

def ppW : PP → Nat
  | .sel => 2 | .selNoDie => 1 | .exited => 0
def updW : Upd → Nat
  | .running => 2 | .pending => 1 | .stopped => 0
def rlW : RL → Nat
  | .got => 2 | .reading => 1 | .exited => 0 | .absent => 0

/-- termination measure after Close.  `prod` weighs 3 and `q` 2: an enqueue trades an attempt for a request, and
receiving a request may raise `ppW` by one (`selNoDie` → `sel`). -/
def mu (s : Sess) : Nat :=
  3 * s.prod + 2 * s.q + ppW s.pp + updW s.upd + rlW s.rl + (if s.connOpen then 1 else 0)

theorem C15_wf_new (client own : Bool) : WF (Sess.new client own) := by
  constructor <;> simp [Sess.new]

theorem C15_wf_next {s s' : Sess} {l : Lbl} (hw : WF s) (h : next s l = some s') : WF s' := by
  obtain ⟨h1, h2, h3, h4, h5⟩ := hw
  cases next_inv h
  -- steps that change none of `pp`, `q`, `tx`, `die`, `upd`
  case drop | api | rlErr | rlGot | rlExit | rlAgain | closeTransport => exact ⟨h1, h2, h3, h4, h5⟩
  case ppRecv k tx' hp hq htx =>
    -- a non-empty `txqueue` is kept only while further requests wait
    refine ⟨nofun, fun _ ht => Nat.pos_of_ne_zero fun h0 => ?_, nofun, h4, fun _ => nofun⟩
    rw [htx, if_pos (Or.inl h0)] at ht
    exact Nat.lt_irrefl 0 ht
  case ppDieMore hp hd hq => exact ⟨fun _ => hq, fun _ _ => hq, nofun, h4, fun _ => nofun⟩
  case ppDieExit hp hd hq =>
    refine ⟨nofun, fun hn => absurd rfl hn, fun _ => ?_, h4, fun hf => absurd (hd.symm.trans hf) nofun⟩
    have := h2 (by rw [hp]; nofun)
    show s.tx = 0
    omega
  case enqueue => exact ⟨fun _ => Nat.succ_pos _, fun _ _ => Nat.succ_pos _, h3, h4, h5⟩
  case updStop hu hd => exact ⟨h1, h2, h3, fun hf => absurd (hd.symm.trans hf) nofun, h5⟩
  case updStart => exact ⟨h1, h2, h3, fun _ => nofun, h5⟩
  case updRun => exact ⟨h1, h2, h3, fun _ => nofun, h5⟩
  case close => exact ⟨h1, h2, h3, nofun, nofun⟩

theorem C15_closed_stable {s s' : Sess} {l : Lbl} (hc : Closed s) (h : next s l = some s') : Closed s' := by
  obtain ⟨hd, ht⟩ := hc
  cases next_inv h with
  | updStart _ _ hn | rlAgain _ _ hn => exact absurd hd hn
  | api _ hn | close _ _ hn _ => exact absurd (hd.symm.trans hn) nofun
  | closeTransport => exact ⟨hd, fun _ => rfl⟩
  | rlErr hr | rlGot hr | rlExit _ hr => exact ⟨hd, fun _ => ht (by rw [hr]; nofun)⟩
  | _ => exact ⟨hd, ht⟩

theorem C15_close_measure {s s' : Sess} {l : Lbl} (hc : Closed s) (h : next s l = some s') : mu s' < mu s := by
  obtain ⟨hd, ht⟩ := hc
  cases next_inv h
  case ppRecv k tx' hp hq htx =>
    clear htx
    have : 1 ≤ ppW s.pp := by
      cases hpp : s.pp
      case exited => exact absurd hpp hp
      all_goals decide
    have e : ppW .sel = 2 := rfl
    simp only [mu]
    omega
  -- the steps that need an open session, resp. an open transport
  case updStart hn | rlAgain hn => exact absurd hd hn
  case api hn | close hn _ => exact absurd (hd.symm.trans hn) nofun
  case rlGot hr hc => exact absurd (ht (by rw [hr]; nofun)) hc
  -- the loops move down
  case ppDieMore hp _ _ | ppDieExit hp _ _ => simp only [mu, hp, ppW]; omega
  case updStop hu _ | updRun hu => simp only [mu, hu, updW]; omega
  case rlErr hr _ | rlExit hr _ => simp only [mu, hr, rlW]; omega
  -- a producer's attempt is used up: enqueued (3 for 2) or dropped
  case enqueue hn _ | drop hn => simp only [mu]; omega
  case closeTransport hc => simp [mu, hc]

theorem Run.inv {P : Sess → Prop} (hstep : ∀ {s s' : Sess} {l : Lbl}, P s → next s l = some s' → P s')
    {s s' : Sess} {ls : List Lbl} (hr : Run s ls s') : P s → P s' := by
  induction hr with
  | nil => exact id
  | cons h _ ih => exact fun hp => ih (hstep hp h)

theorem C15_aux_run_closed {s s' : Sess} {ls : List Lbl} (hr : Run s ls s') : Closed s → Closed s' :=
  hr.inv C15_closed_stable

theorem C15_aux_run_wf {s s' : Sess} {ls : List Lbl} (hr : Run s ls s') : WF s → WF s' :=
  hr.inv C15_wf_next

theorem C15_close_bounded {s s' : Sess} {ls : List Lbl} (hc : Closed s) (hr : Run s ls s') :
    ls.length + mu s' ≤ mu s := by
  induction hr with
  | nil => simp
  | cons h _ ih =>
    have := C15_close_measure hc h
    have := ih (C15_closed_stable hc h)
    simp only [List.length_cons]; omega

/-- **No deadlock**: after Close, a loop that has not returned (or a callback still queued) can take
a step *of its own*: `postProcess` is never stuck with `chDie = nil` on an empty queue, `update`
runs when the scheduler fires it, `readLoop` gets the closed transport's error. -/
theorem C15_close_progress {s : Sess} (hw : WF s) (hc : Closed s) :
    (s.pp ≠ .exited → ∃ s', next s .ppDie = some s' ∨ next s (.ppRecv 0) = some s') ∧
    (s.upd ≠ .stopped → ∃ s', next s (.updFire 0) = some s' ∨ next s .updRun = some s') ∧
    (s.rl ≠ .absent → s.rl ≠ .exited → ∃ s', next s (.rlReturn true) = some s' ∨ next s (.rlCheck 0) = some s') := by
  obtain ⟨hd, ht⟩ := hc
  refine ⟨fun hp => ?_, fun hu => ?_, fun ha he => ?_⟩
  · cases hpp : s.pp with
    | sel =>
      rcases Nat.eq_zero_or_pos s.q with hq | hq
      · exact ⟨_, Or.inl (Step.ppDieExit hpp hd hq).next_eq⟩
      · exact ⟨_, Or.inl (Step.ppDieMore hpp hd hq).next_eq⟩
    | selNoDie => exact ⟨_, Or.inr (Step.ppRecv 0 _ hp (hw.noDieBlocked hpp) rfl).next_eq⟩
    | exited => exact absurd hpp hp
  · cases hupd : s.upd with
    | pending => exact ⟨_, Or.inl (Step.updStop 0 hupd hd).next_eq⟩
    | running => exact ⟨_, Or.inr (Step.updRun hupd).next_eq⟩
    | stopped => exact absurd hupd hu
  · cases hrl : s.rl with
    | absent => exact absurd hrl ha
    | exited => exact absurd hrl he
    | reading => exact ⟨_, Or.inl (Step.rlErr hrl (ht ha)).next_eq⟩
    | got => exact ⟨_, Or.inr (Step.rlExit 0 hrl hd).next_eq⟩

theorem C15_close_stuck_is_exited {s : Sess} (hw : WF s) (hc : Closed s)
    (hstuck : ∀ l, next s l = none) : Exited s ∧ s.tx = 0 ∧ s.prod = 0 := by
  have hp := C15_close_progress hw hc
  have h1 : s.pp = .exited := by
    cases hpp : s.pp with
    | exited => rfl
    | sel | selNoDie =>
      obtain ⟨s', h | h⟩ := hp.1 (by simp [hpp]) <;> simp [hstuck] at h
  have h2 : s.upd = .stopped := by
    cases hu : s.upd with
    | stopped => rfl
    | pending | running =>
      obtain ⟨s', h | h⟩ := hp.2.1 (by simp [hu]) <;> simp [hstuck] at h
  have h3 : s.rl = .absent ∨ s.rl = .exited := by
    cases hr : s.rl with
    | absent => exact Or.inl rfl
    | exited => exact Or.inr rfl
    | reading | got =>
      obtain ⟨s', h | h⟩ := hp.2.2 (by simp [hr]) (by simp [hr]) <;> simp [hstuck] at h
  refine ⟨⟨h1, h2, h3⟩, hw.txExit h1, ?_⟩
  rcases Nat.eq_zero_or_pos s.prod with h0 | hn
  · exact h0
  · exact absurd ((Step.drop hn).next_eq.symm.trans (hstuck _)) nofun

theorem C15_aux_step_of_not_exited {s : Sess} (hw : WF s) (hc : Closed s) (he : ¬ Exited s) :
    ∃ l s', next s l = some s' :=
  Classical.byContradiction fun hno => he (C15_close_stuck_is_exited hw hc fun l =>
    Option.eq_none_iff_forall_ne_some.mpr fun s' h => hno ⟨l, s', h⟩).1

/-- **Close terminates**: from any reachable state in which the session (and, for a client
session, its transport) has been closed, every execution is finite — at most `mu s` steps, each
loop at most that many of its own — every execution that cannot be extended has all loops returned,
`update` de-scheduled and `txqueue` recycled, and such an execution exists. -/
theorem C15_close_terminates {s : Sess} (hw : WF s) (hc : Closed s) :
    (∀ ls s', Run s ls s' → ls.length ≤ mu s) ∧
    (∀ ls s', Run s ls s' → (∀ l, next s' l = none) → Exited s' ∧ s'.tx = 0 ∧ s'.prod = 0) ∧
    (∃ ls s', Run s ls s' ∧ Exited s' ∧ s'.tx = 0) := by
  refine ⟨?_, ?_, ?_⟩
  · intro ls s' hr
    have := C15_close_bounded hc hr; omega
  · intro ls s' hr hstuck
    exact C15_close_stuck_is_exited (C15_aux_run_wf hr hw) (C15_aux_run_closed hr hc) hstuck
  · -- keep stepping any unfinished loop: strong induction on the measure
    have key : ∀ n (s : Sess), mu s = n → WF s → Closed s → ∃ ls s', Run s ls s' ∧ Exited s' ∧ s'.tx = 0 := by
      intro n
      induction n using Nat.strongRecOn with
      | _ n ih =>
        intro s hn hw hc
        by_cases he : Exited s
        · exact ⟨[], s, Run.nil s, he, hw.txExit he.1⟩
        · obtain ⟨l, s', h⟩ := C15_aux_step_of_not_exited hw hc he
          obtain ⟨ls, s'', hr, hx⟩ :=
            ih (mu s') (hn ▸ C15_close_measure hc h) s' rfl (C15_wf_next hw h) (C15_closed_stable hc h)
          exact ⟨l :: ls, s'', Run.cons h hr, hx⟩
    exact key _ s rfl hw hc

/-- `update` does not re-`Put` itself once `die` is closed: fired after die it stops … -/
theorem C15_update_stops_after_die {s s' : Sess} {n : Nat} (hd : s.die = true)
    (h : next s (.updFire n) = some s') : s'.upd = .stopped ∧ s'.prod = s.prod := by
  cases next_inv h with
  | updStop => exact ⟨rfl, rfl⟩
  | updStart _ _ hn => exact absurd hd hn

/-- how often `update` re-`Put`s itself in a run -/
def reputs : List Lbl → Nat
  | [] => 0
  | .updRun :: ls => reputs ls + 1
  | _ :: ls => reputs ls

/-- … and in every execution after Close the callback is re-queued at most once — only by an
`update` that had already passed its `die` test when Close ran. -/
theorem C15_update_reput_bound {s s' : Sess} {ls : List Lbl} (hc : Closed s) (hr : Run s ls s') :
    reputs ls ≤ (if s.upd = .running then 1 else 0) := by
  induction hr with
  | nil => exact Nat.zero_le _
  | @cons s s1 s2 l ls h _ ih =>
    have ih := ih (C15_closed_stable hc h)
    cases next_inv h with
    -- the re-`Put` itself: afterwards the callback is pending, and from there it can only stop
    | updRun hu => rw [if_neg (by simp)] at ih; rw [if_pos hu]; exact Nat.succ_le_succ ih
    | updStop _ hu => rw [if_neg (by simp)] at ih; exact Nat.le_trans ih (Nat.zero_le _)
    | updStart _ _ hn => exact absurd hc.1 hn
    | _ => exact ih

/-- The reason the property says "… **and the transport**": a client session's `readLoop` that is
blocked in `ReadFrom` on an open transport cannot return by itself after `Close` — only a read
error (closed transport) or the arrival of a packet ends it.  With an owned connection `Close`
closes the transport itself. -/
theorem C15_readloop_needs_transport {s : Sess} (hr : s.rl = .reading) (ho : s.connOpen = true) :
    next s (.rlReturn true) = none ∧ ∀ n, next s (.rlCheck n) = none := by
  simp [next, hr, ho]

theorem C15_close_owned_closes_transport {s s' : Sess} {n : Nat} (hw : s.ownConn = true)
    (h : next s (.close n) = some s') : Closed s' := by
  cases next_inv h with
  | close _ co _ hco => exact ⟨rfl, fun h1 => by rw [hco]; exact if_pos ⟨hw, h1⟩⟩

/-- **Finding (leak)**: a session that nobody closes never stops — its `update` callback is
re-queued forever and `postProcess` stays.  This is what happened to sessions the listener created
(`packetInput` → `newUDPSession`) that were still in the accept backlog when the listener and the
transport were closed: the application never saw them, and `Listener.Close` did not close them.
Repaired in the repository (`fix:` e5b5145, `closeUnaccepted`): `Listener.Close` now closes them. -/
theorem C15_unclosed_session_runs_forever {s : Sess} (hw : WF s) (hd : s.die = false) (n : Nat) :
    ∃ ls s', Run s ls s' ∧ n ≤ reputs ls ∧ s'.die = false ∧ s'.pp ≠ .exited ∧ s'.upd ≠ .stopped := by
  induction n generalizing s with
  | zero => exact ⟨[], s, Run.nil s, Nat.zero_le _, hd, hw.ppAlive hd, hw.updAlive hd⟩
  | succ n ih =>
    -- one more round of the callback: (fire,) run
    have hu := hw.updAlive hd
    cases hupd : s.upd with
    | stopped => exact absurd hupd hu
    | running =>
      have h1 := (Step.updRun hupd).next_eq
      obtain ⟨ls, s', hr, hn, hx⟩ := ih (C15_wf_next hw h1) (by simpa using hd)
      exact ⟨.updRun :: ls, s', Run.cons h1 hr, by simp [reputs]; omega, hx⟩
    | pending =>
      have h1 := (Step.updStart 0 hupd (by simp [hd])).next_eq
      have hw1 := C15_wf_next hw h1
      have h2 := (Step.updRun (s := { s with upd := .running, prod := s.prod + 0 }) rfl).next_eq
      obtain ⟨ls, s', hr, hn, hx⟩ := ih (C15_wf_next hw1 h2) (by simpa using hd)
      exact ⟨.updFire 0 :: .updRun :: ls, s', Run.cons h1 (Run.cons h2 hr), by simp [reputs]; omega, hx⟩

inductive MRun : Lst → List MLbl → Lst → Prop
  | nil (l : Lst) : MRun l [] l
  | cons {l l' l'' : Lst} {a : MLbl} {as : List MLbl} : mnext l a = some l' → MRun l' as l'' → MRun l (a :: as) l''

def monW : Mon → Nat
  | .processing => 2 | .reading => 1 | .exited => 0

/-- `monitor` returns on the read error of the closed transport: after the transport is closed
every execution of the listener's goroutine has at most 2 steps, and it cannot stop anywhere but
at its `return`. -/
theorem C15_monitor_exits {l l' : Lst} {as : List MLbl} (hc : l.connOpen = false) (hr : MRun l as l') :
    as.length + monW l'.mon ≤ monW l.mon ∧ l'.connOpen = false ∧
    ((∀ a, mnext l' a = none) → l'.mon = .exited) := by
  induction hr with
  | nil l =>
    refine ⟨Nat.le_of_eq (Nat.zero_add _), hc, fun hstuck => ?_⟩
    cases hm : l.mon with
    | exited => rfl
    | reading => have := hstuck (.ret true); simp [mnext, hm, hc] at this
    | processing => have := hstuck .processed; simp [mnext, hm] at this
  | @cons l l1 l2 a as h _ ih =>
    -- a closed transport lets only the read error and the end of a packet's processing through
    cases mnext_inv h with
    | retErr hm =>
      have h1 : as.length + monW l2.mon ≤ 0 := (ih hc).1
      have e : monW l.mon = 1 := by rw [hm]; rfl
      exact ⟨by simp only [List.length_cons]; omega, (ih hc).2⟩
    | retPkt _ ho => exact absurd hc ho
    | processed hm =>
      have h1 : as.length + monW l2.mon ≤ 1 := (ih hc).1
      have e : monW l.mon = 2 := by rw [hm]; rfl
      exact ⟨by simp only [List.length_cons]; omega, (ih hc).2⟩
    | closeTransport ho => exact absurd (hc.symm.trans ho) nofun

/-- a system of sessions; a step is a step of one of them -/
inductive SRun : List Sess → Nat → List Sess → Prop
  | nil (ss : List Sess) : SRun ss 0 ss
  | cons {pre post : List Sess} {s s' : Sess} {l : Lbl} {n : Nat} {ss' : List Sess} :
      next s l = some s' → SRun (pre ++ s' :: post) n ss' → SRun (pre ++ s :: post) (n + 1) ss'

def muAll (ss : List Sess) : Nat := (ss.map mu).sum

/-- **Close terminates, system-wide**: once all sessions (and the transports of client sessions)
are closed, every interleaving of all their goroutines and callbacks has at most `Σ mu` steps. -/
theorem C15_close_terminates_all {ss ss' : List Sess} {n : Nat} (hc : ∀ s ∈ ss, Closed s)
    (hr : SRun ss n ss') : n + muAll ss' ≤ muAll ss ∧ ∀ s ∈ ss', Closed s := by
  induction hr with
  | nil ss => exact ⟨by simp, hc⟩
  | @cons pre post s s' l n ss' h _ ih =>
    have hcs : Closed s := hc s (by simp)
    have hm := C15_close_measure hcs h
    have hc' : ∀ x ∈ pre ++ s' :: post, Closed x := by
      intro x hx
      simp only [List.mem_append, List.mem_cons] at hx
      rcases hx with hx | hx | hx
      · exact hc x (by simp [hx])
      · subst hx; exact C15_closed_stable hcs h
      · exact hc x (by simp [hx])
    obtain ⟨ih1, ih2⟩ := ih hc'
    refine ⟨?_, ih2⟩
    simp only [muAll, List.map_append, List.map_cons, List.sum_append, List.sum_cons] at *
    omega

-- non-vacuity: a client session on a caller-owned transport, closed mid-transfer with 3 requests
-- queued, chDie disabled, an update past its die test and 5 output calls still in flight
def exMid : Sess :=
  { die := true, ownConn := false, connOpen := false, q := 3, tx := 7, pp := .selNoDie, upd := .running,
    rl := .got, prod := 5 }
example : WF exMid := by constructor <;> simp [exMid]
example : Closed exMid := by simp [Closed, exMid]
example : mu exMid = 26 := by decide
example : ∃ ls s', Run exMid ls s' ∧ Exited s' ∧ s'.tx = 0 :=
  (C15_close_terminates (by constructor <;> simp [exMid]) (by simp [Closed, exMid])).2.2
-- `exMid`: chDie is nil, so postProcess cannot return yet and drains a request first
example : (next exMid .ppDie) = none := by decide
example : (next exMid (.ppRecv 1)).map (fun s => (s.q, s.tx, s.pp)) = some (2, 9, .sel) := by decide
example : (⟨false, .processing⟩ : Lst).connOpen = false ∧
    MRun ⟨false, .processing⟩ [.processed, .ret true] ⟨false, .exited⟩ :=
  ⟨rfl, MRun.cons (l' := ⟨false, .reading⟩) (by decide) (MRun.cons (l' := ⟨false, .exited⟩) (by decide) (MRun.nil _))⟩
-- and the un-accepted session of the finding
example : WF (Sess.new false false) ∧ (Sess.new false false).die = false := ⟨C15_wf_new _ _, rfl⟩
example : (⟨false, .reading⟩ : Lst).connOpen = false := rfl

end KcpVerif.Props
