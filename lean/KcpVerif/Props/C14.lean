import KcpVerif.Lemmas.DRF
/-!
C14 — concurrent use of sessions and listeners is free of data races.

Two parts (DESIGN 7.14):

1. The abstract theorems: in every run with mutual exclusion, a location whose post-publication
   accesses follow one of four disciplines (common mutex / immutable / all atomic / confined to one
   goroutine) and whose initialisation happens-before its publication has no data race.
2. The table obligation: the access table regenerated from the Go source on every run
   (`Gen.accessByClass`, flattened `Gen.accessTable`) puts every location class under one of those
   disciplines (`C14_table_ok`, by kernel evaluation), and the extractor met no construct it could not
   interpret (`C14_no_unknown`).

What connects the two is trusted, not proved: that every access of a real execution is an instance of
a table row whose lexical lockset is really held, on the mutex instance that belongs to the accessed
object (type-based ownership).  That trust is confronted with the race detector on every run
(harness component `race`).  See notes/C14.md.
-/
namespace KcpVerif.Props
open KcpVerif.DRF

/-- **Critical sections are ordered.**  Critical sections of one mutex held in incompatible modes
(Mutex and RWMutex) by different threads are ordered by happens-before.
`hnr`: `i` is an access, not itself the release that ends its critical section. -/
theorem C14_critical_sections_ordered {τ : Trace} {sw : Nat → Nat → Prop} (wf : MutexWF τ)
    {i j : Nat} {t u : Tid} {m : Mutex} {μ ν : Mode}
    (hij : i < j) (hti : (τ i).tid = t) (huj : (τ j).tid = u) (htu : t ≠ u)
    (hnr : ∀ m' μ', (τ i).ev ≠ .rel m' μ')
    (hi : Holds τ t m μ i) (hj : Holds τ u m ν j) (hinc : Mode.compat μ ν = false) : HB τ sw i j := by
  obtain ⟨a, hai, haq, hanr⟩ := hi
  obtain ⟨b, hbj, hbq, hbnr⟩ := hj
  rcases Nat.lt_trichotomy a b with hab | hab | hab
  · -- t's section starts first: t must have released before u acquired at b
    have hnh : ¬ Holds τ t m μ b := wf b u m ν hbq t μ htu (by rw [Mode.compat_comm]; exact hinc)
    have hex : ∃ r, a < r ∧ r < b ∧ τ r = ⟨t, .rel m μ⟩ := by
      apply Classical.byContradiction
      intro hne
      apply hnh
      refine ⟨a, hab, haq, ?_⟩
      intro r har hrb hr
      exact hne ⟨r, har, hrb, hr⟩
    obtain ⟨r, har, hrb, hr⟩ := hex
    have hir : i < r := by
      rcases Nat.lt_trichotomy r i with h | h | h
      · exact absurd hr (hanr r har h)
      · subst h
        have : (τ r).ev = .rel m μ := by rw [hr]
        exact absurd this (hnr m μ)
      · exact h
    have h1 : HB τ sw i r := HB.po hir (by rw [hti, hr])
    have h2 : HB τ sw r b := HB.lock hrb hr hbq hinc
    have h3 : HB τ sw b j := HB.po hbj (by rw [hbq, huj])
    exact HB.trans h1 (HB.trans h2 h3)
  · -- the same acquisition event cannot belong to two threads
    subst hab
    rw [haq] at hbq
    have : t = u := by injection hbq
    exact absurd this htu
  · -- u's section starts first and is still open at j > i > a: t could not have acquired at a
    have hnh : ¬ Holds τ u m ν a := wf a t m μ haq u ν (Ne.symm htu) hinc
    exact absurd ⟨b, hab, hbq, fun r hbr hra => hbnr r hbr (Nat.lt_trans hra (Nat.lt_trans hai hij))⟩ hnh

/-- **Lockset ⇒ ordered.**  If from its publication point on every access to `x` is made while the
accessing thread holds the common mutex `m` (writes exclusively, reads exclusively or shared), then
any two accesses to `x` by different threads of which one is a write are ordered by happens-before. -/
theorem C14_lockset_drf {τ : Trace} {sw : Nat → Nat → Prop} (wf : MutexWF τ) {x : Loc} {m : Mutex} {pub : Nat}
    (disc : Locked τ x m pub) {i j : Nat} (hpi : pub ≤ i) (hij : i < j)
    (hxi : (τ i).ev.loc = some x) (hxj : (τ j).ev.loc = some x) (htid : (τ i).tid ≠ (τ j).tid)
    (hw : (τ i).ev.isWrite = true ∨ (τ j).ev.isWrite = true) : HB τ sw i j := by
  obtain ⟨μ, di, hμ⟩ := (disc i hpi hxi).holds
  obtain ⟨ν, dj, hν⟩ := (disc j (Nat.le_trans hpi (Nat.le_of_lt hij)) hxj).holds
  exact C14_critical_sections_ordered wf hij rfl rfl htid (not_rel_of_loc hxi) di dj
    (Mode.compat_eq_false_of_X (hw.imp hμ hν))

/-- **Initialise, then publish.**  Whatever the creating thread did before the publication event `p`
happens-before everything that happens-after `p`. -/
theorem C14_init_then_publish {τ : Trace} {sw : Nat → Nat → Prop} {i p j : Nat}
    (hip : i < p) (hsame : (τ i).tid = (τ p).tid) (hpub : HB τ sw p j) : HB τ sw i j :=
  HB.trans (HB.po hip hsame) hpub

/-- Publication by `go`: everything the creator did before the `go` statement happens-before every
event of the started goroutine. -/
theorem C14_fork_publishes {τ : Trace} {sw : Nat → Nat → Prop} (fwf : ForkWF τ) {i f j : Nat} {t c : Tid}
    (hif : i < f) (hti : (τ i).tid = t) (hf : τ f = ⟨t, .fork c⟩) (hj : (τ j).tid = c) : HB τ sw i j := by
  have hfj : f < j := fwf f t c hf j hj
  exact HB.trans (HB.po hif (by rw [hti, hf])) (HB.fork hfj hf hj)

/-- **Atomics.**  If every post-publication access to `x` is atomic, no post-publication pair conflicts. -/
theorem C14_atomic_ok {τ : Trace} {x : Loc} {pub : Nat} (h : AllAtomic τ x pub) {i j : Nat}
    (hpi : pub ≤ i) (hpj : pub ≤ j) : ¬ Conflict τ x i j := by
  intro ⟨hxi, hxj, _, _, hna⟩
  exact hna ⟨h i hpi hxi, h j hpj hxj⟩

/-- Immutable after publication: no post-publication pair conflicts. -/
theorem C14_immutable_ok {τ : Trace} {x : Loc} {pub : Nat} (h : Immutable τ x pub) {i j : Nat}
    (hpi : pub ≤ i) (hpj : pub ≤ j) : ¬ Conflict τ x i j := by
  intro ⟨hxi, hxj, _, hw, _⟩
  rcases hw with hw | hw
  · rw [h i hpi hxi] at hw; cases hw
  · rw [h j hpj hxj] at hw; cases hw

/-- Confined to one goroutine: no post-publication pair conflicts. -/
theorem C14_confined_ok {τ : Trace} {x : Loc} {t : Tid} {pub : Nat} (h : Confined τ x t pub) {i j : Nat}
    (hpi : pub ≤ i) (hpj : pub ≤ j) : ¬ Conflict τ x i j := by
  intro ⟨hxi, hxj, htid, _, _⟩
  exact htid (by rw [h i hpi hxi, h j hpj hxj])

/-- **No data race on a disciplined location.**  `pub` is the publication point of `x`: accesses before
it are initialisation and are assumed to happen-before every later access by another thread
(discharged by `C14_fork_publishes` / `C14_init_then_publish` for `go`, channel or lock publication).
Then no pair of accesses to `x` is a data race. -/
theorem C14_no_race_of_discipline {τ : Trace} {sw : Nat → Nat → Prop} (wf : MutexWF τ) {x : Loc} {pub : Nat}
    (d : Discipline τ x pub)
    (init : ∀ i j, i < pub → pub ≤ j → (τ i).ev.loc = some x → (τ j).ev.loc = some x →
      (τ i).tid ≠ (τ j).tid → HB τ sw i j)
    (initOwner : ∀ i j, i < j → j < pub → (τ i).ev.loc = some x → (τ j).ev.loc = some x →
      (τ i).tid = (τ j).tid) :
    ∀ i j, ¬ Race τ sw x i j := by
  intro i j ⟨hij, hc, hnhb⟩
  have hc' := hc
  obtain ⟨hxi, hxj, htid, hw, _⟩ := hc
  by_cases hpi : pub ≤ i
  · have hpj : pub ≤ j := Nat.le_trans hpi (Nat.le_of_lt hij)
    cases d with
    | locked m h => exact hnhb (C14_lockset_drf wf h hpi hij hxi hxj htid hw)
    | immutable h => exact C14_immutable_ok h hpi hpj hc'
    | atomic h => exact C14_atomic_ok h hpi hpj hc'
    | confined t h => exact C14_confined_ok h hpi hpj hc'
  · have hip : i < pub := Nat.lt_of_not_le hpi
    by_cases hpj : pub ≤ j
    · exact hnhb (init i j hip hpj hxi hxj htid)
    · exact htid (initOwner i j hij (Nat.lt_of_not_le hpj) hxi hxj)

/-- **From the table to data-race freedom.**  If the class's rows pass the table check and the run is
an instance of those rows for location `x` (`Respects`: the trusted link between the extracted table
and real executions), then `x` has no data race. -/
theorem C14_drf_of_table {τ : Trace} {sw : Nat → Nat → Prop} (wf : MutexWF τ)
    {rows : List Gen.AccessRow} {x : Loc} {pub : Nat} {inst : Nat → Mutex} {thr : Nat → Tid}
    (hok : classOk rows = true) (hr : Respects τ rows x pub inst thr)
    (init : ∀ i j, i < pub → pub ≤ j → (τ i).ev.loc = some x → (τ j).ev.loc = some x →
      (τ i).tid ≠ (τ j).tid → HB τ sw i j)
    (initOwner : ∀ i j, i < j → j < pub → (τ i).ev.loc = some x → (τ j).ev.loc = some x →
      (τ i).tid = (τ j).tid) :
    ∀ i j, ¬ Race τ sw x i j :=
  C14_no_race_of_discipline wf (discipline_of_classOk hok hr) init initOwner

/-! ### Non-vacuity: a concrete run with two critical sections -/

def exRun : Trace := fun k =>
  match k with
  | 0 => ⟨0, .acq 7 .X⟩
  | 1 => ⟨0, .wr 3⟩
  | 2 => ⟨0, .rel 7 .X⟩
  | 3 => ⟨1, .acq 7 .X⟩
  | 4 => ⟨1, .rd 3⟩
  | 5 => ⟨1, .rel 7 .X⟩
  | _ => ⟨0, .nop⟩

theorem C14_exRun_wf : MutexWF exRun := by
  intro j u m μ hacq t ν htu _ ⟨a, haj, haq, hnr⟩
  match j, hacq, haj, hnr with
  | 0, _, haj, _ => exact absurd haj (Nat.not_lt_zero a)
  | 1, hacq, _, _ => simp [exRun] at hacq
  | 2, hacq, _, _ => simp [exRun] at hacq
  | 3, hacq, haj, hnr =>
    have hu : u = 1 := by simp [exRun] at hacq; exact hacq.1.symm
    match a, haq, haj, hnr with
    | 0, haq, _, hnr =>
      simp [exRun] at haq
      obtain ⟨ht, hm, hν⟩ := haq
      subst ht; subst hm; subst hν
      exact hnr 2 (by decide) (by decide) rfl
    | 1, haq, _, _ => simp [exRun] at haq
    | 2, haq, _, _ => simp [exRun] at haq
    | (n + 3), _, haj, _ => exact absurd haj (by omega)
  | 4, hacq, _, _ => simp [exRun] at hacq
  | 5, hacq, _, _ => simp [exRun] at hacq
  | (n + 6), hacq, _, _ => simp [exRun] at hacq

/-- two table rows (a locked write, a locked read) of which `exRun` is an instance -/
def exRows : List Gen.AccessRow :=
  [⟨"writer", 0, true, false, [0], [], false, false, true, 0⟩,
   ⟨"reader", 0, false, false, [0], [], false, false, true, 0⟩]

example : classOk exRows = true := by decide

theorem C14_exRun_respects : Respects exRun exRows 3 0 (fun _ => 7) (fun _ => 0) := by
  intro k _ hx
  match k, hx with
  | 0, hx => simp [exRun, Ev.loc] at hx
  | 1, _ =>
    refine ⟨exRows[0], List.getElem_mem _, rfl, rfl, rfl, ?_, ?_, ?_⟩
    · intro m _
      exact ⟨0, by decide, rfl, fun b h1 h2 => absurd h2 (by omega)⟩
    · intro m hm
      cases hm
    · intro h
      exact absurd rfl h
  | 2, hx => simp [exRun, Ev.loc] at hx
  | 3, hx => simp [exRun, Ev.loc] at hx
  | 4, _ =>
    refine ⟨exRows[1], List.getElem_mem _, rfl, rfl, rfl, ?_, ?_, ?_⟩
    · intro m _
      exact ⟨3, by decide, rfl, fun b h1 h2 => absurd h2 (by omega)⟩
    · intro m hm
      cases hm
    · intro h
      exact absurd rfl h
  | 5, hx => simp [exRun, Ev.loc] at hx
  | (n + 6), hx => simp [exRun, Ev.loc] at hx

theorem C14_exRun_locked : Locked exRun 3 7 0 := by
  obtain ⟨_, h⟩ := locked_of_lockedOk C14_exRun_respects (by decide)
  exact h

/-- the hypotheses of `C14_lockset_drf` are satisfiable and the conclusion is the expected edge -/
example : HB exRun (fun _ _ => False) 1 4 :=
  C14_lockset_drf C14_exRun_wf C14_exRun_locked (Nat.zero_le 1) (by decide) rfl rfl (by decide) (Or.inl rfl)

example : Conflict exRun 3 1 4 := by
  refine ⟨rfl, rfl, by decide, Or.inl rfl, ?_⟩
  intro h
  exact absurd h.1 (by decide)

/-- `C14_drf_of_table` applies to a concrete run and concrete rows (all accesses are post-publication here) -/
example : ∀ i j, ¬ Race exRun (fun _ _ => False) 3 i j :=
  C14_drf_of_table C14_exRun_wf (by decide) C14_exRun_respects
    (fun i _ h => absurd h (Nat.not_lt_zero i)) (fun _ j _ h => absurd h (Nat.not_lt_zero j))

/-- without the lock the same two accesses are a race (the theorem's hypothesis is needed) -/
def exRacy : Trace := fun k =>
  match k with
  | 0 => ⟨0, .wr 3⟩
  | 1 => ⟨1, .rd 3⟩
  | _ => ⟨0, .nop⟩

theorem C14_unlocked_pair_races : Race exRacy (fun _ _ => False) 3 0 1 := by
  refine ⟨by decide, ⟨rfl, rfl, by decide, Or.inl rfl, fun h => absurd h.1 (by decide)⟩, ?_⟩
  -- no happens-before path leads from 0 to 1: no single edge does, and a path through `b` would need `0 < b < 1`
  -- (edges out of 0 exist: the padding `nop`s belong to thread 0, so `HB.po` orders 0 before 2)
  have key : ∀ i j, HB exRacy (fun _ _ => False) i j → i = 0 → j = 1 → False := by
    intro i j h
    induction h with
    | po hlt htid =>
      intro hi hj; subst hi; subst hj
      simp [exRacy] at htid
    | lock _ hrel _ _ =>
      intro hi _; subst hi
      simp [exRacy] at hrel
    | fork _ hf _ =>
      intro hi _; subst hi
      simp [exRacy] at hf
    | sw _ h => intro _ _; exact h
    | @trans a b c h1 h2 _ _ =>
      intro hi hj; subst hi; subst hj
      have l1 := HB.lt h1
      have l2 := HB.lt h2
      omega
  exact fun h => key 0 1 h rfl rfl

/-- the extractor met no construct it could not interpret -/
theorem C14_no_unknown : Gen.accessUnknown = [] := by decide

/-- the classes that fail, by name (shown in the build log when `C14_table_ok` does not close) -/
def failingClassNames : List String :=
  (failingClasses Gen.accessByClass).map (fun k => Gen.accessClassNames.getD k "?")

#eval failingClassNames

/-- every location class of the current source is under one of the four disciplines -/
theorem C14_table_ok : tableOk Gen.accessByClass = true := by decide +kernel

/-- the chain closed on the current source: every class of the extracted table, in every run that is
an instance of its rows, is free of data races -/
theorem C14_generated_table_drf {τ : Trace} {sw : Nat → Nat → Prop} (wf : MutexWF τ)
    {rows : List Gen.AccessRow} (hrows : rows ∈ Gen.accessByClass)
    {x : Loc} {pub : Nat} {inst : Nat → Mutex} {thr : Nat → Tid}
    (hr : Respects τ rows x pub inst thr)
    (init : ∀ i j, i < pub → pub ≤ j → (τ i).ev.loc = some x → (τ j).ev.loc = some x →
      (τ i).tid ≠ (τ j).tid → HB τ sw i j)
    (initOwner : ∀ i j, i < j → j < pub → (τ i).ev.loc = some x → (τ j).ev.loc = some x →
      (τ i).tid = (τ j).tid) :
    ∀ i j, ¬ Race τ sw x i j :=
  C14_drf_of_table wf (classOk_of_tableOk C14_table_ok rows hrows) hr init initOwner

end KcpVerif.Props
