import KcpVerif.Lemmas.KcpShiftOps
/-!
C12 — behaviour is invariant under sequence-number and clock wrap-around (protocol core).

A shift `σ = (a, b, t, u) : Shift.Sigma` adds `a` to the endpoint's own send sequence space, `b` to its
receive sequence space, `t` to its clock and `u` to the peer's clock; `Shift.Sim σ k k'` says that the state `k'`
is `k` shifted by `σ`, `Shift.shiftIn σ` shifts an incoming datagram on wire bytes, `Shift.OutRel σ` relates the
emitted datagrams (`Lemmas/KcpShiftBasic.lean`, `KcpShiftBytes.lean`).

Main results: `C12_shift_sim` (one step) and `C12_run_shift_invariant` (whole op lists), for ALL
2^128 shifts and ALL operations with arbitrary arguments (every byte string for `Input`), with no
side condition.  They rest on fix 8db4321 (D14): a segment entering `snd_buf` carries the current
timestamp.  With `ts = 0` left unset there, `parse_fastack` compares it with the clock and the
statements are false; `C12_fastack_fresh_regression` is that input.
-/
namespace KcpVerif.Props
open KcpVerif.Gen KcpVerif.Shift
open KcpVerif.Kcp hiding Op step run

/-- every ordering decision of the core is a function of differences -/
theorem C12_itimediff_shift (a b c : U32) : itimediff (a + c) (b + c) = itimediff a b := Shift.itd_shift a b c

theorem C12_eq_shift (a b c : U32) : (a + c = b + c) ↔ a = b := Shift.eq_shift a b c

theorem C12_succ_shift (x c : U32) : (x + c) + 1 = (x + 1) + c := Shift.succ_shift x c

/-- `Recv` / `PeekSize`: same return value, same delivered bytes, shifted successor state -/
theorem C12_recv_shift {σ : Sigma} {k k' : Kcp} (h : Sim σ k k') (buflen : Nat) :
    Sim σ (recv k buflen).k (recv k' buflen).k ∧ (recv k' buflen).n = (recv k buflen).n ∧
      (recv k' buflen).data = (recv k buflen).data ∧ peekSize k' = peekSize k :=
  ⟨(recv_sim h buflen).1, (recv_sim h buflen).2.1, (recv_sim h buflen).2.2, peekSize_sim h⟩

/-- `Send` involves no sequence number and no clock -/
theorem C12_send_shift {σ : Sigma} {k k' : Kcp} (h : Sim σ k k') (buffer : Bytes) :
    Sim σ (send k buffer).k (send k' buffer).k ∧ (send k' buffer).ret = (send k buffer).ret ∧
      (send k' buffer).panic = (send k buffer).panic := send_sim h buffer

/-- `parse_data` (insertion into the receive heap, duplicate detection, window check, move to
`rcv_queue`) commutes with the shift -/
theorem C12_parseData_shift {σ : Sigma} {k k' : Kcp} (h : Sim σ k k') (s : Seg) :
    Sim σ (parseData k s).k (parseData k' (shRcv σ s)).k ∧
      (parseData k' (shRcv σ s)).rep = (parseData k s).rep ∧
      (parseData k' (shRcv σ s)).panic = (parseData k s).panic := parseData_sim h s

/-- `parse_una` + `shrink_buf` + `parse_ack` + `shrink_buf` commute with the shift (it does not touch the
`acked` flags) -/
theorem C12_ack_shift {σ : Sigma} {k k' : Kcp} (h : Sim σ k k') (una sn : U32) :
    Sim σ (shrinkBuf (parseAck (shrinkBuf (parseUna k una).1) sn))
      (shrinkBuf (parseAck (shrinkBuf (parseUna k' (una + σ.a)).1) (sn + σ.a))) ∧
      (parseUna k' (una + σ.a)).2 = (parseUna k una).2 :=
  ⟨shrinkBuf_shift (parseAck_sim (shrinkBuf_shift (parseUna_sim h una).1) sn), (parseUna_sim h una).2⟩

/-- `parse_fastack` commutes with the shift (it compares `seg.ts` with the ACK's `ts`: both our clock) -/
theorem C12_fastack_shift {σ : Sigma} {k k' : Kcp} (h : Sim σ k k') (sn ts : U32) :
    Sim σ (parseFastack k sn ts).1 (parseFastack k' (sn + σ.a) (ts + σ.t)).1 ∧
      (parseFastack k' (sn + σ.a) (ts + σ.t)).2 = (parseFastack k sn ts).2 := parseFastack_sim h sn ts

/-- `update_ack` is given a difference; the cwnd update compares `snd_una` with its old value by a difference -/
theorem C12_rtt_cwnd_shift {σ : Sigma} {k k' : Kcp} (h : Sim σ k k') (rtt oldUna : U32) :
    Sim σ (cwndOnAck (updateAck k rtt) oldUna) (cwndOnAck (updateAck k' rtt) (oldUna + σ.a)) :=
  cwndOnAck_sim (updateAck_sim h rtt) oldUna

/-- whole `flush` (ack list, window probes, admission, (re)transmission, congestion window):
shifted state, datagrams related by `OutRel σ`, same interval, same panic flag — no side condition -/
theorem C12_flush_shift {σ : Sigma} {k k' : Kcp} (h : Sim σ k k') (full : Bool) (now : U32) :
    FlushRel σ (flush k full now) (flush k' full (now + σ.t)) := flush_sim h full now

theorem C12_update_shift {σ : Sigma} {k k' : Kcp} (h : Sim σ k k') (now : U32) :
    FlushRel σ (update k now) (update k' (now + σ.t)) := update_sim h now

/-- `Check` answers the same instant, shifted -/
theorem C12_check_shift {σ : Sigma} {k k' : Kcp} (h : Sim σ k k') (now : U32) :
    check k' (now + σ.t) = check k now + σ.t := check_sim h now

/-- `shiftIn` keeps the length of a datagram, and the header fields `Input` reads from it are the
original ones plus the per-command constants -/
theorem C12_shiftIn_fields (σ : Sigma) (data rest : Bytes) (hl : 24 ≤ data.length) :
    (shiftIn σ data).length = data.length ∧
    rd32 (shiftHd σ data ++ rest) 0 = rd32 data 0 ∧
    byteAt (shiftHd σ data ++ rest) 4 = byteAt data 4 ∧
    rd32 (shiftHd σ data ++ rest) 8 = rd32 data 8 + (inDeltas σ (BitVec.ofNat 8 (byteAt data 4)).toNat).1 ∧
    rd32 (shiftHd σ data ++ rest) 12 = rd32 data 12 + (inDeltas σ (BitVec.ofNat 8 (byteAt data 4)).toNat).2.1 ∧
    rd32 (shiftHd σ data ++ rest) 16 = rd32 data 16 + (inDeltas σ (BitVec.ofNat 8 (byteAt data 4)).toNat).2.2 ∧
    rd32 (shiftHd σ data ++ rest) 20 = rd32 data 20 := by
  obtain ⟨f0, f4, _, _, f8, f12, f16, f20, _⟩ := shiftHd_fields σ data rest hl
  exact ⟨shiftIn_length σ data, f0, f4, f8, f12, f16, f20⟩

/-- whole `Input` on wire bytes (every datagram: malformed, multi-segment, forged), any clock -/
theorem C12_input_shift {σ : Sigma} {k k' : Kcp} (h : Sim σ k k') (data : Bytes)
    (regular ackNoDelay : Bool) (now : U32) :
    InRel σ (input k data regular ackNoDelay now) (input k' (shiftIn σ data) regular ackNoDelay (now + σ.t)) :=
  input_sim h data regular ackNoDelay now

/-- on one whole wire segment `shiftIn` adds the per-command constants to `ts`, `sn`, `una` and leaves
conv, cmd, frg, wnd, len and the payload alone -/
theorem C12_shiftIn_segment (σ : Sigma) (conv : U32) (cmd frg : BitVec 8) (wnd : BitVec 16) (ts sn una : U32)
    (data : Bytes) (hlen : data.length < 2 ^ 32) :
    shiftIn σ (encodeHdr conv cmd frg wnd ts sn una data.length ++ data) =
      encodeHdr conv cmd frg wnd (ts + (inDeltas σ cmd.toNat).1) (sn + (inDeltas σ cmd.toNat).2.1)
        (una + (inDeltas σ cmd.toNat).2.2) data.length ++ data :=
  shiftIn_single σ conv cmd frg wnd ts sn una data hlen

/-- the two conventions agree: the shifted form of an emitted PUSH / ACK / WASK segment in `OutRel σ`
(right-hand sides of its constructors) is `shiftIn σ.swap` of the unshifted segment, where
`σ.swap = (b, a, u, t)` is the same shift seen from the peer — so in a closed two-endpoint system
A's shifted world produces the inputs of B's shifted world, up to the `sn`/`ts` of WASK/WINS headers, which
`OutRel.probe` leaves unrelated (scratch fields the receiver never reads) -/
theorem C12_out_in_consistent (σ : Sigma) (conv : U32) (frg : BitVec 8) (wnd : BitVec 16) (ts sn una : U32)
    (data : Bytes) (hlen : data.length < 2 ^ 32) :
    shiftIn σ.swap (encodeHdr conv (BitVec.ofNat 8 IKCP_CMD_PUSH) frg wnd ts sn una data.length ++ data) =
      encodeHdr conv (BitVec.ofNat 8 IKCP_CMD_PUSH) frg wnd (ts + σ.t) (sn + σ.a) (una + σ.b) data.length ++ data ∧
    shiftIn σ.swap (encodeHdr conv (BitVec.ofNat 8 IKCP_CMD_ACK) 0 wnd ts sn una 0) =
      encodeHdr conv (BitVec.ofNat 8 IKCP_CMD_ACK) 0 wnd (ts + σ.u) (sn + σ.b) (una + σ.b) 0 ∧
    shiftIn σ.swap (encodeHdr conv (BitVec.ofNat 8 IKCP_CMD_WASK) 0 wnd ts sn una 0) =
      encodeHdr conv (BitVec.ofNat 8 IKCP_CMD_WASK) 0 wnd ts sn (una + σ.b) 0 := by
  have h1 := shiftIn_single σ.swap conv (BitVec.ofNat 8 IKCP_CMD_PUSH) frg wnd ts sn una data hlen
  have h2 := shiftIn_single σ.swap conv (BitVec.ofNat 8 IKCP_CMD_ACK) 0 wnd ts sn una [] (by decide)
  have h3 := shiftIn_single σ.swap conv (BitVec.ofNat 8 IKCP_CMD_WASK) 0 wnd ts sn una [] (by decide)
  have e1 : (BitVec.ofNat 8 IKCP_CMD_PUSH).toNat = IKCP_CMD_PUSH := by decide
  have e2 : (BitVec.ofNat 8 IKCP_CMD_ACK).toNat = IKCP_CMD_ACK := by decide
  have e3 : (BitVec.ofNat 8 IKCP_CMD_WASK).toNat = IKCP_CMD_WASK := by decide
  obtain ⟨d1, d2, d3, _⟩ := inDeltas_swap σ
  rw [e1, d1] at h1
  rw [e2, d2] at h2
  rw [e3, d3] at h3
  simp only [List.length_nil, List.append_nil] at h2 h3
  have z (x : U32) : x + 0 = x := BitVec.add_zero x
  rw [z, z] at h3
  exact ⟨h1, h2, h3⟩

/-- **Shift simulation.** Every operation of the core (Send, Recv, PeekSize, Input, flush, Update,
Check, SetMtu, NoDelay, WndSize, WaitSnd), with arbitrary arguments, commutes with every shift `σ`:
same return value, same delivered bytes, same panic flag, output datagrams related by `OutRel σ`,
`Check`'s instant shifted by `t`, successor states related by `Sim σ`. -/
theorem C12_shift_sim {σ : Sigma} {k k' : Kcp} (h : Sim σ k k') (op : Op) :
    Sim σ (step k op).1 (step k' (shiftOp σ op)).1 ∧ ObsRel σ (step k op).2 (step k' (shiftOp σ op)).2 :=
  step_sim h op

/-- **Whole runs are shift-invariant** -/
theorem C12_run_shift_invariant {σ : Sigma} {k k' : Kcp} (h : Sim σ k k') (ops : List Op) :
    Sim σ (run k ops).1 (run k' (ops.map (shiftOp σ))).1 ∧
      All₂ (ObsRel σ) (run k ops).2 (run k' (ops.map (shiftOp σ))).2 := run_sim h ops

theorem C12_fresh_new (conv : U32) : Fresh (Kcp.new conv).snd_queue := fun _ hs => by cases hs

/-- … in particular from a fresh core started at ANY sequence numbers and ANY clock:
for all 2^128 values of `σ`, i.e. every placement of the 2^31 and 2^32 boundaries -/
theorem C12_run_from_new (σ : Sigma) (conv : U32) (ops : List Op) :
    All₂ (ObsRel σ) (run (Kcp.new conv) ops).2 (run (shiftK σ (Kcp.new conv)) (ops.map (shiftOp σ))).2 :=
  (run_sim (sim_shiftK σ (Kcp.new conv) (C12_fresh_new conv)) ops).2

/-- the shifted initial state is exactly what the harness hook `VerifKCPShift(k, a, b)` builds from
`NewKCP`: only `snd_una`, `snd_nxt`, `rcv_nxt` move (the clock offset lives in the `now` arguments) -/
theorem C12_shiftK_new (σ : Sigma) (conv : U32) :
    shiftK σ (Kcp.new conv) = { Kcp.new conv with snd_una := σ.a, snd_nxt := σ.a, rcv_nxt := σ.b } := by
  simp [shiftK, Kcp.new]

/-- consequences of `ObsRel` a test can observe without decoding: same return values, same
delivered bytes, same number of datagrams, each of the same length -/
theorem C12_obs_consequences {σ : Sigma} {o o' : Obs} (h : ObsRel σ o o') :
    o'.ret = o.ret ∧ o'.data = o.data ∧ o'.outs.length = o.outs.length ∧
      All₂ (fun (x y : Bytes) => x.length = y.length) o.outs o'.outs :=
  ⟨h.ret, h.data, (All₂.length_eq h.outs).symm, All₂.imp (fun _ _ hr => hr.length_eq) h.outs⟩

theorem C12_obsRel_outs_length {σ : Sigma} {l l' : List Obs} (h : All₂ (ObsRel σ) l l') :
    l'.map (fun o => o.outs.length) = l.map (fun o => o.outs.length) := by
  induction h with
  | nil => rfl
  | cons hr _ ih => simp only [List.map_cons, ih, All₂.length_eq hr.outs]

/-! ### non-vacuity: a concrete run with data in both directions, a legitimate ACK, window
update, delivery; the theorem applied with a shift that puts every boundary inside the run -/

def C12_demoOps : List Op :=
  [ .noDelay 1 10 2 1, .send [1, 2, 3], .send [4], .update 0,
    .input (encodeHdr 7 (BitVec.ofNat 8 IKCP_CMD_ACK) 0 32 0 1 0 0) true false 5,
    .input (encodeHdr 7 (BitVec.ofNat 8 IKCP_CMD_PUSH) 0 32 77 0 2 2 ++ [9, 9]) true true 6,
    .recv 10, .waitSnd, .update 100, .check 120 ]

/-- send space starts at 2^32−1, receive space at 2^31−1, clock at 2^32−5, peer clock just below 2^31 -/
def C12_demoσ : Sigma := ⟨0xFFFFFFFF#32, 0x7FFFFFFF#32, 0xFFFFFFFB#32, 0x7FFFFFB3#32⟩

set_option maxRecDepth 100000 in
/-- the run is not trivial: it emits datagrams, delivers the peer's two bytes, answers Check -/
example : (run (Kcp.new 7) C12_demoOps).2.map (fun o => (o.ret, o.data, o.outs.map List.length, o.time)) =
    [(0, [], [], none), (0, [], [], none), (0, [], [], none), (0, [], [52], none), (0, [], [], none),
     (0, [], [24], none), (2, [9, 9], [], none), (0, [], [], none), (0, [], [], none),
     (0, [], [], some 120#32)] := by decide +kernel

example : All₂ (ObsRel C12_demoσ) (run (Kcp.new 7) C12_demoOps).2
    (run (shiftK C12_demoσ (Kcp.new 7)) (C12_demoOps.map (shiftOp C12_demoσ))).2 :=
  C12_run_from_new C12_demoσ 7 C12_demoOps

set_option maxRecDepth 100000 in
/-- … and evaluated: the shifted run really runs across the boundaries (the Check answer wraps) and
shows the same lengths / returns -/
example : (run (shiftK C12_demoσ (Kcp.new 7)) (C12_demoOps.map (shiftOp C12_demoσ))).2.map
      (fun o => (o.ret, o.data, o.outs.map List.length, o.time)) =
    [(0, [], [], none), (0, [], [], none), (0, [], [], none), (0, [], [52], none), (0, [], [], none),
     (0, [], [24], none), (2, [9, 9], [], none), (0, [], [], none), (0, [], [], none),
     (0, [], [], some 115#32)] := by decide +kernel

/-- a forged ACK for `sn = 1` arriving after an ACK-only flush has moved two segments into
`snd_buf` without transmitting them; then two full flushes -/
def C12_cexOps : List Op :=
  [ .noDelay 0 (-1) 1 1,          -- fastresend = 1, no congestion window
    .send [1], .send [2],
    .flush false 0,               -- IKCP_FLUSH_ACKONLY (what Input does with ackNoDelay): admits both, transmits none
    .input (encodeHdr 7 (BitVec.ofNat 8 IKCP_CMD_ACK) 0 32 5 1 0 0) true false 6,
    .flush true 10, .flush true 20 ]

/-- only the clock is shifted, by 2^31 ms (24.8 days) -/
def C12_cexσ : Sigma := ⟨0, 0, 0x80000000#32, 0⟩

set_option maxRecDepth 100000 in
/-- Without fix 8db4321, `parse_fastack` evaluates `_itimediff(seg.ts = 0 /* never set */, ts)` for the
never-transmitted segment 0: true with the clock near 0 (the forged ACK counts as a fast ACK and `Input`
flushes: `[0,0,0,0,1,1,0]`), false with the clock shifted by 2^31 (`[0,0,0,0,0,1,0]`) — on kcp.go and on a
model of it alike (notes/C12.md).  With `seg.ts` the admission time both placements give the counts of the
first, the second by `C12_run_from_new`. -/
theorem C12_fastack_fresh_regression :
    (run (Kcp.new 7) C12_cexOps).2.map (fun o => o.outs.length) = [0, 0, 0, 0, 1, 1, 0] ∧
    (run (shiftK C12_cexσ (Kcp.new 7)) (C12_cexOps.map (shiftOp C12_cexσ))).2.map (fun o => o.outs.length)
      = [0, 0, 0, 0, 1, 1, 0] := by
  have h : (run (Kcp.new 7) C12_cexOps).2.map (fun o => o.outs.length) = [0, 0, 0, 0, 1, 1, 0] := by decide +kernel
  exact ⟨h, (C12_obsRel_outs_length (C12_run_from_new C12_cexσ 7 C12_cexOps)).trans h⟩

end KcpVerif.Props
