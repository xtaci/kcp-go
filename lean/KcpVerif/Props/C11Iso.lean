import KcpVerif.Props.C11
import KcpVerif.Props.C01Session
import KcpVerif.Props.C01Reduce
import KcpVerif.Lemmas.C11IsoSys
import KcpVerif.Lemmas.C11IsoDial
import KcpVerif.Lemmas.C11IsoErase
import KcpVerif.Lemmas.C11IsoWire
/-!
C11 — `isolation` (DESIGN.md 7.11, Tier-2 composition) and "no cross stall".

The opaque session state `σ` of the listener model is instantiated with `Model/Sess` sessions and their ghost
history (`rd` = bytes `Read` has returned, `wr` = bytes `WriteBuffers` has accepted, `wire` = datagrams emitted),
no FEC, ANY cipher `ciph` at the gate (a genuine datagram `d` arrives as `wrap d` for any `wrap` the gate opens
to `d`: `C11_wrap_block`, `C11_wrap_aead`), the clock an input of every listener step (`Lemmas/C11IsoSys.lean`).
One listener, any number of remote addresses and of client sessions `P_a^c`, one per address `a` and conversation
id `c`; `honest` is ANY set of addresses: an honest address sends only datagrams its clients have emitted, every
other address ARBITRARY bytes.

`C11_isolation` rests on `listenerInputD_obj` (a datagram feeds only the session mapped at its source address,
and only with the same conversation id or none readable), `sessRun_wire_hdr` (a genuine datagram always carries
a readable id — its own) and `C01_session_plain` per (address, conversation).  Frames without a readable id
(parity, short FEC data) can only come from non-honest addresses here (a session without FEC never emits one);
for those `C11_core_conv_check` is the second line of defence and is not needed by this composition.
-/
namespace KcpVerif.Props
open KcpVerif.Gen KcpVerif.SessIn KcpVerif.C01 KcpVerif.C11Iso

theorem C11_wire_conv : WireOk := sessRun_wire_hdr

theorem C11_peer_prefix (c : U32) (g x : SessG) (h : Peer c g x) (hL : g.log.length < 2 ^ 32) : x.rd <+: g.wr := by
  obtain ⟨ops, h⟩ := h
  have hm : 0 < (Sess.new c).k.mss.toNat := by
    have : (Sess.new c).k.mss = 1376#32 := rfl  -- `IKCP_MTU_DEF - IKCP_OVERHEAD`
    rw [this]; decide
  have := C01_session_plain (Sess.new c) (Sess.new c) ⟨rfl, rfl, rfl, rfl, rfl⟩ ⟨rfl, rfl, rfl, rfl, rfl⟩ rfl rfl hm ops
    (by rw [h]; exact hL)
  rw [h] at this
  exact this

/-- `C11_isolation` with the wire-format fact as a named hypothesis -/
theorem C11_isolation_of_wire (hw : WireOk) (ciph : Cipher) (honest : String → Bool) (evs : List IEv) (j : Nat)
    (S : SessIn.Sess SessG) (hS : (C11Iso.run ciph honest {} evs).l.objs[j]? = some S) (ha : honest S.addr = true) :
    ∃ P, (C11Iso.run ciph honest {} evs).clients S.addr S.conv = some P ∧ (P.log.length < 2 ^ 32 → S.st.rd <+: P.wr) := by
  obtain ⟨g, hg, hp⟩ := (inv_run ciph hw evs {} (inv_init honest)).objs j S hS ha
  exact ⟨g, hg, fun hL => C11_peer_prefix S.conv g S.st hp hL⟩

/-- One listener without FEC, with any cipher `ciph`, whose sessions are `Model/Sess`
sessions; `honest` any set of addresses.  After ANY history `evs` from the empty listener — any
interleaving of: clients dialling (any address, any number of conversations per address), clients
doing anything, the network delivering with source `a` any datagram any client of `a` has emitted so
far (genuine, duplicated, reordered, delayed, or stale from a previous conversation of `a`), ARBITRARY
datagrams from every non-honest address (forged ids, foreign conversations, garbage, FEC/OOB frames),
Accept, Close of any session, any `Read`/`Write`/`update`/setter on any server-side session,
`Listener.Close` — every session object `S` created for an honest address satisfies:

  the client `P` of `S`'s own address and conversation id exists, and the bytes `S.Read` has returned
  are a prefix of the bytes `P.WriteBuffers` has accepted.

Nothing from other addresses, nothing from other conversations of the same address, nothing lost in
the middle, duplicated or reordered.  (`P.log.length < 2^32`: the range hypothesis of C01.) -/
theorem C11_isolation (ciph : Cipher) (honest : String → Bool) (evs : List IEv) (j : Nat) (S : SessIn.Sess SessG)
    (hS : (C11Iso.run ciph honest {} evs).l.objs[j]? = some S) (ha : honest S.addr = true) :
    ∃ P, (C11Iso.run ciph honest {} evs).clients S.addr S.conv = some P ∧ (P.log.length < 2 ^ 32 → S.st.rd <+: P.wr) :=
  C11_isolation_of_wire C11_wire_conv ciph honest evs j S hS ha

/-- the `wrap` of a CRC-style cipher (`enc` = `BlockCrypt.Encrypt`, laws = conclusions of C08): nonce ‖
CRC ‖ frame, encrypted — with any nonce of the right size the listener's gate opens it to the frame, so
`deliver a c i (fun d => enc (cryptFrame crc nonce d)) now` takes place -/
theorem C11_wrap_block (c : Cipher) (enc : Bytes → Bytes) (hc : C01_BlockCipherLaws c enc) (nonce d : Bytes)
    (hn : nonce.length = nonceSize) : cryptGate c (enc (Wire.cryptFrame c.crc nonce d)) = .ok d :=
  C01_gate_genuine c enc hc nonce d hn

/-- the `wrap` of an AEAD: nonce ‖ Seal(nonce, frame) -/
theorem C11_wrap_aead (c : Cipher) (ns ov : Nat) (aseal : Bytes → Bytes → Bytes) (hc : C01_AeadLaws c ns ov aseal)
    (nonce d : Bytes) (hn : nonce.length = ns) : cryptGate c (nonce ++ aseal nonce d) = .ok d := by
  have hl : ¬ (nonce ++ aseal nonce d).length < ns + ov := by
    rw [List.length_append, hc.seal_length, hn]; omega
  rw [cryptGate_aead c _ ns ov hc.kind, if_neg hl, List.take_left' hn, List.drop_left' hn, hc.open_seal]

/-- no cipher: `wrap = id` -/
theorem C11_wrap_plain (d : Bytes) : cryptGate plain (id d) = .ok d := rfl

/-- **the sessions `Accept` has returned**: every index Accept has returned is a session object, and
if its address is honest its reader's bytes are a prefix of its own peer's writes -/
theorem C11_isolation_accepted (ciph : Cipher) (honest : String → Bool) (evs : List IEv) (id : Nat)
    (hid : id ∈ (C11Iso.run ciph honest {} evs).accepted) :
    ∃ S, (C11Iso.run ciph honest {} evs).l.objs[id]? = some S ∧
      (honest S.addr = true →
        ∃ P, (C11Iso.run ciph honest {} evs).clients S.addr S.conv = some P ∧ (P.log.length < 2 ^ 32 → S.st.rd <+: P.wr)) := by
  have hlt := accOk_run ciph honest evs {} accOk_init id (Or.inl hid)
  refine ⟨(C11Iso.run ciph honest {} evs).l.objs[id], List.getElem?_eq_getElem hlt, fun ha => ?_⟩
  exact C11_isolation ciph honest evs id _ (List.getElem?_eq_getElem hlt) ha

theorem C11_isolation_state (ciph : Cipher) (honest : String → Bool) (evs : List IEv) :
    Inv honest (C11Iso.run ciph honest {} evs) := inv_run ciph C11_wire_conv evs {} (inv_init honest)

/-- **the datagrams that reach a session are its own peer's**: in any reachable state, the delivery
`deliver a c i wrap now` (source `a`, the `i`-th datagram `d` of `a`'s client of conversation `c`, opened
by the gate) does to every session object exactly one of: nothing; `closeFx` (the session mapped at `a`,
another conversation, `d` starts a conversation); feed `d` to the session of address `a` AND conversation
`c`; create the fresh session `(a, c)` and feed it `d`.  (A datagram of another address never feeds it:
`C11_frame`.) -/
theorem C11_fed_genuine (ciph : Cipher) (honest : String → Bool) (evs : List IEv) (a : String) (c : U32) (i : Nat)
    (wrap : Bytes → Bytes) (now : U32) (P : SessG) (d : Bytes)
    (hP : (C11Iso.run ciph honest {} evs).clients a c = some P) (hd : P.wire[i]? = some d)
    (hgate : cryptGate ciph (wrap d) = .ok d) (j : Nat) (S' : SessIn.Sess SessG)
    (hj : (C11Iso.step ciph honest (C11Iso.run ciph honest {} evs) (.deliver a c i wrap now)).l.objs[j]? = some S') :
    (C11Iso.run ciph honest {} evs).l.objs[j]? = some S' ∨
    (∃ S, (C11Iso.run ciph honest {} evs).l.objs[j]? = some S ∧
      S' = { S with st := sessStep S.st (.update now), closed := true }) ∨
    (∃ S, (C11Iso.run ciph honest {} evs).l.objs[j]? = some S ∧ S.addr = a ∧ S.conv = c ∧
      S' = { S with st := sessStep S.st (.input d now) }) ∨
    (j = (C11Iso.run ciph honest {} evs).l.objs.length ∧
      S' = { conv := c, addr := a, st := sessStep { s := Sess.new c } (.input d now), closed := false }) := by
  have hi := C11_isolation_state ciph honest evs
  simp only [C11Iso.step, hP, hd, hgate, if_true] at hj
  exact inputD_genuine C11_wire_conv hi.wf hi.cls ciph now _ (wrap d) a c P i d hP hd hgate j S' hj

/-! ### the ghost fields are faithful

`SessG` = a `Model/Sess` session plus the history the statement is about.  On a live session (no
slice-bounds panic has been flagged: C05 proves none can be under its hypotheses; a flagged panic
freezes the ghost session, the real process has crashed) the session component of every step is the
`Model/Sess` function, and `rd` / `wr` record exactly what `Read` returned / `WriteBuffers` accepted. -/

/-- the listener's environment consists of the `Model/Sess` functions: `kcpInput s d = (Sess.packetInput s d now).s`,
`init conv = Sess.new conv`, `closeFx` = the flush of `Close` -/
theorem C11_world_is_sess (now : U32) (x : SessG) (hd : x.dead = false) :
    (∀ d, (x.s.packetInput d now).panic = false → ((world now).kcpInput x d).s = (x.s.packetInput d now).s) ∧
    (∀ conv, ((world now).init conv).s = Sess.new conv ∧ ((world now).init conv).rd = [] ∧
      ((world now).init conv).dead = false) ∧
    ((x.s.update now).panic = false → ((world now).closeFx x).s = { x.s with k := (x.s.update now).k } ∧
      ((world now).closeFx x).rd = x.rd) := by
  refine ⟨fun d hp => ?_, fun conv => ⟨rfl, rfl, rfl⟩, fun hp => ?_⟩
  · show (sessStep x (.input d now)).s = _
    unfold sessStep
    simp only [hd, Bool.false_eq_true, if_false, hp]
  · show (sessStep x (.update now)).s = _ ∧ (sessStep x (.update now)).rd = _
    unfold sessStep
    simp only [hd, Bool.false_eq_true, if_false, hp, and_self]

/-- `rd` grows by exactly what `Read` returns, nothing else changes it; `wr` grows by exactly the slices
of an admitted `WriteBuffers` -/
theorem C11_ghost_faithful (x : SessG) (hd : x.dead = false) :
    (∀ blen, (sessStep x (.read blen)).s = (x.s.read blen).s ∧ (sessStep x (.read blen)).rd = x.rd ++ (x.s.read blen).data) ∧
    (∀ d now, (sessStep x (.input d now)).rd = x.rd ∧ (sessStep x (.input d now)).wr = x.wr) ∧
    (∀ now, (sessStep x (.update now)).rd = x.rd ∧ (sessStep x (.update now)).wr = x.wr) ∧
    (∀ v now, (x.s.writeBuffers v now).panic = false → (x.s.writeBuffers v now).blocked = false →
      (sessStep x (.write v now)).s = (x.s.writeBuffers v now).s ∧ (sessStep x (.write v now)).wr = x.wr ++ v.flatten ∧
      (sessStep x (.write v now)).rd = x.rd) := by
  refine ⟨fun blen => ?_, fun d now => ?_, fun now => ?_, fun v now hp hb => ?_⟩
  · unfold sessStep
    simp only [hd, Bool.false_eq_true, if_false, and_self]
  · unfold sessStep
    simp only [hd, Bool.false_eq_true, if_false]
    split <;> exact ⟨rfl, rfl⟩
  · unfold sessStep
    simp only [hd, Bool.false_eq_true, if_false]
    split <;> exact ⟨rfl, rfl⟩
  · unfold sessStep
    simp only [hd, Bool.false_eq_true, if_false, hp, hb, and_self]

/-- **the literal instantiation** (`Lemmas/C11IsoErase.lean`): `σ := Sess`, `kcpInput s d =
(Sess.packetInput s d now).s`, `init = Sess.new`, `closeFx s = { s with k := (Sess.update s now).k }`
(`worldS`), application operations = the `Model/Sess` functions (`plainStep`).  Along every run of listener
events (datagrams with any cipher / bytes / source / clock, Accept, Close, any session operation on any
session) on which no ghost session is flagged dead, erasing the ghost fields of the ghost run gives the
literal run: the ghost history only observes. -/
theorem C11_ghost_erasure (evs : List GEv) (l : Listener SessG) (h : LiveRun l evs) :
    erL (evs.foldl gstep l) = evs.foldl pstep (erL l) := by
  have live : ∀ (evs : List GEv) (l : Listener SessG), LiveRun l evs → Live (evs.foldl gstep l) := by
    intro evs
    induction evs with
    | nil => intro l h; exact h
    | cons e rest ih => intro l h; exact ih _ h.2
  exact erL_of_rel (foldl_rel (f := gstep) (g := pstep) (R := LRel Er) evs (fun _ _ e _ h => er_step h e) l (erL l)
    (erL_rel l)) (live evs l h)

example : (worldS 5).init 7 = Sess.new 7 ∧
    (∀ s d, (worldS 5).kcpInput s d = (Sess.packetInput s d 5).s) := ⟨rfl, fun _ _ => rfl⟩

variable {σ : Type}

/-- Any session state `σ`, any core, any cipher.  `l` any listener state
satisfying the two table invariants (every reachable one does: `C11_reachable_wf`), `S` the session
object at index `id`, created for address `a`.  After ANY history of listener events — datagrams
(any world = any clock, any cipher, any bytes, any source), Accepts, Closes, application/scheduler
operations on any session — the object `S` (its ENTIRE state: core, queues, windows, reader buffer,
closed flag) is what it is after the sub-history of the events that concern it (datagrams whose source
is `a`; Close of / operations on `S` itself), and `a` is mapped to `S` after the one iff after the
other.  Traffic from other addresses, other sessions' Reads/Writes/Closes and Accepts cannot
change `S`. -/
theorem C11_no_cross_stall (l : Listener σ) (hwf : WF l) (hwf2 : WF2 l) (a : String) (id : Nat) (S : SessIn.Sess σ)
    (hS : l.objs[id]? = some S) (hSa : S.addr = a) (evs : List (LEv σ)) :
    (lrun l evs).objs[id]? = (lrun l (evs.filter (concerns a id))).objs[id]? ∧
    (lookup (lrun l evs).table a = some id ↔ lookup (lrun l (evs.filter (concerns a id))).table a = some id) := by
  subst hSa
  have hobj : (lrun l evs).objs[id]? = (lrun l (evs.filter (concerns S.addr id))).objs[id]? := by
    rw [lrun_obj evs l S hwf hwf2 hS, lrun_obj _ l S hwf hwf2 hS, List.filter_filter]
    simp only [Bool.and_self]
  have w1 := WF_lrun evs l hwf hwf2
  have w2 := WF_lrun (evs.filter (concerns S.addr id)) l hwf hwf2
  exact ⟨hobj, mapped_congr w2.1 w2.2 w1.1 w1.2 hobj S.addr⟩

/-- corollary: a history none of whose events concerns `S` leaves `S` identical and mapped as before -/
theorem C11_foreign_history_frame (l : Listener σ) (hwf : WF l) (hwf2 : WF2 l) (a : String) (id : Nat)
    (S : SessIn.Sess σ) (hS : l.objs[id]? = some S) (hSa : S.addr = a) (evs : List (LEv σ))
    (hf : ∀ e ∈ evs, concerns a id e = false) :
    (lrun l evs).objs[id]? = some S ∧ (lookup (lrun l evs).table a = some id ↔ lookup l.table a = some id) := by
  have h := C11_no_cross_stall l hwf hwf2 a id S hS hSa evs
  have he : evs.filter (concerns a id) = [] := by
    rw [List.filter_eq_nil_iff]
    intro e he; rw [hf e he]; exact Bool.false_ne_true
  rw [he] at h
  exact ⟨h.1.trans hS, h.2⟩

/-- both table invariants hold in every reachable listener state -/
theorem C11_reachable_wf (evs : List (LEv σ)) :
    WF (lrun (Listener.empty : Listener σ) evs) ∧ WF2 (lrun (Listener.empty : Listener σ) evs) :=
  WF_lrun evs _ WF_empty WF2_empty

/-! ### `Listener.Close` and the closed listener (`Model/SessIn.listenerInputD`, `listenerClose`, tied by the
`lclose` op of the `listener` component) -/

/-- an open listener's `packetInput` is `listenerInput`: every C06/C11 theorem is about the tied function -/
theorem C11_open_listener (w : World σ) (c : Cipher) (l : Listener σ) (data : Bytes) (a : String) :
    listenerInputD w c l false data a = listenerInput w c l data a := listenerInputD_false w c l data a

/-- **a closed listener creates nothing and stays isolated**: after `Listener.Close`, a datagram from `a`
(any bytes, any cipher) never lengthens the accept queue or the object list; the state is that of the
open listener's step with a `create` decision replaced by "close the old session, if any"; every object
not mapped at `a` is identical and the mapping of every other address is unchanged (`C11_frame` for the
closed listener) -/
theorem C11_closed_listener (w : World σ) (c : Cipher) (l : Listener σ) (data : Bytes) (a : String) (hwf : WF l) :
    (listenerInputD w c l true data a).l.accepts = l.accepts ∧
    (listenerInputD w c l true data a).l.objs.length = l.objs.length ∧
    (listenerInputD w c l true data a).l = deadOutcome w l (listenerInput w c l data a) ∧
    (∀ j, j < l.objs.length → lookup l.table a ≠ some j → (listenerInputD w c l true data a).l.objs[j]? = l.objs[j]?) ∧
    (∀ b, b ≠ a → lookup (listenerInputD w c l true data a).l.table b = lookup l.table b) :=
  ⟨(listenerInputD_dead_shape w c l data a).1, (listenerInputD_dead_shape w c l data a).2,
   listenerInputD_dead w c l data a, fun j hj hne => frameD_objects w c l true data a j hj hne,
   fun b hb => frameD_table w c l true data a b hwf hb⟩

/-- **`Listener.Close`** (first call): the accept queue is empty afterwards, every session that was still
queued is closed, and every other session — accepted ones in particular — is identical and mapped as
before.  (`Listener.Close` therefore concerns every queued session; with it in the history
`C11_no_cross_stall` holds as stated only up to the Close, or for sessions already accepted.) -/
theorem C11_listener_close (w : World σ) (l : Listener σ) (hwf2 : WF2 l) :
    (listenerClose w l false).accepts = [] ∧
    (∀ id ∈ l.accepts, id < l.objs.length → ∃ S, (listenerClose w l false).objs[id]? = some S ∧ S.closed = true) ∧
    (∀ id, id ∉ l.accepts → (listenerClose w l false).objs[id]? = l.objs[id]? ∧
      ∀ a, (lookup (listenerClose w l false).table a = some id ↔ lookup l.table a = some id)) ∧
    listenerClose w l true = l :=
  ⟨rfl, fun id hid hlt => closeAll_closed w l.accepts l id hid hlt,
   fun id hid => ⟨closeAll_objs w l.accepts l id hid, fun a => closeAll_lookup w l.accepts l hwf2 id a hid⟩, rfl⟩

/-- `C11_no_cross_stall` for the composite system of `C11_isolation` (listener open): the state of
session `S` after the mixed history is its state after the sub-history of the listener events that
concern `S` -/
theorem C11_no_cross_stall_sessions (ciph : Cipher) (honest : String → Bool) (pre evs : List IEv) (a : String) (id : Nat)
    (S : SessIn.Sess SessG) (hS : (C11Iso.run ciph honest {} pre).l.objs[id]? = some S) (hSa : S.addr = a)
    (hd : (C11Iso.run ciph honest {} pre).dead = false) (hn : ∀ e ∈ evs, isListenerClose e = false) :
    (C11Iso.run ciph honest (C11Iso.run ciph honest {} pre) evs).l.objs[id]? =
      (lrun (C11Iso.run ciph honest {} pre).l ((trace ciph honest (C11Iso.run ciph honest {} pre) evs).filter (concerns a id))).objs[id]? := by
  have hi := C11_isolation_state ciph honest pre
  rw [C11Iso.run_l ciph honest evs _ hd hn]
  exact (C11_no_cross_stall _ hi.wf hi.wf2 a id S hS hSa _).1

/-- A session dialled to the remote `r` (a UDP address or any other
`net.Addr`), behind the source filter of its read loop latched on `r`, and its peer session, both
`Model/Sess` (any initial sessions satisfying the hypotheses of `C01_session_plain`).  ANY history of:
the peer doing anything; the application / scheduler on the dialled session; datagrams from the remote
that the peer has emitted (any order, multiplicity, delay); ARBITRARY datagrams from ANY source that is
not the remote (`DEv.other`, processed by the real filter: `recvFrom`).  Then what the dialled session's
`Read` has returned is a prefix of what the peer's `WriteBuffers` has accepted: datagrams that do not come
from its peer's address never reach `packetInput` (`C11_dial_filter`, `C11_dial_filter_string`), and the
filter stays latched. -/
theorem C11_dial_isolation (r : Remote) (hr : r.ok) (sA sB : Sess) (hA : Fresh sA.k) (hB : Fresh sB.k)
    (hbB : sB.bufptr = []) (hsn : sB.k.rcv_nxt = sA.k.snd_nxt) (hm : 0 < sA.k.mss.toNat) (evs : List DEv)
    (hL : (drun r ⟨{ s := sA }, { s := sB }, r.filter⟩ evs).srv.log.length < 2 ^ 32) :
    (drun r ⟨{ s := sA }, { s := sB }, r.filter⟩ evs).cli.rd <+: (drun r ⟨{ s := sA }, { s := sB }, r.filter⟩ evs).srv.wr ∧
    (drun r ⟨{ s := sA }, { s := sB }, r.filter⟩ evs).f = r.filter := by
  obtain ⟨hf, ops, hops⟩ := drun_inv r hr sA sB evs ⟨{ s := sA }, { s := sB }, r.filter⟩ rfl ⟨[], rfl⟩
  refine ⟨?_, hf⟩
  have := C01_session_plain sA sB hA hB hbB hsn hm ops (by rw [hops]; exact hL)
  rw [hops] at this
  exact this

/-- the remote `10.0.0.1:7000`, a stranger `10.0.0.2:7000` and the same IP on another port -/
def c11Remote : Remote := .udp ([10, 0, 0, 1], 7000, "")
def c11AddrPeer : Dial.Addr := { udp := some ([10, 0, 0, 1], 7000, ""), str := "10.0.0.1:7000" }
def c11AddrOther : Dial.Addr := { udp := some ([10, 0, 0, 2], 7000, ""), str := "10.0.0.2:7000" }
def c11AddrPort : Dial.Addr := { udp := some ([10, 0, 0, 1], 7001, ""), str := "10.0.0.1:7001" }

/- the peer writes `[1, 2, 3]`; a stranger and the peer's IP on another port inject a well-formed PUSH of the
same conversation carrying `[9]` with sn 0 BEFORE the genuine datagram arrives: they are filtered (the third
`other` event names the remote itself and is not an event of this system: spoofing is excluded), the
genuine one is delivered, `Read` returns `[1, 2, 3]` -/
set_option maxRecDepth 1000000 in
example :
    (drun c11Remote ⟨{ s := Sess.new 7 }, { s := Sess.new 7 }, c11Remote.filter⟩
      [.srv (.write [[1, 2, 3]] 0), .srv (.update 0),
       .other c11AddrOther [7, 0, 0, 0, 81, 0, 32, 0, 0, 0, 0, 0, 0, 0, 0, 0, 0, 0, 0, 0, 1, 0, 0, 0, 9] 1,
       .other c11AddrPort [7, 0, 0, 0, 81, 0, 32, 0, 0, 0, 0, 0, 0, 0, 0, 0, 0, 0, 0, 0, 1, 0, 0, 0, 9] 1,
       .other c11AddrPeer [7, 0, 0, 0, 81, 0, 32, 0, 0, 0, 0, 0, 0, 0, 0, 0, 0, 0, 0, 0, 1, 0, 0, 0, 9] 1,
       .peer c11AddrPeer 0 2, .cli (.read 100)]).cli.rd = [1, 2, 3] := by
  decide +kernel

def c11IsoHonest : String → Bool := fun a => a == "A" || a == "B"

/-- the ACK session 0 emits at clock 5 for A's first segment (conversation 5, sn 0, una 1) -/
def c11IsoAck : Bytes := [5, 0, 0, 0, 82, 0, 31, 0, 0, 0, 0, 0, 0, 0, 0, 0, 1, 0, 0, 0, 0, 0, 0, 0]

/-- A (conversation 5) and B (conversation 9) each write and flush; their first datagrams reach the
listener (sessions 0 and 1); C forges a frame with A's conversation id (own session 2 at "C"), garbage,
and a frame "from A" that the step function ignores because A is honest; A's datagram is duplicated;
two Accepts; partial and full Reads; session 0 acknowledges, A writes `[10, 11]` (datagram 1, sn 1);
A reconnects with conversation 6 (session 3 replaces session 0); the stale datagram 1 of conversation 5
(sn ≠ 0) is ignored; B's session is closed by the application -/
def c11IsoEvs : List IEv :=
  [ .connect "A" 5, .connect "B" 9,
    .client "A" 5 (.write [[1, 2, 3]] 0), .client "A" 5 (.update 0),
    .client "B" 9 (.write [[7, 8]] 0), .client "B" 9 (.update 0),
    .deliver "A" 5 0 id 1, .deliver "B" 9 0 id 2,
    .forge "C" (c11Frame 5 0) 3, .forge "C" [1, 2, 3] 3, .forge "A" (c11Frame 9 0) 3,
    .deliver "A" 5 0 id 4,
    .accept, .accept,
    .sess 0 (.read 2), .sess 0 (.read 100), .sess 1 (.read 100),
    .sess 0 (.update 5), .client "A" 5 (.input c11IsoAck 6), .client "A" 5 (.write [[10, 11]] 7), .client "A" 5 (.update 7),
    .connect "A" 6, .client "A" 6 (.write [[4]] 10), .client "A" 6 (.update 10),
    .deliver "A" 6 0 id 11,
    .deliver "A" 5 1 id 12,
    .sess 3 (.read 100), .close 1 20 ]

set_option maxRecDepth 1000000 in
example :
    (C11Iso.run plain c11IsoHonest {} c11IsoEvs).l.objs.map (fun o => (o.addr, o.conv, o.closed, o.st.rd, o.st.dead)) =
      [("A", 5, true, [1, 2, 3], false), ("B", 9, true, [7, 8], false), ("C", 5, false, [], false),
       ("A", 6, false, [4], false)] ∧
    (C11Iso.run plain c11IsoHonest {} c11IsoEvs).l.table = [("A", 3), ("C", 2)] ∧
    (C11Iso.run plain c11IsoHonest {} c11IsoEvs).accepted = [0, 1] ∧
    ((C11Iso.run plain c11IsoHonest {} c11IsoEvs).clients "A" 5).map (fun g => (g.wr, g.wire.length)) = some ([1, 2, 3, 10, 11], 2) ∧
    ((C11Iso.run plain c11IsoHonest {} c11IsoEvs).clients "A" 6).map (fun g => g.wr) = some [4] ∧
    ((C11Iso.run plain c11IsoHonest {} c11IsoEvs).clients "B" 9).map (fun g => g.wr) = some [7, 8] := by
  decide +kernel

/- what the code does with a replayed FIRST datagram (sn = 0) of the previous conversation 5 of A: it is
a conversation start (`C11_reset_replaces`) — session 3 of conversation 6 is closed, a fresh session 4
of conversation 5 is created; its stream `[1, 2, 3]` is still a prefix of what `P_A^5` wrote -/
set_option maxRecDepth 1000000 in
example :
    (C11Iso.run plain c11IsoHonest {} (c11IsoEvs ++ [.deliver "A" 5 0 id 30, .sess 4 (.read 100)])).l.objs.map
        (fun o => (o.addr, o.conv, o.closed, o.st.rd)) =
      [("A", 5, true, [1, 2, 3]), ("B", 9, true, [7, 8]), ("C", 5, false, []), ("A", 6, true, [4]),
       ("A", 5, false, [1, 2, 3])] ∧
    (C11Iso.run plain c11IsoHonest {} (c11IsoEvs ++ [.deliver "A" 5 0 id 30, .sess 4 (.read 100)])).l.table = [("A", 4), ("C", 2)] := by
  decide +kernel

/- `C11_no_cross_stall` is not vacuous: in the history above, from the state in which session 1 exists,
the events that concern ("B", session 1) are a proper sub-history -/
example : ((trace plain c11IsoHonest (C11Iso.run plain c11IsoHonest {} (c11IsoEvs.take 8)) (c11IsoEvs.drop 8)).length,
    ((trace plain c11IsoHonest (C11Iso.run plain c11IsoHonest {} (c11IsoEvs.take 8)) (c11IsoEvs.drop 8)).filter (concerns "B" 1)).length) = (13, 2) := by
  decide +kernel

end KcpVerif.Props
