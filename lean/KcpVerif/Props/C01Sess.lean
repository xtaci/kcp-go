import KcpVerif.Lemmas.C01SessCases
/-!
C01 — session data path: `Read` hands the reader exactly what the core's `Recv` produced, in
order, with nothing lost or repeated across calls whatever the read-buffer sizes are.
-/
namespace KcpVerif.Props

/-- With unread bytes left over from the previous message, `Read` returns a prefix of them,
keeps the rest, and does not touch the core. -/
theorem C01_sess_read_leftover (s : Sess) (blen : Nat) (h : s.bufptr.length > 0) :
    (s.read blen).blocked = false ∧ (s.read blen).data ++ (s.read blen).s.bufptr = s.bufptr ∧
    (s.read blen).s.k = s.k ∧ (s.read blen).data.length = min blen s.bufptr.length := by
  rw [C01.read_leftover s blen h]
  exact ⟨rfl, List.take_append_drop _ _, rfl, by simp [List.length_take]⟩

/-- Without leftovers and with a message ready, `Read` leaves the core as one `Recv` does, and
the bytes it returns followed by the new leftover are exactly that `Recv`'s bytes. -/
theorem C01_sess_read_fresh (s : Sess) (blen : Nat) (h0 : s.bufptr.length = 0) (hp : s.k.peekSize > 0) :
    ∃ n, (s.read blen).blocked = false ∧ (s.read blen).s.k = (s.k.recv n).k ∧
      (s.read blen).data ++ (s.read blen).s.bufptr = (s.k.recv n).data ∧
      (s.read blen).data.length = min blen (s.k.recv n).data.length := by
  obtain ⟨e1, e2⟩ := C01.read_fresh s blen h0 hp
  rw [e2]
  exact ⟨_, rfl, by rw [e1], by rw [e1]; exact List.take_append_drop _ _, by rw [e1]; exact List.length_take⟩

/-- No message ready and no leftovers: the call blocks (C13's subject) and nothing changes. -/
theorem C01_sess_read_blocks (s : Sess) (blen : Nat) (h0 : s.bufptr.length = 0) (hp : ¬ s.k.peekSize > 0) :
    s.read blen = ⟨s, true, []⟩ :=
  C01.read_blocked s blen h0 hp

/-- `WriteBuffers` is admitted only while fewer than a send window of segments are pending (C04) -/
theorem C01_sess_write_admission (s : Sess) (v : List Bytes) (now : U32)
    (h : ¬ s.k.waitSnd < s.k.snd_wnd.toNat) : s.writeBuffers v now = ⟨s, true, 0, [], false⟩ :=
  C01.wb_blocked s v now h

end KcpVerif.Props
