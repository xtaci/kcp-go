/-
C15, ownership half, for the FEC decoder (fec.go `fecDecoder.decode`, `discardShards`) together with
what its caller does with the recovered buffers (sess.go `kcpInput`): **the code is disciplined**.

On the instrumented model `Model/FecOwn` (= the tied decoder model `Model/Fec` plus the identity of the
pool buffer behind every stored packet and a ghost event log), for EVERY sequence of input packets —
any bytes: duplicates, packets of old or future groups, wrong types that trigger a re-tune, groups
that fail to reconstruct — and for every Reed–Solomon codec (the theorems quantify over the codec
constructor, so they do not depend on the code being MDS).

Tie of the ghost part: component `fecown` (per decode of component `fec`'s histories the real
Get/Put events and the buffers stored in the real shard sets, against this model).
-/
import KcpVerif.Props.C15Core
import KcpVerif.Lemmas.FecOwnSync

namespace KcpVerif.Props
open KcpVerif.Fec KcpVerif.FecOwn KcpVerif.Own

/-- feeding a list of packets: each `decode` followed by the caller's release of what it returned -/
def runD (C : CodecNew) (o : DecO) (ins : List Fec.Bytes) : DecO := ins.foldl (decodeRel C) o

def runDec (C : CodecNew) (dec : Decoder) (ins : List Fec.Bytes) : Decoder :=
  ins.foldl (fun d i => (d.decode C i).st) dec

/-- an instrumented decoder around any decoder state that stores nothing yet (a fresh decoder, also
with `newestShardId` preset as the harness hook does) -/
def startD (dec : Decoder) : DecO := { dec := dec }

structure FecInv (o : DecO) : Prop where
  sync : o.dec.sets = erSets o.sets
  w    : W o.gh (fun id => cntS id o.sets)

theorem C15_aux_fec_start (dec : Decoder) (h : dec.sets = []) : FecInv (startD dec) :=
  ⟨h, W.init.congr (fun _ => rfl)⟩

theorem C15_aux_fec_step (C : CodecNew) {o : DecO} (h : FecInv o) (inp : Fec.Bytes) : FecInv (decodeRel C o inp) :=
  ⟨by
    have e := decodeO_er C o inp h.sync
    show (decodeO C o inp).o.dec.sets = erSets (decodeO C o inp).o.sets
    rw [e.1]; exact e.2.2.2, decodeRel_W C o inp h.w⟩

theorem C15_aux_fec_run (C : CodecNew) {o : DecO} (h : FecInv o) (ins : List Fec.Bytes) : FecInv (runD C o ins) :=
  foldl_inv (P := FecInv) (fun _ i h => C15_aux_fec_step C h i) ins o h

theorem C15_aux_fec_lost (C : CodecNew) (o : DecO) (inp : Fec.Bytes) : (decodeRel C o inp).gh.lost = o.gh.lost := by
  have hget : o.gh.get.lost = o.gh.lost := rfl
  show (release _ _).lost = _
  rw [release_lost]
  refine decodeO_cases (P := fun _ g _ => g.lost = o.gh.lost) C o inp rfl (putSets_lost _ _)
    (fun n newest sid => ?_) (fun n newest sid => ?_) (fun n newest sid m => ?_) (fun n newest sid m => ?_)
  · rw [discardO_lost, hget]
  · rw [discardO_lost, putPkts_lost, usePkts_lost, hget]
  · rw [discardO_lost, putPkts_lost, getN_lost, usePkts_lost, usePkts_lost, hget]
  · rw [discardO_lost, putPkts_lost, putIds_lost, getN_lost, usePkts_lost, usePkts_lost, hget]

/-- **Erasure**: the decoder state of the instrumented run is the model's run, and its shard sets
are the model's shard sets with buffer ids attached. -/
theorem C15_fec_erasure (C : CodecNew) (dec : Decoder) (h : dec.sets = []) (ins : List Fec.Bytes) :
    (runD C (startD dec) ins).dec = runDec C dec ins ∧
    erSets (runD C (startD dec) ins).sets = (runDec C dec ins).sets := by
  -- the two runs side by side: the instrumented one keeps `FecInv`, and its decoder is the model's
  have hr := foldl_rel (R := fun (o : DecO) d => FecInv o ∧ o.dec = d) (g := fun d i => (d.decode C i).st) ins
    (fun o d i _ ho => ⟨C15_aux_fec_step C ho.1 i, ho.2 ▸ (decodeO_er C o i ho.1.sync).1⟩)
    (startD dec) dec ⟨C15_aux_fec_start dec h, rfl⟩
  exact ⟨hr.2, hr.1.sync.symm.trans (congrArg Decoder.sets hr.2)⟩

/-- **The FEC decoder (with its caller) is disciplined**: whatever packets arrive, in whatever order,
and whatever the codec answers, every put and every use of a buffer happens while it is owned and
every get hands out a buffer nobody owns. -/
theorem C15_fec_disciplined (C : CodecNew) (dec : Decoder) (h : dec.sets = []) (ins : List Fec.Bytes) :
    Disciplined (runD C (startD dec) ins).gh.log :=
  (C15_sanitizer_sound _).mp (C15_aux_fec_run C (C15_aux_fec_start dec h) ins).w.ok

/-- `C15_code_disciplined_full` instantiated with the logs of the decoder -/
theorem C15_fec_code_disciplined (C : CodecNew) :
    C15_code_disciplined_full (fun l => ∃ dec ins, dec.sets = [] ∧ l = (runD C (startD dec) ins).gh.log) := by
  rintro l ⟨dec, ins, h, rfl⟩
  exact C15_fec_disciplined C dec h ins

/-- **One place, and only owned buffers; nothing leaks.**  After any run: a buffer is stored at most
once in the shard sets, a stored buffer is owned (its most recent get/put event is a get, so it is
not in the pool), and conversely every buffer acquired and not yet recycled is stored in a shard
set — neither the decoder nor its caller drops a buffer without `Put`. -/
theorem C15_fec_held (C : CodecNew) (dec : Decoder) (h : dec.sets = []) (ins : List Fec.Bytes) (id : Nat) :
    cntS id (runD C (startD dec) ins).sets ≤ 1 ∧
    (cntS id (runD C (startD dec) ins).sets = 1 ↔ holds (runD C (startD dec) ins).gh.log.reverse id = true) := by
  have hl : (runD C (startD dec) ins).gh.lost = [] :=
    foldl_inv (P := fun o => o.gh.lost = []) (fun o i h => (C15_aux_fec_lost C o i).trans h) ins (startD dec) rfl
  have hw := C15_aux_W_holds (C15_aux_fec_run C (C15_aux_fec_start dec h) ins).w id
  refine ⟨hw.1, hw.2.1, fun hh => ?_⟩
  have := (hw.2.2 hh).1
  rw [hl] at this
  exact this

def c15ExD1 : Fec.Bytes := [0, 0, 0, 0, 241, 0, 5, 0, 7, 7, 7]
def c15ExD2 : Fec.Bytes := [1, 0, 0, 0, 241, 0, 4, 0, 9, 9]
def c15ExPar : Fec.Bytes := [2, 0, 0, 0, 242, 0, 7, 0, 27, 27, 9]

/- data shard 0, the same again (duplicate: no get), the parity shard (reconstruction of shard 1 into
a fresh buffer, both packets recycled, the recovered buffer read and recycled by the caller), then
the late data shard 1 (stored again in the emptied set) -/
set_option maxRecDepth 100000 in
example : ((DecO.new rsNew 2 1).map fun o => (runD rsNew o [c15ExD1, c15ExD1, c15ExPar, c15ExD2]).gh.log) =
    some [.get 0, .get 1, .use 0, .use 1, .use 0, .use 1, .get 2, .put 0, .put 1, .use 2, .put 2, .get 3] := by
  decide +kernel
set_option maxRecDepth 100000 in
example : ((DecO.new rsNew 2 1).map fun o => (decodeO rsNew (runD rsNew o [c15ExD1]) c15ExPar).recovered) =
    some [[4, 0, 9, 9, 0]] := by decide +kernel

end KcpVerif.Props
