import KcpVerif.Lemmas.C09WireRun
import KcpVerif.Lemmas.C01Msg
/-!
C09 `wire_reassembles` — "… so that an independent decoder written from the README reassembles the byte stream from
the wire alone."

Two developments meet here: `Wire.Spec` (Model/Wire.lean), the INDEPENDENT decoder, written from README "Specification"
and `wireshark/kcp_dissector.lua` only; and the core model, which writes its datagrams with `Kcp.encodeHdr` and of which
the C01 development (`C01.Op`/`step`/`run`, ghost `log` of the numbered segments, ghost `wire` of every datagram handed to
`output`) proves that each datagram is a concatenation of frames whose PUSH members carry `log[sn − sn0]`.  The two header
encoders are the same function; `C09W.WInv` adds what a decoder needs and C01 does not.  Every theorem is about EVERY
history of operations with arbitrary arguments (all byte strings for `input`, any clock) from a fresh core numbering from
0, with at most 2^32 numbered segments.

This file does not open the namespace `Wire`.
-/
namespace KcpVerif.Props
open KcpVerif.Gen KcpVerif.Kcp KcpVerif.Recv KcpVerif.Send KcpVerif.C01 KcpVerif.C09W
open KcpVerif.Lemmas.KcpFlush (InvMss)

/-- **The two header encoders agree byte for byte**: `Wire.encodeSeg` (what `Wire.Spec`
inverts) on the segment with these fields is `Kcp.encodeHdr` (what the core model's `flush` writes). -/
theorem C09_encoders_agree (conv : U32) (cmd frg : BitVec 8) (wnd : BitVec 16) (ts sn una : U32) (data : Bytes) :
    Wire.encodeSeg ⟨conv, UInt8.ofNat cmd.toNat, UInt8.ofNat frg.toNat, wnd, ts, sn, una, data⟩ =
      Kcp.encodeHdr conv cmd frg wnd ts sn una data.length :=
  encoders_agree conv cmd frg wnd ts sn una data

/-- … and for every segment of the wire specification -/
theorem C09_encoders_agree' (s : Wire.Seg) :
    Wire.encodeSeg s =
      Kcp.encodeHdr s.conv (BitVec.ofNat 8 s.cmd.toNat) (BitVec.ofNat 8 s.frg.toNat) s.wnd s.ts s.sn s.una
        s.data.length := by
  have u8 (c : UInt8) : UInt8.ofNat (BitVec.ofNat 8 c.toNat).toNat = c := by
    apply UInt8.toNat_inj.mp
    have := c.toNat_lt
    simp only [UInt8.toNat_ofNat', BitVec.toNat_ofNat]
    omega
  rw [← encoders_agree, u8, u8]

/-- the frame lists of the C01 development are the segment lists of the wire specification -/
theorem C09_frames_are_segments (frs : List Wire.Frm) : Wire.encFrames frs = Wire.encodeSegs (frs.map toSeg) :=
  encFrames_eq frs

/-- **The send-side wire invariant in every reachable state** (any operations, any arguments): no
modelled panic has happened, and every datagram handed to `output` so far is `Wire.encFrames frs` for a
NON-EMPTY list of frames with the core's `conv`, a known command, a payload of at most `mtuLimit` bytes,
PUSH frames carrying `log[i]` under the sequence number `sn0 + i`. -/
theorem C09_wire_invariant (k0 : Kcp) (hf : Fresh k0) (hm : InvMss k0) (ops : List Op) :
    WInv k0.conv k0.snd_nxt (run { k := k0 } ops) :=
  foldl_inv (P := WInv k0.conv k0.snd_nxt) (fun _ op h => step_wInv h op) ops _ (fresh_wInv k0 hf hm)

/-- **(a) Every datagram on the wire is accepted by the specification decoder.**  For every history
from a fresh core whose numbering starts at 0, with at most 2^32 numbered segments: `Wire.Spec.decode`
accepts every emitted datagram `o` — hence consumes every byte (`segsLen`: 24 header bytes plus the
payload per segment add up to `|o|`) — and returns a non-empty list of segments, each with the
connection's `conv`, a known command, `len` = the payload length ≤ `mtuLimit`, and, if it is a PUSH,
`(frg, payload) = log[sn]`. -/
theorem C09_wire_decodes (k0 : Kcp) (hf : Fresh k0) (hm : InvMss k0) (hsn : k0.snd_nxt = 0) (ops : List Op)
    (hL : (run { k := k0 } ops).log.length ≤ 2 ^ 32) :
    (run { k := k0 } ops).dead = false ∧
    ∀ o ∈ (run { k := k0 } ops).wire, ∃ segs, Wire.Spec.decode o = some segs ∧ segs ≠ [] ∧ segsLen segs = o.length ∧
      ∀ x ∈ segs, x.1.conv = k0.conv ∧ Wire.cmdKnown x.1.cmd = true ∧ x.1.len.toNat = x.2.length ∧
        x.2.length ≤ mtuLimit ∧ SegGen (run { k := k0 } ops).log x := by
  have h := C09_wire_invariant k0 hf hm ops
  rw [hsn] at h
  refine ⟨h.alive, fun o ho => ?_⟩
  obtain ⟨frs, h1, h2, h3, h4⟩ := (h.wire o ho).decode
  refine ⟨frs.map specOf, h4, by simpa using h1, by rw [h2, encFrames_length], ?_⟩
  intro x hx
  obtain ⟨fr, hfr, rfl⟩ := List.mem_map.mp hx
  exact (h3 fr hfr).spec hL

/-- (a) for `NewKCP(conv, output)` -/
theorem C09_wire_decodes_new (conv : U32) (ops : List Op)
    (hL : (run { k := Kcp.new conv } ops).log.length ≤ 2 ^ 32) :
    ∀ o ∈ (run { k := Kcp.new conv } ops).wire, ∃ segs, Wire.Spec.decode o = some segs ∧ segs ≠ [] ∧
      ∀ x ∈ segs, x.1.conv = conv ∧ Wire.cmdKnown x.1.cmd = true ∧ x.1.len.toNat = x.2.length := by
  intro o ho
  obtain ⟨segs, h1, h2, _, h4⟩ := (C09_wire_decodes (Kcp.new conv) (fresh_new conv) (Lemmas.KcpMss.new_inv conv) rfl ops hL).2 o ho
  exact ⟨segs, h1, h2, fun x hx => ⟨(h4 x hx).1, (h4 x hx).2.1, (h4 x hx).2.2.1⟩⟩

/-- the segments an observer of the wire has collected: any sub-collection, in any order, with any
multiplicity, of the segments decoded from the datagrams emitted so far -/
def C09_Observed (wire : List Bytes) (all : List DSeg) : Prop := ∀ x ∈ all, x ∈ wireSegs wire

/-- **(b) The specification's reassembler, exactly.**  For every history as in (a) and ANY observed
collection `all`: there is `n ≤ |log|` such that the reassembler has consumed precisely the numbered
segments `0 … n−1`, all of which were seen, it stopped because `n = |log|` or segment `n` was never
seen, and it returns the whole messages among them, `(grp (log.take n)).flatten` (`grp` cuts at every
`frg = 0`; in stream mode every segment is a message). -/
theorem C09_wire_reassembles_exact (k0 : Kcp) (hf : Fresh k0) (hm : InvMss k0) (hsn : k0.snd_nxt = 0) (ops : List Op)
    (hL : (run { k := k0 } ops).log.length ≤ 2 ^ 32) (all : List DSeg)
    (hall : C09_Observed (run { k := k0 } ops).wire all) :
    ∃ n, n ≤ (run { k := k0 } ops).log.length ∧
      Wire.Spec.reassemble all = (grp ((run { k := k0 } ops).log.take n)).flatten ∧
      reassembleMsgs all = grp ((run { k := k0 } ops).log.take n) ∧
      (∀ i, i < n → Avail all i) ∧ (n < (run { k := k0 } ops).log.length → ¬ Avail all n) := by
  have h := C09_wire_invariant k0 hf hm ops
  rw [hsn] at h
  obtain ⟨n, h1, h2, h3, h4⟩ := reassembleMsgs_spec _ all (fun x hx => h.segGen hL x (hall x hx))
  exact ⟨n, h1, by rw [reassemble_eq_flatten, h2], h2, h3, h4⟩

/-- **(b) `wire_reassembles`: the stream reassembled from the wire alone is a prefix of the accepted
byte stream.**  For every history as in (a) and any observed collection of segments (any order,
retransmissions, losses): `Wire.Spec.reassemble all` is a prefix of `bytesOf log`, the payload of the
numbered segments, which is a prefix of `accB`, the bytes `Send` has accepted so far
(`accB = bytesOf (log ++ snd_queue)`, `C01_send_accounting`). -/
theorem C09_wire_reassembles (k0 : Kcp) (hf : Fresh k0) (hm : InvMss k0) (hsn : k0.snd_nxt = 0) (ops : List Op)
    (hL : (run { k := k0 } ops).log.length ≤ 2 ^ 32) (all : List DSeg)
    (hall : C09_Observed (run { k := k0 } ops).wire all) :
    Wire.Spec.reassemble all <+: bytesOf (run { k := k0 } ops).log ∧
    bytesOf (run { k := k0 } ops).log <+: (run { k := k0 } ops).accB ∧
    (run { k := k0 } ops).accB =
      bytesOf ((run { k := k0 } ops).log ++ (run { k := k0 } ops).k.snd_queue.map content) := by
  obtain ⟨n, _, h2, _⟩ := C09_wire_reassembles_exact k0 hf hm hsn ops hL all hall
  have hmss : 0 < k0.mss.toNat := by have := hm.mss_toNat; have := hm.mtu_gt; omega
  have hacc := (run_invAcc ops _ (fresh_invAcc k0 hf hmss)).acc
  refine ⟨?_, ?_, hacc⟩
  · rw [h2]
    exact (grp_flatten_prefix _).trans (bytesOf_take_prefix _ _)
  · rw [hacc, bytesOf_append]; exact List.prefix_append _ _

/-- **(b) … and it is everything numbered so far once every numbered segment has been seen.**  If the
observer has seen a PUSH segment for every sequence number `i < |log|` (each numbered segment was
transmitted at least once and not missed: `C09_full_flush_transmits` — a full flush transmits
everything it admits), the reassembler returns all whole messages of the log; when the log ends on a
message boundary (`Closed`: always in stream mode, where every `frg` is 0) that is `bytesOf log`. -/
theorem C09_wire_reassembles_complete (k0 : Kcp) (hf : Fresh k0) (hm : InvMss k0) (hsn : k0.snd_nxt = 0)
    (ops : List Op) (hL : (run { k := k0 } ops).log.length ≤ 2 ^ 32) (all : List DSeg)
    (hall : C09_Observed (run { k := k0 } ops).wire all)
    (hseen : ∀ i, i < (run { k := k0 } ops).log.length → Avail all i) :
    Wire.Spec.reassemble all = (grp (run { k := k0 } ops).log).flatten ∧
    (Closed (run { k := k0 } ops).log → Wire.Spec.reassemble all = bytesOf (run { k := k0 } ops).log) := by
  obtain ⟨n, h1, h2, _, _, h4⟩ := C09_wire_reassembles_exact k0 hf hm hsn ops hL all hall
  have hn : n = (run { k := k0 } ops).log.length := by
    rcases Nat.eq_or_lt_of_le h1 with h5 | h5
    · exact h5
    · exact absurd (hseen n h5) (h4 h5)
  rw [hn, List.take_length] at h2
  exact ⟨h2, fun hc => by rw [h2, grp_flatten_closed _ hc]⟩

/-- **A full flush transmits everything it admits** — the condition of `C09_wire_reassembles_complete`.
Sequence numbers are handed out by phase 4 of `flush` (of an ACK-only flush too: those segments reach
the wire with the next full flush); phase 5 of a FULL flush (`flush(IKCP_FLUSH_FULL)`: `Update`,
`WriteBuffers`, the session's `update`) sends every never-transmitted segment.  So after any history
followed by a full flush, every index the flush has added to the log is the sequence number of a PUSH
segment the specification decoder finds on the wire. -/
theorem C09_full_flush_transmits (k0 : Kcp) (hf : Fresh k0) (hm : InvMss k0) (hsn : k0.snd_nxt = 0) (ops : List Op)
    (now : U32) (hL : (run { k := k0 } (ops ++ [.flush true now])).log.length ≤ 2 ^ 32) :
    ∀ i, (run { k := k0 } ops).log.length ≤ i → i < (run { k := k0 } (ops ++ [.flush true now])).log.length →
      Avail (wireSegs (run { k := k0 } (ops ++ [.flush true now])).wire) i := by
  have h := C09_wire_invariant k0 hf hm ops
  rw [hsn] at h
  have hq := foldl_inv (P := QInv) (fun _ op h => step_qInv h op) ops _ (fresh_qInv k0 hf)
  obtain ⟨hp, _, _, _⟩ := Lemmas.KcpFlush.flush_ok (run { k := k0 } ops).k true now h.mss
  have e : run { k := k0 } (ops ++ [.flush true now]) =
      { run { k := k0 } ops with
        k := (flush (run { k := k0 } ops).k true now).k
        log := (run { k := k0 } ops).log ++ admitted (run { k := k0 } ops).k (flush (run { k := k0 } ops).k true now).k
        wire := (run { k := k0 } ops).wire ++ (flush (run { k := k0 } ops).k true now).outs } := by
    rw [run_snoc]
    unfold step
    rw [if_neg (by simp [h.alive])]
    simp only []
    rw [if_neg (by simp [hp])]
  rw [e] at hL ⊢
  intro i h1 h2
  obtain ⟨x, hx, hc, hs⟩ := flush_full_avail h.sg.inv hq h.conv h.bufc now hp hL i h1 h2
  refine ⟨x, ?_, hc, hs⟩
  show x ∈ wireSegs ((run { k := k0 } ops).wire ++ (flush (run { k := k0 } ops).k true now).outs)
  unfold wireSegs at hx ⊢
  rw [List.flatMap_append]
  exact List.mem_append_right _ hx

/-- **(b) … and only then**: if the numbered segment `i` has never been seen, nothing from segment `i`
on is delivered — the reassembled stream is a prefix of the payload of segments `0 … i−1`. -/
theorem C09_wire_reassembles_missing (k0 : Kcp) (hf : Fresh k0) (hm : InvMss k0) (hsn : k0.snd_nxt = 0)
    (ops : List Op) (hL : (run { k := k0 } ops).log.length ≤ 2 ^ 32) (all : List DSeg)
    (hall : C09_Observed (run { k := k0 } ops).wire all) (i : Nat) (hmiss : ¬ Avail all i) :
    Wire.Spec.reassemble all <+: bytesOf ((run { k := k0 } ops).log.take i) := by
  obtain ⟨n, _, h2, _, h3, _⟩ := C09_wire_reassembles_exact k0 hf hm hsn ops hL all hall
  have hni : n ≤ i := by
    rcases Nat.lt_or_ge i n with h5 | h5
    · exact absurd (h3 i h5) hmiss
    · exact h5
  rw [h2]
  refine (grp_flatten_prefix _).trans ?_
  have : (run { k := k0 } ops).log.take n = ((run { k := k0 } ops).log.take i).take n := by
    rw [List.take_take, Nat.min_eq_left hni]
  rw [this]
  exact bytesOf_take_prefix _ _

/-- **(b) Stream mode.**  With `stream ≠ 0` at the writer every segment has `frg = 0`, the log always
ends on a message boundary, and the stream reassembled from the wire IS the payload of all numbered
segments as soon as each of them has been seen at least once. -/
theorem C09_wire_reassembles_stream (k0 : Kcp) (hf : Fresh k0) (hm : InvMss k0) (hsn : k0.snd_nxt = 0)
    (hst : k0.stream ≠ 0) (ops : List Op) (hL : (run { k := k0 } ops).log.length ≤ 2 ^ 32) (all : List DSeg)
    (hall : C09_Observed (run { k := k0 } ops).wire all)
    (hseen : ∀ i, i < (run { k := k0 } ops).log.length → Avail all i) :
    Closed (run { k := k0 } ops).log ∧ Wire.Spec.reassemble all = bytesOf (run { k := k0 } ops).log := by
  have hc := (foldl_inv (P := InvStream) (fun _ op h => step_invStream h op) ops _ (fresh_invStream k0 hf hst)).closed
  exact ⟨hc, (C09_wire_reassembles_complete k0 hf hm hsn ops hL all hall hseen).2 hc⟩

/-- **(b) Message mode.**  With `stream = 0` at the writer, the messages the specification's
reassembler delivers (`reassembleMsgs`, whose concatenation is `Wire.Spec.reassemble`:
`C09_reassemble_is_concat`) are a prefix of the messages `Send` has accepted, boundaries intact. -/
theorem C09_wire_reassembles_msg (k0 : Kcp) (hf : Fresh k0) (hm : InvMss k0) (hsn : k0.snd_nxt = 0)
    (hst : k0.stream = 0) (ops : List Op) (hL : (run { k := k0 } ops).log.length ≤ 2 ^ 32) (all : List DSeg)
    (hall : C09_Observed (run { k := k0 } ops).wire all) :
    reassembleMsgs all <+: (run { k := k0 } ops).accM := by
  obtain ⟨n, _, _, h2, _⟩ := C09_wire_reassembles_exact k0 hf hm hsn ops hL all hall
  have hmss : 0 < k0.mss.toNat := by have := hm.mss_toNat; have := hm.mtu_gt; omega
  have hM : InvM (run { k := k0 } ops) :=
    foldl_inv (P := InvM) (fun _ op h => step_invM h op) ops _ (fresh_invM k0 hf hmss hst)
  rw [h2, hM.m0.acc]
  exact (grp_take_prefix _ _).trans (grp_prefix_append _ _)

theorem C09_reassemble_is_concat (all : List DSeg) : Wire.Spec.reassemble all = (reassembleMsgs all).flatten :=
  reassemble_eq_flatten all

/-! ### non-vacuity: fragmentation, one segment per datagram, a retransmission of everything -/

/-- `mtu = 26` (2 payload bytes per segment): a 5-byte message in three fragments and a 1-byte
message; `flush` puts each segment into a datagram of its own; 300 ms later `update` retransmits all -/
def C09_exOps : List Op :=
  [.noDelay 1 10 2 1, .setMtu 26, .send [1, 2, 3, 4, 5], .send [6], .flush true 0, .update 300]

set_option maxRecDepth 1000000 in
example :
    Fresh (Kcp.new 7) ∧ InvMss (Kcp.new 7) ∧ (Kcp.new 7).snd_nxt = 0 ∧ (Kcp.new 7).stream = 0 ∧
    (run { k := Kcp.new 7 } C09_exOps).wire.length = 8 ∧
    (run { k := Kcp.new 7 } C09_exOps).log = [(2, [1, 2]), (1, [3, 4]), (0, [5]), (0, [6])] ∧
    Wire.Spec.reassemble (wireSegs (run { k := Kcp.new 7 } C09_exOps).wire) = [1, 2, 3, 4, 5, 6] ∧
    -- any order, duplicates
    reassembleMsgs ((wireSegs (run { k := Kcp.new 7 } C09_exOps).wire).reverse) = [[1, 2, 3, 4, 5], [6]] ∧
    (run { k := Kcp.new 7 } C09_exOps).accM = [[1, 2, 3, 4, 5], [6]] ∧
    -- segment 3 never seen: the first message only; segment 1 never seen: nothing
    Wire.Spec.reassemble ((wireSegs (run { k := Kcp.new 7 } C09_exOps).wire).filter (fun x => x.1.sn != 3))
      = [1, 2, 3, 4, 5] ∧
    Wire.Spec.reassemble ((wireSegs (run { k := Kcp.new 7 } C09_exOps).wire).filter (fun x => x.1.sn != 1)) = [] := by
  exact ⟨fresh_new 7, Lemmas.KcpMss.new_inv 7, rfl, rfl, by decide +kernel⟩

end KcpVerif.Props
