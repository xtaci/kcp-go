import KcpVerif.Props.C19
import KcpVerif.Props.C08
/-!
C19 — the cipher hypothesis `CipherLaws` of `C19_oob_roundtrip` discharged for the CRC-style
ciphers: textbook CFB over ANY block function (which `C08_enc_unrolled_eq_textbook` /
`C08_dec_unrolled_eq_textbook` prove the unrolled code of crypt.go computes, for every length)
and the copying `none` cipher.  The entropy source, the CRC and the Reed-Solomon parity stay
arbitrary.  What remains a hypothesis after this file: the AEAD round trip
`Open(nonce, Seal(nonce, x)) = x` of the standard library's GCM.
-/
namespace KcpVerif.Props
open KcpVerif.Gen KcpVerif.SessOut KcpVerif.Cfb

/-- the primitives of a session that encrypts with CFB over the block function `E` -/
def cfbPrims {γ : Type} (E : Bytes → Bytes) (bs : Nat) (crc : Bytes → BitVec 32)
    (parity : List Bytes → Nat → Bytes) (draw : γ → Draw γ) : Prims γ :=
  { crc := crc, parity := parity, draw := draw,
    encB := cfbEnc E bs (iv bs), decB := cfbDec E bs (iv bs),
    aseal := fun _ x => x, aopen := fun _ x => some x }

/-- CFB with any block function of size 8 or 16 satisfies every cipher law the OOB round trip uses
(`aseal`/`aopen` are not reached for a block cipher; the identity pair satisfies their laws). -/
theorem C19_cfb_laws {γ : Type} (bs : Nat) (hbs : bs = 8 ∨ bs = 16) (E : Bytes → Bytes) (hE : BlockFn bs E)
    (crc : Bytes → BitVec 32) (parity : List Bytes → Nat → Bytes) (draw : γ → Draw γ)
    (hdraw : ∀ g, 16 ≤ (draw g).out.length) (d p : Nat) :
    CipherLaws (cfbPrims E bs crc parity draw) { cipher := .block, d := d, p := p } := by
  exact
    { encB := fun x => C08_cfb_length bs hbs E hE x
      aseal := fun _ x => by simp only [cfbPrims, Cfg.overhead]; omega
      draw := hdraw
      nonce := by simp only [Cfg.nonceLen, nonceSize]; omega
      decEnc := C08_cfb_dec_enc bs hbs E hE
      openSeal := fun _ _ => rfl }

/-- `C19_oob_roundtrip` with no hypothesis on the cipher, for every
block cipher of the package in CFB mode (aes-128/192/256, blowfish, twofish, cast5, 3des, tea, xtea,
sm4 — any block function of size 8 or 16): an out-of-band message of any accepted size arrives
intact at the handler of the peer. -/
theorem C19_oob_roundtrip_cfb {γ σ : Type} (bs : Nat) (hbs : bs = 8 ∨ bs = 16) (E : Bytes → Bytes) (hE : BlockFn bs E)
    (crc : Bytes → BitVec 32) (parity : List Bytes → Nat → Bytes) (draw : γ → Draw γ)
    (hdraw : ∀ g, 16 ≤ (draw g).out.length) (d p : Nat) (st : PP γ) (e : Enc)
    (henc : st.enc = some e) (coreMtu : Nat) (conv : BitVec 32) (data : Bytes) (now : Int)
    (hsz : convSize + data.length ≤ coreMtu) (hf : ({ cipher := .block, d := d, p := p } : Cfg).fecOn = true)
    (onFec onKcp : σ → Bytes → σ) (rx : Rx σ) :
    ∃ b em, sendOOB { cipher := .block, d := d, p := p } coreMtu conv data = .queued b ∧
      (ppStep (cfbPrims E bs crc parity draw) { cipher := .block, d := d, p := p } st
        { oob := true, body := b, now := now }).emits = [em] ∧
      ∃ plain, rxStrip (cfbPrims E bs crc parity draw) { cipher := .block, d := d, p := p } em.wire = some plain ∧
        route plain = .oob data ∧
        kcpInput onFec onKcp true rx plain = { rx with handled := rx.handled ++ [data] } :=
  C19_oob_roundtrip _ _ (C19_cfb_laws bs hbs E hE crc parity draw hdraw d p) st e henc coreMtu conv data now hsz hf
    onFec onKcp rx

/-- the same without a cipher (`block == nil`): nothing is assumed at all -/
theorem C19_oob_roundtrip_plain {γ : Type} (P : Prims γ)
    (d p : Nat) (st : PP γ) (e : Enc)
    (henc : st.enc = some e) (coreMtu : Nat) (conv : BitVec 32) (data : Bytes) (now : Int)
    (hsz : convSize + data.length ≤ coreMtu) (hf : ({ cipher := .none, d := d, p := p } : Cfg).fecOn = true) :
    ∃ b em, sendOOB { cipher := .none, d := d, p := p } coreMtu conv data = .queued b ∧
      (ppStep P { cipher := .none, d := d, p := p } st { oob := true, body := b, now := now }).emits = [em] ∧
      ∃ plain, rxStrip P { cipher := .none, d := d, p := p } em.wire = some plain ∧ route plain = .oob data := by
  obtain ⟨hq, hem, hr⟩ := C19_oob_emitted P { cipher := .none, d := d, p := p } st e henc coreMtu conv data now hsz hf
  exact ⟨_, _, hq, hem, _, by simp only [rxStrip, crypt_none (c := { cipher := .none, d := d, p := p }) P st.gen _ rfl], hr⟩

/-- non-vacuity: the laws are met by a concrete block function (the identity on 8-byte blocks) and a
constant 16-byte entropy block -/
example : CipherLaws (γ := Nat)
    (cfbPrims (fun b => b) 8 (fun _ => 0) (fun _ _ => []) (fun g => { g := g + 1, out := List.replicate 16 0 }))
    { cipher := .block, d := 10, p := 3 } :=
  C19_cfb_laws 8 (Or.inl rfl) _ (fun _ h => h) _ _ _ (fun _ => by simp) 10 3

end KcpVerif.Props
