/-
C16 (continued) — the count of auto-tune convergence.  A sender with ratio d/p (`d + p < 256`) emits an in-order
run of genuine packets with ids `s, s+1, …` below the decoder's `paws`; the decoder's ring is
`feed t0 (run d p s L)` where `t0` holds genuine samples of that sender only, or `258 ≤ L + 1` and the next
sample flushes it (`C16_window_flushes`): either way every ring the tuning branch looks at is genuine.
-/
import KcpVerif.Props.C16
import KcpVerif.Lemmas.C16PreDec
import KcpVerif.Lemmas.FecGroup

namespace KcpVerif.Props
open KcpVerif.Gen KcpVerif.AutoTune KcpVerif.Fec KcpVerif.Lemmas.AutoTune KcpVerif.Lemmas.C16Pre

/-- packet number `k` of an in-order run of genuine packets of a d/p sender starting at id `s` -/
def RunPkt (d p s k : Nat) (q : Bytes) : Prop :=
  fecHeaderSize ≤ q.length ∧ seqid q = BitVec.ofNat 32 (s + k) ∧
  flag q = (if label d p (s + k) then typeData else typeParity)

/-- what convergence means: the decoder has the sender's ratio and is not tuning (C07 applies from here) -/
def C16_pre_Good (d p : Nat) (st : Decoder) : Prop :=
  st.d = d ∧ st.p = p ∧ st.shouldTune = false

theorem C16_conv_aux_retune_tune (C : CodecNew) (dec : Decoder) (seq : BitVec 32) :
    (retune C dec seq).tune = dec.tune :=
  Lemmas.FecDec.retune_tune C dec seq

theorem C16_conv_aux_tune_step (C : CodecNew) (dec : Decoder) (q : Bytes)
    (hlen : fecHeaderSize ≤ q.length) :
    (dec.decode C q).st.tune = dec.tune.sample (flag q == typeData) (seqid q) :=
  Lemmas.FecDec.decode_tune C dec q hlen

theorem C16_conv_aux_runPkt_bit {d p s k : Nat} {q : Bytes} (h : RunPkt d p s k q) :
    (flag q == typeData) = label d p (s + k) := by
  rw [h.2.2]
  exact flag_beq_typeData _

-- second names that props/C16.json asks for (see `C16_aux_window_length` in Props/C16): this one,
-- `C16_conv_aux_aligned`, `C16_conv_aux_tuning_enters`, `C16_conv_aux_retune_fail`
theorem C16_conv_aux_runpkt_bit {d p s k : Nat} {q : Bytes} (h : RunPkt d p s k q) :
    (flag q == typeData) = label d p (s + k) :=
  C16_conv_aux_runPkt_bit h

theorem C16_conv_aux_runPkt_seq {d p s k : Nat} {q : Bytes} (h : RunPkt d p s k q)
    (hk : s + k < 2 ^ 32) : (seqid q).toNat = s + k := by
  rw [h.2.1, BitVec.toNat_ofNat, Nat.mod_eq_of_lt hk]

theorem C16_conv_aux_genuinePkt_of_runPkt {d p s k : Nat} {q : Bytes} (h : RunPkt d p s k q)
    (hk : s + k + 1 < 2 ^ 32) : GenuinePkt d p q := by
  have e := C16_conv_aux_runPkt_seq h (by omega)
  exact ⟨h.1, by rw [e]; exact h.2.2, by rw [e]; exact hk⟩

theorem C16_conv_aux_runPkt_flag {d p s k : Nat} {q : Bytes} (h : RunPkt d p s k q) :
    flag q = typeData ∨ flag q = typeParity := by
  rw [h.2.2]
  cases label d p (s + k)
  · exact Or.inr (if_neg Bool.false_ne_true)
  · exact Or.inl (if_pos rfl)

theorem C16_conv_aux_sample_run {d p s m : Nat} {q : Bytes} {t t0 : Tune} (hq : RunPkt d p s m q)
    (ht : t = feed t0 (run d p s m)) :
    t.sample (flag q == typeData) (seqid q) = feed t0 (run d p s (m + 1)) := by
  rw [C16_conv_aux_runPkt_bit hq, hq.2.1, ht, run_succ_right, feed_append]
  rfl

open KcpVerif.Lemmas.FecDec in
theorem C16_conv_aux_runPkt_mk (d p s k : Nat) (rest : Bytes) :
    RunPkt d p s k (le32 (BitVec.ofNat 32 (s + k)) ++
      le16 (if label d p (s + k) then typeData else typeParity) ++ rest) := by
  refine ⟨?_, ?_, ?_⟩
  · rw [List.length_append, List.length_append]
    exact Nat.le_add_right 6 _
  · rw [List.append_assoc]
    exact rd32_le32 _ _
  · unfold flag
    rw [List.append_assoc, drop4_le32]
    exact rd16_le16 _ (by split <;> decide) _

theorem C16_conv_aux_tune_step_run (C : CodecNew) (dec : Decoder) {d p s k : Nat} {q : Bytes}
    (h : RunPkt d p s k q) :
    (dec.decode C q).st.tune = dec.tune.sample (label d p (s + k)) (BitVec.ofNat 32 (s + k)) := by
  rw [C16_conv_aux_tune_step C dec q h.1, C16_conv_aux_runPkt_bit h, h.2.1]

theorem C16_conv_aux_feedPackets_cons (C : CodecNew) (dec : Decoder) (q : Bytes) (rest : List Bytes) :
    feedPackets C dec (q :: rest) = feedPackets C (dec.decode C q).st rest := rfl

theorem C16_conv_aux_feedPackets_append (C : CodecNew) (dec : Decoder) (a b : List Bytes) :
    feedPackets C dec (a ++ b) = feedPackets C (feedPackets C dec a) b :=
  Lemmas.FecHist.run_append C dec a b

theorem C16_conv_aux_tune_run (C : CodecNew) {d p s : Nat} :
    ∀ (pkts : List Bytes) (dec : Decoder) (k0 : Nat),
      (∀ i (h : i < pkts.length), RunPkt d p s (k0 + i) pkts[i]) →
      (feedPackets C dec pkts).tune = feed dec.tune (run d p (s + k0) pkts.length) := by
  intro pkts
  induction pkts with
  | nil => intro dec k0 _; rfl
  | cons q rest ih =>
    intro dec k0 h
    have h0 : RunPkt d p s k0 q := h 0 (by simp only [List.length_cons]; omega)
    have hr : ∀ i (hi : i < rest.length), RunPkt d p s (k0 + 1 + i) rest[i] := by
      intro i hi
      have := h (i + 1) (by simp only [List.length_cons]; omega)
      rw [show k0 + (i + 1) = k0 + 1 + i by omega] at this
      exact this
    rw [C16_conv_aux_feedPackets_cons, ih _ (k0 + 1) hr, C16_conv_aux_tune_step_run C dec h0,
      List.length_cons, run_succ, show s + k0 + 1 = s + (k0 + 1) by omega]
    rfl

/-- both complete pulses lie inside a full window that starts at id `w` (the two conditions of
    `C16_findPeriod_complete`) -/
def C16_conv_BothPulses (d p w : Nat) : Prop :=
  (w + ((d + p) - w % (d + p))) + d < w + maxAutoTuneSamples ∧
  (if w % (d + p) < d then w + (d - w % (d + p)) else w + ((d + p) - w % (d + p)) + d) + p
    < w + maxAutoTuneSamples

theorem C16_conv_aux_aligned {d p w : Nat} (hp : 0 < p)
    (hn : d + p + 2 ≤ maxAutoTuneSamples) (hal : w % (d + p) = d + p - 1) :
    C16_conv_BothPulses d p w :=
  C16_aux_aligned hp hn hal

theorem C16_conv_aux_tuning_enters (C : CodecNew) (dec : Decoder) (q : Bytes)
    (hlen : fecHeaderSize ≤ q.length) (hpaws : (seqid q).toNat < dec.paws.toNat)
    (ht : dec.shouldTune = true) :
    (dec.decode C q).st =
      retune C { dec with tune := dec.tune.sample (flag q == typeData) (seqid q) } (seqid q) :=
  congrArg DecOut.st (C16_enters_tuning C dec q hlen hpaws (by rw [ht, Bool.or_true]))

theorem C16_conv_aux_retune_fail (C : CodecNew) (dec : Decoder) (seq : BitVec 32)
    (h : ¬ (0 < dec.tune.findPeriod true ∧ 0 < dec.tune.findPeriod false ∧
            dec.tune.findPeriod true + dec.tune.findPeriod false < 256)) :
    retune C dec seq = { dec with shouldTune := true } :=
  C16_aux_retune_fail C dec seq h

theorem C16_conv_aux_retune_run (C : CodecNew) (dec : Decoder) (seq : BitVec 32) {d p w : Nat}
    (hd : 0 < d) (hp : 0 < p) (hn : d + p < 256)
    (hcnt : dec.tune.count = maxAutoTuneSamples)
    (hw : dec.tune.window = run d p w maxAutoTuneSamples) (h32 : w + maxAutoTuneSamples ≤ 2 ^ 32) :
    (C16_conv_BothPulses d p w ∧ C16_pre_Good d p (retune C dec seq)) ∨
    (¬ C16_conv_BothPulses d p w ∧ retune C dec seq = { dec with shouldTune := true }) := by
  have hM : 3 ≤ maxAutoTuneSamples := by decide
  have hc : 3 ≤ dec.tune.count := by omega
  have hl : dec.tune.count ≤ maxAutoTuneSamples := by omega
  have hw' : dec.tune.window = run d p w dec.tune.count := by rw [hcnt]; exact hw
  have h32' : w + dec.tune.count ≤ 2 ^ 32 := by omega
  by_cases hb : C16_conv_BothPulses d p w
  · left
    have r := C16_retune_adopts C dec seq hd hp hn hc hl hw' h32'
      (by rw [hcnt]; exact hb.1) (by rw [hcnt]; exact hb.2)
    exact ⟨hb, r.1, r.2.1, r.2.2.1⟩
  · right
    refine ⟨hb, C16_aux_retune_fail C dec seq ?_⟩
    obtain ⟨c1, c2⟩ := C16_findPeriod_complete hd hp hc hl hw' h32'
    obtain ⟨s1, s2⟩ := C16_findPeriod_sound hd hp hc hl hw' h32'
    rw [hcnt] at c1 c2
    intro ⟨p1, p2, _⟩
    apply hb
    refine ⟨c1.mp ?_, c2.mp ?_⟩
    · rcases s1 with e | e
      · rw [e] at p1; omega
      · exact e
    · rcases s2 with e | e
      · rw [e] at p2; omega
      · exact e

theorem C16_conv_aux_tuning_step (C : CodecNew) (dec : Decoder) (q : Bytes) {d p w : Nat}
    (hd : 0 < d) (hp : 0 < p) (hn : d + p < 256)
    (ht : dec.shouldTune = true) (hlen : fecHeaderSize ≤ q.length)
    (hpaws : (seqid q).toNat < dec.paws.toNat)
    (hcnt : (dec.tune.sample (flag q == typeData) (seqid q)).count = maxAutoTuneSamples)
    (hw : (dec.tune.sample (flag q == typeData) (seqid q)).window = run d p w maxAutoTuneSamples)
    (h32 : w + maxAutoTuneSamples ≤ 2 ^ 32) :
    (dec.decode C q).st =
      retune C { dec with tune := dec.tune.sample (flag q == typeData) (seqid q) } (seqid q) ∧
    ((C16_conv_BothPulses d p w ∧ (dec.decode C q).st.d = d ∧ (dec.decode C q).st.p = p ∧
        (dec.decode C q).st.shouldTune = false) ∨
     (¬ C16_conv_BothPulses d p w ∧ (dec.decode C q).st.shouldTune = true ∧
        (dec.decode C q).st.d = dec.d ∧ (dec.decode C q).st.p = dec.p ∧
        (dec.decode C q).st.n = dec.n ∧ (dec.decode C q).st.paws = dec.paws)) := by
  have e := C16_conv_aux_tuning_enters C dec q hlen hpaws ht
  refine ⟨e, ?_⟩
  rw [e]
  rcases C16_conv_aux_retune_run C
      { dec with tune := dec.tune.sample (flag q == typeData) (seqid q) } (seqid q) hd hp hn hcnt hw h32 with
    h | ⟨hb, h⟩
  · exact Or.inl h
  · rw [h]; exact Or.inr ⟨hb, rfl, rfl, rfl, rfl, rfl⟩

/-! ## the tuning phase

A decoder that is tuning sends every packet below `paws` to `retune`, and on a genuine ring `retune` can only do
nothing or adopt the sender's ratio.  So the state is the old record with the ring fed and `shouldTune` set,
until the first window that contains both complete pulses. -/

theorem C16_conv_aux_take_succ (C : CodecNew) (dec : Decoder) (pkts : List Bytes) (j : Nat)
    (hj : j < pkts.length) :
    feedPackets C dec (pkts.take (j + 1)) =
      ((feedPackets C dec (pkts.take j)).decode C pkts[j]).st := by
  rw [List.take_succ_eq_append_getElem hj, C16_conv_aux_feedPackets_append]
  rfl

theorem C16_conv_aux_take_add (C : CodecNew) (dec : Decoder) (pkts : List Bytes) (a b : Nat) :
    feedPackets C dec (pkts.take (a + b)) =
      feedPackets C (feedPackets C dec (pkts.take a)) ((pkts.drop a).take b) := by
  rw [List.take_add, C16_conv_aux_feedPackets_append]

theorem C16_retune_genuine (C : CodecNew) (dec : Decoder) (seq : BitVec 32) {d p : Nat}
    (hd : 0 < d) (hp : 0 < p) (hr : GenuineRing d p dec.tune) :
    retune C dec seq = { dec with shouldTune := true } ∨
    (dec.d = d ∧ dec.p = p ∧ retune C dec seq = { dec with shouldTune := false }) ∨
    retune C dec seq =
      { dec with d := d, p := p, n := d + p, paws := pawsOf (d + p), sets := [], codec := C d p,
                 shouldTune := false, newest := seq / u32 (d + p) } :=
  retune_genuine_cases C dec seq hd hp hr

theorem C16_retune_sound (C : CodecNew) (dec : Decoder) (seq : BitVec 32) {d p : Nat}
    (hd : 0 < d) (hp : 0 < p) (hr : GenuineRing d p dec.tune) :
    retune C dec seq = { dec with shouldTune := true } ∨ C16_pre_Good d p (retune C dec seq) := by
  rcases C16_retune_genuine C dec seq hd hp hr with e | ⟨g1, g2, e⟩ | e
  · exact Or.inl e
  · rw [e]; exact Or.inr ⟨g1, g2, rfl⟩
  · rw [e]; exact Or.inr ⟨rfl, rfl, rfl⟩

theorem C16_conv_aux_tuning_decode (C : CodecNew) (st : Decoder) (q : Bytes) {d p s m : Nat} {t0 : Tune}
    (ht : st.shouldTune = true) (htune : st.tune = feed t0 (run d p s m))
    (hq : RunPkt d p s m q) (hpaws : s + m < st.paws.toNat) :
    (st.decode C q).st = retune C { st with tune := feed t0 (run d p s (m + 1)) } (seqid q) := by
  have hlt := st.paws.isLt
  rw [C16_conv_aux_tuning_enters C st q hq.1
      (by rw [C16_conv_aux_runPkt_seq hq (by omega)]; exact hpaws) ht,
    C16_conv_aux_sample_run hq htune]

theorem C16_conv_aux_step (C : CodecNew) (st : Decoder) (q : Bytes) {d p s m : Nat} {t0 : Tune}
    (hd : 0 < d) (hp : 0 < p) (hn : d + p < 256) (hwf : t0.WF)
    (hm : maxAutoTuneSamples ≤ m + 1)
    (ht : st.shouldTune = true) (htune : st.tune = feed t0 (run d p s m))
    (hq : RunPkt d p s m q) (hpaws : s + m < st.paws.toNat) :
    (C16_conv_BothPulses d p (s + (m + 1 - maxAutoTuneSamples)) ∧
      C16_pre_Good d p (st.decode C q).st) ∨
    (¬ C16_conv_BothPulses d p (s + (m + 1 - maxAutoTuneSamples)) ∧
      sameConfig (st.decode C q).st st ∧ (st.decode C q).st.tune = feed t0 (run d p s (m + 1))) := by
  have hlt := st.paws.isLt
  obtain ⟨hc, hw⟩ := C16_window_flushes hwf d p s (m + 1) hm
  rw [C16_conv_aux_tuning_decode C st q ht htune hq hpaws]
  rcases C16_conv_aux_retune_run C { st with tune := feed t0 (run d p s (m + 1)) } (seqid q)
      hd hp hn hc hw (by omega) with h | ⟨hb, h⟩
  · exact Or.inl h
  · rw [h]
    exact Or.inr ⟨hb, ⟨rfl, rfl, rfl, rfl, ht.symm⟩, rfl⟩

theorem C16_conv_tuning_run (C : CodecNew) (dec : Decoder) {d p s L : Nat} {t0 : Tune} (pkts : List Bytes)
    (hd : 0 < d) (hp : 0 < p) (hwf : t0.WF)
    (hring : GenuineRing d p t0 ∨ maxAutoTuneSamples ≤ L + 1)
    (hpk : ∀ i (h : i < pkts.length), RunPkt d p s (L + i) pkts[i]) :
    ∀ j, j ≤ pkts.length → s + L + j ≤ dec.paws.toNat →
      (∃ k ≤ j, C16_pre_Good d p
        (feedPackets C { dec with tune := feed t0 (run d p s L), shouldTune := true } (pkts.take k))) ∨
      feedPackets C { dec with tune := feed t0 (run d p s L), shouldTune := true } (pkts.take j) =
        { dec with tune := feed t0 (run d p s (L + j)), shouldTune := true } := by
  intro j
  induction j with
  | zero => intro _ _; exact Or.inr rfl
  | succ j ih =>
    intro hj hpaws
    have hlt := dec.paws.isLt
    rcases ih (by omega) (by omega) with ⟨k, hk, h⟩ | e
    · exact Or.inl ⟨k, by omega, h⟩
    · have hjl : j < pkts.length := by omega
      have hst := C16_conv_aux_take_succ C
        { dec with tune := feed t0 (run d p s L), shouldTune := true } pkts j hjl
      rw [e, C16_conv_aux_tuning_decode C
        { dec with tune := feed t0 (run d p s (L + j)), shouldTune := true } pkts[j] rfl rfl (hpk j hjl)
        (show s + (L + j) < dec.paws.toNat by omega)] at hst
      rcases C16_retune_sound C { dec with tune := feed t0 (run d p s (L + j + 1)), shouldTune := true }
          (seqid pkts[j]) hd hp
          (genuineRing_feed_run hwf (hring.imp_right (by omega)) (by omega)) with h | h
      · exact Or.inr (hst.trans h)
      · exact Or.inl ⟨j + 1, Nat.le_refl _, hst ▸ h⟩

theorem C16_conv_bothPulses_within {d p : Nat} (hp : 0 < p) (hn : d + p + 2 ≤ maxAutoTuneSamples) (w : Nat) :
    ∃ i < d + p, C16_conv_BothPulses d p (w + i) := by
  have hr := Nat.mod_lt w (show 0 < d + p by omega)
  exact ⟨d + p - 1 - w % (d + p), by omega, C16_aux_aligned hp hn (align_mod w (by omega))⟩

theorem C16_conv_aux_small {d p : Nat} (hd : 0 < d) (hp : 0 < p)
    (hn : 2 * (d + p) ≤ maxAutoTuneSamples) (w : Nat) : C16_conv_BothPulses d p w := by
  have hr := Nat.mod_lt w (show 0 < d + p by omega)
  unfold C16_conv_BothPulses
  refine ⟨by omega, ?_⟩
  split <;> omega

/-- `F`: after that many more samples the ring holds only the run; `a`: the wait for a window with both pulses
    (`d + p` in general, 1 when `2 (d + p) ≤ 258`) -/
theorem C16_conv_tuning_general (C : CodecNew) (dec : Decoder) {d p s L F a : Nat} {t0 : Tune}
    (pkts : List Bytes) (hd : 0 < d) (hp : 0 < p) (hn : d + p < 256)
    (ht : dec.shouldTune = true) (hwf : t0.WF)
    (hring : GenuineRing d p t0 ∨ maxAutoTuneSamples ≤ L + 1)
    (htune : dec.tune = feed t0 (run d p s L))
    (hF : maxAutoTuneSamples ≤ L + F + 1)
    (ha : ∀ w, ∃ i < a, C16_conv_BothPulses d p (w + i))
    (hpk : ∀ i (h : i < pkts.length), RunPkt d p s (L + i) pkts[i])
    (hlen : F + a ≤ pkts.length) (hpaws : s + L + (F + a) ≤ dec.paws.toNat) :
    ∃ k ≤ F + a, C16_pre_Good d p (feedPackets C dec (pkts.take k)) := by
  have hdec : dec = { dec with tune := feed t0 (run d p s L), shouldTune := true } := by
    rw [← ht, ← htune]
  have hlt := dec.paws.isLt
  obtain ⟨i, hi, hb⟩ := ha (s + (L + F + 1 - maxAutoTuneSamples))
  rw [hdec]
  rcases C16_conv_tuning_run C dec pkts hd hp hwf hring hpk (F + i) (by omega) (by omega) with
    ⟨k, hk, h⟩ | e
  · exact ⟨k, by omega, h⟩
  · -- packet `F + i` meets a window with both pulses
    have hjl : F + i < pkts.length := by omega
    refine ⟨F + i + 1, by omega, ?_⟩
    rw [C16_conv_aux_take_succ C _ pkts (F + i) hjl, e]
    rcases C16_conv_aux_step C { dec with tune := feed t0 (run d p s (L + (F + i))), shouldTune := true }
        pkts[F + i] hd hp hn hwf (by omega) rfl rfl (hpk _ hjl)
        (show s + (L + (F + i)) < dec.paws.toNat by omega) with h | h
    · exact h.2
    · refine absurd ?_ h.1
      rw [show s + (L + (F + i) + 1 - maxAutoTuneSamples)
        = s + (L + F + 1 - maxAutoTuneSamples) + i by omega]
      exact hb

/-- A decoder that is tuning on a flushed ring (it holds only samples of the in-order run of a
    d/p sender) adopts the sender's ratio within `d + p` further run packets below `paws`. -/
theorem C16_conv_when_tuning (C : CodecNew) (dec : Decoder) {d p s L : Nat} {t0 : Tune}
    (pkts : List Bytes) (hd : 0 < d) (hp : 0 < p) (hn : d + p < 256)
    (ht : dec.shouldTune = true) (hwf : t0.WF) (hL : maxAutoTuneSamples ≤ L + 1)
    (htune : dec.tune = feed t0 (run d p s L))
    (hlen : d + p ≤ pkts.length)
    (hpk : ∀ i (h : i < pkts.length), RunPkt d p s (L + i) pkts[i])
    (hpaws : s + L + (d + p) ≤ dec.paws.toNat) :
    ∃ k ≤ d + p, (feedPackets C dec (pkts.take k)).d = d ∧ (feedPackets C dec (pkts.take k)).p = p ∧
      (feedPackets C dec (pkts.take k)).shouldTune = false := by
  have hM := maxAutoTuneSamples_eq
  have := C16_conv_tuning_general C dec (F := 0) pkts hd hp hn ht hwf (Or.inr hL) htune hL
    (C16_conv_bothPulses_within hp (by omega)) hpk
  rw [Nat.zero_add] at this
  exact this hlen hpaws

theorem C16_conv_when_tuning_small (C : CodecNew) (dec : Decoder) {d p s L : Nat} {t0 : Tune}
    (pkts : List Bytes) (hd : 0 < d) (hp : 0 < p) (hn : 2 * (d + p) ≤ maxAutoTuneSamples)
    (ht : dec.shouldTune = true) (hwf : t0.WF) (hL : maxAutoTuneSamples ≤ L + 1)
    (htune : dec.tune = feed t0 (run d p s L))
    (hlen : 1 ≤ pkts.length)
    (hpk : ∀ i (h : i < pkts.length), RunPkt d p s (L + i) pkts[i])
    (hpaws : s + L + 1 ≤ dec.paws.toNat) :
    (feedPackets C dec (pkts.take 1)).d = d ∧ (feedPackets C dec (pkts.take 1)).p = p ∧
      (feedPackets C dec (pkts.take 1)).shouldTune = false := by
  have hM := maxAutoTuneSamples_eq
  obtain ⟨k, hk, h⟩ := C16_conv_tuning_general C dec (F := 0) (a := 1) pkts hd hp (by omega) ht hwf
    (Or.inr hL) htune hL (fun w => ⟨0, Nat.one_pos, C16_conv_aux_small hd hp hn w⟩) hpk hlen hpaws
  rcases k with _ | k
  · exact absurd (ht.symm.trans h.2.2) Bool.noConfusion
  · rw [show k = 0 by omega] at h
    exact h

/-! ## the quiet phase and the whole count

A decoder that is not tuning keeps its configuration while the run packets fit its own ratio (`C16_stable`); the
first one that does not is decoded exactly as by a decoder that was tuning already, and two different ratios
disagree within `2 (d + p)` ids. -/

theorem C16_conv_aux_typeMatches_iff {dec : Decoder} {d p s k : Nat} {q : Bytes}
    (hq : RunPkt d p s k q) (hk : s + k < 2 ^ 32) (hn : dec.n = dec.d + dec.p) :
    TypeMatches dec q ↔ label dec.d dec.p (s + k) = label d p (s + k) := by
  obtain ⟨_, hs, hf⟩ := hq
  have hne : (typeData : Nat) ≠ typeParity := by decide
  have hpos : posOf dec.n q = (s + k) % (dec.d + dec.p) := by
    rw [posOf, hs, BitVec.toNat_ofNat, Nat.mod_eq_of_lt hk, hn]
  unfold TypeMatches
  rw [hpos, hf]
  unfold label
  cases hlab : decide ((s + k) % (d + p) < d)
  · simp only [Bool.false_eq_true, if_false, decide_eq_false_iff_not]
    constructor
    · rintro (⟨_, h⟩ | ⟨h, _⟩)
      · exact absurd h.symm hne
      · exact h
    · exact fun h => Or.inr ⟨h, trivial⟩
  · simp only [if_true, decide_eq_true_eq]
    constructor
    · rintro (⟨h, _⟩ | ⟨_, h⟩)
      · exact h
      · exact absurd h hne
    · exact fun h => Or.inl ⟨h, trivial⟩

theorem C16_conv_aux_run_step (C : CodecNew) (st : Decoder) (q : Bytes) {d p s m : Nat} {t0 : Tune}
    (hn : st.n = st.d + st.p) (hq : RunPkt d p s m q) (htune : st.tune = feed t0 (run d p s m))
    (hpaws : s + m < st.paws.toNat) :
    (st.shouldTune = false ∧ label st.d st.p (s + m) = label d p (s + m) ∧
      sameConfig (st.decode C q).st st ∧ (st.decode C q).st.tune = feed t0 (run d p s (m + 1))) ∨
    ((st.shouldTune = true ∨ label st.d st.p (s + m) ≠ label d p (s + m)) ∧
      (st.decode C q).st = retune C { st with tune := feed t0 (run d p s (m + 1)) } (seqid q)) := by
  have hlt := st.paws.isLt
  have hseq := C16_conv_aux_runPkt_seq hq (by omega)
  have hsmp := C16_conv_aux_sample_run hq htune
  have htm := C16_conv_aux_typeMatches_iff (dec := st) hq (by omega) hn
  by_cases hquiet : st.shouldTune = false ∧ label st.d st.p (s + m) = label d p (s + m)
  · left
    refine ⟨hquiet.1, hquiet.2, C16_stable_step C st q hquiet.1 (htm.mpr hquiet.2), ?_⟩
    rw [C16_conv_aux_tune_step C st q hq.1, hsmp]
  · right
    have hor : st.shouldTune = true ∨ label st.d st.p (s + m) ≠ label d p (s + m) := by
      cases ht : st.shouldTune with
      | true => exact Or.inl rfl
      | false => exact Or.inr (fun h => hquiet ⟨ht, h⟩)
    refine ⟨hor, ?_⟩
    rw [← hsmp]
    refine congrArg DecOut.st (C16_enters_tuning C st q hq.1 (by rw [hseq]; exact hpaws) ?_)
    rcases hor with h | h
    · rw [h, Bool.or_true]
    · rw [C16_aux_mismatch_true (fun hm => h (htm.mp hm)) (C16_conv_aux_runPkt_flag hq)]
      rfl

theorem C16_retune_shouldTune (C : CodecNew) (dec : Decoder) (seq : BitVec 32) (b : Bool) :
    retune C { dec with shouldTune := b } seq = retune C dec seq := by
  unfold retune
  rfl

theorem C16_conv_aux_first_failure (P : Nat → Prop) :
    ∀ n, (∀ i, i < n → P i) ∨ ∃ k < n, ¬ P k ∧ ∀ i, i < k → P i
  | 0 => Or.inl fun _ h => absurd h (Nat.not_lt_zero _)
  | n + 1 => by
    rcases C16_conv_aux_first_failure P n with h | ⟨k, hk, h⟩
    · by_cases hn : P n
      · exact Or.inl fun i hi => (Nat.lt_succ_iff_lt_or_eq.mp hi).elim (h i) (· ▸ hn)
      · exact Or.inr ⟨n, Nat.lt_succ_self n, hn, h⟩
    · exact Or.inr ⟨k, Nat.lt_succ_of_lt hk, h⟩

theorem C16_conv_quiet_run (C : CodecNew) (dec : Decoder) {d p s L : Nat} (pkts : List Bytes)
    (hdn : dec.n = dec.d + dec.p) (ht : dec.shouldTune = false)
    (hpk : ∀ i (h : i < pkts.length), RunPkt d p s (L + i) pkts[i])
    (h32 : s + L + pkts.length ≤ 2 ^ 32)
    (hag : ∀ i, i < pkts.length → label d p (s + L + i) = label dec.d dec.p (s + L + i)) :
    sameConfig (feedPackets C dec pkts) dec := by
  refine C16_stable C dec pkts ht fun q hq => ?_
  obtain ⟨i, hi, rfl⟩ := List.getElem_of_mem hq
  refine (C16_conv_aux_typeMatches_iff (hpk i hi) (by omega) hdn).mpr ?_
  rw [← Nat.add_assoc]; exact (hag i hi).symm

/-- From the first run packet that contradicts its ratio on, a quiet decoder runs like a decoder `D` that was
    tuning already: both send that packet to `retune`, which does not read `shouldTune`. -/
theorem C16_conv_aux_enter (C : CodecNew) (dec : Decoder) {d p s L i0 : Nat} {t0 : Tune}
    (pkts : List Bytes) (hdn : dec.n = dec.d + dec.p) (ht : dec.shouldTune = false)
    (htune : dec.tune = feed t0 (run d p s L))
    (hpk : ∀ i (h : i < pkts.length), RunPkt d p s (L + i) pkts[i])
    (hi0 : i0 < pkts.length) (hpaws : s + L + i0 < dec.paws.toNat)
    (hag : ∀ i, i < i0 → label d p (s + L + i) = label dec.d dec.p (s + L + i))
    (hne : label d p (s + L + i0) ≠ label dec.d dec.p (s + L + i0)) :
    ∃ D : Decoder, D.d = dec.d ∧ D.p = dec.p ∧ D.n = dec.n ∧ D.paws = dec.paws ∧
      ∀ k, feedPackets C dec (pkts.take (i0 + (k + 1))) =
        feedPackets C { D with tune := feed t0 (run d p s (L + i0)), shouldTune := true }
          ((pkts.drop i0).take (k + 1)) := by
  have hlt := dec.paws.isLt
  have hl0 : (pkts.take i0).length = i0 := by rw [List.length_take]; omega
  have hpk0 : ∀ i (h : i < (pkts.take i0).length), RunPkt d p s (L + i) (pkts.take i0)[i] :=
    fun i hi => by rw [List.getElem_take]; exact hpk i (by omega)
  obtain ⟨c1, c2, c3, c4, _⟩ := C16_conv_quiet_run C dec (pkts.take i0) hdn ht hpk0 (by omega)
    (fun i hi => hag i (by omega))
  have htn : (feedPackets C dec (pkts.take i0)).tune = feed t0 (run d p s (L + i0)) := by
    rw [C16_conv_aux_tune_run C (pkts.take i0) dec L hpk0, htune, feed_feed_run, hl0]
  refine ⟨feedPackets C dec (pkts.take i0), c1, c2, c3, c4, fun k => ?_⟩
  have hn0 : (feedPackets C dec (pkts.take i0)).n =
      (feedPackets C dec (pkts.take i0)).d + (feedPackets C dec (pkts.take i0)).p := by
    rw [c3, c1, c2]; exact hdn
  rcases C16_conv_aux_run_step C (feedPackets C dec (pkts.take i0)) pkts[i0] hn0 (hpk i0 hi0) htn
      (by rw [c4]; omega) with ⟨_, h, _⟩ | ⟨_, e1⟩
  · rw [c1, c2, ← Nat.add_assoc] at h
    exact absurd h.symm hne
  rcases C16_conv_aux_run_step C { feedPackets C dec (pkts.take i0) with shouldTune := true } pkts[i0]
      hn0 (hpk i0 hi0) htn (by dsimp only; rw [c4]; omega) with ⟨h, _⟩ | ⟨_, e2⟩
  · exact Bool.noConfusion h
  rw [C16_conv_aux_take_add, List.drop_eq_getElem_cons hi0, List.take_succ_cons,
    C16_conv_aux_feedPackets_cons, C16_conv_aux_feedPackets_cons, ← htn, e1, e2]
  exact congrArg (fun x => feedPackets C x _) (C16_retune_shouldTune C _ _ true).symm

/-- **The count, from any consistent configuration.**  `K + 1` packets are enough both to meet one that
    contradicts the old ratio (`2 (d + p)`, or there is nothing to do) and to have only the run in the ring;
    `a` as in `C16_conv_tuning_general`. -/
theorem C16_converges_general (C : CodecNew) (dec : Decoder) {d p s L K a : Nat} {t0 : Tune}
    (pkts : List Bytes) (hd : 0 < d) (hp : 0 < p) (hn : d + p < 256)
    (hdn : dec.n = dec.d + dec.p) (hdd : 0 < dec.d) (hdp : 0 < dec.p) (hwf : t0.WF)
    (hring : GenuineRing d p t0 ∨ maxAutoTuneSamples ≤ L + 1)
    (htune : dec.tune = feed t0 (run d p s L))
    (hK1 : 2 * (d + p) ≤ K + 1) (hK2 : maxAutoTuneSamples ≤ L + K + 1)
    (ha : ∀ w, ∃ i < a, C16_conv_BothPulses d p (w + i))
    (hpk : ∀ i (h : i < pkts.length), RunPkt d p s (L + i) pkts[i])
    (hlen : K + a ≤ pkts.length) (hpaws : s + L + (K + a) ≤ dec.paws.toNat) :
    ∃ k ≤ K + a, C16_pre_Good d p (feedPackets C dec (pkts.take k)) := by
  have ha1 : 0 < a := (ha 0).elim fun i hi => Nat.lt_of_le_of_lt (Nat.zero_le i) hi.1
  cases ht : dec.shouldTune with
  | true => exact C16_conv_tuning_general C dec pkts hd hp hn ht hwf hring htune hK2 ha hpk hlen hpaws
  | false =>
    rcases C16_conv_aux_first_failure
        (fun i => label d p (s + L + i) = label dec.d dec.p (s + L + i)) (2 * (d + p)) with
      h | ⟨i0, hi0, hne, hag⟩
    · obtain ⟨e1, e2⟩ := C16_aux_agree hd hp hdd hdp (s + L) h
      exact ⟨0, Nat.zero_le _, e1, e2, ht⟩
    · obtain ⟨D, _, _, _, c4, hD⟩ := C16_conv_aux_enter C dec pkts hdn ht htune hpk
        (show i0 < pkts.length by omega) (by omega) hag hne
      obtain ⟨k, hk, h⟩ := C16_conv_tuning_general C
        { D with tune := feed t0 (run d p s (L + i0)), shouldTune := true } (F := K - i0)
        (pkts.drop i0) hd hp hn rfl hwf (hring.imp_right (by omega)) rfl (by omega) ha
        (fun i hi => by rw [List.getElem_drop, Nat.add_assoc]; exact hpk _ _)
        (by rw [List.length_drop]; omega) (by dsimp only; rw [c4]; omega)
      rcases k with _ | k
      · exact absurd h.2.2 Bool.noConfusion
      · exact ⟨i0 + (k + 1), by omega, hD k ▸ h⟩

/-- A decoder in ANY consistent configuration whose ring has been flushed by the run adopts the sender's ratio
    within `3 (d + p)` further run packets below `paws`: `2 (d + p)` until one contradicts the old ratio (or
    there is nothing to do), `d + p` more until the window is aligned. -/
theorem C16_conv_flushed (C : CodecNew) (dec : Decoder) {d p s L : Nat} {t0 : Tune}
    (pkts : List Bytes) (hd : 0 < d) (hp : 0 < p) (hn : d + p < 256)
    (hdn : dec.n = dec.d + dec.p) (hdd : 0 < dec.d) (hdp : 0 < dec.p)
    (hwf : t0.WF) (hL : maxAutoTuneSamples ≤ L + 1)
    (htune : dec.tune = feed t0 (run d p s L))
    (hlen : 3 * (d + p) ≤ pkts.length)
    (hpk : ∀ i (h : i < pkts.length), RunPkt d p s (L + i) pkts[i])
    (hpaws : s + L + 3 * (d + p) ≤ dec.paws.toNat) :
    ∃ k ≤ 3 * (d + p), (feedPackets C dec (pkts.take k)).d = d ∧
      (feedPackets C dec (pkts.take k)).p = p ∧
      (feedPackets C dec (pkts.take k)).shouldTune = false := by
  have hM := maxAutoTuneSamples_eq
  have e : 2 * (d + p) + (d + p) = 3 * (d + p) := by omega
  rw [← e] at hlen hpaws ⊢
  exact C16_converges_general C dec pkts hd hp hn hdn hdd hdp hwf (Or.inr hL) htune (Nat.le_succ _)
    (by omega) (C16_conv_bothPulses_within hp (by omega)) hpk hlen hpaws

/-- for `d + p ≤ 129`: adoption within `2 (d + p)` run packets from any configuration -/
theorem C16_conv_flushed_small (C : CodecNew) (dec : Decoder) {d p s L : Nat} {t0 : Tune}
    (pkts : List Bytes) (hd : 0 < d) (hp : 0 < p) (hn : 2 * (d + p) ≤ maxAutoTuneSamples)
    (hdn : dec.n = dec.d + dec.p) (hdd : 0 < dec.d) (hdp : 0 < dec.p)
    (hwf : t0.WF) (hL : maxAutoTuneSamples ≤ L + 1)
    (htune : dec.tune = feed t0 (run d p s L))
    (hlen : 2 * (d + p) ≤ pkts.length)
    (hpk : ∀ i (h : i < pkts.length), RunPkt d p s (L + i) pkts[i])
    (hpaws : s + L + 2 * (d + p) ≤ dec.paws.toNat) :
    ∃ k ≤ 2 * (d + p), (feedPackets C dec (pkts.take k)).d = d ∧
      (feedPackets C dec (pkts.take k)).p = p ∧
      (feedPackets C dec (pkts.take k)).shouldTune = false := by
  have hM := maxAutoTuneSamples_eq
  have e : 2 * (d + p) - 1 + 1 = 2 * (d + p) := by omega
  rw [← e] at hlen hpaws ⊢
  exact C16_converges_general C dec pkts hd hp (by omega) hdn hdd hdp hwf (Or.inr hL) htune
    (Nat.le_of_eq e.symm) (by omega) (fun w => ⟨0, Nat.one_pos, C16_conv_aux_small hd hp hn w⟩) hpk
    hlen hpaws

example : RunPkt 1 1 0 0 [0, 0, 0, 0, 0xf1, 0, 2, 0] := by unfold RunPkt; decide +kernel

/-- six packets (ids 258 … 263) of a 1/1 sender whose run started at id 0 -/
def C16_conv_exPkts : List Bytes :=
  (List.range 6).map fun i =>
    le32 (BitVec.ofNat 32 (258 + i)) ++ le16 (if label 1 1 (258 + i) then typeData else typeParity)
      ++ [2, 0]

/-- a 2/1 decoder whose ring has just been flushed by 258 samples of that run -/
def C16_conv_exDec (tuning : Bool) : Decoder :=
  { d := 2, p := 1, n := 3, paws := pawsOf 3, newest := 0, shouldTune := tuning,
    tune := feed Tune.init (run 1 1 0 258), sets := [], codec := rsNew 2 1 }

theorem C16_conv_aux_exDec_tune (b : Bool) :
    (C16_conv_exDec b).tune = feed Tune.init (run 1 1 0 258) := by
  simp only [C16_conv_exDec]

theorem C16_conv_aux_exPkts : ∀ i (h : i < C16_conv_exPkts.length),
    RunPkt 1 1 0 (258 + i) C16_conv_exPkts[i] := by
  unfold RunPkt; decide +kernel

-- tuning: adopts 1/1 within 2 packets
example : ∃ k ≤ 1 + 1, (feedPackets rsNew (C16_conv_exDec true) (C16_conv_exPkts.take k)).d = 1 ∧
    (feedPackets rsNew (C16_conv_exDec true) (C16_conv_exPkts.take k)).p = 1 ∧
    (feedPackets rsNew (C16_conv_exDec true) (C16_conv_exPkts.take k)).shouldTune = false :=
  C16_conv_when_tuning rsNew (C16_conv_exDec true) (s := 0) (L := 258) (t0 := Tune.init)
    C16_conv_exPkts (by decide) (by decide) (by decide) rfl wf_init (by decide)
    (C16_conv_aux_exDec_tune _)
    (by decide +kernel) C16_conv_aux_exPkts (by decide +kernel)

-- not tuning, wrong ratio 2/1: adopts 1/1 within 6 packets
example : ∃ k ≤ 3 * (1 + 1),
    (feedPackets rsNew (C16_conv_exDec false) (C16_conv_exPkts.take k)).d = 1 ∧
    (feedPackets rsNew (C16_conv_exDec false) (C16_conv_exPkts.take k)).p = 1 ∧
    (feedPackets rsNew (C16_conv_exDec false) (C16_conv_exPkts.take k)).shouldTune = false :=
  C16_conv_flushed rsNew (C16_conv_exDec false) (s := 0) (L := 258) (t0 := Tune.init)
    C16_conv_exPkts (by decide) (by decide) (by decide) rfl (by decide) (by decide) wf_init
    (by decide) (C16_conv_aux_exDec_tune _) (by decide +kernel) C16_conv_aux_exPkts (by decide +kernel)

-- the same within 4 packets by the count for small ratios (`2 * (1 + 1) ≤ 258`)
example : ∃ k ≤ 2 * (1 + 1),
    (feedPackets rsNew (C16_conv_exDec false) (C16_conv_exPkts.take k)).d = 1 ∧
    (feedPackets rsNew (C16_conv_exDec false) (C16_conv_exPkts.take k)).p = 1 ∧
    (feedPackets rsNew (C16_conv_exDec false) (C16_conv_exPkts.take k)).shouldTune = false :=
  C16_conv_flushed_small rsNew (C16_conv_exDec false) (s := 0) (L := 258) (t0 := Tune.init)
    C16_conv_exPkts (by decide) (by decide) (by decide) rfl (by decide) (by decide) wf_init
    (by decide) (C16_conv_aux_exDec_tune _) (by decide +kernel) C16_conv_aux_exPkts (by decide +kernel)

end KcpVerif.Props
