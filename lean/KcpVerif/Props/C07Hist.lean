/-
C07 — completeness over WHOLE HISTORIES, including the discard horizon.

`C07_dec_any_k` (Props/C07) assumes that the shard set of the group still holds the `d − 1` earlier
packets.  This file discharges that hypothesis from an invariant over the history, for `Model/Fec`'s
decoder (fec.go `fecDecoder.decode`, `discardShards`, `newestShardId` with the repairs 34efa23 and
be95271), a fresh decoder or any state satisfying the invariant, and ANY list of genuine packets of
its ratio: any groups, any order, duplicates, late arrivals, re-fills, discards, the id wrap.
All for any `Lawful C`; the `…_rsNew` corollaries at the end are unconditional (`C07_rsNew_lawful`).
The ghost `track` of a group lists its distinct packets received since its set was last created or
emptied; the horizon is inside `track`, and `within` is the explicit, decidable condition under which
`track` is simply the list of distinct packets (`C07_hist_any_k`; it covers the wrap as it stands,
being stated with the signed age).  OBSERVATION (`C07_refill_reemits_*`, replayed on the real code,
notes/C07.md): the completed shard set is emptied together with its duplicate marks, so `d` further
packets of the group — the remaining parity when `p ≥ d`, or network duplicates — re-fill it and data
that was already delivered is emitted again.  Not a violation of C07 (everything emitted is an
original data packet of that group; KCP drops the repeat by `sn`), but the reason why `C07_hist_once`
needs its multiplicity hypothesis.
-/
import KcpVerif.Props.C07Field
import KcpVerif.Lemmas.FecHistMain
import KcpVerif.Lemmas.FecHistWrap

namespace KcpVerif.Props
open KcpVerif.Gen KcpVerif.Fec KcpVerif.AutoTune KcpVerif.Lemmas.FecSpec
open KcpVerif.Lemmas

/-- `discardShards`, exactly: what `lookup` finds afterwards, `alive` spelled out, and `alive` in
    numbers for ids whose products do not wrap. -/
theorem C07_discard_exact :
    (∀ (n : Nat) (nw g : BitVec 32) (sets : List ShardSet),
      lookup g (discard n nw sets) = if FecHist.alive n nw g then lookup g sets else none) ∧
    (∀ (n : Nat) (nw g : BitVec 32), FecHist.alive n nw g = true ↔
      0 ≤ itimediff (nw * u32 n) (g * u32 n) ∧
      itimediff (nw * u32 n) (g * u32 n) ≤ ((maxShardSets * n : Nat) : Int)) ∧
    (∀ (n : Nat) (x y : BitVec 32), n ≤ 256 → x.toNat * n < 2 ^ 32 → y.toNat ≤ x.toNat →
      x.toNat ≤ y.toNat + maxShardSets → FecHist.alive n x y = true) ∧
    (∀ (n : Nat) (x y : BitVec 32), 0 < n → n ≤ 256 → x.toNat * n < 2 ^ 32 →
      y.toNat + maxShardSets < x.toNat → x.toNat * n - y.toNat * n < 2 ^ 31 →
      FecHist.alive n x y = false) := by
  refine ⟨FecDec.lookup_discard, FecDec.alive_iff, fun n x y hn hx h1 h2 => FecHist.alive_of_le hn x y hx h1 h2,
    fun n x y hn0 hn hx h1 h2 => FecHist.alive_far hn0 hn x y hx h1 h2⟩

/-- the invariant `HInv` of whole histories: holds for `Decoder.new`, is kept along any history of
    genuine packets (with `newestShardId = curAfter`), and what it contains. -/
theorem C07_hist_invariant {C : CodecNew} (grp : FecDec.Family) :
    (∀ (d p : Nat) (dec : Decoder), Decoder.new C d p = some dec →
      FecHist.HInv C grp dec ∧ FecHist.horizonOf dec = none) ∧
    (∀ (dec : Decoder) (hist : List Bytes), FecHist.HInv C grp dec →
      (∀ q ∈ hist, FecDec.GenuinePkt C grp dec.d dec.p q) →
      FecHist.HInv C grp (FecDec.feed C dec hist).1 ∧
      FecHist.horizonOf (FecDec.feed C dec hist).1
        = FecHist.curAfter dec.n (FecHist.horizonOf dec) (hist.map (FecHist.sidOf dec.n))) ∧
    (∀ (dec : Decoder), FecHist.HInv C grp dec →
      (∀ s ∈ dec.sets, FecHist.alive dec.n dec.newest s.id = true) ∧
      (dec.sets ≠ [] → ∃ s ∈ dec.sets, s.id = dec.newest) ∧
      (∀ s ∈ dec.sets, FecDec.SetGenuine C grp dec.d dec.p s) ∧
      dec.sets.Pairwise (fun a b => a.id ≠ b.id)) := by
  refine ⟨?_, ?_, fun dec h => ⟨h.alive, h.anchor, h.genuine.genuine, h.genuine.distinct⟩⟩
  · intro d p dec hnew
    obtain ⟨h1, _, _, h4⟩ := FecHist.hinv_new (C := C) grp d p dec hnew
    exact ⟨h1, h4 ▸ rfl⟩
  · intro dec hist hI hgen
    rw [← FecDec.run_eq_feed]
    obtain ⟨h1, _, _, _, h5⟩ := FecHist.hinv_run grp hist dec hI hgen
    exact ⟨h1, h5⟩

/-- the list of returned shards spelled out (the expression used in `C07_dec_any_k`) -/
theorem C07_missing_def (G : Group) (idxs : List Nat) :
    FecHist.missing G idxs
      = (List.range G.d).filterMap
          (fun k => if k ∈ idxs then none else some (pad G.maxLen (G.bodies.getD k []))) ∧
    FecHist.missingPayloads G idxs
      = (List.range G.d).filterMap
          (fun k => if k ∈ idxs then none else some (some (G.payloads.getD k []))) := ⟨rfl, rfl⟩

/-- each data index outside `idxs` contributes exactly one entry, in index order -/
theorem C07_missing_once (G : Group) (idxs : List Nat) :
    FecHist.missing G idxs
      = ((List.range G.d).filter (fun k => decide (k ∉ idxs))).map
          (fun k => pad G.maxLen (G.bodies.getD k [])) := by
  unfold FecHist.missing
  generalize List.range G.d = l
  induction l with
  | nil => rfl
  | cons a l ih =>
    by_cases h : a ∈ idxs
    · simp only [List.filterMap_cons, h, if_true, List.filter_cons, not_true_eq_false, decide_false,
        Bool.false_eq_true, if_false]
      exact ih
    · simp only [List.filterMap_cons, h, if_false, List.filter_cons, not_false_eq_true, decide_true,
        if_true, List.map_cons]
      rw [ih]

/-- The invariant over whole histories, for one group: from a state satisfying `HInv` in which the
    decoder holds the packets `got0` of `G` (`[]` for a fresh decoder), after ANY list of genuine
    packets the decoder holds for `G` exactly what the ghost `track` lists, and the next call on a
    packet of `G` returns exactly the absent data packets iff that packet is new and the `d`-th.
    No horizon hypothesis: the horizon is inside `track`. -/
theorem C07_hist_tracks {C : CodecNew} (hC : Lawful C) (grp : FecDec.Family) {G : Group} (hG : G.WF)
    (hgrp : grp (G.base / u32 G.n) = some G) (dec : Decoder) (hI : FecHist.HInv C grp dec)
    (hd : G.d = dec.d) (hp : G.p = dec.p) (got0 : List Nat) (hgh0 : FecHist.Ghost G got0)
    (hset0 : FecDec.held (G.base / u32 G.n) dec = got0.map (G.packet C))
    (hist : List Bytes) (hgen : ∀ q ∈ hist, FecDec.GenuinePkt C grp G.d G.p q) :
    FecDec.held (G.base / u32 G.n) (FecDec.feed C dec hist).1
      = (FecHist.track G.n G.d (G.base / u32 G.n) (FecHist.horizonOf dec) got0 hist).map (G.packet C) ∧
    FecHist.Ghost G (FecHist.track G.n G.d (G.base / u32 G.n) (FecHist.horizonOf dec) got0 hist) ∧
    ∀ j, j < G.n →
      ((FecDec.feed C dec hist).1.decode C (G.packet C j)).recovered
        = (if j ∉ FecHist.track G.n G.d (G.base / u32 G.n) (FecHist.horizonOf dec) got0 hist ∧
              (FecHist.track G.n G.d (G.base / u32 G.n) (FecHist.horizonOf dec) got0 hist).length + 1 = G.d
           then FecHist.missing G
              (FecHist.track G.n G.d (G.base / u32 G.n) (FecHist.horizonOf dec) got0 hist ++ [j])
           else []) ∧
      ((FecDec.feed C dec hist).1.decode C (G.packet C j)).panic = false := by
  rw [← FecDec.run_eq_feed]
  obtain ⟨_, _, _, _, hT, hgh⟩ := FecHist.run_track grp hG hgrp hist dec got0 hI hd hp hgh0 hset0 hgen
  exact ⟨hT, hgh, fun j hj => FecHist.step_out hC grp hG hgrp dec got0 hI hd hp hgh0 hset0 hist hgen j hj⟩

/-- the explicit horizon condition, over the prefixes of the history: after every prefix that
    contains a packet of the group, the group is alive w.r.t. the `newestShardId` of that prefix -/
theorem C07_within_iff (n : Nat) (g : BitVec 32) (cur : Option (BitVec 32)) (hist : List Bytes) :
    FecHist.within n g cur false hist = true ↔
      ∀ k, k < hist.length → (∃ q ∈ hist.take (k + 1), FecHist.sidOf n q = g) →
        FecHist.alive n (FecHist.newestAfter n cur ((hist.take (k + 1)).map (FecHist.sidOf n))) g
          = true := by
  rw [FecHist.within_iff]
  simp only [Bool.false_eq_true, false_or]

/-- what the ghost is within the horizon: the distinct packets of the group, in order of arrival -/
theorem C07_track_within (n d : Nat) (g : BitVec 32) (cur : Option (BitVec 32)) (hist : List Bytes)
    (hhor : FecHist.within n g cur false hist = true)
    (hlt : (FecHist.gIdx n g [] hist).length < d) :
    FecHist.track n d g cur [] hist = FecHist.gIdx n g [] hist :=
  FecHist.track_within n d g hist cur false [] hhor (fun h => absurd rfl h) hlt

/-- `C07_hist_any_k` with the general premise "the ghost of `G` is empty after `h0`" -/
theorem C07_hist_any_k_ghost {C : CodecNew} (hC : Lawful C) (grp : FecDec.Family) {G : Group}
    (hG : G.WF) (hgrp : grp (G.base / u32 G.n) = some G) (dec : Decoder)
    (hI : FecHist.HInv C grp dec) (hd : G.d = dec.d) (hp : G.p = dec.p)
    (got0 : List Nat) (hgh0 : FecHist.Ghost G got0)
    (hset0 : FecDec.held (G.base / u32 G.n) dec = got0.map (G.packet C))
    (h0 seg : List Bytes) (hgen0 : ∀ q ∈ h0, FecDec.GenuinePkt C grp G.d G.p q)
    (hgen : ∀ q ∈ seg, FecDec.GenuinePkt C grp G.d G.p q)
    (hempty : FecHist.track G.n G.d (G.base / u32 G.n) (FecHist.horizonOf dec) got0 h0 = [])
    (hhor : FecHist.within G.n (G.base / u32 G.n)
      (FecHist.curAfter G.n (FecHist.horizonOf dec) (h0.map (FecHist.sidOf G.n))) false seg = true)
    (hcount : (FecHist.gIdx G.n (G.base / u32 G.n) [] seg).length + 1 = G.d)
    (j : Nat) (hj : j < G.n) (hnot : j ∉ FecHist.gIdx G.n (G.base / u32 G.n) [] seg) :
    FecDec.held (G.base / u32 G.n) (FecDec.feed C dec (h0 ++ seg)).1
      = (FecHist.gIdx G.n (G.base / u32 G.n) [] seg).map (G.packet C) ∧
    ((FecDec.feed C dec (h0 ++ seg)).1.decode C (G.packet C j)).recovered
      = FecHist.missing G (FecHist.gIdx G.n (G.base / u32 G.n) [] seg ++ [j]) ∧
    ((FecDec.feed C dec (h0 ++ seg)).1.decode C (G.packet C j)).recovered.map trim
      = FecHist.missingPayloads G (FecHist.gIdx G.n (G.base / u32 G.n) [] seg ++ [j]) ∧
    ((FecDec.feed C dec (h0 ++ seg)).1.decode C (G.packet C j)).panic = false ∧
    (∀ (s1 s2 : List Bytes) (i : Nat), seg = s1 ++ G.packet C i :: s2 → i < G.n →
      ((FecDec.feed C dec (h0 ++ s1)).1.decode C (G.packet C i)).recovered = []) := by
  have hlt : (FecHist.gIdx G.n (G.base / u32 G.n) [] seg).length < G.d := by omega
  obtain ⟨h1, h2⟩ := FecHist.hist_any_k hC grp hG hgrp dec hI hd hp got0 hgh0 hset0 h0 seg hgen0 hgen
    hempty hhor hlt
  obtain ⟨h3, h4⟩ := h2 j hj
  rw [if_pos ⟨hnot, hcount⟩] at h3
  simp only [← FecDec.run_eq_feed]
  refine ⟨h1, h3, ?_, h4, ?_⟩
  · rw [h3]; exact FecDec.missing_trim hG _
  · intro s1 s2 i hseg hi
    subst hseg
    exact FecHist.hist_before_k hC grp hG hgrp dec hI hd hp got0 hgh0 hset0 h0 s1 s2 i hi hgen0 hgen
      hempty hhor hlt

/-- `dec_any_k` over a history.  The decoder (fresh, or any state satisfying `HInv`) holds
    nothing for `G`; `h0` contains no packet of `G`; in `seg` the group is within the horizon from its
    first packet on and has `d − 1` distinct packets; then packet `j`, a further one, arrives.  The
    decoder then holds exactly those `d − 1` packets — the hypothesis of `C07_dec_any_k` — and the call
    returns exactly the zero-padded bodies of the absent data packets in index order, `trim` gives
    their payloads; every earlier call on a packet of `G` returned nothing. -/
theorem C07_hist_any_k {C : CodecNew} (hC : Lawful C) (grp : FecDec.Family) {G : Group}
    (hG : G.WF) (hgrp : grp (G.base / u32 G.n) = some G) (dec : Decoder)
    (hI : FecHist.HInv C grp dec) (hd : G.d = dec.d) (hp : G.p = dec.p)
    (hheld : FecDec.held (G.base / u32 G.n) dec = [])
    (h0 seg : List Bytes) (hgen0 : ∀ q ∈ h0, FecDec.GenuinePkt C grp G.d G.p q)
    (hgen : ∀ q ∈ seg, FecDec.GenuinePkt C grp G.d G.p q)
    (hpre : ∀ q ∈ h0, FecHist.sidOf G.n q ≠ G.base / u32 G.n)
    (hhor : FecHist.within G.n (G.base / u32 G.n)
      (FecHist.curAfter G.n (FecHist.horizonOf dec) (h0.map (FecHist.sidOf G.n))) false seg = true)
    (hcount : (FecHist.gIdx G.n (G.base / u32 G.n) [] seg).length + 1 = G.d)
    (j : Nat) (hj : j < G.n) (hnot : j ∉ FecHist.gIdx G.n (G.base / u32 G.n) [] seg) :
    FecDec.held (G.base / u32 G.n) (FecDec.feed C dec (h0 ++ seg)).1
      = (FecHist.gIdx G.n (G.base / u32 G.n) [] seg).map (G.packet C) ∧
    ((FecDec.feed C dec (h0 ++ seg)).1.decode C (G.packet C j)).recovered
      = FecHist.missing G (FecHist.gIdx G.n (G.base / u32 G.n) [] seg ++ [j]) ∧
    ((FecDec.feed C dec (h0 ++ seg)).1.decode C (G.packet C j)).recovered.map trim
      = FecHist.missingPayloads G (FecHist.gIdx G.n (G.base / u32 G.n) [] seg ++ [j]) ∧
    ((FecDec.feed C dec (h0 ++ seg)).1.decode C (G.packet C j)).panic = false ∧
    (∀ (s1 s2 : List Bytes) (i : Nat), seg = s1 ++ G.packet C i :: s2 → i < G.n →
      ((FecDec.feed C dec (h0 ++ s1)).1.decode C (G.packet C i)).recovered = []) :=
  C07_hist_any_k_ghost hC grp hG hgrp dec hI hd hp [] (FecHist.Ghost.nil hG) hheld h0 seg hgen0 hgen
    (FecHist.track_absent _ _ _ h0 _ hpre) hhor hcount j hj hnot

/-- the ghost of `G` is empty right after a call that completed `G` (second way the premise of
    `C07_hist_any_k_ghost` arises: the group starts over) -/
theorem C07_ghost_empty_completed {C : CodecNew} {G : Group} (hG : G.WF)
    (cur : Option (BitVec 32)) (got0 : List Nat) (h0 : List Bytes) (j : Nat) (hj : j < G.n)
    (hnot : j ∉ FecHist.track G.n G.d (G.base / u32 G.n) cur got0 h0)
    (hfull : (FecHist.track G.n G.d (G.base / u32 G.n) cur got0 h0).length + 1 ≥ G.d) :
    FecHist.track G.n G.d (G.base / u32 G.n) cur got0 (h0 ++ [G.packet C j]) = [] := by
  rw [FecHist.track_append]
  simp only [FecHist.track]
  apply FecHist.trackStep_completes _ _ _ _ _ _ (FecDec.sidOf_packet hG j hj)
  · rw [FecDec.posOf_packet hG j hj]; exact hnot
  · exact hfull

/-- Exactly once, over the whole history.  Under the hypotheses of `C07_hist_any_k`, let `rest`
    follow the completing packet `j`, with fewer than `d` packets of `G` in it (with multiplicity;
    anything of other groups, horizon or not).  Then every call on a packet of `G` in `rest` returns
    nothing.  Together with `C07_hist_any_k`: over `h0 ++ seg ++ [packet j] ++ rest` the decoder emits
    for `G` exactly `missing G (gIdx ++ [j])` — each data packet that was not among the first `d`
    distinct ones once (`C07_missing_once`), the others never. -/
theorem C07_hist_once {C : CodecNew} (hC : Lawful C) (grp : FecDec.Family) {G : Group}
    (hG : G.WF) (hgrp : grp (G.base / u32 G.n) = some G) (dec : Decoder)
    (hI : FecHist.HInv C grp dec) (hd : G.d = dec.d) (hp : G.p = dec.p)
    (hheld : FecDec.held (G.base / u32 G.n) dec = [])
    (h0 seg : List Bytes) (hgen0 : ∀ q ∈ h0, FecDec.GenuinePkt C grp G.d G.p q)
    (hgen : ∀ q ∈ seg, FecDec.GenuinePkt C grp G.d G.p q)
    (hpre : ∀ q ∈ h0, FecHist.sidOf G.n q ≠ G.base / u32 G.n)
    (hhor : FecHist.within G.n (G.base / u32 G.n)
      (FecHist.curAfter G.n (FecHist.horizonOf dec) (h0.map (FecHist.sidOf G.n))) false seg = true)
    (hcount : (FecHist.gIdx G.n (G.base / u32 G.n) [] seg).length + 1 = G.d)
    (j : Nat) (hj : j < G.n) (hnot : j ∉ FecHist.gIdx G.n (G.base / u32 G.n) [] seg)
    (rest : List Bytes) (hgenr : ∀ q ∈ rest, FecDec.GenuinePkt C grp G.d G.p q)
    (hfew : (rest.filter (fun q => FecHist.sidOf G.n q == G.base / u32 G.n)).length < G.d) :
    ∀ (r1 r2 : List Bytes) (i : Nat), rest = r1 ++ G.packet C i :: r2 → i < G.n →
      ((FecDec.feed C dec (h0 ++ seg ++ [G.packet C j] ++ r1)).1.decode C (G.packet C i)).recovered
        = [] := by
  intro r1 r2 i hrest hi
  subst hrest
  have hlt : (FecHist.gIdx G.n (G.base / u32 G.n) [] seg).length < G.d := by omega
  have htr : FecHist.track G.n G.d (G.base / u32 G.n) (FecHist.horizonOf dec) [] (h0 ++ seg)
      = FecHist.gIdx G.n (G.base / u32 G.n) [] seg := by
    rw [FecHist.track_append, FecHist.track_absent _ _ _ h0 _ hpre]
    exact C07_track_within _ _ _ _ seg hhor hlt
  have hempty : FecHist.track G.n G.d (G.base / u32 G.n) (FecHist.horizonOf dec) []
      (h0 ++ seg ++ [G.packet C j]) = [] := by
    apply C07_ghost_empty_completed hG _ _ _ j hj
    · rw [htr]; exact hnot
    · rw [htr]; omega
  have hgenj : FecDec.GenuinePkt C grp G.d G.p (G.packet C j) := ⟨G, j, hgrp, hG, rfl, rfl, hj, rfl⟩
  rw [← FecDec.run_eq_feed]
  exact FecHist.hist_after_k hC grp hG hgrp dec hI hd hp [] (FecHist.Ghost.nil hG) hheld
    (h0 ++ seg ++ [G.packet C j]) r1 r2 i hi
    (by
      intro q hq
      rcases List.mem_append.1 hq with h | h
      · rcases List.mem_append.1 h with h | h
        · exact hgen0 q h
        · exact hgen q h
      · rw [List.mem_singleton] at h; exact h ▸ hgenj)
    hgenr hempty hfew

/-- a successful `newFECDecoder` has an accepted ratio -/
theorem C07_new_range {C : CodecNew} {d p : Nat} {dec : Decoder} (h : Decoder.new C d p = some dec) :
    0 < d + p ∧ d + p ≤ 256 := by
  have := ((FecDec.Decoder.new_eq C d p dec).1 h).1
  omega

/-- No group is forgotten while every group stays within the horizon.  A fresh decoder is fed a
    history of genuine packets in which every group that occurs is within the horizon throughout
    (`within … hist` for the shard id of every packet — decidable; `C07_hist_window` and
    `C07_hist_window_wrap` give the two standard sufficient conditions).  Then:
    (1) for every position of the history holding a packet `j` of a group `G` that has had fewer than
        `d` distinct packets before it (`gIdx`), the decoder holds exactly those distinct packets and
        the call returns `[]`, or — when `j` is new and the `d`-th — exactly the zero-padded bodies of
        the absent data packets (`trim`: their payloads): every group that gets any `d` of its `n`
        packets has, at that moment, each of its data packets delivered exactly once, directly or
        recovered;
    (2) after that call, as long as fewer than `d` packets of `G` follow, every call on a packet of
        `G` returns `[]`;
    (3) nothing else is ever emitted (`C07_dec_sound`). -/
theorem C07_hist_no_forget {C : CodecNew} (hC : Lawful C) (grp : FecDec.Family) (d p : Nat)
    (dec : Decoder) (hnew : Decoder.new C d p = some dec) (hist : List Bytes)
    (hgen : ∀ q ∈ hist, FecDec.GenuinePkt C grp d p q)
    (hW : ∀ q ∈ hist, FecHist.within (d + p) (FecHist.sidOf (d + p) q) none false hist = true) :
    (∀ (G : Group) (a rest : List Bytes) (j : Nat), grp (G.base / u32 G.n) = some G → G.WF →
      G.d = d → G.p = p → j < G.n → hist = a ++ G.packet C j :: rest →
      (FecHist.gIdx G.n (G.base / u32 G.n) [] a).length < G.d →
      FecDec.held (G.base / u32 G.n) (FecDec.feed C dec a).1
        = (FecHist.gIdx G.n (G.base / u32 G.n) [] a).map (G.packet C) ∧
      ((FecDec.feed C dec a).1.decode C (G.packet C j)).recovered
        = (if j ∉ FecHist.gIdx G.n (G.base / u32 G.n) [] a ∧
              (FecHist.gIdx G.n (G.base / u32 G.n) [] a).length + 1 = G.d
           then FecHist.missing G (FecHist.gIdx G.n (G.base / u32 G.n) [] a ++ [j]) else []) ∧
      ((FecDec.feed C dec a).1.decode C (G.packet C j)).recovered.map trim
        = (if j ∉ FecHist.gIdx G.n (G.base / u32 G.n) [] a ∧
              (FecHist.gIdx G.n (G.base / u32 G.n) [] a).length + 1 = G.d
           then FecHist.missingPayloads G (FecHist.gIdx G.n (G.base / u32 G.n) [] a ++ [j]) else [])) ∧
    (∀ (G : Group) (a r1 r2 : List Bytes) (j i : Nat), grp (G.base / u32 G.n) = some G → G.WF →
      G.d = d → G.p = p → j < G.n → i < G.n →
      hist = a ++ G.packet C j :: (r1 ++ G.packet C i :: r2) →
      (FecHist.gIdx G.n (G.base / u32 G.n) [] a).length + 1 = G.d →
      j ∉ FecHist.gIdx G.n (G.base / u32 G.n) [] a →
      ((r1 ++ G.packet C i :: r2).filter
        (fun q => FecHist.sidOf G.n q == G.base / u32 G.n)).length < G.d →
      ((FecDec.feed C dec (a ++ G.packet C j :: r1)).1.decode C (G.packet C i)).recovered = []) ∧
    (∀ r ∈ (FecDec.feed C dec hist).2,
      ∃ G : Group, grp (G.base / u32 G.n) = some G ∧ G.WF ∧ G.d = d ∧ G.p = p ∧
        (∃ j, j < G.n ∧ G.packet C j ∈ hist) ∧
        ∃ k, k < G.d ∧ r = pad G.maxLen (G.bodies.getD k []) ∧ trim r = some (G.payloads.getD k [])) := by
  obtain ⟨hI, hdd, hdp, hsets⟩ := FecHist.hinv_new (C := C) grp d p dec hnew
  have hhz : FecHist.horizonOf dec = none := hsets ▸ rfl
  have hheld : ∀ g, FecDec.held g dec = [] := fun g => hsets ▸ rfl
  -- facts shared by (1) and (2): the group is in the window, prefixes are within the horizon
  have key : ∀ (G : Group) (a rest : List Bytes) (j : Nat), G.WF → G.d = d → G.p = p → j < G.n →
      hist = a ++ G.packet C j :: rest →
      G.n = d + p ∧ FecHist.within G.n (G.base / u32 G.n) none false a = true ∧
      (∀ q ∈ a, FecDec.GenuinePkt C grp G.d G.p q) := by
    intro G a rest j hG hGd hGp hj hsplit
    have hn : G.n = d + p := by unfold Group.n; rw [hGd, hGp]
    have hjin : G.packet C j ∈ hist := by rw [hsplit]; simp
    refine ⟨hn, ?_, ?_⟩
    · have := hW _ hjin
      rw [← hn, FecDec.sidOf_packet hG j hj, hsplit] at this
      exact FecHist.within_append _ _ _ _ _ _ this
    · intro q hq
      rw [hGd, hGp]
      exact hgen q (by rw [hsplit]; exact List.mem_append_left _ hq)
  refine ⟨?_, ?_, ?_⟩
  · intro G a rest j hgrp hG hGd hGp hj hsplit hlt
    obtain ⟨_, hwi, hgena⟩ := key G a rest j hG hGd hGp hj hsplit
    obtain ⟨h1, h2⟩ := FecHist.hist_any_k hC grp hG hgrp dec hI (hGd.trans hdd.symm) (hGp.trans hdp.symm)
      [] (FecHist.Ghost.nil hG) (hheld _) [] a (fun q hq => by cases hq) hgena rfl
      (by rw [hhz]; exact hwi) hlt
    simp only [List.nil_append, FecDec.run_eq_feed] at h1 h2
    refine ⟨h1, (h2 j hj).1, ?_⟩
    rw [(h2 j hj).1]
    split
    · exact FecDec.missing_trim hG _
    · rfl
  · intro G a r1 r2 j i hgrp hG hGd hGp hj hi hsplit hcount hnot hfew
    obtain ⟨_, hwi, hgena⟩ := key G a _ j hG hGd hGp hj hsplit
    have hgenr : ∀ q ∈ r1 ++ G.packet C i :: r2, FecDec.GenuinePkt C grp G.d G.p q := by
      intro q hq
      rw [hGd, hGp]
      exact hgen q (by rw [hsplit]; exact List.mem_append_right _ (List.mem_cons_of_mem _ hq))
    have := C07_hist_once hC grp hG hgrp dec hI (hGd.trans hdd.symm) (hGp.trans hdp.symm) (hheld _)
      [] a (fun q hq => by cases hq) hgena (fun q hq => by cases hq) (by rw [hhz]; exact hwi) hcount
      j hj hnot (r1 ++ G.packet C i :: r2) hgenr hfew r1 r2 i rfl hi
    simpa only [List.nil_append, List.append_assoc, List.singleton_append] using this
  · exact C07_dec_sound hC grp d p dec hnew hist hgen

/-- Packets of at most `maxShardSets + 1 = 4` consecutive groups, interleaved arbitrarily, into a
    fresh decoder (not across the 2^32 wrap): every group of the history is within the horizon
    throughout — the hypothesis of `C07_hist_no_forget`. -/
theorem C07_hist_window {C : CodecNew} (d p : Nat)
    (dec : Decoder) (hnew : Decoder.new C d p = some dec) (hist : List Bytes) (b : Nat)
    (hb : (b + maxShardSets) * (d + p) < 2 ^ 32)
    (hwin : ∀ q ∈ hist, FecHist.InWin b (FecHist.sidOf (d + p) q)) :
    ∀ q ∈ hist, FecHist.within (d + p) (FecHist.sidOf (d + p) q) none false hist = true :=
  fun q hq => FecHist.within_window (C07_new_range hnew).2 b hb _ (hwin q hq) hist hwin

/-- Across the id wrap the guaranteed window is THREE consecutive groups (`L = paws / n` ids;
    the groups `L−2, L−1, 0, 1` sit at positions 0 … 3 and the history uses positions
    `s0 … s0 + 2`): seen across the wrap every age is larger by `2^32 − paws ∈ [1, n]`.  Sharp: seen
    from group 1 the group `L−2` (three behind) is NOT alive, for every ratio. -/
theorem C07_hist_window_wrap {C : CodecNew} (d p : Nat)
    (dec : Decoder) (hnew : Decoder.new C d p = some dec) (hist : List Bytes) (s0 : Nat)
    (hwin : ∀ q ∈ hist, FecHist.InWrap (d + p) s0 (FecHist.sidOf (d + p) q)) :
    (∀ q ∈ hist, FecHist.within (d + p) (FecHist.sidOf (d + p) q) none false hist = true) ∧
    (∀ x y : BitVec 32, x.toNat = 1 → y.toNat + 2 = FecHist.idCount (d + p) →
      FecHist.alive (d + p) x y = false) :=
  ⟨fun q hq => FecHist.within_wrap (C07_new_range hnew).1 (C07_new_range hnew).2 s0 _ (hwin q hq)
    hist hwin,
   fun x y hx hy => FecHist.wrap_sharp (C07_new_range hnew).1 (C07_new_range hnew).2 x y hx hy⟩

/-- `C07_hist_any_k` for the executable GF(2^8) code -/
theorem C07_hist_any_k_rsNew (grp : FecDec.Family) {G : Group}
    (hG : G.WF) (hgrp : grp (G.base / u32 G.n) = some G) (dec : Decoder)
    (hI : FecHist.HInv rsNew grp dec) (hd : G.d = dec.d) (hp : G.p = dec.p)
    (hheld : FecDec.held (G.base / u32 G.n) dec = [])
    (h0 seg : List Bytes) (hgen0 : ∀ q ∈ h0, FecDec.GenuinePkt rsNew grp G.d G.p q)
    (hgen : ∀ q ∈ seg, FecDec.GenuinePkt rsNew grp G.d G.p q)
    (hpre : ∀ q ∈ h0, FecHist.sidOf G.n q ≠ G.base / u32 G.n)
    (hhor : FecHist.within G.n (G.base / u32 G.n)
      (FecHist.curAfter G.n (FecHist.horizonOf dec) (h0.map (FecHist.sidOf G.n))) false seg = true)
    (hcount : (FecHist.gIdx G.n (G.base / u32 G.n) [] seg).length + 1 = G.d)
    (j : Nat) (hj : j < G.n) (hnot : j ∉ FecHist.gIdx G.n (G.base / u32 G.n) [] seg) :
    FecDec.held (G.base / u32 G.n) (FecDec.feed rsNew dec (h0 ++ seg)).1
      = (FecHist.gIdx G.n (G.base / u32 G.n) [] seg).map (G.packet rsNew) ∧
    ((FecDec.feed rsNew dec (h0 ++ seg)).1.decode rsNew (G.packet rsNew j)).recovered
      = FecHist.missing G (FecHist.gIdx G.n (G.base / u32 G.n) [] seg ++ [j]) ∧
    ((FecDec.feed rsNew dec (h0 ++ seg)).1.decode rsNew (G.packet rsNew j)).recovered.map trim
      = FecHist.missingPayloads G (FecHist.gIdx G.n (G.base / u32 G.n) [] seg ++ [j]) ∧
    ((FecDec.feed rsNew dec (h0 ++ seg)).1.decode rsNew (G.packet rsNew j)).panic = false ∧
    (∀ (s1 s2 : List Bytes) (i : Nat), seg = s1 ++ G.packet rsNew i :: s2 → i < G.n →
      ((FecDec.feed rsNew dec (h0 ++ s1)).1.decode rsNew (G.packet rsNew i)).recovered = []) :=
  C07_hist_any_k C07_rsNew_lawful grp hG hgrp dec hI hd hp hheld h0 seg hgen0 hgen hpre hhor hcount
    j hj hnot

/-- `C07_hist_once` for the executable code -/
theorem C07_hist_once_rsNew (grp : FecDec.Family) {G : Group}
    (hG : G.WF) (hgrp : grp (G.base / u32 G.n) = some G) (dec : Decoder)
    (hI : FecHist.HInv rsNew grp dec) (hd : G.d = dec.d) (hp : G.p = dec.p)
    (hheld : FecDec.held (G.base / u32 G.n) dec = [])
    (h0 seg : List Bytes) (hgen0 : ∀ q ∈ h0, FecDec.GenuinePkt rsNew grp G.d G.p q)
    (hgen : ∀ q ∈ seg, FecDec.GenuinePkt rsNew grp G.d G.p q)
    (hpre : ∀ q ∈ h0, FecHist.sidOf G.n q ≠ G.base / u32 G.n)
    (hhor : FecHist.within G.n (G.base / u32 G.n)
      (FecHist.curAfter G.n (FecHist.horizonOf dec) (h0.map (FecHist.sidOf G.n))) false seg = true)
    (hcount : (FecHist.gIdx G.n (G.base / u32 G.n) [] seg).length + 1 = G.d)
    (j : Nat) (hj : j < G.n) (hnot : j ∉ FecHist.gIdx G.n (G.base / u32 G.n) [] seg)
    (rest : List Bytes) (hgenr : ∀ q ∈ rest, FecDec.GenuinePkt rsNew grp G.d G.p q)
    (hfew : (rest.filter (fun q => FecHist.sidOf G.n q == G.base / u32 G.n)).length < G.d) :
    ∀ (r1 r2 : List Bytes) (i : Nat), rest = r1 ++ G.packet rsNew i :: r2 → i < G.n →
      ((FecDec.feed rsNew dec (h0 ++ seg ++ [G.packet rsNew j] ++ r1)).1.decode rsNew
        (G.packet rsNew i)).recovered = [] :=
  C07_hist_once C07_rsNew_lawful grp hG hgrp dec hI hd hp hheld h0 seg hgen0 hgen hpre hhor hcount
    j hj hnot rest hgenr hfew

/-- `C07_hist_no_forget` for the executable code, parts (1) and (3) at the completing packet -/
theorem C07_hist_no_forget_rsNew (grp : FecDec.Family) (d p : Nat)
    (dec : Decoder) (hnew : Decoder.new rsNew d p = some dec) (hist : List Bytes)
    (hgen : ∀ q ∈ hist, FecDec.GenuinePkt rsNew grp d p q)
    (hW : ∀ q ∈ hist, FecHist.within (d + p) (FecHist.sidOf (d + p) q) none false hist = true) :
    (∀ (G : Group) (a rest : List Bytes) (j : Nat), grp (G.base / u32 G.n) = some G → G.WF →
      G.d = d → G.p = p → j < G.n → hist = a ++ G.packet rsNew j :: rest →
      (FecHist.gIdx G.n (G.base / u32 G.n) [] a).length + 1 = G.d →
      j ∉ FecHist.gIdx G.n (G.base / u32 G.n) [] a →
      ((FecDec.feed rsNew dec a).1.decode rsNew (G.packet rsNew j)).recovered.map trim
        = FecHist.missingPayloads G (FecHist.gIdx G.n (G.base / u32 G.n) [] a ++ [j])) ∧
    (∀ r ∈ (FecDec.feed rsNew dec hist).2,
      ∃ G : Group, grp (G.base / u32 G.n) = some G ∧ G.WF ∧ G.d = d ∧ G.p = p ∧
        (∃ j, j < G.n ∧ G.packet rsNew j ∈ hist) ∧
        ∃ k, k < G.d ∧ r = pad G.maxLen (G.bodies.getD k []) ∧ trim r = some (G.payloads.getD k [])) := by
  obtain ⟨h1, _, h3⟩ := C07_hist_no_forget C07_rsNew_lawful grp d p dec hnew hist hgen hW
  refine ⟨?_, h3⟩
  intro G a rest j hgrp hG hGd hGp hj hsplit hcount hnot
  have := (h1 G a rest j hgrp hG hGd hGp hj hsplit (by omega)).2.2
  rw [if_pos ⟨hnot, hcount⟩] at this
  exact this

open FecHist.Example

/-! The histories below go through `FecHist.feed_ghost` / `feed_own`: what is evaluated is the ghost
machine `outs` (shard ids, positions, bodies), not the Reed–Solomon code. -/

/-- sharpness of the horizon -/
theorem C07_hist_forgotten :
    Decoder.new rsNew 2 1 = some (fresh rsNew 2 1) ∧
    -- one packet of group 4 = `maxShardSets + 1` groups ahead: group 0 is out of the horizon …
    FecHist.within 3 0 none false [a0.packet rsNew 0, a4.packet rsNew 0] = false ∧
    -- … and forgotten: its 2nd distinct packet recovers nothing, nor does any later one
    (FecDec.feed rsNew (fresh rsNew 2 1) [a0.packet rsNew 0, a4.packet rsNew 0, a0.packet rsNew 2]).2 = [] ∧
    (FecDec.feed rsNew (fresh rsNew 2 1)
      [a0.packet rsNew 0, a4.packet rsNew 0, a0.packet rsNew 2, a0.packet rsNew 0, a0.packet rsNew 2]).2 = [] ∧
    -- a packet of group 3 = `maxShardSets` groups ahead instead: within the horizon, data 1 recovered
    FecHist.within 3 0 none false [a0.packet rsNew 0, a3.packet rsNew 0] = true ∧
    ((FecDec.feed rsNew (fresh rsNew 2 1)
      [a0.packet rsNew 0, a3.packet rsNew 0, a0.packet rsNew 2]).2).map trim = [some [4]] := by
  have ghost := fun grp hist h =>
    FecHist.feed_ghost C07_rsNew_lawful grp 2 1 (fresh rsNew 2 1) rfl hist [] h
  refine ⟨rfl, by decide +kernel, ?_, ?_, by decide +kernel, ?_⟩
  · exact (ghost famF _ (FecHist.genuine_each [⟨_, genF0 0 (by decide)⟩, ⟨_, genF4 0 (by decide)⟩,
      ⟨_, genF0 2 (by decide)⟩])).trans (by decide +kernel)
  · exact (ghost famF _ (FecHist.genuine_each [⟨_, genF0 0 (by decide)⟩, ⟨_, genF4 0 (by decide)⟩,
      ⟨_, genF0 2 (by decide)⟩, ⟨_, genF0 0 (by decide)⟩, ⟨_, genF0 2 (by decide)⟩])).trans
      (by decide +kernel)
  · exact (congrArg (List.map trim) (ghost fam _ (FecHist.genuine_each [⟨_, gen0 0 (by decide)⟩,
      ⟨_, gen3 0 (by decide)⟩, ⟨_, gen0 2 (by decide)⟩]))).trans (by decide +kernel)

/-- without any loss, when `p ≥ d`: the remaining parity packets re-fill the emptied set and the data
    is emitted a second time (1/1 and 2/2) -/
theorem C07_refill_reemits_no_loss :
    Decoder.new rsNew 1 1 = some (fresh rsNew 1 1) ∧ Decoder.new rsNew 2 2 = some (fresh rsNew 2 2) ∧
    (FecDec.feed rsNew (fresh rsNew 1 1) [b0.packet rsNew 0]).2 = [] ∧
    ((FecDec.feed rsNew (fresh rsNew 1 1) [b0.packet rsNew 0, b0.packet rsNew 1]).2).map trim
      = [some [5, 6]] ∧
    (FecDec.feed rsNew (fresh rsNew 2 2) [c0.packet rsNew 0, c0.packet rsNew 1, c0.packet rsNew 2]).2 = [] ∧
    ((FecDec.feed rsNew (fresh rsNew 2 2)
      [c0.packet rsNew 0, c0.packet rsNew 1, c0.packet rsNew 2, c0.packet rsNew 3]).2).map trim
      = [some [1], some [2, 3]] := by
  have ownb := fun js hjs =>
    FecHist.feed_own C07_rsNew_lawful b0_wf (fresh rsNew 1 1) rfl js hjs
  have ownc := fun js hjs =>
    FecHist.feed_own C07_rsNew_lawful c0_wf (fresh rsNew 2 2) rfl js hjs
  refine ⟨rfl, rfl, ?_, ?_, ?_, ?_⟩
  · exact (ownb [0] (by decide)).trans (by decide +kernel)
  · exact (congrArg (List.map trim) (ownb [0, 1] (by decide))).trans (by decide +kernel)
  · exact (ownc [0, 1, 2] (by decide)).trans (by decide +kernel)
  · exact (congrArg (List.map trim) (ownc [0, 1, 2, 3] (by decide))).trans (by decide +kernel)

/-- a network duplicate after the completion counts as a new packet of the emptied set -/
theorem C07_refill_reemits_duplicate :
    (FecDec.feed rsNew (fresh rsNew 2 1) [a0.packet rsNew 0, a0.packet rsNew 1, a0.packet rsNew 0]).2 = [] ∧
    ((FecDec.feed rsNew (fresh rsNew 2 1)
      [a0.packet rsNew 0, a0.packet rsNew 1, a0.packet rsNew 0, a0.packet rsNew 2]).2).map trim
      = [some [4]] := by
  have own := fun js hjs =>
    FecHist.feed_own C07_rsNew_lawful a0_wf (fresh rsNew 2 1) rfl js hjs
  exact ⟨(own [0, 1, 0] (by decide)).trans (by decide +kernel),
    (congrArg (List.map trim) (own [0, 1, 0, 2] (by decide))).trans (by decide +kernel)⟩

/-- the same data packet recovered twice: from parity 2, then again from parity 3 and a duplicate -/
theorem C07_refill_reemits_twice :
    ((FecDec.feed rsNew (fresh rsNew 2 2) [c0.packet rsNew 1, c0.packet rsNew 2]).2).map trim
      = [some [1]] ∧
    ((FecDec.feed rsNew (fresh rsNew 2 2)
      [c0.packet rsNew 1, c0.packet rsNew 2, c0.packet rsNew 3, c0.packet rsNew 1]).2).map trim
      = [some [1], some [1]] := by
  have own := fun js hjs =>
    FecHist.feed_own C07_rsNew_lawful c0_wf (fresh rsNew 2 2) rfl js hjs
  exact ⟨(congrArg (List.map trim) (own [1, 2] (by decide))).trans (by decide +kernel),
    (congrArg (List.map trim) (own [1, 2, 3, 1] (by decide))).trans (by decide +kernel)⟩


-- `C07_hist_any_k`: the decoder is first anchored at group 3; group 0 — `maxShardSets` behind — then
-- arrives late, interleaved with group 3 and with a duplicate; its 2nd distinct packet recovers data 1
example :
    ((FecDec.feed rsNew (fresh rsNew 2 1)
        ([a3.packet rsNew 1] ++ [a0.packet rsNew 2, a3.packet rsNew 0, a0.packet rsNew 2])).1.decode rsNew
      (a0.packet rsNew 0)).recovered.map trim = [some [4]] := by
  have hI := ((C07_hist_invariant (C := rsNew) fam).1 2 1 (fresh rsNew 2 1) rfl).1
  have h := (C07_hist_any_k_rsNew fam a0_wf fam0 (fresh rsNew 2 1) hI rfl rfl rfl
    [a3.packet rsNew 1] [a0.packet rsNew 2, a3.packet rsNew 0, a0.packet rsNew 2]
    (FecHist.genuine_each [⟨_, gen3 1 (by decide)⟩])
    (FecHist.genuine_each [⟨_, gen0 2 (by decide)⟩, ⟨_, gen3 0 (by decide)⟩, ⟨_, gen0 2 (by decide)⟩])
    (by
      intro q hq
      simp only [List.mem_cons, List.mem_nil_iff, or_false] at hq
      subst hq; decide +kernel)
    (by decide +kernel) (by decide +kernel) 0 (by decide) (by decide +kernel)).2.2.1
  rw [h]; decide +kernel

-- `C07_hist_once`: parity 2 and data 0 recover data 1; group 3 interleaves; then data 1 arrives late
-- (one packet of the group < d = 2): its call returns nothing
example :
    ((FecDec.feed rsNew (fresh rsNew 2 1)
        ([] ++ [a0.packet rsNew 2] ++ [a0.packet rsNew 0] ++ [a3.packet rsNew 0])).1.decode rsNew
      (a0.packet rsNew 1)).recovered = [] := by
  have hI := ((C07_hist_invariant (C := rsNew) fam).1 2 1 (fresh rsNew 2 1) rfl).1
  exact C07_hist_once_rsNew fam a0_wf fam0 (fresh rsNew 2 1) hI rfl rfl rfl [] [a0.packet rsNew 2]
    (fun q hq => by cases hq)
    (FecHist.genuine_each [⟨_, gen0 2 (by decide)⟩])
    (fun q hq => by cases hq) (by decide +kernel) (by decide +kernel) 0 (by decide)
    (by decide +kernel) [a3.packet rsNew 0, a0.packet rsNew 1]
    (FecHist.genuine_each [⟨_, gen3 0 (by decide)⟩, ⟨_, gen0 1 (by decide)⟩])
    (by decide +kernel) [a3.packet rsNew 0] [] 1 rfl (by decide)

-- `C07_hist_window`: groups 0 and 3 (a window of 4) interleaved, with a duplicate
example :
    ((FecDec.feed rsNew (fresh rsNew 2 1)
        [a0.packet rsNew 2, a3.packet rsNew 0, a0.packet rsNew 2]).1.decode rsNew
      (a0.packet rsNew 0)).recovered.map trim = [some [4]] := by
  have hW := C07_hist_window (C := rsNew) 2 1 (fresh rsNew 2 1) rfl
    [a0.packet rsNew 2, a3.packet rsNew 0, a0.packet rsNew 2, a0.packet rsNew 0]
    0 (by decide)
    (by
      intro q hq
      simp only [List.mem_cons, List.mem_nil_iff, or_false] at hq
      unfold FecHist.InWin
      rcases hq with rfl | rfl | rfl | rfl <;> decide +kernel)
  have h := (C07_hist_no_forget_rsNew fam 2 1 (fresh rsNew 2 1) rfl
    [a0.packet rsNew 2, a3.packet rsNew 0, a0.packet rsNew 2, a0.packet rsNew 0]
    (FecHist.genuine_each [⟨_, gen0 2 (by decide)⟩, ⟨_, gen3 0 (by decide)⟩, ⟨_, gen0 2 (by decide)⟩,
      ⟨_, gen0 0 (by decide)⟩])
    hW).1 a0
    [a0.packet rsNew 2, a3.packet rsNew 0, a0.packet rsNew 2] [] 0 fam0 a0_wf rfl rfl (by decide) rfl
    (by decide +kernel) (by decide +kernel)
  rw [h]; decide +kernel

-- `C07_hist_window_wrap`: the last group before the wrap (`z`, id `L − 1`) and group 0, interleaved:
-- `newestShardId` steps across the wrap to 0 and `z` is still recovered
example :
    ((FecDec.feed rsNew (fresh rsNew 2 1) [z.packet rsNew 0, a0.packet rsNew 0]).1.decode rsNew
      (z.packet rsNew 2)).recovered.map trim = [some [2, 3]] := by
  have hgen : ∀ q ∈ [z.packet rsNew 0, a0.packet rsNew 0, z.packet rsNew 2],
      FecDec.GenuinePkt rsNew famW 2 1 q :=
    FecHist.genuine_each [⟨_, genz 0 (by decide)⟩, ⟨_, genW0 0 (by decide)⟩, ⟨_, genz 2 (by decide)⟩]
  have hW := (C07_hist_window_wrap (C := rsNew) 2 1 (fresh rsNew 2 1) rfl
    [z.packet rsNew 0, a0.packet rsNew 0, z.packet rsNew 2] 1
    (by
      intro q hq
      simp only [List.mem_cons, List.mem_nil_iff, or_false] at hq
      unfold FecHist.InWrap FecHist.In4
      rcases hq with rfl | rfl | rfl <;> decide +kernel)).1
  have h := (C07_hist_no_forget_rsNew famW 2 1 (fresh rsNew 2 1) rfl
    [z.packet rsNew 0, a0.packet rsNew 0, z.packet rsNew 2] hgen hW).1 z
    [z.packet rsNew 0, a0.packet rsNew 0] [] 2 famWz z_wf rfl rfl (by decide) rfl
    (by decide +kernel) (by decide +kernel)
  rw [h]; decide +kernel

end KcpVerif.Props
