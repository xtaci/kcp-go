import KcpVerif.Props.C09WireOut
import KcpVerif.Props.C19Cfb
/-!
C09 — the cipher hypothesis `C09_CipherLaws` of `C09_wire_reassembles_fec_crypt` discharged for
textbook CFB over ANY block function of size 8 or 16 (which `C08_enc_unrolled_eq_textbook` /
`C08_dec_unrolled_eq_textbook` prove the unrolled code of crypt.go computes).  What remains a
hypothesis: the AEAD round trip of the standard library's GCM, and the composition `C09_ReqsOf`.
-/
namespace KcpVerif.Props
open KcpVerif.Kcp KcpVerif.C09W KcpVerif.SessOut KcpVerif.Cfb
open KcpVerif.C01 (Op run Fresh bytesOf)
open KcpVerif.Lemmas.KcpFlush (InvMss)

theorem CipherLaws.toC09 {γ : Type} {P : Prims γ} {c : SessOut.Cfg} (L : CipherLaws P c) : C09_CipherLaws P c :=
  ⟨L.decEnc, L.openSeal, fun g => Nat.le_trans L.nonce (L.draw g)⟩

theorem C09_cfb_laws {γ : Type} (bs : Nat) (hbs : bs = 8 ∨ bs = 16) (E : Bytes → Bytes) (hE : BlockFn bs E)
    (crc : Bytes → BitVec 32) (parity : List Bytes → Nat → Bytes) (draw : γ → Draw γ)
    (hdraw : ∀ g, 16 ≤ (draw g).out.length) (d p : Nat) :
    C09_CipherLaws (cfbPrims E bs crc parity draw) { cipher := .block, d := d, p := p } :=
  (C19_cfb_laws bs hbs E hE crc parity draw hdraw d p).toC09

/-- The session's wire — FEC on or off, encrypted with CFB over any block cipher — decrypted and decoded by the
README's observer yields exactly the core's segments, so any sub-collection of the datagrams reassembles a prefix of
what was written (two of the four clauses of `C09_wire_reassembles_fec_crypt`; the other two follow the same way). -/
theorem C09_wire_reassembles_fec_cfb {γ : Type} (bs : Nat) (hbs : bs = 8 ∨ bs = 16) (E : Bytes → Bytes)
    (hE : BlockFn bs E) (crc : Bytes → BitVec 32) (parity : List Bytes → Nat → Bytes) (draw : γ → Draw γ)
    (hdraw : ∀ g, 16 ≤ (draw g).out.length) (d p : Nat)
    (k0 : Kcp) (hf : Fresh k0) (hm : InvMss k0) (hsn : k0.snd_nxt = 0) (ops : List Op)
    (hL : (run { k := k0 } ops).log.length ≤ 2 ^ 32)
    (reqs : List Req) (hreqs : C09_ReqsOf reqs (run { k := k0 } ops).wire)
    (hoob : ({ cipher := .block, d := d, p := p } : SessOut.Cfg).fecOn = false → ∀ r ∈ reqs, r.oob = false)
    (st : PP γ) (hst : C09_EncOk { cipher := .block, d := d, p := p } st.enc) :
    (postProcess (cfbPrims E bs crc parity draw) { cipher := .block, d := d, p := p } st reqs).emits.flatMap
        (fun em => C09_observe (cfbPrims E bs crc parity draw) { cipher := .block, d := d, p := p } em.wire) =
        wireSegs (run { k := k0 } ops).wire ∧
    ∀ all : List DSeg,
      (∀ x ∈ all, x ∈ (postProcess (cfbPrims E bs crc parity draw) { cipher := .block, d := d, p := p } st reqs).emits.flatMap
        (fun em => C09_observe (cfbPrims E bs crc parity draw) { cipher := .block, d := d, p := p } em.wire)) →
      Wire.Spec.reassemble all <+: bytesOf (run { k := k0 } ops).log ∧
      bytesOf (run { k := k0 } ops).log <+: (run { k := k0 } ops).accB :=
  let h := C09_wire_reassembles_fec_crypt _ _ (C09_cfb_laws bs hbs E hE crc parity draw hdraw d p) k0 hf hm hsn ops hL
    reqs hreqs hoob st hst
  ⟨h.1, fun all hall => ⟨(h.2 all hall).1, (h.2 all hall).2.1⟩⟩

end KcpVerif.Props
