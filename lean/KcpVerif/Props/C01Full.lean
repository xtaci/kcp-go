import KcpVerif.Props.C01Reduce
import KcpVerif.Props.C07
import KcpVerif.Props.C08
/-!
C01 — the reductions of `Props/C01Reduce.lean` with their named hypotheses discharged by the
theorems of C06 (already used there), C07 and C08 (this file may import Mathlib-dependent modules:
`Props/C07.lean` imports `Lemmas/RS.lean`).
-/
namespace KcpVerif.Props
open KcpVerif.C01 KcpVerif.Cfb

/-- textbook CFB (which `C08_enc_unrolled_eq_textbook` / `C08_dec_unrolled_eq_textbook` prove the
unrolled code of crypt.go computes, for every length and memory layout) with ANY block function
satisfies the cipher laws of the reduction: `C08_cfb_length` and the round trip behind
`C08_cfb_roundtrip`.  Covers aes-128/192/256, blowfish, twofish, cast5, 3des, tea, xtea, sm4. -/
theorem C01_cfb_laws (bs : Nat) (hbs : bs = 8 ∨ bs = 16) (E : Bytes → Bytes) (hE : BlockFn bs E)
    (crc : Bytes → BitVec 32) :
    C01_BlockCipherLaws { kind := .block, dec := cfbDec E bs (iv bs), crc := crc, aopen := fun _ _ => none }
      (cfbEnc E bs (iv bs)) :=
  ⟨rfl, C08_cfb_dec_enc bs hbs E hE, C08_cfb_length bs hbs E hE⟩

/-- the `none` cipher (`noneBlockCrypt`: a `BlockCrypt` that copies; the CRC is still checked) -/
theorem C01_none_laws (crc : Bytes → BitVec 32) :
    C01_BlockCipherLaws { kind := .block, dec := id, crc := crc, aopen := fun _ _ => none } id :=
  ⟨rfl, fun _ => rfl, fun _ => rfl⟩

/-- `C01_session_cipher` for CFB with any block cipher — no hypothesis on the
cipher is left but "blocks to blocks". -/
theorem C01_session_cfb (bs : Nat) (hbs : bs = 8 ∨ bs = 16) (E : Bytes → Bytes) (hE : BlockFn bs E)
    (crc : Bytes → BitVec 32)
    (sA sB : Sess) (hA : Fresh sA.k) (hB : Fresh sB.k) (hbB : sB.bufptr = [])
    (hsn : sB.k.rcv_nxt = sA.k.snd_nxt) (hm : 0 < sA.k.mss.toNat) (ops : List C01_COp)
    (hnet : C01_CRunOk { kind := .block, dec := cfbDec E bs (iv bs), crc := crc, aopen := fun _ _ => none }
      (C01_NetDatagramOk { kind := .block, dec := cfbDec E bs (iv bs), crc := crc, aopen := fun _ _ => none }
        (cfbEnc E bs (iv bs))) ⟨{ s := sA }, { s := sB }⟩ ops)
    (hL : (C01_crun { kind := .block, dec := cfbDec E bs (iv bs), crc := crc, aopen := fun _ _ => none }
      ⟨{ s := sA }, { s := sB }⟩ ops).A.log.length < 2 ^ 32) :
    (C01_crun { kind := .block, dec := cfbDec E bs (iv bs), crc := crc, aopen := fun _ _ => none }
        ⟨{ s := sA }, { s := sB }⟩ ops).B.rd <+:
      (C01_crun { kind := .block, dec := cfbDec E bs (iv bs), crc := crc, aopen := fun _ _ => none }
        ⟨{ s := sA }, { s := sB }⟩ ops).A.wr :=
  C01_session_cipher _ _ (C01_gate_step _ _ (C01_cfb_laws bs hbs E hE crc)) sA sB hA hB hbB hsn hm ops hnet hL

section fec
open KcpVerif.Fec KcpVerif.Lemmas.FecSpec KcpVerif.Lemmas

/-- the FEC reduction with its hypothesis discharged by `C07_dec_sound`: for any lawful codec (the MDS law
`C07_rs_mds` proves for the systematic Vandermonde construction), a fresh `d/p` decoder and any list
of genuine `d/p` packets, every payload the FEC receive path hands to `Input` — regular or
recovered — is a payload the peer's encoder was handed. -/
theorem C01_fec_reduction_full {C : CodecNew} (hC : Lawful C) (grp : FecDec.Family) (d p : Nat) (dec : Decoder)
    (hnew : Decoder.new C d p = some dec) (pkts : List Bytes)
    (hgen : ∀ q ∈ pkts, FecDec.GenuinePkt C grp d p q) :
    ∀ c ∈ (C01_fecRun C dec pkts).2,
      ∃ (G : Group) (k : Nat), grp (G.base / u32 G.n) = some G ∧ G.WF ∧ k < G.d ∧
        c.1 = G.payloads.getD k [] ∧ (c.2 = true → G.packet C k ∈ pkts) :=
  C01_fec_reduction grp d p dec pkts hgen (C07_dec_sound hC grp d p dec hnew pkts hgen)

/-- Both reductions, hypotheses discharged.
(a) CFB with any block cipher, any core `σ` behind `kcpInput`: under a network that replays, drops,
duplicates, reorders and corrupts ciphertext (corruptions the check catches), the frames reaching
`kcpInput` are frames the peer emitted and the state is that of feeding exactly those frames.
(b) FEC with any lawful codec: every `Input` payload is a KCP datagram the peer's encoder was handed;
and a replayed datagram with any `regular` flag is a delivery step of `C01_core`'s network. -/
theorem C01_session_reductions :
    (∀ (σ : Type) (bs : Nat), bs = 8 ∨ bs = 16 → ∀ (E : Bytes → Bytes), BlockFn bs E →
      ∀ (crc : Bytes → BitVec 32) (kcpInput : σ → Bytes → σ) (frames ds : List Bytes) (s : σ),
        (∀ x ∈ ds, C01_NetDatagramOk
          { kind := .block, dec := cfbDec E bs (iv bs), crc := crc, aopen := fun _ _ => none }
          (cfbEnc E bs (iv bs)) frames x) →
        (∀ f ∈ (C01_cipherFeed { kind := .block, dec := cfbDec E bs (iv bs), crc := crc, aopen := fun _ _ => none }
            kcpInput s ds).2, f ∈ frames) ∧
        (C01_cipherFeed { kind := .block, dec := cfbDec E bs (iv bs), crc := crc, aopen := fun _ _ => none }
            kcpInput s ds).1 =
          (C01_cipherFeed { kind := .block, dec := cfbDec E bs (iv bs), crc := crc, aopen := fun _ _ => none }
            kcpInput s ds).2.foldl kcpInput s) ∧
    (∀ (C : CodecNew), Lawful C → ∀ (grp : FecDec.Family) (d p : Nat) (dec : Decoder),
      Decoder.new C d p = some dec → ∀ pkts : List Bytes, (∀ q ∈ pkts, FecDec.GenuinePkt C grp d p q) →
        ∀ c ∈ (C01_fecRun C dec pkts).2,
          ∃ (G : Group) (k : Nat), grp (G.base / u32 G.n) = some G ∧ G.WF ∧ k < G.d ∧
            c.1 = G.payloads.getD k [] ∧ (c.2 = true → G.packet C k ∈ pkts)) ∧
    (∀ (S : Sys) (pl : Bytes) (reg a : Bool) (now : U32), pl ∈ S.A.wire →
      ∃ i, sstep S (.dlv i reg a now) = { S with B := step S.B (.input pl reg a now) }) :=
  ⟨fun _ bs hbs E hE crc kcpInput frames ds s h =>
      C01_cipher_reduction _ _ (C01_gate_step _ _ (C01_cfb_laws bs hbs E hE crc)) kcpInput frames ds s h,
   fun _ hC grp d p dec hnew pkts hgen => C01_fec_reduction_full hC grp d p dec hnew pkts hgen,
   C01_fec_calls_are_replays⟩

end fec

/-- `C01_session_cipher` for an AEAD (aes-128-gcm …) given the two laws of
the primitive that `C08_aead_in_buffer` assumes. -/
theorem C01_session_aead (c : SessIn.Cipher) (ns ov : Nat) (aseal : Bytes → Bytes → Bytes)
    (hc : C01_AeadLaws c ns ov aseal)
    (sA sB : Sess) (hA : Fresh sA.k) (hB : Fresh sB.k) (hbB : sB.bufptr = [])
    (hsn : sB.k.rcv_nxt = sA.k.snd_nxt) (hm : 0 < sA.k.mss.toNat) (ops : List C01_COp)
    (hnet : C01_CRunOk c (C01_NetDatagramOkAead c ns ov aseal) ⟨{ s := sA }, { s := sB }⟩ ops)
    (hL : (C01_crun c ⟨{ s := sA }, { s := sB }⟩ ops).A.log.length < 2 ^ 32) :
    (C01_crun c ⟨{ s := sA }, { s := sB }⟩ ops).B.rd <+: (C01_crun c ⟨{ s := sA }, { s := sB }⟩ ops).A.wr :=
  C01_session_cipher c _ (C01_gate_step_aead c ns ov aseal hc) sA sB hA hB hbB hsn hm ops hnet hL

/-- the AEAD hypotheses are satisfiable: a toy AEAD that appends a one-byte tag equal to the
plaintext length mod 256 -/
example : C01_AeadLaws
    { kind := .aead 12 1, dec := id, crc := fun _ => 0,
      aopen := fun _ ct => if ct.length = 0 then none else some (ct.take (ct.length - 1)) }
    12 1 (fun _ p => p ++ [UInt8.ofNat p.length]) :=
  ⟨rfl, fun _ p => by simp, fun _ p => by simp⟩

/-- the cipher hypotheses are satisfiable with a concrete block function (C08's toy cipher) -/
example (key : Bytes) : C01_BlockCipherLaws
    { kind := .block, dec := cfbDec (toyE key) 16 (iv 16), crc := Crc32.crc32, aopen := fun _ _ => none }
    (cfbEnc (toyE key) 16 (iv 16)) :=
  C01_cfb_laws 16 (Or.inr rfl) (toyE key) (C08_toy_blockFn key 16) Crc32.crc32

set_option maxRecDepth 1000000 in
/-- a concrete run through the gate with the `none` cipher and the real CRC-32: a genuine datagram
(zero nonce), a corrupted copy (one flipped bit — caught), a replay; `kcpInput` = "append the frame" -/
example :
    let c : SessIn.Cipher := { kind := .block, dec := id, crc := Crc32.crc32, aopen := fun _ _ => none }
    let f : Bytes := List.replicate 24 5
    let good := Wire.cryptFrame Crc32.crc32 (List.replicate 16 0) f
    let bad := good.set 30 4
    C01_NetDatagramOk c id [f] good ∧ C01_NetDatagramOk c id [f] bad ∧
      C01_cipherFeed c (fun (s : List Bytes) p => s ++ [p]) [] [good, bad, good] = ([f, f], [f, f]) := by
  refine ⟨Or.inl ⟨_, List.mem_singleton.mpr rfl, List.replicate 16 0, rfl, rfl⟩, Or.inr (Or.inr ?_), ?_⟩
  · decide +kernel
  · decide +kernel

end KcpVerif.Props
