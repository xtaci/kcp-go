/-
C15, ownership half, for the session layer's own buffers (sess.go: output callback, `SendOOB`,
`chPostProcessing`, `postProcess` / `txqueue`) on the ownership LTS `Model/SessOwn`.

For every sequence of labels (any fates of the `select`s, any number of dup / parity copies, any
flush decisions, `postProcess` returning at any time) the pool event log is `Disciplined`, a buffer
is in at most one of `chPostProcessing`, `txqueue`, and what is there is owned; the buffers that are
never recycled are exactly those of the two places found in the code: the die arm of the output
callback's `select`, and requests still queued when `postProcess` returns — both are DROPS (left to
the garbage collector), never double puts.  The step and run lemmas carry a frame `F` (holders outside
the session layer); the theorems are for a session layer that has the pool for itself: `PoolSys` of
`Props/C15Sys` has no session-layer component, so the composition with cores and decoders is not stated.

Unlike `C15Core` / `C15Fec` this LTS is hand-written from the code and has no differential tie of
its own: on the real sessions the discipline is checked by the sanitizer (component `pool`).
-/
import KcpVerif.Props.C15Sys
import KcpVerif.Model.SessOwn

namespace KcpVerif.Props
open KcpVerif.Own KcpVerif.FecOwn KcpVerif.SessOwn

/-- `forget g id` is `g.drop (some id)` -/
theorem C15_aux_forget {g : Ghost} {c : Nat → Nat} {id : Nat} (h : W g (fun x => oc (some id) x + c x)) :
    W (forget g id) c :=
  h.drop

theorem C15_aux_forgetAll (l : List Nat) (g : Ghost) (F : Nat → Nat) (h : W g (fun x => cntI x l + F x)) :
    W (forgetAll l g) F := by
  induction l generalizing g with
  | nil => exact h.congr (fun x => by simp [cntI])
  | cons id rest ih =>
    unfold forgetAll
    exact ih _ (C15_aux_forget h.assoc)

theorem C15_aux_useAll (l : List Nat) (g : Ghost) (F : Nat → Nat) (h : W g (fun x => cntI x l + F x)) :
    W (useAll l g) (fun x => cntI x l + F x) := by
  induction l generalizing g F with
  | nil => exact h
  | cons id rest ih =>
    unfold useAll
    have h2 : W (g.use (some id)) (fun x => cntI x rest + (oc (some id) x + F x)) := h.assoc.use.congr (fun x => by omega)
    exact (ih _ _ h2).congr (fun x => by simp only [cntI]; omega)

def sessHeld (s : OutSt) (id : Nat) : Nat := cntI id s.q + cntI id s.tx

theorem C15_aux_sess_step (F : Nat → Nat) {s : OutSt} (h : W s.gh (fun id => sessHeld s id + F id)) (l : Lbl) :
    W (SessOwn.step s l).gh (fun id => sessHeld (SessOwn.step s l) id + F id) := by
  have henq : W s.gh.get (fun id => sessHeld { s with q := s.q ++ [s.gh.next], gh := s.gh.get } id + F id) :=
    h.get.congr (fun id => by unfold sessHeld; simp only []; rw [C15_aux_cntI_append]; simp only [cntI]; omega)
  have hput : W (s.gh.get.recycle (some s.gh.next)) (fun id => sessHeld s id + F id) := h.get.recycle
  cases l with
  | output f =>
    cases f with
    | enq => exact henq
    | dflt => exact hput
    | dieArm => exact C15_aux_forget h.get
  | sendOOB f =>
    cases f with
    | enq => exact henq
    | dflt => exact hput
    | dieArm => exact hput
  | ppRecv dups parity flush =>
    simp only [SessOwn.step]
    split
    · exact h
    · rename_i id rest hq
      have h1 : W s.gh (fun x => oc (some id) x + (cntI x rest + cntI x s.tx + F x)) :=
        h.congr (fun x => by unfold sessHeld; rw [hq]; simp only [cntI]; omega)
      have h2 := getN_W (dups + parity) _ _ h1.use
      have h3 : W (getN (dups + parity) (s.gh.use (some id))).g
          (fun x => cntI x (s.tx ++ id :: (getN (dups + parity) (s.gh.use (some id))).ids) + (cntI x rest + F x)) :=
        h2.congr (fun x => by rw [C15_aux_cntI_append]; simp only [cntI]; omega)
      split
      · exact (putIds_W _ _ _ (C15_aux_useAll _ _ _ h3)).congr (fun x => by unfold sessHeld; simp [cntI])
      · exact h3.congr (fun x => by unfold sessHeld; simp only []; omega)
  | ppExit =>
    have h1 : W s.gh (fun x => cntI x s.q + (cntI x s.tx + F x)) := h.congr (fun x => by unfold sessHeld; omega)
    exact (C15_aux_forgetAll _ _ _ (C15_aux_forgetAll _ _ _ h1)).congr (fun x => by unfold sessHeld; simp [SessOwn.step, cntI])

theorem C15_aux_sess_run (F : Nat → Nat) {s : OutSt} (h : W s.gh (fun id => sessHeld s id + F id)) (ls : List Lbl) :
    W (run s ls).gh (fun id => sessHeld (run s ls) id + F id) :=
  foldl_inv (P := fun s => W s.gh (fun id => sessHeld s id + F id)) (fun _ l h => C15_aux_sess_step F h l) ls s h

/-- **The session layer's buffers are disciplined**: whatever the `select`s choose, however many
copies `postProcess` makes, whenever it flushes or returns. -/
theorem C15_sess_disciplined (ls : List Lbl) : Disciplined (run {} ls).gh.log :=
  (C15_sanitizer_sound _).mp (C15_aux_sess_run (fun _ => 0) (s := {}) (W.init.congr (fun _ => rfl)) ls).ok

/-- a buffer is in at most one of `chPostProcessing` / `txqueue`, once, and it is owned; conversely
an owned buffer is there or was dropped (die arm of the output callback, `postProcess` returned) -/
theorem C15_sess_held (ls : List Lbl) (id : Nat) :
    sessHeld (run {} ls) id ≤ 1 ∧
    (sessHeld (run {} ls) id = 1 → holds (run {} ls).gh.log.reverse id = true) ∧
    (holds (run {} ls).gh.log.reverse id = true → sessHeld (run {} ls) id + (run {} ls).gh.lost.count id = 1) := by
  have h := C15_aux_W_holds (C15_aux_sess_run (fun _ => 0) (s := {}) (W.init.congr (fun _ => rfl)) ls) id
  exact ⟨h.1, h.2.1, fun hh => (h.2.2 hh).1⟩

/-- **Source pin**: the `defaultBufferPool.Get/Put` call sites the extractor finds in the repository
(regenerated into `Gen.poolSites` on every check) are exactly the sites the instrumented models cover —
kcp.go by `Model/KcpOwn` (`newSegment`, `parse_data`, `recycleSegment`), fec.go by `Model/FecOwn`
(`decode`: packet copy, new buffers, re-tune, failed reconstruction, popped packets; `discardShards`)
with the caller's `Put(r)` in `kcpInput`, sess.go by `Model/SessOwn` (output callback in
`newUDPSession`, `SendOOB`, `postProcess`).  A new or removed site in the code breaks this theorem. -/
theorem C15_pool_sites_covered :
    Gen.poolSites.map (fun s => (s.fn, s.op, s.idx)) =
      [("KCP.newSegment", "Get", 0), ("KCP.parse_data", "Get", 0), ("KCP.recycleSegment", "Put", 0),
       ("UDPSession.SendOOB", "Get", 0), ("UDPSession.SendOOB", "Put", 0), ("UDPSession.SendOOB", "Put", 1),
       ("UDPSession.kcpInput", "Put", 0),
       ("UDPSession.postProcess", "Get", 0), ("UDPSession.postProcess", "Get", 1), ("UDPSession.postProcess", "Put", 0),
       ("fecDecoder.decode", "Get", 0), ("fecDecoder.decode", "Get", 1), ("fecDecoder.decode", "Put", 0),
       ("fecDecoder.decode", "Put", 1), ("fecDecoder.decode", "Put", 2), ("fecDecoder.discardShards", "Put", 0),
       ("newUDPSession", "Get", 0), ("newUDPSession", "Put", 0)] := by decide +kernel

-- two datagrams queued, the first transmitted with one dup and two parity copies in a batch with the
-- second; a third is dropped in the die arm; an OOB packet refused by the full channel
example : (run {} [.output .enq, .output .enq, .ppRecv 1 2 false, .ppRecv 0 0 true, .output .dieArm,
    .sendOOB .dflt]).gh.log =
    [.get 0, .get 1, .use 0, .get 2, .get 3, .get 4, .use 1, .use 0, .use 2, .use 3, .use 4, .use 1,
     .put 0, .put 2, .put 3, .put 4, .put 1, .get 5, .get 6, .put 6] := by decide +kernel
example : (run {} [.output .enq, .output .dieArm, .ppExit]).gh.lost = [0, 1] := by decide +kernel

end KcpVerif.Props
