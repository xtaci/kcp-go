import KcpVerif.Generated
/-!
C06 — gate-order obligation on the extractor's `gateOrder` table (tie X of DESIGN 7.6).

`KcpVerif.Gen.gateOrder` (extract/tables_gate.go) lists, for
`UDPSession.packetInput` and `Listener.packetInput` and each arm of the type switch on the cipher,
the ordered effect kinds from function entry up to and including the FIRST statement that can
touch session, decoder or listener state.  The obligation: in every arm that statement comes after
the complete integrity gate, rejecting branches return, and the error counter of a failed
integrity check is `InCsumErrors`.  A reordering (CRC compared after `kcpInput`, session created
before the gate, a rejecting branch that falls through) changes the regenerated table and this
theorem stops compiling — before any differential run exercises it.
-/
namespace KcpVerif.Props
open KcpVerif.Gen

/-- tokens that carry no effect: assignments among locals -/
def gateCore (effects : List String) : List String := effects.filter (· ≠ "local")

/-- the required shape of one arm; `last` is the first state-touching statement -/
def gateShape (fn branch : String) : Option (List String) :=
  let last := if fn = "UDPSession.packetInput" then "kcpInput" else "sessionLookup"
  -- the minimum-size check of a session counts KCPInErrors, the listener's is silent
  let minCheck := if fn = "UDPSession.packetInput" then ["lenCheck", "reject.counter:KCPInErrors", "reject.return"]
                  else ["lenCheck", "reject.return"]
  if branch = "nil" then some (minCheck ++ [last])
  else if branch = "aead" then
    some (["lenCheck", "reject.return", "open", "openErrCheck", "reject.counter:InCsumErrors", "reject.return"] ++ minCheck ++ [last])
  else if branch = "default" then
    some (["lenCheck", "reject.return", "decrypt", "crcCompute", "crcCompare", "reject.counter:InCsumErrors", "reject.return"]
      ++ minCheck ++ [last])
  else none

def gateBranchOk (b : GateBranch) : Bool := gateShape b.fn b.branch == some (gateCore b.effects)

def gateArms : List (String × String) :=
  [("Listener.packetInput", "nil"), ("Listener.packetInput", "aead"), ("Listener.packetInput", "default"),
   ("UDPSession.packetInput", "nil"), ("UDPSession.packetInput", "aead"), ("UDPSession.packetInput", "default")]

/-- every arm of both functions is in the table, exactly once, and has the required order -/
theorem C06_gate_order :
    gateOrder.map (fun b => (b.fn, b.branch)) = gateArms ∧ gateOrder.all gateBranchOk = true := by
  decide +kernel

end KcpVerif.Props
