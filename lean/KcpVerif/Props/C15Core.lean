/-
C15, ownership half, for the protocol core (kcp.go): **the code is disciplined**.

`Props/C15.lean` proves the checker (`sanitize l = .ok ↔ Disciplined l`) and states what is wanted of
the code as a predicate on sets of logs, `C15_code_disciplined_full`.  Here that predicate is proved of
the logs of the protocol core on the instrumented model `Model/KcpOwn` (the tied model `Model/Kcp` plus,
per queued segment, the identity of the pool buffer backing its data, and a ghost event log), for EVERY
sequence of operations with arbitrary arguments — any bytes for `Input`, so forged ACKs for segments
that are already acknowledged, cumulative acks passing acknowledged segments, duplicate and overlapping
PUSHes are all included.

The tie of the ghost part to the real code is component `kcpown`: per operation the real
`bufferPool.Get/Put` events (numbered by acquisition) and the buffer held at every queue position
are compared with this model.
-/
import KcpVerif.Props.C15
import KcpVerif.Lemmas.KcpOwnLost
import KcpVerif.Lemmas.KcpMssOps
import KcpVerif.Lemmas.Fold

namespace KcpVerif.Props
open KcpVerif.Kcp KcpVerif.Pool KcpVerif.Own KcpVerif.Lemmas.KcpFlush KcpVerif.Lemmas.KcpMss

def stepO (o : KcpO) : Kcp.Op → KcpO
  | .send b => (sendO o b).o
  | .recv n => (recvO o n).o
  | .input d reg nd now => (inputO o d reg nd now).o
  | .flush full now => (flushO o full now).o
  | .update now => (updateO o now).o
  | .setMtu m => { o with k := (o.k.setMtu m).1 }
  | .noDelay a b c d => { o with k := o.k.noDelay a b c d }
  | .wndSize s r => { o with k := o.k.wndSize s r }
  | .setStream v => { o with k := { o.k with stream := v } }

def runO (o : KcpO) (ops : List Kcp.Op) : KcpO := ops.foldl stepO o

/-- a fresh instrumented core whose sequence numbers start anywhere (cf. `Kcp.start`) -/
def startO (conv snd0 rcv0 : U32) : KcpO := { k := Kcp.start conv snd0 rcv0 }

/-- **Erasure, one step**: the model component of the instrumented step is the model's step. -/
theorem C15_core_step_erasure (o : KcpO) (op : Kcp.Op) : (stepO o op).k = Kcp.step o.k op := by
  cases op with
  | send b => exact sendO_k o b
  | recv n => exact recvO_k o n
  | input d reg nd now => exact inputO_k o d reg nd now
  | flush full now => rfl
  | update now => exact updateO_k o now
  | setMtu m => rfl
  | noDelay a b c d => rfl
  | wndSize s r => rfl
  | setStream v => rfl

/-- the operations are built from `Send`, `Recv`, the loop body of `Input`, `flush` and updates of
scalar fields: what these keep, every operation keeps -/
theorem C15_aux_step_preserves {I : KcpO → Prop}
    (hk : ∀ (o : KcpO) (k' : Kcp), SameQ k' o.k → I o → I { o with k := k' })
    (hf : ∀ (o : KcpO) (full : Bool) (now : U32), I o → I (flushO o full now).o)
    (hsend : ∀ (o : KcpO) (b : Bytes), I o → I (sendO o b).o)
    (hrecv : ∀ (o : KcpO) (n : Nat), I o → I (recvO o n).o)
    (hbody : ∀ (regular : Bool) (sq : List SegO) (data : Bytes) (st : InLoopO), (rd32 data 20).toNat ≤ Gen.mtuLimit →
      I (st.toO sq) → I ((inBodyO regular data st).toO sq))
    {o : KcpO} (h : I o) (op : Kcp.Op) : I (stepO o op) := by
  cases op with
  | send b => exact hsend o b h
  | recv n => exact hrecv o n h
  | input d reg nd now => exact inputO_preserves hk hf hbody d reg nd now h
  | flush full now => exact hf o full now h
  | update now => exact updateO_preserves hk hf now h
  | setMtu m =>
    obtain ⟨a, b, c, e⟩ := setMtu_shape o.k m
    exact hk o _ (by rw [e]; exact ⟨rfl, rfl, rfl, rfl⟩) h
  | noDelay a b c d =>
    obtain ⟨nd, mr, iv, fr, nc, e⟩ := noDelay_shape o.k a b c d
    exact hk o _ (by rw [e]; exact ⟨rfl, rfl, rfl, rfl⟩) h
  | wndSize s r =>
    obtain ⟨sw, rw, e⟩ := wndSize_shape o.k s r
    exact hk o _ (by rw [e]; exact ⟨rfl, rfl, rfl, rfl⟩) h
  | setStream v => exact hk o _ ⟨rfl, rfl, rfl, rfl⟩ h

theorem C15_aux_inv_step {F : Nat → Nat} {o : KcpO} (h : OwnInvF F o) (op : Kcp.Op) : OwnInvF F (stepO o op) :=
  C15_aux_step_preserves (I := OwnInvF F) (fun _ _ e h => h.setK e) (fun _ _ _ h => flushO_inv h _ _) (fun _ _ h => sendO_inv h _)
    (fun _ _ h => recvO_inv h _) (fun regular _ data _ _ h => inBodyO_inv regular data h) h op

theorem C15_aux_inv_run {o : KcpO} (h : OwnInv o) (ops : List Kcp.Op) : OwnInv (runO o ops) :=
  foldl_inv (P := OwnInv) (fun _ op h => C15_aux_inv_step h op) ops o h

/-- `startO` is `KcpO.new` with three scalar fields set -/
theorem C15_aux_inv_start (conv snd0 rcv0 : U32) : OwnInv (startO conv snd0 rcv0) :=
  (OwnInv.new conv).setK (k' := Kcp.start conv snd0 rcv0) ⟨rfl, rfl, rfl, rfl⟩

theorem C15_aux_run_erasure (o : KcpO) (ops : List Kcp.Op) : (runO o ops).k = Kcp.run o.k ops :=
  foldl_rel (R := fun (o' : KcpO) k => o'.k = k) ops
    (fun o' _ op _ e => (C15_core_step_erasure o' op).trans (congrArg (Kcp.step · op) e)) o o.k rfl

/-- **Erasure**: the instrumented run is the tied model's run plus ghost fields — its model
component is `Kcp.run` on the same operations, and forgetting the buffer ids of the instrumented
queues gives exactly that state's queues. -/
theorem C15_core_erasure (conv snd0 rcv0 : U32) (ops : List Kcp.Op) :
    (runO (startO conv snd0 rcv0) ops).k = Kcp.run (Kcp.start conv snd0 rcv0) ops ∧
    er (runO (startO conv snd0 rcv0) ops).sq = (Kcp.run (Kcp.start conv snd0 rcv0) ops).snd_queue ∧
    er (runO (startO conv snd0 rcv0) ops).sb = (Kcp.run (Kcp.start conv snd0 rcv0) ops).snd_buf ∧
    er (runO (startO conv snd0 rcv0) ops).rb = (Kcp.run (Kcp.start conv snd0 rcv0) ops).rcv_buf ∧
    er (runO (startO conv snd0 rcv0) ops).rq = (Kcp.run (Kcp.start conv snd0 rcv0) ops).rcv_queue := by
  have hs := (C15_aux_inv_run (C15_aux_inv_start conv snd0 rcv0) ops).sync
  have hk' := C15_aux_run_erasure (startO conv snd0 rcv0) ops
  refine ⟨hk', ?_, ?_, ?_, ?_⟩
  · rw [← hs.sq, hk']; rfl
  · rw [← hs.sb, hk']; rfl
  · rw [← hs.rb, hk']; rfl
  · rw [← hs.rq, hk']; rfl

/-- **The protocol core is disciplined.**  Whatever the application and the network do — every
list of operations from a fresh core (any conversation id, any initial sequence numbers), with
arbitrary arguments — the log of pool events of the core is accepted by the sanitizer, i.e. it is
`Disciplined`: every put and every use of a buffer happens while the buffer is owned, every get
hands out a buffer nobody owns. -/
theorem C15_core_disciplined (conv snd0 rcv0 : U32) (ops : List Kcp.Op) :
    Disciplined (runO (startO conv snd0 rcv0) ops).gh.log :=
  (C15_sanitizer_sound _).mp (C15_aux_inv_run (C15_aux_inv_start conv snd0 rcv0) ops).w.ok

/-- `C15_code_disciplined_full` of `Props/C15.lean`, for the logs of the protocol core -/
theorem C15_core_code_disciplined :
    C15_code_disciplined_full (fun l => ∃ conv snd0 rcv0 ops, l = (runO (startO conv snd0 rcv0) ops).gh.log) := by
  rintro l ⟨conv, snd0, rcv0, ops, rfl⟩
  exact C15_core_disciplined conv snd0 rcv0 ops

/-- **recycled at most once per acquisition**: between two puts of a buffer in the core's log there is a get -/
theorem C15_core_put_once (conv snd0 rcv0 : U32) (ops : List Kcp.Op) {a b c : List Ev} {id : Nat}
    (hl : (runO (startO conv snd0 rcv0) ops).gh.log = a ++ .put id :: (b ++ .put id :: c)) : .get id ∈ b :=
  C15_put_once (C15_core_disciplined conv snd0 rcv0 ops) hl

/-- **never read or written after it has been recycled** -/
theorem C15_core_no_use_after_put (conv snd0 rcv0 : U32) (ops : List Kcp.Op) {a b c : List Ev} {id : Nat}
    (hl : (runO (startO conv snd0 rcv0) ops).gh.log = a ++ .put id :: (b ++ .use id :: c)) : .get id ∈ b :=
  C15_no_use_after_put (C15_core_disciplined conv snd0 rcv0 ops) hl

theorem C15_aux_replay_agree (l : List Ev) : ∀ (s : St) (h : List Ev), Agree s h → sanitizeFrom s l = .ok →
    Agree (replay s l) (l.reverse ++ h) := by
  induction l with
  | nil => intro s h ha _; simpa [replay] using ha
  | cons e l ih =>
    intro s h ha hs
    obtain ⟨hv, hs⟩ := (sanitizeFrom_cons_ok s e l).mp hs
    have := ih _ _ (C15_aux_step_agree ha e hv) hs
    simpa [replay, List.reverse_cons, List.append_assoc] using this

theorem C15_aux_W_holds {g : Ghost} {c : Nat → Nat} (hw : W g c) (id : Nat) :
    c id ≤ 1 ∧ (c id = 1 → holds g.log.reverse id = true) ∧
    (holds g.log.reverse id = true → c id + g.lost.count id = 1 ∧ id < g.next) := by
  have hag := C15_aux_replay_agree _ St.init [] C15_aux_agree_init hw.ok
  rw [List.append_nil] at hag
  have hb := hw.bal id
  refine ⟨by split at hb <;> omega, fun h1 => (hag id).mp (hw.owned_of_pos (by omega)), fun hh => ?_⟩
  · have hm : id ∈ owned g := (hag id).mpr hh
    simp only [hm, if_true] at hb
    exact ⟨hb, hw.fresh id hm⟩

/-- **One holder, and only of owned buffers.**  In every reachable state: a buffer is held by at
most one position of `snd_queue ++ snd_buf ++ rcv_buf ++ rcv_queue` (`held` counts positions), and a
buffer that is held is owned — the most recent get/put event of it in the log is a get; in
particular a buffer that has been recycled is held nowhere (`data = nil` after `recycleSegment`
and the `data != nil` guard are what make this true for ACKed-then-UNA'd segments). -/
theorem C15_core_held (conv snd0 rcv0 : U32) (ops : List Kcp.Op) (id : Nat) :
    held (runO (startO conv snd0 rcv0) ops) id ≤ 1 ∧
    (held (runO (startO conv snd0 rcv0) ops) id = 1 →
      holds (runO (startO conv snd0 rcv0) ops).gh.log.reverse id = true) :=
  have h := C15_aux_W_holds (C15_aux_inv_run (C15_aux_inv_start conv snd0 rcv0) ops).w id
  ⟨h.1, h.2.1⟩

/-- **No leak in the core**: a buffer that has been acquired and not recycled since is held by
exactly one queue position, or it is on `lost` (its `Get()[:n]` panicked, or `shrink_buf` popped the
segment that still held it). -/
theorem C15_core_no_leak (conv snd0 rcv0 : U32) (ops : List Kcp.Op) (id : Nat)
    (h : holds (runO (startO conv snd0 rcv0) ops).gh.log.reverse id = true) :
    held (runO (startO conv snd0 rcv0) ops) id + (runO (startO conv snd0 rcv0) ops).gh.lost.count id = 1 :=
  ((C15_aux_W_holds (C15_aux_inv_run (C15_aux_inv_start conv snd0 rcv0) ops).w id).2.2 h).1

/-- ids are acquisition numbers: the `n`-th `Get` of a run hands out id `n` (the numbering the harness
applies to the real sanitizer's log); every owned id has been handed out -/
theorem C15_core_fresh (conv snd0 rcv0 : U32) (ops : List Kcp.Op) (id : Nat)
    (h : holds (runO (startO conv snd0 rcv0) ops).gh.log.reverse id = true) :
    id < (runO (startO conv snd0 rcv0) ops).gh.next :=
  ((C15_aux_W_holds (C15_aux_inv_run (C15_aux_inv_start conv snd0 rcv0) ops).w id).2.2 h).2

theorem C15_aux_al_step {o : KcpO} (h : SyncAl o) (op : Kcp.Op) : SyncAl (stepO o op) :=
  C15_aux_step_preserves (I := SyncAl) (fun _ _ e h => SyncAl.setK h e) (fun _ _ _ h => flushO_syncAl h _ _)
    (fun _ _ h => ⟨sendO_sync h.1 _, sendO_al h.2 _⟩) (fun _ _ h => ⟨recvO_sync h.1 _, recvO_al h.2 _⟩)
    (fun regular _ data _ _ h => inBodyO_syncAl regular data h) h op

theorem C15_aux_al_run {o : KcpO} (h : SyncAl o) (ops : List Kcp.Op) : SyncAl (runO o ops) :=
  foldl_inv (P := SyncAl) (fun _ op h => C15_aux_al_step h op) ops o h

theorem C15_aux_al_start (conv snd0 rcv0 : U32) : SyncAl (startO conv snd0 rcv0) :=
  SyncAl.setK (k' := Kcp.start conv snd0 rcv0) ⟨Sync.new conv, Aligned.new conv⟩ ⟨rfl, rfl, rfl, rfl⟩

/-- **The buffer ids are aligned with the segments.**  In every reachable state a segment of snd_buf
has given its buffer back exactly if it is marked acked (`seg.data == nil ↔ seg.acked == 1`), and
every segment of snd_queue, rcv_buf and rcv_queue owns a buffer.  Phase 5 of flush reads only
segments that are not acked and Recv reads segments of rcv_queue, so the segments the read sites
meet own their buffers. -/
theorem C15_core_aligned (conv snd0 rcv0 : U32) (ops : List Kcp.Op) :
    (∀ x ∈ (runO (startO conv snd0 rcv0) ops).sq, x.buf ≠ none ∧ x.s.acked = false) ∧
    (∀ x ∈ (runO (startO conv snd0 rcv0) ops).sb, (x.buf = none ↔ x.s.acked = true)) ∧
    (∀ x ∈ (runO (startO conv snd0 rcv0) ops).rb, x.buf ≠ none) ∧
    (∀ x ∈ (runO (startO conv snd0 rcv0) ops).rq, x.buf ≠ none) := by
  have h := (C15_aux_al_run (C15_aux_al_start conv snd0 rcv0) ops).2
  exact ⟨h.sq, h.sb, h.rb, h.rq⟩

theorem C15_aux_mss_step {o : KcpO} (hs : Sync o) (ha : Aligned o) (h : InvMss o.k) (op : Kcp.Op) :
    InvMss (stepO o op).k ∧ (stepO o op).gh.lost = o.gh.lost := by
  refine ⟨C15_core_step_erasure o op ▸ step_inv o.k op h, ?_⟩
  cases op with
  | send b => exact sendO_lost h b
  | recv n => exact recvO_lost o n
  | input d reg nd now => exact inputO_lost o hs ha d reg nd now
  | flush full now => exact flushO_lost o full now
  | update now => exact updateO_lost o now
  | setMtu m => rfl
  | noDelay a b c d => rfl
  | wndSize s r => rfl
  | setStream v => rfl

theorem C15_aux_lost_run {o : KcpO} (ha : SyncAl o) (h : InvMss o.k) (ops : List Kcp.Op) :
    (runO o ops).gh.lost = o.gh.lost :=
  (foldl_inv (P := fun o' => SyncAl o' ∧ InvMss o'.k ∧ o'.gh.lost = o.gh.lost)
    (fun _ op h' => ⟨C15_aux_al_step h'.1 op, (C15_aux_mss_step h'.1.1 h'.1.2 h'.2.1 op).1,
      (C15_aux_mss_step h'.1.1 h'.1.2 h'.2.1 op).2.trans h'.2.2⟩) ops o ⟨ha, h, rfl⟩).2.2

/-- **Nothing is ever dropped**: in a run from a fresh core no buffer is acquired and then abandoned
(the `Get()[:n]` panics are unreachable: `Input` checks the length first, `Send` slices at most
`mss ≤ mtuLimit` bytes by the MTU invariant of C10; `shrink_buf` pops only acked segments, which have
given their buffer back — `C15_core_aligned`), so `C15_core_no_leak` holds without exception:
every buffer acquired and not yet recycled is held by exactly one queue position. -/
theorem C15_core_no_leak_exact (conv snd0 rcv0 : U32) (ops : List Kcp.Op) (id : Nat) :
    (runO (startO conv snd0 rcv0) ops).gh.lost = [] ∧
    (holds (runO (startO conv snd0 rcv0) ops).gh.log.reverse id = true ↔
      held (runO (startO conv snd0 rcv0) ops) id = 1) := by
  have hl : (runO (startO conv snd0 rcv0) ops).gh.lost = [] :=
    C15_aux_lost_run (C15_aux_al_start conv snd0 rcv0) ((new_inv conv).of_eq rfl rfl rfl rfl rfl) ops
  refine ⟨hl, ?_, ?_⟩
  · intro hh
    have := C15_core_no_leak conv snd0 rcv0 ops id hh
    rw [hl] at this
    simpa using this
  · exact (C15_core_held conv snd0 rcv0 ops id).2

def c15ExHdr (cmd : Nat) (sn una : Nat) (len : Nat) : Bytes :=
  Kcp.encodeHdr 7 (BitVec.ofNat 8 cmd) 0 32 0 (BitVec.ofNat 32 sn) (BitVec.ofNat 32 una) len

/-- congestion control off (the first flush admits); two messages sent and transmitted; ACK for sn 1, the same ACK again (must not put twice), a
WINS frame whose `una` passes both (must put sn 0 only), a PUSH sn 0 twice (one get), a Recv -/
def c15ExOps : List Kcp.Op :=
  [.noDelay 1 10 2 1, .send [1, 2, 3], .send [4, 5], .flush true 10,
   .input (c15ExHdr 82 1 0 0) true false 20,
   .input (c15ExHdr 82 1 0 0) true false 21,
   .input (c15ExHdr 84 0 2 0) true false 22,
   .input (c15ExHdr 81 0 0 2 ++ [9, 9]) true false 23,
   .input (c15ExHdr 81 0 0 2 ++ [9, 9]) true false 24,
   .recv 100]


example : (runO (startO 7 0 0) c15ExOps).gh.log =
    [.get 0, .get 1, .use 0, .use 1, .put 1, .put 0, .get 2, .use 2, .put 2] := by decide +kernel
example : sanitize (runO (startO 7 0 0) c15ExOps).gh.log = .ok := by decide +kernel
example : (runO (startO 7 0 0) (c15ExOps.take 6)).sb.map (·.buf) = [some 0, none] := by decide +kernel

end KcpVerif.Props
