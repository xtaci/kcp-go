import KcpVerif.Props.C09Wire
import KcpVerif.Lemmas.C01SessRef
/-!
C09 `wire_reassembles`, session level, configuration WITHOUT cipher and
FEC: the wire of a session is the wire of its core (`Model/Sess.lean`: the output callback of the
core is the session's `output`; `writeBuffers` / `update` / `packetInput` return the core's `outs`),
so everything `Props/C09Wire.lean` proves about the core's wire holds for the datagrams a session
emits, and the stream an independent decoder reassembles from them is a prefix of the bytes
`WriteBuffers` accepted (`wr`, the `A.wr` of `C01_session_plain`).  A session never fragments
(`C01_session_single_fragment`), so nothing is ever held back for an unfinished message.
-/
namespace KcpVerif.Props
open KcpVerif.Gen KcpVerif.Kcp KcpVerif.Recv KcpVerif.C01 KcpVerif.C09W
open KcpVerif.Lemmas.KcpFlush (InvMss)

theorem C09_closed_of_zero (L : List Content) (h : ∀ c ∈ L, c.1 = 0) : Closed L :=
  fun x hx => h x (List.mem_of_getLast? hx)

/-- **(c) One session, any operations** (`WriteBuffers` of any slices, `Read`, `update`, the setters,
`packetInput` of ARBITRARY bytes).
Every datagram the session has emitted is accepted by `Wire.Spec.decode` as a non-empty list of
segments of the session's `conv`, every byte consumed; for ANY observed collection of those segments
the reassembled stream is a prefix of `bytesOf log`, itself a prefix of the accepted bytes `wr`; it IS
`bytesOf log` once every numbered segment has been seen, and stops before segment `i` if `i` was
never seen. -/
theorem C09_session_wire (s0 : Sess) (hf : Fresh s0.k) (hm : InvMss s0.k) (hsn : s0.k.snd_nxt = 0)
    (ops : List SessOp) (hL : (sessRun { s := s0 } ops).log.length ≤ 2 ^ 32) :
    (∀ o ∈ (sessRun { s := s0 } ops).wire, ∃ segs, Wire.Spec.decode o = some segs ∧ segs ≠ [] ∧
      segsLen segs = o.length ∧
      ∀ x ∈ segs, x.1.conv = s0.k.conv ∧ Wire.cmdKnown x.1.cmd = true ∧ x.1.len.toNat = x.2.length ∧
        x.2.length ≤ mtuLimit ∧ SegGen (sessRun { s := s0 } ops).log x) ∧
    (sessRun { s := s0 } ops).wr =
      bytesOf ((sessRun { s := s0 } ops).log ++ (sessRun { s := s0 } ops).s.k.snd_queue.map content) ∧
    ∀ all, C09_Observed (sessRun { s := s0 } ops).wire all →
      Wire.Spec.reassemble all <+: bytesOf (sessRun { s := s0 } ops).log ∧
      bytesOf (sessRun { s := s0 } ops).log <+: (sessRun { s := s0 } ops).wr ∧
      ((∀ i, i < (sessRun { s := s0 } ops).log.length → Avail all i) →
        Wire.Spec.reassemble all = bytesOf (sessRun { s := s0 } ops).log) ∧
      (∀ i, ¬ Avail all i → Wire.Spec.reassemble all <+: bytesOf ((sessRun { s := s0 } ops).log.take i)) := by
  obtain ⟨cops, hc, hR, _, hw⟩ := sessRun_run ops { s := s0 } { k := s0.k } ⟨rfl, rfl, rfl, rfl⟩
  have hmss : 0 < s0.k.mss.toNat := by have := hm.mss_toNat; have := hm.mtu_gt; omega
  have hacc := (hw ⟨fresh_invAcc s0.k hf hmss, rfl⟩).wr_eq hR
  -- a session hands the core chunks of at most `mss` bytes, so every segment is a whole message
  have hzero := run_whole cops _ hc (by simp [pendFrgs, hf.sq])
  have hcl : Closed (run { k := s0.k } cops).log := closed_of_whole hzero
  rw [hR.log] at hL
  refine ⟨?_, hacc, fun all hall => ?_⟩
  · rw [hR.wire, hR.log]
    exact (C09_wire_decodes s0.k hf hm hsn cops hL).2
  · have hpre : bytesOf (sessRun { s := s0 } ops).log <+: (sessRun { s := s0 } ops).wr := by
      rw [hacc, bytesOf_append]; exact List.prefix_append _ _
    rw [hR.wire] at hall
    rw [hR.log]
    refine ⟨(C09_wire_reassembles s0.k hf hm hsn cops hL all hall).1, by rw [← hR.log]; exact hpre, fun hseen => ?_,
      fun i hmiss => C09_wire_reassembles_missing s0.k hf hm hsn cops hL all hall i hmiss⟩
    exact (C09_wire_reassembles_complete s0.k hf hm hsn cops hL all hall hseen).2 hcl

/-- **(c) The writer of `C01_session_plain`.**  In the two-session system (any interleaving of `A`'s
operations, `B`'s operations and deliveries of `A`'s datagrams to `B`), the stream an independent
decoder reassembles from any collection of segments of `A`'s datagrams is a prefix of `A.wr`, the
bytes `A.WriteBuffers` accepted — the same bound `C01_session_plain` gives for what `B.Read` returns. -/
theorem C09_session_plain_wire (sA sB : Sess) (hA : Fresh sA.k) (hm : InvMss sA.k) (hsn : sA.k.snd_nxt = 0)
    (ops : List SSOp) (hL : (ssrun ⟨{ s := sA }, { s := sB }⟩ ops).A.log.length ≤ 2 ^ 32) :
    (∀ o ∈ (ssrun ⟨{ s := sA }, { s := sB }⟩ ops).A.wire, ∃ segs, Wire.Spec.decode o = some segs ∧ segs ≠ [] ∧
      ∀ x ∈ segs, x.1.conv = sA.k.conv) ∧
    ∀ all, C09_Observed (ssrun ⟨{ s := sA }, { s := sB }⟩ ops).A.wire all →
      Wire.Spec.reassemble all <+: (ssrun ⟨{ s := sA }, { s := sB }⟩ ops).A.wr ∧
      ((∀ i, i < (ssrun ⟨{ s := sA }, { s := sB }⟩ ops).A.log.length → Avail all i) →
        Wire.Spec.reassemble all = bytesOf (ssrun ⟨{ s := sA }, { s := sB }⟩ ops).A.log) := by
  rw [ssrun_A] at hL ⊢
  obtain ⟨h1, _, h3⟩ := C09_session_wire sA hA hm hsn (aOps ops) hL
  refine ⟨fun o ho => ?_, fun all hall => ?_⟩
  · obtain ⟨segs, a1, a2, _, a4⟩ := h1 o ho
    exact ⟨segs, a1, a2, fun x hx => (a4 x hx).1⟩
  · obtain ⟨b1, b2, b3, _⟩ := h3 all hall
    exact ⟨b1.trans b2, b3⟩

/-! ### non-vacuity: a default session writes two slices, flushes, retransmits -/

def C09_exSess : List SessOp :=
  [.noDelay 1 10 2 1, .write [[1, 2, 3], [4, 5]] 0, .update 300, .input [1, 2, 3] 301]

set_option maxRecDepth 1000000 in
example : Fresh (Sess.new 7).k ∧ InvMss (Sess.new 7).k ∧ (Sess.new 7).k.snd_nxt = 0 ∧
    (sessRun { s := Sess.new 7 } C09_exSess).wire.length = 2 ∧
    (sessRun { s := Sess.new 7 } C09_exSess).wr = [1, 2, 3, 4, 5] ∧
    Wire.Spec.reassemble (wireSegs (sessRun { s := Sess.new 7 } C09_exSess).wire) = [1, 2, 3, 4, 5] := by
  refine ⟨⟨by decide, by decide, by decide, by decide, by decide⟩,
    Lemmas.KcpMss.setMtu_inv _ _ (Lemmas.KcpMss.new_inv 7), by decide +kernel⟩

end KcpVerif.Props
