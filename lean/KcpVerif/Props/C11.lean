import KcpVerif.Model.SessIn
import KcpVerif.Lemmas.SessIn
/-!
C11 — sessions on one socket are isolated; one Accept per new peer.

Theorems about `Model/SessIn.listenerInput` (= `Listener.packetInput`), `accept`, `userClose` and
`Dial.filter`.  The core, the FEC decoder and the reader behind `kcpInput` are a type parameter `σ`:
"unchanged" below is equality of the entire session object, for ANY core.  Session objects live in
`Listener.objs` (index = creation index = identity); the table and the accept queue hold indices.

What the code really does, and where that needs saying precisely (see notes/C11.md):
* `s.Close()` of the old session happens BEFORE the backlog test: a reset frame (other conversation
  id, sn = 0, or any OOB frame with another id) that finds the accept queue full closes and unmaps
  the old session and creates nothing (`C11_reset_backlog_full`).  It is the same address, so the
  "never closes it" clause — which is about *other* addresses — is not affected (`C11_frame`).
* when no session is mapped at an address, ANY frame with a readable conversation id is a
  conversation start, whatever its sn (`C11_start_unmapped`): a stale datagram of a conversation
  whose session was closed is a start again.
-/
namespace KcpVerif.Props
open KcpVerif.Gen KcpVerif.SessIn

variable {σ : Type}

theorem C11_closeSess_objs (w : World σ) (l : Listener σ) (id j : Nat) (hj : j ≠ id) :
    (closeSess w l id).objs[j]? = l.objs[j]? :=
  closeSess_objs w l id j hj

theorem C11_tryCreate_objs (w : World σ) (l : Listener σ) (p : Bytes) (a : String) (h : Hdr) (old : Option Nat)
    (j : Nat) (hj : j < l.objs.length) : (tryCreate w l p a h old).l.objs[j]? = l.objs[j]? := by
  rw [← tryCreateD_false]
  exact tryCreateD_objs w l false p a h old j hj

theorem C11_closeSess_length (w : World σ) (l : Listener σ) (id : Nat) :
    (closeSess w l id).objs.length = l.objs.length :=
  closeSess_length w l id

/-- **frame, objects**: a datagram from address `a` changes no session object other than the one
mapped at `a` — whatever the datagram, the cipher, the core.  (Objects created by the step are appended.) -/
theorem C11_frame_objects (w : World σ) (c : Cipher) (l : Listener σ) (data : Bytes) (a : String)
    (j : Nat) (hj : j < l.objs.length) (hne : lookup l.table a ≠ some j) :
    (listenerInput w c l data a).l.objs[j]? = l.objs[j]? := by
  rw [← listenerInputD_false]
  exact frameD_objects w c l false data a j hj hne

theorem C11_closeSess_lookup (w : World σ) (l : Listener σ) (id : Nat) (a b : String) (hwf : WF l)
    (hl : lookup l.table a = some id) (hb : b ≠ a) :
    lookup (closeSess w l id).table b = lookup l.table b := by
  obtain ⟨o, ho, hoa, hoc⟩ := hwf a id hl
  rw [closeSess_open w l id o ho hoc]
  show lookup (unmap l.table o.addr) b = _
  rw [lookup_unmap, hoa, if_neg hb]

theorem tryCreateD_lookup (w : World σ) (l : Listener σ) (dead : Bool) (p : Bytes) (a b : String) (h : Hdr)
    (old : Option Nat) (hb : b ≠ a) :
    lookup (tryCreateD w l dead p a h old).l.table b = lookup l.table b := by
  rcases tryCreateD_cases w l dead p a h old with ⟨_, e⟩ | ⟨_, _, e⟩ | ⟨_, _, _, e⟩ <;> rw [e]
  have : ¬ a = b := fun e => hb e.symm
  simp only [lookup, this, if_false, lookup_unmap, hb]

theorem C11_tryCreate_lookup (w : World σ) (l : Listener σ) (p : Bytes) (a b : String) (h : Hdr) (old : Option Nat)
    (hb : b ≠ a) : lookup (tryCreate w l p a h old).l.table b = lookup l.table b := by
  rw [← tryCreateD_false]
  exact tryCreateD_lookup w l false p a b h old hb

theorem frameD_table (w : World σ) (c : Cipher) (l : Listener σ) (dead : Bool) (data : Bytes) (a b : String)
    (hwf : WF l) (hb : b ≠ a) :
    lookup (listenerInputD w c l dead data a).l.table b = lookup l.table b := by
  refine listenerInputD_ind (P := fun r => lookup r.l.table b = lookup l.table b) w c l dead data a
    (fun _ => rfl) (fun p h _ _ => tryCreateD_lookup w l dead p a b h none hb) (fun _ _ _ _ _ _ _ _ => rfl) ?reset
  case reset =>
    intro p h id o _ hl _ _
    show lookup (tryCreateD w (closeSess w l id) dead p a h (some id)).l.table b = _
    rw [tryCreateD_lookup w _ dead p a b h _ hb]
    exact C11_closeSess_lookup w l id a b hwf hl hb

/-- **frame, table**: the mapping of every other address is unchanged (no creation, no removal,
no replacement at `b ≠ a`). -/
theorem C11_frame_table (w : World σ) (c : Cipher) (l : Listener σ) (data : Bytes) (a b : String)
    (hwf : WF l) (hb : b ≠ a) :
    lookup (listenerInput w c l data a).l.table b = lookup l.table b := by
  rw [← listenerInputD_false]
  exact frameD_table w c l false data a b hwf hb

/-- **frame**: a datagram from `a` leaves the session at every `b ≠ a` mapped, identical (entire
state) and open. -/
theorem C11_frame (w : World σ) (c : Cipher) (l : Listener σ) (data : Bytes) (a b : String)
    (hwf : WF l) (hb : b ≠ a) (id : Nat) (o : Sess σ)
    (hl : lookup l.table b = some id) (ho : l.objs[id]? = some o) :
    lookup (listenerInput w c l data a).l.table b = some id ∧
    (listenerInput w c l data a).l.objs[id]? = some o := by
  refine ⟨by rw [C11_frame_table w c l data a b hwf hb, hl], ?_⟩
  rw [C11_frame_objects w c l data a id (lt_of_getElem? ho), ho]
  intro ha
  exact hb (WF_inj hwf hl ha)

/-- the invariant used above holds initially and is preserved by every operation -/
theorem C11_wf_invariant (w : World σ) :
    WF (Listener.empty : Listener σ) ∧
    (∀ c l data a, WF l → WF (listenerInput w c l data a).l) ∧
    (∀ l : Listener σ, WF l → WF (accept l).l) ∧
    (∀ l id, WF l → WF (userClose w l id)) :=
  ⟨WF_empty, fun c l data a h => WF_listenerInput w c l data a h, fun l h => WF_accept l h,
   fun l id h => WF_userClose w l id h⟩

theorem C11_after_gate (w : World σ) (c : Cipher) (l : Listener σ) (data p : Bytes) (a : String) (h : Hdr)
    (hg : cryptGate c data = .ok p) (hm : minPacket ≤ p.length) (hp : parseHdr p = some h) :
    listenerInput w c l data a =
      match lookup l.table a with
      | none => tryCreate w l p a h none
      | some id =>
        match l.objs[id]? with
        | none => { l := l, dec := .drop .noConv }
        | some o =>
          if !h.hasConv || h.conv = o.conv then
            { l := { l with objs := modifyAt l.objs id (fun o => { o with st := w.kcpInput o.st p }) },
              dec := .route a id }
          else if h.sn ≠ 0 then { l := l, dec := .drop .convMismatch }
          else tryCreate w (closeSess w l id) p a h (some id) := by
  rw [← listenerInputD_false, listenerInputD_after_gate w c l false data p a h hg hm hp]
  simp only [tryCreateD_false]
  rfl

theorem C11_tryCreate_room (w : World σ) (l : Listener σ) (p : Bytes) (a : String) (h : Hdr) (old : Option Nat)
    (hc : h.hasConv = true) (hroom : l.accepts.length < acceptBacklog) :
    tryCreate w l p a h old =
      { l := { objs := l.objs ++ [{ conv := h.conv, addr := a, st := w.kcpInput (w.init h.conv) p, closed := false }],
               table := (a, l.objs.length) :: unmap l.table a,
               accepts := l.accepts ++ [l.objs.length] },
        dec := .create a h.conv old l.objs.length } := by
  rw [← tryCreateD_false]
  exact tryCreateD_room w l p a h old hc hroom

theorem C11_tryCreate_full (w : World σ) (l : Listener σ) (p : Bytes) (a : String) (h : Hdr) (old : Option Nat)
    (hc : h.hasConv = true) (hfull : l.accepts.length ≥ acceptBacklog) :
    tryCreate w l p a h old =
      { l := l, dec := match old with
                       | none => .drop .backlogFull
                       | some o => .closedOnly a o } := by
  rw [← tryCreateD_false]
  exact tryCreateD_full w l false p a h old hc hfull

theorem C11_tryCreate_noconv (w : World σ) (l : Listener σ) (p : Bytes) (a : String) (h : Hdr) (old : Option Nat)
    (hc : h.hasConv = false) : tryCreate w l p a h old = { l := l, dec := .drop .noConv } := by
  rw [← tryCreateD_false]
  exact tryCreateD_noconv w l false p a h old hc

theorem C11_closeSess_open (w : World σ) (l : Listener σ) (id : Nat) (o : Sess σ)
    (ho : l.objs[id]? = some o) (hoc : o.closed = false) :
    closeSess w l id =
      { l with objs := modifyAt l.objs id (fun o => { o with st := w.closeFx o.st, closed := true }),
               table := unmap l.table o.addr } :=
  closeSess_open w l id o ho hoc

theorem C11_after_gate_mismatch (w : World σ) (c : Cipher) (l : Listener σ) (data p : Bytes) (a : String) (h : Hdr)
    (id : Nat) (o : Sess σ)
    (hg : cryptGate c data = .ok p) (hm : minPacket ≤ p.length) (hp : parseHdr p = some h)
    (hl : lookup l.table a = some id) (ho : l.objs[id]? = some o)
    (hc : h.hasConv = true) (hne : h.conv ≠ o.conv) :
    listenerInput w c l data a =
      if h.sn ≠ 0 then { l := l, dec := .drop .convMismatch }
      else tryCreate w (closeSess w l id) p a h (some id) := by
  rw [C11_after_gate w c l data p a h hg hm hp, hl]
  simp only [ho]
  rw [if_neg (by simp [hc, hne])]

/-- **same conversation (or no readable id)**: routed to the existing session and nothing else. -/
theorem C11_route_same_conv (w : World σ) (c : Cipher) (l : Listener σ) (data p : Bytes) (a : String) (h : Hdr)
    (id : Nat) (o : Sess σ)
    (hg : cryptGate c data = .ok p) (hm : minPacket ≤ p.length) (hp : parseHdr p = some h)
    (hl : lookup l.table a = some id) (ho : l.objs[id]? = some o)
    (hc : h.hasConv = false ∨ h.conv = o.conv) :
    (listenerInput w c l data a).dec = .route a id ∧
    (listenerInput w c l data a).l.table = l.table ∧
    (listenerInput w c l data a).l.accepts = l.accepts ∧
    (listenerInput w c l data a).l.objs[id]? = some { o with st := w.kcpInput o.st p } := by
  have hr : (!h.hasConv || decide (h.conv = o.conv)) = true := by
    cases hc with
    | inl h1 => simp [h1]
    | inr h2 => simp [h2]
  rw [C11_after_gate w c l data p a h hg hm hp, hl]
  simp only [ho]
  rw [if_pos hr]
  refine ⟨rfl, rfl, rfl, ?_⟩
  show (modifyAt l.objs id _)[id]? = _
  rw [getElem?_modifyAt, if_pos rfl, ho]
  rfl

/-- **other conversation, sn ≠ 0**: ignored — the listener state is unchanged. -/
theorem C11_other_conv_ignored (w : World σ) (c : Cipher) (l : Listener σ) (data p : Bytes) (a : String) (h : Hdr)
    (id : Nat) (o : Sess σ)
    (hg : cryptGate c data = .ok p) (hm : minPacket ≤ p.length) (hp : parseHdr p = some h)
    (hl : lookup l.table a = some id) (ho : l.objs[id]? = some o)
    (hc : h.hasConv = true) (hne : h.conv ≠ o.conv) (hsn : h.sn ≠ 0) :
    (listenerInput w c l data a).l = l ∧ (listenerInput w c l data a).dec = .drop .convMismatch := by
  rw [C11_after_gate_mismatch w c l data p a h id o hg hm hp hl ho hc hne, if_pos hsn]
  exact ⟨rfl, rfl⟩

/-- **other conversation, sn = 0 (or an OOB frame), room in the backlog**: the old session is
closed (never fed: its state is `closeFx` of what it was) and unmapped, a FRESH session
(`init conv`, then this one datagram) is created, mapped at `a` and appended to the accept queue. -/
theorem C11_reset_replaces (w : World σ) (c : Cipher) (l : Listener σ) (data p : Bytes) (a : String) (h : Hdr)
    (id : Nat) (o : Sess σ) (hwf : WF l)
    (hg : cryptGate c data = .ok p) (hm : minPacket ≤ p.length) (hp : parseHdr p = some h)
    (hl : lookup l.table a = some id) (ho : l.objs[id]? = some o)
    (hc : h.hasConv = true) (hne : h.conv ≠ o.conv) (hsn : h.sn = 0)
    (hroom : l.accepts.length < acceptBacklog) :
    (listenerInput w c l data a).dec = .create a h.conv (some id) l.objs.length ∧
    (listenerInput w c l data a).l.objs[id]? = some { o with st := w.closeFx o.st, closed := true } ∧
    (listenerInput w c l data a).l.objs[l.objs.length]? =
      some { conv := h.conv, addr := a, st := w.kcpInput (w.init h.conv) p, closed := false } ∧
    lookup (listenerInput w c l data a).l.table a = some l.objs.length ∧
    (listenerInput w c l data a).l.accepts = l.accepts ++ [l.objs.length] := by
  obtain ⟨o', ho', hoa, hoc⟩ := hwf a id hl
  rw [ho] at ho'; cases ho'
  have hlt : id < l.objs.length := lt_of_getElem? ho
  have hsn' : ¬ h.sn ≠ 0 := fun x => x hsn
  rw [C11_after_gate_mismatch w c l data p a h id o hg hm hp hl ho hc hne, if_neg hsn',
    C11_closeSess_open w l id o ho hoc,
    C11_tryCreate_room w { l with objs := modifyAt l.objs id (fun o => { o with st := w.closeFx o.st, closed := true }),
                                  table := unmap l.table o.addr } p a h (some id) hc hroom]
  simp only [modifyAt_length, lookup, if_true, true_and]
  refine ⟨?_, ?_⟩
  · -- the old object, closed, still stands at `id`
    rw [List.getElem?_append_left (by rw [modifyAt_length]; exact hlt), getElem?_modifyAt, if_pos rfl, ho]
    rfl
  · -- the fresh object stands behind the old ones
    rw [List.getElem?_append_right (by rw [modifyAt_length]; exact Nat.le_refl _), modifyAt_length, Nat.sub_self]
    exact ⟨rfl, trivial⟩

/-- **other conversation, sn = 0, backlog FULL**: the code closes the old session before it looks at
the backlog — the old session is closed and unmapped and nothing is created.  (Same address; the
peer's retransmission finds no session mapped and is a conversation start as soon as there is room.) -/
theorem C11_reset_backlog_full (w : World σ) (c : Cipher) (l : Listener σ) (data p : Bytes) (a : String) (h : Hdr)
    (id : Nat) (o : Sess σ) (hwf : WF l)
    (hg : cryptGate c data = .ok p) (hm : minPacket ≤ p.length) (hp : parseHdr p = some h)
    (hl : lookup l.table a = some id) (ho : l.objs[id]? = some o)
    (hc : h.hasConv = true) (hne : h.conv ≠ o.conv) (hsn : h.sn = 0)
    (hfull : l.accepts.length ≥ acceptBacklog) :
    (listenerInput w c l data a).dec = .closedOnly a id ∧
    (listenerInput w c l data a).l.objs[id]? = some { o with st := w.closeFx o.st, closed := true } ∧
    (listenerInput w c l data a).l.objs.length = l.objs.length ∧
    lookup (listenerInput w c l data a).l.table a = none ∧
    (listenerInput w c l data a).l.accepts = l.accepts := by
  obtain ⟨o', ho', hoa, hoc⟩ := hwf a id hl
  rw [ho] at ho'; cases ho'
  have hsn' : ¬ h.sn ≠ 0 := fun x => x hsn
  rw [C11_after_gate_mismatch w c l data p a h id o hg hm hp hl ho hc hne, if_neg hsn',
    C11_closeSess_open w l id o ho hoc,
    C11_tryCreate_full w { l with objs := modifyAt l.objs id (fun o => { o with st := w.closeFx o.st, closed := true }),
                                  table := unmap l.table o.addr } p a h (some id) hc hfull]
  simp only [modifyAt_length, lookup_unmap, hoa, if_true, true_and, and_true]
  rw [getElem?_modifyAt, if_pos rfl, ho, ← hoa]
  rfl

/-- a packet carrying another conversation id is NEVER passed to the existing session: in every
case its state afterwards is what it was, or `closeFx` of it — never `kcpInput` of it. -/
theorem C11_route_or_ignore (w : World σ) (c : Cipher) (l : Listener σ) (data p : Bytes) (a : String) (h : Hdr)
    (id : Nat) (o : Sess σ) (hwf : WF l)
    (hg : cryptGate c data = .ok p) (hm : minPacket ≤ p.length) (hp : parseHdr p = some h)
    (hl : lookup l.table a = some id) (ho : l.objs[id]? = some o)
    (hc : h.hasConv = true) (hne : h.conv ≠ o.conv) :
    ((listenerInput w c l data a).l.objs[id]? = some o ∧ (listenerInput w c l data a).l = l ∧ h.sn ≠ 0) ∨
    ((listenerInput w c l data a).l.objs[id]? = some { o with st := w.closeFx o.st, closed := true } ∧ h.sn = 0 ∧
      ((∃ n, (listenerInput w c l data a).dec = .create a h.conv (some id) n) ↔ l.accepts.length < acceptBacklog)) := by
  by_cases hsn : h.sn = 0
  · right
    by_cases hroom : l.accepts.length < acceptBacklog
    · have := C11_reset_replaces w c l data p a h id o hwf hg hm hp hl ho hc hne hsn hroom
      exact ⟨this.2.1, hsn, ⟨fun _ => hroom, fun _ => ⟨_, this.1⟩⟩⟩
    · have := C11_reset_backlog_full w c l data p a h id o hwf hg hm hp hl ho hc hne hsn (by omega)
      refine ⟨this.2.1, hsn, ⟨fun ⟨n, hn⟩ => ?_, fun hr => absurd hr hroom⟩⟩
      rw [this.1] at hn; cases hn
  · left
    have := C11_other_conv_ignored w c l data p a h id o hg hm hp hl ho hc hne hsn
    exact ⟨by rw [this.1]; exact ho, this.1, hsn⟩

/-- no session mapped at `a`: any frame with a readable conversation id starts a conversation
(whatever its sn) iff the backlog has room; without room, or without a readable id, nothing changes. -/
theorem C11_start_unmapped (w : World σ) (c : Cipher) (l : Listener σ) (data p : Bytes) (a : String) (h : Hdr)
    (hg : cryptGate c data = .ok p) (hm : minPacket ≤ p.length) (hp : parseHdr p = some h)
    (hl : lookup l.table a = none) :
    (h.hasConv = true ∧ l.accepts.length < acceptBacklog →
      (listenerInput w c l data a).dec = .create a h.conv none l.objs.length ∧
      (listenerInput w c l data a).l.accepts = l.accepts ++ [l.objs.length] ∧
      lookup (listenerInput w c l data a).l.table a = some l.objs.length ∧
      (listenerInput w c l data a).l.objs = l.objs ++
        [{ conv := h.conv, addr := a, st := w.kcpInput (w.init h.conv) p, closed := false }]) ∧
    (¬ (h.hasConv = true ∧ l.accepts.length < acceptBacklog) → (listenerInput w c l data a).l = l) := by
  rw [C11_after_gate w c l data p a h hg hm hp, hl]
  constructor
  · intro ⟨hc, hroom⟩
    rw [C11_tryCreate_room w l p a h none hc hroom]
    exact ⟨rfl, rfl, by simp only [lookup, if_true], rfl⟩
  · intro hn
    cases hc : h.hasConv with
    | false => rw [C11_tryCreate_noconv w l p a h none hc]
    | true =>
      have hfull : l.accepts.length ≥ acceptBacklog :=
        Nat.le_of_not_lt fun hroom => hn ⟨hc, hroom⟩
      rw [C11_tryCreate_full w l p a h none hc hfull]

def isCreate : Decision → Bool
  | .create _ _ _ _ => true
  | _ => false

theorem isCreate_iff {d : Decision} : isCreate d = true ↔ ∃ a c o n, d = .create a c o n := by
  cases d with
  | create a c o n => exact ⟨fun _ => ⟨a, c, o, n, rfl⟩, fun _ => rfl⟩
  | drop _ => exact ⟨fun h => (nomatch h), fun ⟨_, _, _, _, h⟩ => nomatch h⟩
  | route _ _ => exact ⟨fun h => (nomatch h), fun ⟨_, _, _, _, h⟩ => nomatch h⟩
  | closedOnly _ _ => exact ⟨fun h => (nomatch h), fun ⟨_, _, _, _, h⟩ => nomatch h⟩

theorem tryCreateD_isCreate (w : World σ) (l : Listener σ) (dead : Bool) (p : Bytes) (a : String) (h : Hdr)
    (old : Option Nat) (hc : isCreate (tryCreateD w l dead p a h old).dec = true) :
    h.hasConv = true ∧ l.accepts.length < acceptBacklog ∧ dead = false := by
  rcases tryCreateD_cases w l dead p a h old with ⟨_, e⟩ | ⟨_, _, e⟩ | ⟨hcv, hr, hd, _⟩
  · rw [e] at hc; cases hc
  · rw [e] at hc; cases hc
  · exact ⟨hcv, hr, hd⟩

theorem C11_accept_step (w : World σ) (c : Cipher) (l : Listener σ) (data : Bytes) (a : String) :
    (isCreate (listenerInput w c l data a).dec = true →
      (listenerInput w c l data a).l.accepts = l.accepts ++ [l.objs.length] ∧
      (listenerInput w c l data a).l.objs.length = l.objs.length + 1 ∧
      l.accepts.length < acceptBacklog) ∧
    (isCreate (listenerInput w c l data a).dec = false →
      (listenerInput w c l data a).l.accepts = l.accepts ∧
      (listenerInput w c l data a).l.objs.length = l.objs.length) := by
  rw [← listenerInputD_false]
  rcases listenerInputD_grow w c l false data a with ⟨hn, hs⟩ | ⟨⟨cv, o, hd⟩, ha, hl, hr⟩
  · exact ⟨fun hc => by obtain ⟨a', cv, o, n, hd⟩ := isCreate_iff.mp hc; exact absurd hd (hn a' cv o n), fun _ => hs⟩
  · exact ⟨fun _ => ⟨ha, hl, hr⟩, fun hc => by rw [hd] at hc; cases hc⟩

theorem listenerInput_objs_le (w : World σ) (c : Cipher) (l : Listener σ) (data : Bytes) (a : String) :
    l.objs.length ≤ (listenerInput w c l data a).l.objs.length := by
  have h := C11_accept_step w c l data a
  cases hc : isCreate (listenerInput w c l data a).dec with
  | true => have := (h.1 hc).2.1; omega
  | false => have := (h.2 hc).2; omega

inductive Ev where
  | input (c : Cipher) (data : Bytes) (a : String)
  | accept
  | close (id : Nat)

/-- a run: the listener, the ids returned by Accept so far (in order), the decisions taken -/
structure RunSt (σ : Type) where
  l        : Listener σ
  accepted : List Nat
  log      : List Decision

def runStep (w : World σ) (s : RunSt σ) : Ev → RunSt σ
  | .input c data a =>
    { s with l := (listenerInput w c s.l data a).l, log := s.log ++ [(listenerInput w c s.l data a).dec] }
  | .accept =>
    match (SessIn.accept s.l).got with
    | none => s
    | some id => { s with l := (SessIn.accept s.l).l, accepted := s.accepted ++ [id] }
  | .close id => { s with l := userClose w s.l id }

def run (w : World σ) (s : RunSt σ) (evs : List Ev) : RunSt σ := evs.foldl (runStep w) s

def RunInv (s : RunSt σ) : Prop :=
  s.accepted ++ s.l.accepts = List.range s.l.objs.length ∧
  s.l.accepts.length ≤ acceptBacklog ∧
  s.l.objs.length = (s.log.filter isCreate).length

theorem C11_runInv_step (w : World σ) (s : RunSt σ) (e : Ev) (h : RunInv s) : RunInv (runStep w s e) := by
  obtain ⟨h1, h2, h3⟩ := h
  cases e with
  | input c data a =>
    have hs := C11_accept_step w c s.l data a
    simp only [runStep, RunInv]
    cases hc : isCreate (listenerInput w c s.l data a).dec with
    | true =>
      obtain ⟨ha, hl, hr⟩ := hs.1 hc
      have hf : List.filter isCreate (s.log ++ [(listenerInput w c s.l data a).dec]) =
          List.filter isCreate s.log ++ [(listenerInput w c s.l data a).dec] := by
        simp [List.filter_append, hc]
      rw [ha, hl, ← List.append_assoc, h1, List.range_succ, hf]
      simp only [List.length_append, List.length_cons, List.length_nil]
      exact ⟨trivial, by omega, by omega⟩
    | false =>
      obtain ⟨ha, hl⟩ := hs.2 hc
      have hf : List.filter isCreate (s.log ++ [(listenerInput w c s.l data a).dec]) = List.filter isCreate s.log := by
        simp [List.filter_append, hc]
      rw [ha, hl, hf]
      exact ⟨h1, h2, h3⟩
  | accept =>
    simp only [runStep]
    rcases accept_cases s.l with ⟨_, e⟩ | ⟨id, rest, hq, e⟩ <;> rw [e]
    · exact ⟨h1, h2, h3⟩
    · simp only [RunInv]
      rw [hq] at h1 h2
      refine ⟨by rw [List.append_assoc]; exact h1, ?_, h3⟩
      simp only [List.length_cons] at h2; omega
  | close id =>
    simp only [runStep, RunInv, userClose]
    have hl := C11_closeSess_length w s.l id
    rw [closeSess_accepts, hl]
    exact ⟨h1, h2, h3⟩

/-- **one Accept per conversation start, along every history**: starting from an empty listener,
after any sequence of datagrams (any ciphers, addresses, contents), Accepts and Closes:
the ids returned by Accept so far followed by the ids still queued are exactly `0, 1, …, n-1` where
`n` is the number of `create` decisions taken — every conversation start is queued exactly once, in
order, nothing else is ever queued, nothing is lost; and the queue never exceeds the backlog. -/
theorem C11_accept_once (w : World σ) (evs : List Ev) :
    let s := run w { l := Listener.empty, accepted := [], log := [] } evs
    s.accepted ++ s.l.accepts = List.range (s.log.filter isCreate).length ∧
    s.l.accepts.length ≤ acceptBacklog ∧
    (s.accepted ++ s.l.accepts).Nodup := by
  have h0 : RunInv ({ l := Listener.empty, accepted := [], log := [] } : RunSt σ) := by
    simp [RunInv, Listener.empty]
  obtain ⟨h1, h2, h3⟩ : RunInv (run w _ evs) := foldl_inv (fun s e h => C11_runInv_step w s e h) evs _ h0
  simp only
  refine ⟨by rw [h1, h3], h2, by rw [h1]; exact List.nodup_range⟩

def createKey : Decision → Option (String × BitVec 32)
  | .create a c _ _ => some (a, c)
  | _ => none

def keyOf (o : Sess σ) : String × BitVec 32 := (o.addr, o.conv)

theorem C11_map_modifyAt {α β : Type} (xs : List α) (i : Nat) (f : α → α) (g : α → β) (hg : ∀ x, g (f x) = g x) :
    (modifyAt xs i f).map g = xs.map g := by
  induction xs generalizing i with
  | nil => rfl
  | cons x rest ih => cases i with
    | zero => simp [modifyAt, hg]
    | succ k => simp [modifyAt, ih]

theorem C11_closeSess_keys (w : World σ) (l : Listener σ) (id : Nat) :
    (closeSess w l id).objs.map keyOf = l.objs.map keyOf := by
  rcases closeSess_cases w l id with e | ⟨_, _, _, e⟩ <;> rw [e]
  exact C11_map_modifyAt _ _ _ _ (fun _ => rfl)

theorem C11_tryCreate_keys (w : World σ) (l0 l1 : Listener σ) (p : Bytes) (a : String) (h : Hdr) (old : Option Nat)
    (hk : l1.objs.map keyOf = l0.objs.map keyOf) :
    (tryCreate w l1 p a h old).l.objs.map keyOf =
      l0.objs.map keyOf ++ (createKey (tryCreate w l1 p a h old).dec).toList := by
  rw [← tryCreateD_false]
  rcases tryCreateD_cases w l1 false p a h old with ⟨_, e⟩ | ⟨_, _, e⟩ | ⟨_, _, _, e⟩ <;> rw [e]
  · exact hk.trans (List.append_nil _).symm
  · exact hk.trans (List.append_nil _).symm
  · show (l1.objs ++ [_]).map keyOf = l0.objs.map keyOf ++ [(a, h.conv)]
    rw [List.map_append, hk]
    rfl

theorem C11_keys_step (w : World σ) (c : Cipher) (l : Listener σ) (data : Bytes) (a : String) :
    (listenerInput w c l data a).l.objs.map keyOf =
      l.objs.map keyOf ++ (createKey (listenerInput w c l data a).dec).toList := by
  rw [← listenerInputD_false]
  refine listenerInputD_ind w c l false data a
    (P := fun r => r.l.objs.map keyOf = l.objs.map keyOf ++ (createKey r.dec).toList)
    (fun _ => (List.append_nil _).symm) ?fresh ?route ?reset
  case fresh =>
    intro p h _ _
    rw [tryCreateD_false]
    exact C11_tryCreate_keys w l l p a h none rfl
  case route =>
    intro p h id o _ _ _ _
    show (modifyAt l.objs id _).map keyOf = l.objs.map keyOf ++ []
    rw [List.append_nil]
    exact C11_map_modifyAt _ _ _ _ (fun _ => rfl)
  case reset =>
    intro p h id o _ _ _ _
    rw [tryCreateD_false]
    exact C11_tryCreate_keys w l _ p a h _ (C11_closeSess_keys w l id)

/-- **whose sessions are queued**: along every history from an empty listener, the i-th session ever
put on the accept queue is session object i, and the (address, conversation id) of the objects, in
order, are exactly those of the `create` decisions, in order.  Hence, for every address `a`, the
number of sessions queued for `a` equals the number of conversation starts at `a` that found room,
each queued exactly once (`C11_accept_once`), with the conversation id of its first frame. -/
theorem C11_accept_once_keys (w : World σ) (evs : List Ev) :
    let s := run w { l := Listener.empty, accepted := [], log := [] } evs
    s.l.objs.map keyOf = s.log.filterMap createKey := by
  refine foldl_inv (P := fun s : RunSt σ => s.l.objs.map keyOf = s.log.filterMap createKey) ?_ evs _
    (by simp [Listener.empty])
  intro s e h
  cases e with
  | input c data a =>
    simp only [runStep, List.filterMap_append]
    rw [C11_keys_step, h]
    cases hd : createKey (listenerInput w c s.l data a).dec <;> simp [hd]
  | accept =>
    simp only [runStep]
    rcases accept_cases s.l with ⟨_, e⟩ | ⟨_, _, _, e⟩ <;> rw [e] <;> exact h
  | close id =>
    simp only [runStep, userClose]
    rw [C11_closeSess_keys]; exact h

/-- a decision is `create` exactly when the datagram is a conversation start that finds room:
it passes the gate, carries a readable conversation id, and either no session is mapped at its
address or the mapped one has another id and the frame is a reset (sn = 0 / OOB) -/
theorem C11_create_iff_start (w : World σ) (c : Cipher) (l : Listener σ) (data : Bytes) (a : String) (hwf : WF l) :
    isCreate (listenerInput w c l data a).dec = true ↔
      ∃ p h, cryptGate c data = .ok p ∧ minPacket ≤ p.length ∧ parseHdr p = some h ∧ h.hasConv = true ∧
        l.accepts.length < acceptBacklog ∧
        (lookup l.table a = none ∨
         ∃ id o, lookup l.table a = some id ∧ l.objs[id]? = some o ∧ h.conv ≠ o.conv ∧ h.sn = 0) := by
  constructor
  · intro hc
    rw [← listenerInputD_false] at hc
    revert hc
    refine listenerInputD_ind w c l false data a (P := fun r => isCreate r.dec = true → _)
      (fun _ hc => nomatch hc) ?fresh (fun _ _ _ _ _ _ _ _ hc => nomatch hc) ?reset
    case fresh =>
      intro p h hG hl hc
      obtain ⟨hcv, hr, _⟩ := tryCreateD_isCreate w l false p a h none hc
      exact ⟨p, h, hG.ok, hG.min, hG.hdr, hcv, hr, Or.inl hl⟩
    case reset =>
      intro p h id o hG hl ho ⟨hcv, hne, hsn⟩ hc
      obtain ⟨_, hr, _⟩ := tryCreateD_isCreate w _ false p a h _ hc
      rw [closeSess_accepts] at hr
      exact ⟨p, h, hG.ok, hG.min, hG.hdr, hcv, hr, Or.inr ⟨id, o, hl, ho, hne, hsn⟩⟩
  · intro ⟨p, h, hg, hm, hp, hcv, hroom, hcase⟩
    cases hcase with
    | inl hl =>
      have := (C11_start_unmapped w c l data p a h hg hm hp hl).1 ⟨hcv, hroom⟩
      rw [this.1]; rfl
    | inr hx =>
      obtain ⟨id, o, hl, ho, hne, hsn⟩ := hx
      have := C11_reset_replaces w c l data p a h id o hwf hg hm hp hl ho hcv hne hsn hroom
      rw [this.1]; rfl

open KcpVerif.SessIn.Dial in
/-- latched on a UDP source (the remote given to the dial, or the first source when the remote was
nil): a datagram is passed to `packetInput` iff it comes from a `*net.UDPAddr` with the same
(canonical) IP, port and zone; the filter never re-latches. -/
theorem C11_dial_filter (f : Filter) (u : List UInt8 × Nat × String) (addr : Addr) (hf : f.src = some u) :
    (filter f addr).f = f ∧ ((filter f addr).pass = true ↔ addr.udp = some u) := by
  have h := filter_latched f addr (fun e => by rw [hf] at e; cases e)
  simp only [hf] at h
  exact h

open KcpVerif.SessIn.Dial in
/-- latched on the string of a non-UDP remote: passes iff `addr.String()` is equal -/
theorem C11_dial_filter_string (f : Filter) (addr : Addr) (hf : f.src = none) (hs : f.srcStr ≠ "") :
    (filter f addr).f = f ∧ ((filter f addr).pass = true ↔ addr.str = f.srcStr) := by
  have h := filter_latched f addr (fun _ => hs)
  simp only [hf] at h
  exact h

open KcpVerif.SessIn.Dial in
/-- nothing latched yet (nil remote): the first datagram passes and latches its source -/
theorem C11_dial_filter_first (addr : Addr) :
    (filter (Filter.init none) addr).pass = true ∧
    (∀ u, addr.udp = some u → (filter (Filter.init none) addr).f.src = some u) ∧
    (addr.udp = none → (filter (Filter.init none) addr).f.src = none ∧ (filter (Filter.init none) addr).f.srcStr = addr.str) := by
  unfold filter Filter.init
  cases hu : addr.udp with
  | none => simp
  | some u => simp

open KcpVerif.SessIn.Dial in
/-- a dial to a UDP remote is latched on it from the start -/
theorem C11_dial_filter_init (r : Addr) (u : List UInt8 × Nat × String) (h : r.udp = some u) :
    (Filter.init (some r)).src = some u := by
  simp [Filter.init, h]

/-- σ = the list of payloads handed to the core -/
def c11World : World (List Bytes) := { kcpInput := fun s p => s ++ [p], init := fun _ => [], closeFx := id }
def c11Cipher : Cipher := { kind := .nil, dec := id, crc := fun _ => 0, aopen := fun _ _ => none }
/-- a 24-byte non-FEC KCP header: conv (1 byte used), cmd 81, sn (1 byte used) -/
def c11Frame (conv sn : UInt8) : Bytes := [conv, 0, 0, 0, 81, 0, 32, 0, 0, 0, 0, 0, sn, 0, 0, 0, 0, 0, 0, 0, 0, 0, 0, 0]

def c11L1 : Listener (List Bytes) := (listenerInput c11World c11Cipher Listener.empty (c11Frame 5 0) "A").l
def c11L2 : Listener (List Bytes) := (listenerInput c11World c11Cipher c11L1 (c11Frame 9 0) "B").l

-- A starts conversation 5, B starts conversation 9
example : (listenerInput c11World c11Cipher Listener.empty (c11Frame 5 0) "A").dec = .create "A" 5 none 0 := by decide +kernel
example : lookup c11L2.table "A" = some 0 ∧ lookup c11L2.table "B" = some 1 ∧ c11L2.accepts = [0, 1] := by decide +kernel
-- a frame of conversation 7 with sn = 3 from A is ignored (hypotheses of `C11_other_conv_ignored`)
example : (listenerInput c11World c11Cipher c11L2 (c11Frame 7 3) "A").dec = .drop .convMismatch := by decide +kernel
-- … with sn = 0 it replaces A's session (hypotheses of `C11_reset_replaces`); B is untouched (`C11_frame`)
example : (listenerInput c11World c11Cipher c11L2 (c11Frame 7 0) "A").dec = .create "A" 7 (some 0) 2 := by decide +kernel
example : (listenerInput c11World c11Cipher c11L2 (c11Frame 7 0) "A").l.objs[1]? = c11L2.objs[1]? := by decide +kernel
-- the same conversation is routed
example : (listenerInput c11World c11Cipher c11L2 (c11Frame 5 1) "A").dec = .route "A" 0 := by decide +kernel
-- WF holds for these states
example : WF c11L2 := WF_listenerInput _ _ _ _ _ (WF_listenerInput _ _ _ _ _ WF_empty)

end KcpVerif.Props
