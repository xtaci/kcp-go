/-
C16 (continued) — before the sample ring holds only the sender's run: what the detector and the decoder can do
on genuine samples in any order (`Genuine`, `GenuineRing`, `PreInv`), the convergence count over whole
histories, and why its two restrictions (one sender ratio, ids below `paws'`) are needed.
-/
import KcpVerif.Props.C16conv

namespace KcpVerif.Props
open KcpVerif.Gen KcpVerif.AutoTune KcpVerif.Fec KcpVerif.Lemmas.AutoTune KcpVerif.Lemmas.C16Pre

/-- On every ring whose window holds only genuine samples of one d/p sender — in any arrival order,
    with gaps, duplicates, stale ids, ids on both sides of a wrap — the detector returns −1 or the
    sender's true widths. -/
theorem C16_pre_findPeriod_genuine {d p : Nat} {t : Tune} (hd : 0 < d) (hp : 0 < p)
    (h : GenuineRing d p t) :
    (t.findPeriod true = -1 ∨ t.findPeriod true = (d : Int)) ∧
    (t.findPeriod false = -1 ∨ t.findPeriod false = (p : Int)) :=
  findPeriod_genuineRing hd hp h

/-- The scan itself, on ANY list of genuine samples — no assumption on its order: whatever
    permutation of the window the sort produces (Go `sort.Slice` and `List.mergeSort` may differ when
    stale ids are more than 2^31 apart and the comparator is not a total order), the result is −1
    or the sender's true width. -/
theorem C16_pre_period_any_order {d p : Nat} (hd : 0 < d) (hp : 0 < p) (bit : Bool) (w : List Pulse)
    (h : ∀ x ∈ w, Genuine d p x) :
    periodOfSorted bit w = -1 ∨ periodOfSorted bit w = ((if bit then d else p : Nat) : Int) :=
  period_genuine hd hp bit w h

/-- The class `GenuineRing d p` is what feeding genuine samples reaches: (1) it contains the zero
    ring and is closed under `Sample` of a genuine sample, hence contains `feed t l` for genuine
    `l`; (2) conversely every list of at most 258 genuine samples is the window of such a ring. -/
theorem C16_pre_ring_reachable (d p : Nat) :
    GenuineRing d p Tune.init ∧
    (∀ (t : Tune) (l : List Pulse), GenuineRing d p t → (∀ x ∈ l, Genuine d p x) →
      GenuineRing d p (feed t l)) ∧
    (∀ l : List Pulse, l.length ≤ maxAutoTuneSamples → (feed Tune.init l).window = l) :=
  ⟨genuineRing_init d p, fun t l h hl => genuineRing_feed l h hl, fun l hl => (feed_init_window l hl).2⟩

/-- No wrong adoption, ever: in a state reachable under one d/p sender, `decode` of one more
    genuine packet (any id) either keeps the decoder's ratio or makes it exactly (d, p). -/
theorem C16_pre_adopts_only_sender (C : CodecNew) (dec : Decoder) (q : Bytes) {d p : Nat}
    (hd : 0 < d) (hp : 0 < p) (hinv : PreInv d p dec) (hq : GenuinePkt d p q) :
    ((dec.decode C q).st.d = dec.d ∧ (dec.decode C q).st.p = dec.p) ∨
    ((dec.decode C q).st.d = d ∧ (dec.decode C q).st.p = p ∧ (dec.decode C q).st.shouldTune = false) := by
  refine C16_decode_elim C dec q
    (P := fun o => (o.st.d = dec.d ∧ o.st.p = dec.p) ∨ (o.st.d = d ∧ o.st.p = p ∧ o.st.shouldTune = false))
    (fun _ => Or.inl ⟨rfl, rfl⟩) (fun _ _ => Or.inl ⟨rfl, rfl⟩) (fun _ _ _ => ?_)
    (fun _ _ _ _ _ _ _ => Or.inl ⟨rfl, rfl⟩)
  rcases retune_genuine C _ (seqid q) hd hp (preInv_sample hinv hq) with h | ⟨h1, h2, h3, _, _⟩
  · rw [h]; exact Or.inl ⟨rfl, rfl⟩
  · exact Or.inr ⟨h1, h2, h3⟩

theorem C16_pre_aux_retune_step (C : CodecNew) (st : Decoder) (seq : BitVec 32) (t' : Tune)
    {d p : Nat} (hd : 0 < d) (hp : 0 < p) (hinv : PreInv d p { st with tune := t' }) :
    C16_pre_Good d p (retune C { st with tune := t' } seq) ∨
    ((retune C { st with tune := t' } seq).shouldTune = true ∧
      (retune C { st with tune := t' } seq).d = st.d ∧ (retune C { st with tune := t' } seq).p = st.p ∧
      (retune C { st with tune := t' } seq).n = st.n ∧
      (retune C { st with tune := t' } seq).paws = st.paws ∧
      (retune C { st with tune := t' } seq).tune = t') := by
  rcases retune_genuine C { st with tune := t' } seq hd hp hinv with h | ⟨h1, h2, h3, _, _⟩
  · rw [h]; exact Or.inr ⟨rfl, rfl, rfl, rfl, rfl, rfl⟩
  · exact Or.inl ⟨h1, h2, h3⟩

/-- The count actually established: from any state reachable under one d/p sender, after
    `max 257 (2(d+p)) + (d+p)` in-order packets below `paws'` the sender's ratio has been adopted (`2(d+p)`
    until one contradicts the old ratio, 257 until the next sample flushes the ring, `d + p` more until both
    complete pulses lie in the window). -/
theorem C16_pre_converges_sharp (C : CodecNew) (dec : Decoder) {d p s : Nat} (pkts : List Bytes)
    (hd : 0 < d) (hp : 0 < p) (hn : d + p < 256) (hinv : PreInv d p dec)
    (hpk : ∀ i (h : i < pkts.length), RunPkt d p s i pkts[i])
    (hlen : max (maxAutoTuneSamples - 1) (2 * (d + p)) + (d + p) ≤ pkts.length)
    (hpaws : s + (max (maxAutoTuneSamples - 1) (2 * (d + p)) + (d + p)) ≤ dec.paws.toNat) :
    ∃ k ≤ max (maxAutoTuneSamples - 1) (2 * (d + p)) + (d + p),
      C16_pre_Good d p (feedPackets C dec (pkts.take k)) := by
  have hM := maxAutoTuneSamples_eq
  exact C16_converges_general C dec (L := 0) (t0 := dec.tune) pkts hd hp hn hinv.n_eq
    hinv.d_pos hinv.p_pos hinv.ring.1 (Or.inl hinv.ring) rfl (by omega) (by omega)
    (C16_conv_bothPulses_within hp (by omega))
    (fun i hi => by rw [Nat.zero_add]; exact hpk i hi) hlen (by rw [Nat.add_zero]; exact hpaws)

theorem C16_pre_aux_stays (C : CodecNew) (st0 : Decoder) {d p s k0 : Nat} (l : List Bytes)
    (hn : st0.n = st0.d + st0.p) (hg : C16_pre_Good d p st0)
    (hl : ∀ i (h : i < l.length), RunPkt d p s (k0 + i) l[i]) (h32 : s + k0 + l.length ≤ 2 ^ 32) :
    C16_pre_Good d p (feedPackets C st0 l) := by
  obtain ⟨g1, g2, g3⟩ := hg
  obtain ⟨e1, e2, _, _, e5⟩ := C16_conv_quiet_run C st0 l hn g3 hl h32 (fun i _ => by rw [g1, g2])
  exact ⟨e1.trans g1, e2.trans g2, e5.trans g3⟩

/-- **C16 `converges`, with the D9 exclusion explicit.**  From ANY decoder state reachable under one d/p
    sender (`PreInv d p dec`: new decoder with any configured ratio, then any genuine packets of that sender,
    lost / duplicated / reordered in any way), after an uninterrupted in-order run of `258 + 2(d+p)` genuine
    packets with ids below the decoder's `paws'` (D9: ids in `[paws', paws)` are dropped before the tuning
    code) the decoder's ratio is (d, p) and `shouldTune` is clear — also after every further packet of the
    run (which may then cross the wrap zone). -/
theorem C16_converges_below_paws (C : CodecNew) (dec : Decoder) {d p s : Nat} (pkts : List Bytes)
    (hd : 0 < d) (hp : 0 < p) (hn : d + p < 256) (hinv : PreInv d p dec)
    (hpk : ∀ i (h : i < pkts.length), RunPkt d p s i pkts[i])
    (h32 : s + pkts.length ≤ 2 ^ 32)
    (hpaws : s + (maxAutoTuneSamples + 2 * (d + p)) ≤ dec.paws.toNat) :
    ∀ k, maxAutoTuneSamples + 2 * (d + p) ≤ k → k ≤ pkts.length →
      (feedPackets C dec (pkts.take k)).d = d ∧ (feedPackets C dec (pkts.take k)).p = p ∧
      (feedPackets C dec (pkts.take k)).shouldTune = false := by
  intro k hk1 hk2
  have hM := maxAutoTuneSamples_eq
  have hlt := dec.paws.isLt
  have hsharp := C16_pre_converges_sharp C dec pkts hd hp hn hinv hpk
  have hK : max (maxAutoTuneSamples - 1) (2 * (d + p)) + (d + p) ≤ maxAutoTuneSamples + 2 * (d + p) := by
    omega
  generalize max (maxAutoTuneSamples - 1) (2 * (d + p)) + (d + p) = K at hsharp hK
  obtain ⟨k0, hk0, hg⟩ := hsharp (by omega) (by omega)
  have hk0k : k0 ≤ k := by omega
  -- the invariant still holds at `k0` (gives `n = d + p` there)
  have hinv0 : PreInv d p (feedPackets C dec (pkts.take k0)) := by
    apply preInv_feedPackets C hd hp (by omega) _ dec hinv
    intro q hq
    obtain ⟨i, hi, rfl⟩ := List.getElem_of_mem hq
    rw [List.length_take] at hi
    rw [List.getElem_take]
    exact C16_conv_aux_genuinePkt_of_runPkt (hpk i (by omega)) (by omega)
  have := C16_pre_aux_stays C (feedPackets C dec (pkts.take k0)) (d := d) (p := p) (s := s) (k0 := k0)
    ((pkts.drop k0).take (k - k0)) hinv0.n_eq hg
    (by
      intro i hi
      rw [List.getElem_take, List.getElem_drop]
      exact hpk _ _)
    (by rw [List.length_take, List.length_drop]; omega)
  rw [← C16_conv_aux_take_add, show k0 + (k - k0) = k by omega] at this
  exact this

/-- the same for the states reachable from a NEW decoder, with the D9 exclusion on ids alone: the
    first `258 + 2(d+p)` run ids are `≤ 2^32 − 257`, which is below `paws'` for every ratio the
    decoder can have (`preInv_paws_ge`). -/
theorem C16_converges_reachable (C : CodecNew) {d p d0 p0 s : Nat} {dec0 : Decoder}
    (hist pkts : List Bytes) (hd : 0 < d) (hp : 0 < p) (hn : d + p < 256)
    (h0 : Decoder.new C d0 p0 = some dec0) (hh : ∀ q ∈ hist, GenuinePkt d p q)
    (hpk : ∀ i (h : i < pkts.length), RunPkt d p s i pkts[i])
    (h32 : s + pkts.length ≤ 2 ^ 32)
    (hpaws : s + (maxAutoTuneSamples + 2 * (d + p)) ≤ 2 ^ 32 - 256) :
    ∀ k, maxAutoTuneSamples + 2 * (d + p) ≤ k → k ≤ pkts.length →
      (feedPackets C (feedPackets C dec0 hist) (pkts.take k)).d = d ∧
      (feedPackets C (feedPackets C dec0 hist) (pkts.take k)).p = p ∧
      (feedPackets C (feedPackets C dec0 hist) (pkts.take k)).shouldTune = false := by
  have hinv : PreInv d p (feedPackets C dec0 hist) := preInv_reachable C hd hp (by omega) h0 hist hh
  have := preInv_paws_ge hinv
  exact C16_converges_below_paws C _ pkts hd hp hn hinv hpk h32 (by omega)

/-- `C16_converges_full` restricted to reachable states and to runs below `paws'`: the hypotheses of
    `C16_converges_full` plus these two give its conclusion (`C16_converges_full` itself quantifies
    over arbitrary decoder records and over runs inside `[paws', 2^32)`, where it is false: D9). -/
theorem C16_converges_full_below_paws (C : CodecNew) (dec : Decoder) (d p : Nat) (pkts : List Bytes)
    (s : Nat) (hinv : PreInv d p dec) (hpaws : s + pkts.length ≤ dec.paws.toNat)
    (hd : 0 < d) (hp : 0 < p) (hn : d + p ≤ 255) (h32 : s + pkts.length ≤ 2 ^ 32)
    (hlen : pkts.length = maxAutoTuneSamples + 2 * (d + p))
    (hpk : ∀ i (h : i < pkts.length), fecHeaderSize ≤ pkts[i].length ∧
        seqid pkts[i] = BitVec.ofNat 32 (s + i) ∧
        flag pkts[i] = (if label d p (s + i) then typeData else typeParity)) :
    ∃ k ≤ pkts.length, (feedPackets C dec (pkts.take k)).d = d ∧
      (feedPackets C dec (pkts.take k)).p = p ∧ (feedPackets C dec (pkts.take k)).shouldTune = false :=
  ⟨pkts.length, Nat.le_refl _,
    C16_converges_below_paws C dec pkts hd hp (by omega) hinv hpk h32 (by omega) pkts.length
      (by omega) (Nat.le_refl _)⟩

/-! ## two sender ratios in one window: a ratio nobody used is adopted

`PreInv`/`GenuineRing` speak of ONE sender ratio.  That is what a session can see (a `fecEncoder`
keeps its ratio for life), and it is necessary: -/

/-- in-order samples of a 3/1 sender (ids 0–3: D D D P) followed by `m` in-order samples of a 2/2
    sender (ids 4 …: D D P P D D P P …) -/
def C16_pre_mixed (m : Nat) : List Pulse := run 3 1 0 4 ++ run 2 2 4 m

theorem C16_pre_aux_mixed_sorted (m : Nat) (hm : 4 + m ≤ maxAutoTuneSamples) :
    (C16_pre_mixed m).Pairwise (fun a b => pulseLe a b = true) := by
  have hM := maxAutoTuneSamples_eq
  rw [C16_pre_mixed, List.pairwise_append]
  refine ⟨pairwise_run (by decide), pairwise_run (by omega), ?_⟩
  intro a ha
  obtain ⟨j, hj, rfl⟩ := mem_run ha
  exact pulseLe_run _ (by omega) (by omega)

/-- the scan only looks at the first seven entries -/
theorem C16_pre_aux_mixed_period (m : Nat) (hm : 3 ≤ m) :
    periodOfSorted true (C16_pre_mixed m) = 2 ∧ periodOfSorted false (C16_pre_mixed m) = 1 := by
  obtain ⟨m, rfl⟩ : ∃ k, m = k + 3 := ⟨m - 3, by omega⟩
  simp only [C16_pre_mixed, run]
  generalize run 2 2 (4 + 1 + 1 + 1) m = tail
  exact ⟨rfl, rfl⟩

/-- **A window with samples of two sender ratios yields a hybrid.**  A ring fed the genuine in-order
    samples of a 3/1 sender (ids 0–3) and then `m ≥ 3` genuine in-order samples of a 2/2 sender
    (ids 4 …) reports data width 2 and parity width 1 — for EVERY `m` until the four stale samples
    leave the ring (`4 + m ≤ 258`). -/
theorem C16_mixed_window_hybrid (m : Nat) (hm : 3 ≤ m) (hM : 4 + m ≤ maxAutoTuneSamples) :
    (∀ x ∈ C16_pre_mixed m, Genuine 3 1 x ∨ Genuine 2 2 x) ∧
    (feed Tune.init (C16_pre_mixed m)).findPeriod true = 2 ∧
    (feed Tune.init (C16_pre_mixed m)).findPeriod false = 1 := by
  have h258 := maxAutoTuneSamples_eq
  have hlen : (C16_pre_mixed m).length = 4 + m := by
    simp only [C16_pre_mixed, List.length_append, length_run]
  have hw : (feed Tune.init (C16_pre_mixed m)).window = C16_pre_mixed m :=
    (feed_init_window _ (by omega)).2
  have hc : (feed Tune.init (C16_pre_mixed m)).count = 4 + m := by
    rw [← window_length, hw, hlen]
  have hs := C16_pre_aux_mixed_sorted m hM
  obtain ⟨e1, e2⟩ := C16_pre_aux_mixed_period m hm
  refine ⟨?_, ?_, ?_⟩
  · intro x hx
    rcases List.mem_append.mp hx with h | h
    · exact Or.inl (genuine_run (by decide) x h)
    · exact Or.inr (genuine_run (by omega) x h)
  · simp only [Tune.findPeriod, if_neg (show ¬ (feed Tune.init (C16_pre_mixed m)).count < 3 by omega),
      hw, sortPulses, List.mergeSort_of_pairwise hs, e1]
  · simp only [Tune.findPeriod, if_neg (show ¬ (feed Tune.init (C16_pre_mixed m)).count < 3 by omega),
      hw, sortPulses, List.mergeSort_of_pairwise hs, e2]

/-- hence ANY decoder that reaches the tuning branch on such a ring ends with ratio 2/1 — a ratio neither
    sender used — and `shouldTune` cleared; one that already has 2/1 clears `shouldTune` again at every
    contradicting packet.  (Replayed on the real `fecDecoder`: notes/C16.md.) -/
theorem C16_mixed_window_adopts_hybrid (C : CodecNew) (dec : Decoder) (seq : BitVec 32) (m : Nat)
    (hm : 3 ≤ m) (hM : 4 + m ≤ maxAutoTuneSamples)
    (ht : dec.tune = feed Tune.init (C16_pre_mixed m)) :
    (retune C dec seq).d = 2 ∧ (retune C dec seq).p = 1 ∧ (retune C dec seq).shouldTune = false := by
  obtain ⟨_, e1, e2⟩ := C16_mixed_window_hybrid m hm hM
  rw [← ht] at e1 e2
  rcases C16_retune_eq C dec seq with ⟨hv, _⟩ | ⟨_, ⟨f1, f2, e⟩ | ⟨_, e⟩⟩
  · rw [e1, e2] at hv
    exact absurd (by decide) hv
  · rw [e1] at f1
    rw [e2] at f2
    rw [e]
    exact ⟨show dec.d = 2 by omega, show dec.p = 1 by omega, rfl⟩
  · rw [e, e1, e2]
    exact ⟨rfl, rfl, rfl⟩

/-! ## non-vacuity: a 10/3 decoder, a 4/2 sender -/

/-- packet of a d/p sender with id `k`: FEC header and a 2-byte size field -/
def C16_pre_mkPkt (d p k : Nat) : Bytes :=
  le32 (BitVec.ofNat 32 k) ++ le16 (if label d p k then typeData else typeParity) ++ [2, 0]

/-- `newFECDecoder(10, 3)` -/
def C16_pre_exDec0 : Decoder :=
  { d := 10, p := 3, n := 13, paws := pawsOf 13, newest := 0, shouldTune := false,
    tune := Tune.init, sets := [], codec := rsNew 10 3 }

/-- what reached the receiver before the run: lossy, reordered, duplicated, one very stale id -/
def C16_pre_exHist : List Bytes :=
  [5, 3, 3, 17, 9, 4000000000, 12, 11, 950, 13].map (C16_pre_mkPkt 4 2)

def C16_pre_exRun : List Bytes := (List.range 290).map fun i => C16_pre_mkPkt 4 2 (1000 + i)

theorem C16_pre_aux_exDec0 : Decoder.new rsNew 10 3 = some C16_pre_exDec0 := rfl

theorem C16_pre_aux_exHist : ∀ q ∈ C16_pre_exHist, GenuinePkt 4 2 q := by
  unfold GenuinePkt; decide +kernel

theorem C16_pre_aux_exRun : ∀ i (h : i < C16_pre_exRun.length), RunPkt 4 2 1000 i C16_pre_exRun[i] := by
  intro i h
  simp only [C16_pre_exRun, List.getElem_map, List.getElem_range]
  exact C16_conv_aux_runPkt_mk 4 2 1000 i [2, 0]

theorem C16_pre_aux_exRun_length : C16_pre_exRun.length = 290 := by
  simp only [C16_pre_exRun, List.length_map, List.length_range]

-- the state before the run is in the class, whatever the tuning branch did with the history
example : PreInv 4 2 (feedPackets rsNew C16_pre_exDec0 C16_pre_exHist) :=
  preInv_reachable rsNew (by decide) (by decide) (by decide) C16_pre_aux_exDec0 _ C16_pre_aux_exHist

-- 10/3 → 4/2: after 258 + 2·6 = 270 packets of the run, and after each of the remaining 20,
-- the decoder has ratio 4/2 and is not tuning
example : ∀ k, 270 ≤ k → k ≤ 290 →
    (feedPackets rsNew (feedPackets rsNew C16_pre_exDec0 C16_pre_exHist) (C16_pre_exRun.take k)).d = 4 ∧
    (feedPackets rsNew (feedPackets rsNew C16_pre_exDec0 C16_pre_exHist) (C16_pre_exRun.take k)).p = 2 ∧
    (feedPackets rsNew (feedPackets rsNew C16_pre_exDec0 C16_pre_exHist) (C16_pre_exRun.take k)).shouldTune
      = false := by
  intro k h1 h2
  have hM := maxAutoTuneSamples_eq
  have hl := C16_pre_aux_exRun_length
  exact C16_converges_reachable rsNew (d := 4) (p := 2) (d0 := 10) (p0 := 3) (s := 1000) C16_pre_exHist
    C16_pre_exRun (by decide) (by decide) (by decide) C16_pre_aux_exDec0 C16_pre_aux_exHist
    C16_pre_aux_exRun (by omega) (by omega) k (by omega) (by omega)

-- the sharp count for this pair is max 257 12 + 6 = 263
example : ∃ k ≤ 263, C16_pre_Good 4 2
    (feedPackets rsNew (feedPackets rsNew C16_pre_exDec0 C16_pre_exHist) (C16_pre_exRun.take k)) := by
  have hinv := preInv_reachable rsNew (d := 4) (p := 2) (by decide) (by decide) (by decide)
    C16_pre_aux_exDec0 _ C16_pre_aux_exHist
  have hp := preInv_paws_ge hinv
  exact C16_pre_converges_sharp rsNew _ (s := 1000) C16_pre_exRun (by decide) (by decide) (by decide)
    hinv C16_pre_aux_exRun (by
      have := C16_pre_aux_exRun_length
      have : max (maxAutoTuneSamples - 1) (2 * (4 + 2)) + (4 + 2) = 263 := by decide
      omega) (by
      have : max (maxAutoTuneSamples - 1) (2 * (4 + 2)) + (4 + 2) = 263 := by decide
      omega)

-- the hybrid, smallest instance: seven samples
example : (feed Tune.init (C16_pre_mixed 3)).findPeriod true = 2 ∧
    (feed Tune.init (C16_pre_mixed 3)).findPeriod false = 1 :=
  (C16_mixed_window_hybrid 3 (by decide) (by decide)).2

/-! ## `C16_converges_full` is false on a reachable state (D9 on the model) -/

/-- `newFECDecoder(100, 100)`: `paws' = 4294967200` -/
def C16_pre_d9Dec0 : Decoder :=
  { d := 100, p := 100, n := 200, paws := pawsOf 200, newest := 0, shouldTune := false,
    tune := Tune.init, sets := [], codec := rsNew 100 100 }

/-- one genuine packet of the 1/1 sender, 1000 ids before the run -/
def C16_pre_d9Stale : Bytes := C16_pre_mkPkt 1 1 4294966032

def C16_pre_d9Dec : Decoder := (C16_pre_d9Dec0.decode rsNew C16_pre_d9Stale).st

/-- 262 = 258 + 2·(1+1) genuine in-order packets of the 1/1 sender, ids 4294967032 … 4294967293
    (all below the sender's own wrap point 4294967294) -/
def C16_pre_d9Run : List Bytes := (List.range 262).map fun i => C16_pre_mkPkt 1 1 (4294967032 + i)

theorem C16_pre_aux_d9Dec0 : Decoder.new rsNew 100 100 = some C16_pre_d9Dec0 := rfl

theorem C16_pre_aux_d9Stale : GenuinePkt 1 1 C16_pre_d9Stale ∧
    seqid C16_pre_d9Stale = BitVec.ofNat 32 4294966032 := by
  unfold GenuinePkt; decide +kernel

theorem C16_pre_aux_d9Run : ∀ i (h : i < C16_pre_d9Run.length),
    fecHeaderSize ≤ C16_pre_d9Run[i].length ∧
    seqid C16_pre_d9Run[i] = BitVec.ofNat 32 (4294967032 + i) ∧
    flag C16_pre_d9Run[i] = (if label 1 1 (4294967032 + i) then typeData else typeParity) := by
  intro i h
  simp only [C16_pre_d9Run, List.getElem_map, List.getElem_range]
  exact C16_conv_aux_runPkt_mk 1 1 4294967032 i [2, 0]

theorem C16_pre_aux_d9Run_length : C16_pre_d9Run.length = 262 := by
  simp only [C16_pre_d9Run, List.length_map, List.length_range]

theorem C16_pre_aux_d9Dec :
    C16_pre_d9Dec.d = 100 ∧ C16_pre_d9Dec.paws = pawsOf 200 ∧
    C16_pre_d9Dec.tune = Tune.init.sample (flag C16_pre_d9Stale == typeData) (BitVec.ofNat 32 4294966032) := by
  have hk := decode_blind rsNew C16_pre_d9Dec0 C16_pre_d9Stale C16_pre_aux_d9Stale.1.1
    (Or.inr (by simp only [Tune.findPeriod]; rfl))
  refine ⟨hk.1, hk.2.2.2, ?_⟩
  rw [C16_pre_d9Dec, C16_conv_aux_tune_step rsNew _ _ C16_pre_aux_d9Stale.1.1, C16_pre_aux_d9Stale.2]
  rfl

/-- `hzone`: the run reaches `[paws', 2^32)` before the stale sample is evicted — at most 257 packets have ids
    below `paws'`, and the stale sample stays for 257 samples -/
theorem C16_pre_aux_stale_prefix (C : CodecNew) (dec : Decoder) {d p s J : Nat} {b : Bool} (pkts : List Bytes)
    (hJ : J + 1 < s) (hclose : s + maxAutoTuneSamples ≤ J + 2 ^ 31)
    (htune : dec.tune = Tune.init.sample b (BitVec.ofNat 32 J))
    (hpk : ∀ i (h : i < pkts.length), RunPkt d p s i pkts[i])
    (h32 : s + pkts.length ≤ 2 ^ 32)
    (hzone : dec.paws.toNat ≤ s + (maxAutoTuneSamples - 1)) :
    ∀ j, j ≤ pkts.length →
      (feedPackets C dec (pkts.take j)).d = dec.d ∧ (feedPackets C dec (pkts.take j)).p = dec.p ∧
      (feedPackets C dec (pkts.take j)).n = dec.n ∧ (feedPackets C dec (pkts.take j)).paws = dec.paws ∧
      (feedPackets C dec (pkts.take j)).tune = feed dec.tune (run d p s j) := by
  intro j
  induction j with
  | zero => intro _; exact ⟨rfl, rfl, rfl, rfl, rfl⟩
  | succ j ih =>
    intro hj
    obtain ⟨i1, i2, i3, i4, i5⟩ := ih (by omega)
    have hjl : j < pkts.length := by omega
    have hq := hpk j hjl
    have hseq := C16_conv_aux_runPkt_seq hq (by omega)
    have hsmp := C16_conv_aux_sample_run hq i5
    rw [C16_conv_aux_take_succ C dec pkts j hjl]
    have hk := decode_blind C (feedPackets C dec (pkts.take j)) pkts[j] hq.1 (by
      rw [hseq, i4, hsmp, htune]
      by_cases hz : dec.paws.toNat ≤ s + j
      · exact Or.inl hz
      · right
        exact findPeriod_stale d p J s (j + 1) b true hJ (by omega) (by omega) (by omega))
    refine ⟨hk.1.trans i1, hk.2.1.trans i2, hk.2.2.1.trans i3, hk.2.2.2.trans i4, ?_⟩
    rw [C16_conv_aux_tune_step C _ _ hq.1, hsmp]

/-- **`C16_converges_full` does not hold** — not even on reachable states: a new 100/100 decoder that has
    received ONE genuine packet of a 1/1 sender (id 4294966032) and then the sender's uninterrupted in-order
    run of 258 + 2·2 = 262 packets from id 4294967032 still has ratio 100/100 after every one of them.  The
    stale sample blocks the detector for 257 packets; by then the run is inside `[paws', 2^32) =
    [4294967200, 2^32)`, where packets are dropped before the tuning code (D9). -/
theorem C16_converges_full_false : ¬ C16_converges_full := by
  intro hfull
  obtain ⟨e1, e2, e3⟩ := C16_pre_aux_d9Dec
  have hl := C16_pre_aux_d9Run_length
  have hwf : C16_pre_d9Dec.tune.WF := by rw [e3]; exact wf_sample _ _ wf_init
  obtain ⟨k, hk, hd, _, _⟩ := hfull rsNew C16_pre_d9Dec 1 1 C16_pre_d9Run 4294967032 hwf (by decide)
    (by decide) (by decide) (by rw [hl]; decide) (by rw [hl]; decide) C16_pre_aux_d9Run
  have hpaws : C16_pre_d9Dec.paws.toNat = 4294967200 := by rw [e2]; decide
  have := (C16_pre_aux_stale_prefix rsNew C16_pre_d9Dec (d := 1) (p := 1) (s := 4294967032) (J := 4294966032)
    C16_pre_d9Run (by decide) (by decide) e3 C16_pre_aux_d9Run (by rw [hl]; decide)
    (by rw [hpaws]; decide) k hk).1
  rw [hd, e1] at this
  exact absurd this (by decide)

/-- the witness state is reachable under the 1/1 sender (it is in the class of
    `C16_converges_below_paws`); only `ids < paws'` fails -/
example : PreInv 1 1 C16_pre_d9Dec :=
  preInv_decode rsNew _ _ (by decide) (by decide) (by decide)
    (preInv_new rsNew 1 1 100 100 C16_pre_aux_d9Dec0) C16_pre_aux_d9Stale.1

end KcpVerif.Props
