import KcpVerif.Lemmas.KcpMss
/-!
C10 — no datagram exceeds the configured MTU; accepted MTUs are safe.  Protocol-core half
(`kcp.go`: `flush`, `Input`, `Update`, `Send`, `SetMtu`); the session half is in `Props/C10.lean`.

About the executable model `Model/Kcp.lean` (tied to the Go code by the `kcp-mtu` correspondence component), whose
`SetMtu` refuses `mtu − 24 > mtuLimit` (D1) and a value below `24 + longest queued segment` (D2).  Under `InvMss`
(`C10_core_InvMss_def` spells it out), which holds from `NewKCP` on with `SetMtu` interleaved anywhere, everything
`flush` / `Input` / `Update` hand to the output callback is non-empty and at most `mtu` bytes long, and no slice
expression of the core is out of bounds.  Nothing in the core half is `_partial`.
-/
namespace KcpVerif.Props
open KcpVerif.Gen KcpVerif.Kcp KcpVerif.Lemmas.KcpFlush KcpVerif.Lemmas.KcpMss

theorem C10_core_InvMss_def (k : Kcp) :
    InvMss k ↔ ((∀ s ∈ k.snd_queue ++ k.snd_buf, s.data.length ≤ k.mss.toNat)
      ∧ k.mss = k.mtu - u32 IKCP_OVERHEAD
      ∧ k.mtu.toNat > IKCP_OVERHEAD
      ∧ k.mtu.toNat ≤ mtuLimit + IKCP_OVERHEAD
      ∧ k.bufLen = (k.mtu.toNat + IKCP_OVERHEAD) * 3) :=
  ⟨fun h => ⟨h.segs, h.mss_eq, h.mtu_gt, h.mtu_le, h.buf⟩, fun ⟨a, b, c, d, e⟩ => ⟨a, b, c, d, e⟩⟩

/-- `flush` (either flush type, any clock): every `output(buffer, size)` has `0 < size ≤ mtu`,
and no write to `buffer` is out of bounds -/
theorem C10_core_flush_sizes (k : Kcp) (h : InvMss k) (full : Bool) (now : U32) :
    (∀ o ∈ (flush k full now).outs, 0 < o.length ∧ o.length ≤ k.mtu.toNat) ∧ (flush k full now).panic = false :=
  ⟨(flush_ok k full now h).2.1, (flush_ok k full now h).1⟩

/-- `Input` of ANY byte string (it may flush) -/
theorem C10_core_input_sizes (k : Kcp) (h : InvMss k) (data : Bytes) (regular ackNoDelay : Bool) (now : U32) :
    (∀ o ∈ (input k data regular ackNoDelay now).outs, 0 < o.length ∧ o.length ≤ k.mtu.toNat)
      ∧ (input k data regular ackNoDelay now).panic = false :=
  ⟨(input_ok k data regular ackNoDelay now h).2.1, (input_ok k data regular ackNoDelay now h).1⟩

theorem C10_core_update_sizes (k : Kcp) (h : InvMss k) (now : U32) :
    (∀ o ∈ (update k now).outs, 0 < o.length ∧ o.length ≤ k.mtu.toNat) ∧ (update k now).panic = false :=
  ⟨(update_ok k now h).2.1, (update_ok k now h).1⟩

theorem C10_core_send_no_panic (k : Kcp) (h : InvMss k) (buffer : Bytes) : (send k buffer).panic = false :=
  (send_ok k buffer h).1

/-- the accumulator step on which everything rests: `makeSpace(n)` with `n ≤ mtu` emits only a non-empty
buffer of at most `mtu` bytes, and afterwards `n` more bytes fit below the MTU -/
theorem C10_core_makeSpace (m : Nat) (f : Fl) (h : FlOk m f) (n : Nat) (hn : n ≤ m) :
    FlOk m (f.makeSpace n) ∧ (f.makeSpace n).cur.length + n ≤ m :=
  h.makeSpace hn

theorem C10_core_InvMss_new (conv : U32) : InvMss (Kcp.new conv) := new_inv conv

theorem C10_core_InvMss_inductive (k : Kcp) (h : InvMss k) :
    (∀ buffer, InvMss (send k buffer).k)
      ∧ (∀ buflen, InvMss (recv k buflen).k)
      ∧ (∀ data regular ackNoDelay now, InvMss (input k data regular ackNoDelay now).k)
      ∧ (∀ full now, InvMss (flush k full now).k)
      ∧ (∀ now, InvMss (update k now).k)
      ∧ (∀ m : Int, InvMss (setMtu k m).1)
      ∧ (∀ nodelay interval resend nc, InvMss (noDelay k nodelay interval resend nc))
      ∧ (∀ snd rcv, InvMss (wndSize k snd rcv)) :=
  ⟨fun b => (step_ok k (.send b) h).2.2.1,
   fun n => (step_ok k (.recv n) h).2.2.1,
   fun d r a now => (step_ok k (.input d r a now) h).2.2.1,
   fun full now => (step_ok k (.flush full now) h).2.2.1,
   fun now => (step_ok k (.update now) h).2.2.1,
   fun m => (step_ok k (.setMtu m) h).2.2.1,
   fun a b c d => (step_ok k (.noDelay a b c d) h).2.2.1,
   fun a b => (step_ok k (.wndSize a b) h).2.2.1⟩

theorem C10_core_step (k : Kcp) (h : InvMss k) (op : Op) :
    (step k op).panic = false
      ∧ (∀ o ∈ (step k op).outs, 0 < o.length ∧ o.length ≤ k.mtu.toNat)
      ∧ InvMss (step k op).k :=
  ⟨(step_ok k op h).1, (step_ok k op h).2.1, (step_ok k op h).2.2.1⟩

/-- in particular the MTU in force is always one the pool buffers can carry -/
theorem C10_core_reachable_InvMss (conv : U32) (ops : List Op) : InvMss (run (Kcp.new conv) ops) :=
  run_inv _ ops (new_inv conv)

/-- **the property, core half**: in every history of core operations from `NewKCP` — `SetMtu` with any integer
interleaved anywhere, any byte strings fed to `Input`, any clock values — every packet handed to the output
callback (`trace` pairs each with the MTU in force when it was emitted) is non-empty and no longer than that
MTU, and no operation panics -/
theorem C10_core_every_output_within_mtu (conv : U32) (ops : List Op) :
    (∀ p ∈ trace (Kcp.new conv) ops, 0 < p.2.length ∧ p.2.length ≤ p.1) ∧ anyPanic (Kcp.new conv) ops = false :=
  ⟨(trace_ok _ ops (new_inv conv)).2, (trace_ok _ ops (new_inv conv)).1⟩

theorem C10_core_next_op_within_mtu (conv : U32) (ops : List Op) (op : Op) :
    (∀ o ∈ (step (run (Kcp.new conv) ops) op).outs, 0 < o.length ∧ o.length ≤ (run (Kcp.new conv) ops).mtu.toNat)
      ∧ (step (run (Kcp.new conv) ops) op).panic = false :=
  ⟨(step_ok _ op (run_inv _ ops (new_inv conv))).2.1, (step_ok _ op (run_inv _ ops (new_inv conv))).1⟩

/-- `SetMtu(m)` returns 0 exactly when the value can be honoured -/
theorem C10_core_setMtu_accept_iff (k : Kcp) (m : Int) :
    (setMtu k m).2 = 0 ↔
      ((IKCP_OVERHEAD : Int) < m ∧ m ≤ (mtuLimit : Int) + (IKCP_OVERHEAD : Int)
        ∧ ∀ s ∈ k.snd_queue ++ k.snd_buf, (s.data.length : Int) ≤ m - (IKCP_OVERHEAD : Int)) :=
  setMtu_accept_iff k m

theorem C10_core_setMtu_refused (k : Kcp) (m : Int) (h : (setMtu k m).2 ≠ 0) : setMtu k m = (k, -1) :=
  setMtu_of_not_acceptable k m (fun ha => h ((setMtu_accept_iff k m).mpr ha))

/-- an accepted value becomes the MTU in force exactly (no 32-bit truncation), with the matching segment size and
staging buffer -/
theorem C10_core_setMtu_accepted (k : Kcp) (m : Int) (h : (setMtu k m).2 = 0) :
    ((setMtu k m).1.mtu.toNat : Int) = m
      ∧ ((setMtu k m).1.mss.toNat : Int) = m - (IKCP_OVERHEAD : Int)
      ∧ ((setMtu k m).1.bufLen : Int) = (m + (IKCP_OVERHEAD : Int)) * 3
      ∧ (setMtu k m).1.snd_queue = k.snd_queue ∧ (setMtu k m).1.snd_buf = k.snd_buf := by
  have ha := (setMtu_accept_iff k m).mp h
  have hm := setMtu_accepted_mtu k m ha
  rw [setMtu_of_acceptable k m ha] at hm ⊢
  change ((BitVec.ofInt 32 m).toNat : Int) = m at hm
  obtain ⟨h1, h2, _⟩ := ha
  refine ⟨hm, ?_, ?_, rfl, rfl⟩
  · show ((BitVec.ofInt 32 m - u32 IKCP_OVERHEAD).toNat : Int) = m - (IKCP_OVERHEAD : Int)
    rw [toNat_sub_overhead (by omega)]; omega
  · show (((m.toNat + IKCP_OVERHEAD) * 3 : Nat) : Int) = (m + (IKCP_OVERHEAD : Int)) * 3
    omega

/-- "honoured from then on": only `SetMtu` changes the MTU in force (any reachable state, any other operation) -/
theorem C10_core_mtu_stable (conv : U32) (ops : List Op) (op : Op) (hop : ∀ m, op ≠ .setMtu m) :
    (step (run (Kcp.new conv) ops) op).k.mtu = (run (Kcp.new conv) ops).mtu :=
  (step_ok _ op (run_inv _ ops (new_inv conv))).2.2.2 hop

/-! ### both refusal clauses are needed (D1, D2 re-established on the model)

`setMtuUnrepaired` is `SetMtu` as it was before the two `fix:` commits (only `mtu ≤ 24` refused).  With it the
invariant is NOT inductive and the size property fails; the witnesses are the ones of DESIGN.md section 6. -/

/-- `KCP.SetMtu` before the repairs -/
def setMtuUnrepaired (k : Kcp) (mtu : Int) : Kcp × Int :=
  if mtu ≤ (IKCP_OVERHEAD : Int) then (k, -1)
  else
    let m := BitVec.ofInt 32 mtu
    ({ k with mtu := m, mss := m - u32 IKCP_OVERHEAD, bufLen := (mtu.toNat + IKCP_OVERHEAD) * 3 }, 0)

/-- the repaired `SetMtu` refuses no more than it must: for every value that fits a `uint32`, it accepts exactly
when installing the value (what the unrepaired code always did) gives a state satisfying the invariant -/
theorem C10_core_setMtu_refuses_only_unhonourable (k : Kcp) (m : Int) (h1 : (IKCP_OVERHEAD : Int) < m)
    (h2 : m < 4294967296) :
    (setMtu k m).2 = 0 ↔ InvMss (setMtuUnrepaired k m).1 := by
  have hun : setMtuUnrepaired k m = ({ k with
      mtu := BitVec.ofInt 32 m, mss := BitVec.ofInt 32 m - u32 IKCP_OVERHEAD,
      bufLen := (m.toNat + IKCP_OVERHEAD) * 3 }, 0) := by
    unfold setMtuUnrepaired; rw [if_neg (by omega)]
  have hnat : ((BitVec.ofInt 32 m).toNat : Int) = m := by
    simp only [BitVec.toNat_ofInt]; simp only [IKCP_OVERHEAD] at h1; omega
  rw [hun]
  constructor
  · intro h
    exact setMtu_installed_inv k m ((setMtu_accept_iff k m).mp h)
  · intro h
    apply (setMtu_accept_iff k m).mpr
    have hle := h.mtu_le
    have hmss := h.mss_toNat
    change (BitVec.ofInt 32 m).toNat ≤ mtuLimit + IKCP_OVERHEAD at hle
    change (BitVec.ofInt 32 m - u32 IKCP_OVERHEAD).toNat = (BitVec.ofInt 32 m).toNat - IKCP_OVERHEAD at hmss
    refine ⟨h1, by omega, ?_⟩
    intro s hs
    have := h.segs s hs
    change s.data.length ≤ (BitVec.ofInt 32 m - u32 IKCP_OVERHEAD).toNat at this
    omega

/-- a core with one full-size segment (1376 bytes) queued and the congestion window opened by a first flush -/
def c10kq : Kcp := (flush (send (Kcp.new 7) (List.replicate 1376 0x55)).k true 0).k

/-- D2: shrinking while a segment is queued — the unrepaired `SetMtu(1000)` returns 0, and the next flush hands
the output callback an EMPTY packet and one of 1400 > 1000 bytes; `SetMtu(50)` makes flush panic.
The repaired `SetMtu` refuses both values in this state. -/
theorem C10_core_unrepaired_shrink_counterexample :
    (setMtuUnrepaired c10kq 1000).2 = 0
      ∧ (flush (setMtuUnrepaired c10kq 1000).1 true 0).outs.map List.length = [0, 1400]
      ∧ (flush (setMtuUnrepaired c10kq 50).1 true 0).panic = true
      ∧ ¬ InvMss (setMtuUnrepaired c10kq 1000).1
      ∧ setMtu c10kq 1000 = (c10kq, -1) ∧ setMtu c10kq 50 = (c10kq, -1) := by decide +kernel

/-- D1: an MTU whose segment size exceeds the pool buffers — the unrepaired `SetMtu(5000)` returns 0 and
`Send` of 4000 bytes panics (`Get()[:4000]`, capacity `mtuLimit`).  The repaired `SetMtu` refuses 5000. -/
theorem C10_core_unrepaired_big_counterexample :
    (setMtuUnrepaired (Kcp.new 7) 5000).2 = 0
      ∧ (send (setMtuUnrepaired (Kcp.new 7) 5000).1 (List.replicate 4000 1)).panic = true
      ∧ ¬ InvMss (setMtuUnrepaired (Kcp.new 7) 5000).1
      ∧ setMtu (Kcp.new 7) 5000 = (Kcp.new 7, -1) := by decide +kernel

/-- a core with one queued segment of 200 bytes (default MTU 1400) -/
def c10k1 : Kcp := (send (Kcp.new 7) (List.replicate 200 0x55)).k

example : c10k1.snd_queue.map (·.data.length) = [200] ∧ c10k1.mtu.toNat = 1400 := by decide +kernel
/-- the hypothesis of the size theorems holds of it (and is decidable) -/
example : InvMss c10k1 := by decide +kernel
/-- shrinking below `24 + 200` is refused and changes nothing … -/
example : setMtu c10k1 223 = (c10k1, -1) := by decide +kernel
/-- … shrinking to exactly `24 + 200` is accepted and honoured: the next transmission is one packet of exactly
the new MTU -/
example : (setMtu c10k1 224).2 = 0 ∧ (setMtu c10k1 224).1.mtu.toNat = 224
    ∧ (flush (flush (setMtu c10k1 224).1 true 0).k true 0).outs.map List.length = [224] := by decide +kernel
/-- boundary, negative and huge arguments (D1): refused; the largest value the pool buffers can carry: accepted -/
example : (setMtu c10k1 24).2 = -1 ∧ (setMtu c10k1 0).2 = -1 ∧ (setMtu c10k1 (-1)).2 = -1
    ∧ (setMtu c10k1 1525).2 = -1 ∧ (setMtu c10k1 5000).2 = -1 ∧ (setMtu c10k1 4294967296).2 = -1
    ∧ (setMtu c10k1 (4294967296 + 1400)).2 = -1 ∧ (setMtu c10k1 1524).2 = 0 := by decide +kernel

/-- a history with `SetMtu` interleaved in traffic: 3000 bytes are cut into segments of 1376, 1376, 248 -/
def c10hist : List Op :=
  [.send (List.replicate 3000 1), .flush true 0, .setMtu 600, .setMtu 1424, .update 100, .setMtu 1400, .update 300]

/-- `c10hist` evaluated once; the two examples below project it -/
theorem c10Hist_run :
    ((trace (Kcp.new 7) c10hist).map (fun p => (p.1, p.2.length)) = [(1424, 1400), (1400, 1400)]
      ∧ anyPanic (Kcp.new 7) c10hist = false)
    ∧ (run (Kcp.new 7) c10hist).snd_buf.length = 1 ∧ (run (Kcp.new 7) c10hist).snd_queue.length = 2 := by
  decide +kernel

/-- `SetMtu 600` is refused (1376 bytes are queued), 1424 and 1400 are accepted; the packets emitted, with the MTU
in force: the theorem `C10_core_every_output_within_mtu` is about a non-empty trace -/
example : (trace (Kcp.new 7) c10hist).map (fun p => (p.1, p.2.length)) = [(1424, 1400), (1400, 1400)]
    ∧ anyPanic (Kcp.new 7) c10hist = false := c10Hist_run.1
example : (run (Kcp.new 7) c10hist).snd_buf.length = 1 ∧ (run (Kcp.new 7) c10hist).snd_queue.length = 2
    ∧ InvMss (run (Kcp.new 7) c10hist) :=
  ⟨c10Hist_run.2.1, c10Hist_run.2.2, C10_core_reachable_InvMss 7 c10hist⟩

/-- the accumulator invariant of `C10_core_makeSpace` on a concrete accumulator: 1390 pending bytes, a request
for 24 more at MTU 1400 emits them (non-empty, within the MTU) -/
example : ((⟨Kcp.new 7, List.replicate 1390 0, [], false⟩ : Fl).makeSpace 24).outs.map List.length = [1390] := by
  decide +kernel
example : FlOk 1400 (⟨Kcp.new 7, List.replicate 1390 0, [], false⟩ : Fl) :=
  ⟨by decide +kernel, by decide +kernel, by decide +kernel, (by intro o ho; cases ho), rfl⟩

end KcpVerif.Props
