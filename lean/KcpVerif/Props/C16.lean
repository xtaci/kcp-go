/-
C16 — FEC ratio mismatch / auto-tune convergence (DESIGN 7.16): the period detector of `Model/AutoTune`
(autotune.go) and the tuning branch of `Model/Fec.Decoder.decode` (fec.go).  In order: the detector is sound and
complete on a window that is one in-order run; the ring holds only the run after 258 samples; a decoder with the
sender's ratio never starts tuning (`stable`); a packet that contradicts the ratio enters the tuning branch,
which adopts exactly the detected ratio; every row of the coding matrix sums to one, so a wrong-code
reconstruction looks genuine — and the witness that one happens (D10).
-/
import KcpVerif.Lemmas.AutoTune
import KcpVerif.Lemmas.FecSets
import KcpVerif.Lemmas.RSBridge
import KcpVerif.Model.Fec
import Mathlib.Algebra.BigOperators.Group.Finset.Basic

namespace KcpVerif.Props
open KcpVerif.Gen KcpVerif.AutoTune KcpVerif.Fec KcpVerif.Lemmas.AutoTune

theorem C16_aux_count_small {t : Tune} (hl : t.count ≤ maxAutoTuneSamples) : t.count ≤ 2 ^ 31 := by
  have : maxAutoTuneSamples ≤ 2 ^ 31 := by decide
  omega

/-- `findPeriod_sound`: on a window that is one in-order run of a d/p sender the detector returns
    −1 or the true width — never a truncated pulse. -/
theorem C16_findPeriod_sound {d p s : Nat} {t : Tune} (hd : 0 < d) (hp : 0 < p)
    (hc : 3 ≤ t.count) (hl : t.count ≤ maxAutoTuneSamples)
    (hw : t.window = run d p s t.count) (h : s + t.count ≤ 2 ^ 32) :
    (t.findPeriod true = -1 ∨ t.findPeriod true = (d : Int)) ∧
    (t.findPeriod false = -1 ∨ t.findPeriod false = (p : Int)) := by
  have hl' := C16_aux_count_small hl
  rw [findPeriod_run hc hw hl' true, findPeriod_run hc hw hl' false]
  exact ⟨period_run_sound hd hp true s t.count, period_run_sound hd hp false s t.count⟩

/-- `findPeriod_complete`, as an equivalence: a width is found iff the first complete pulse after the
    window start and the id after it lie inside the window. -/
theorem C16_findPeriod_complete {d p s : Nat} {t : Tune} (hd : 0 < d) (hp : 0 < p)
    (hc : 3 ≤ t.count) (hl : t.count ≤ maxAutoTuneSamples)
    (hw : t.window = run d p s t.count) (h : s + t.count ≤ 2 ^ 32) :
    (t.findPeriod true = (d : Int) ↔ (s + ((d + p) - s % (d + p))) + d < s + t.count) ∧
    (t.findPeriod false = (p : Int) ↔
      (if s % (d + p) < d then s + (d - s % (d + p)) else s + ((d + p) - s % (d + p)) + d) + p
        < s + t.count) := by
  have hl' := C16_aux_count_small hl
  rw [findPeriod_run hc hw hl' true, findPeriod_run hc hw hl' false]
  exact ⟨period_run_true_iff hd hp s t.count, period_run_false_iff hd hp s t.count⟩

-- non-vacuity: a fresh ring fed 20 samples of a 3/2 sender from id 7 finds both widths
example : (feed Tune.init (run 3 2 7 20)).findPeriod true = 3 ∧
          (feed Tune.init (run 3 2 7 20)).findPeriod false = 2 := by
  have h := C16_findPeriod_complete (d := 3) (p := 2) (s := 7) (t := feed Tune.init (run 3 2 7 20))
    (by decide) (by decide) (by decide +kernel) (by decide +kernel) (by decide +kernel) (by decide +kernel)
  exact ⟨h.1.mpr (by decide +kernel), h.2.mpr (by decide +kernel)⟩

/-- a window of 258 ids that starts at the last id of a group contains both complete pulses: why
    `d + p + 2 ≤ 258` suffices -/
theorem C16_aux_aligned {d p w : Nat} (hp : 0 < p) (hn : d + p + 2 ≤ maxAutoTuneSamples)
    (hal : w % (d + p) = d + p - 1) :
    (w + ((d + p) - w % (d + p))) + d < w + maxAutoTuneSamples ∧
    (if w % (d + p) < d then w + (d - w % (d + p)) else w + ((d + p) - w % (d + p)) + d) + p
      < w + maxAutoTuneSamples := by
  rw [if_neg (by omega), hal]
  omega

theorem C16_findPeriod_complete_aligned {d p s : Nat} {t : Tune} (hd : 0 < d) (hp : 0 < p)
    (hn : d + p + 2 ≤ maxAutoTuneSamples) (hcnt : t.count = maxAutoTuneSamples)
    (hw : t.window = run d p s t.count) (h : s + t.count ≤ 2 ^ 32)
    (hal : s % (d + p) = d + p - 1) :
    t.findPeriod true = (d : Int) ∧ t.findPeriod false = (p : Int) := by
  have hM : 3 ≤ maxAutoTuneSamples := by decide
  obtain ⟨h1, h2⟩ := C16_findPeriod_complete hd hp (hcnt ▸ hM) (Nat.le_of_eq hcnt) hw h
  rw [hcnt] at h1 h2
  obtain ⟨a1, a2⟩ := C16_aux_aligned hp hn hal
  exact ⟨h1.mpr a1, h2.mpr a2⟩

-- This and the other theorems of Props/C16*.lean that restate a lemma under a second name, or that nothing
-- uses, are names that the list of required theorems in props/C16.json asks for.
theorem C16_aux_window_length (t : Tune) : t.window.length = t.count := window_length t

theorem C16_aux_feed_window_gen {t : Tune} (h : t.WF) (l : List Pulse) :
    (feed t l).count = min (t.count + l.length) maxAutoTuneSamples ∧
    (feed t l).window = (t.window ++ l).drop (t.count + l.length - maxAutoTuneSamples) :=
  feed_window h l

theorem C16_aux_run_drop (d p : Nat) : ∀ (k s len : Nat), (run d p s len).drop k = run d p (s + k) (len - k) :=
  run_drop d p

/-- `≤ 258 packets until the ring holds only the run`: from ANY ring state, whatever was sampled before
    (loss, duplicates, reordering, other ratios, forged ids) has left the window. -/
theorem C16_window_flushes {t : Tune} (h : t.WF) (d p s len : Nat) (hlen : maxAutoTuneSamples ≤ len) :
    (feed t (run d p s len)).count = maxAutoTuneSamples ∧
    (feed t (run d p s len)).window = run d p (s + (len - maxAutoTuneSamples)) maxAutoTuneSamples := by
  obtain ⟨hc, hw⟩ := feed_window h (run d p s len)
  have hcount := h.count_le
  rw [length_run] at hc hw
  refine ⟨by omega, ?_⟩
  rw [hw]
  have hsplit : t.count + len - maxAutoTuneSamples = t.window.length + (len - maxAutoTuneSamples) := by
    rw [window_length]; omega
  rw [hsplit, ← List.drop_drop, List.drop_left' rfl, run_drop]
  have e : len - (len - maxAutoTuneSamples) = maxAutoTuneSamples := by omega
  rw [e]

-- non-vacuity: a ring that already holds junk, then 300 samples of a 3/2 sender
example : (feed (feed Tune.init [⟨true, 99#32⟩, ⟨false, 5#32⟩, ⟨true, 5#32⟩]) (run 3 2 10 300)).window
    = run 3 2 52 258 :=
  (C16_window_flushes (wf_feed _ wf_init) 3 2 10 300 (by decide)).2

/-- the packet's type agrees with its position under the decoder's ratio: true of every genuine packet of a
    sender with that ratio, whatever its id (C07 `wrap_groups`: `seqid % n` is the shard index, also
    across the wrap) -/
def TypeMatches (dec : Decoder) (inp : Bytes) : Prop :=
  (posOf dec.n inp < dec.d ∧ flag inp = typeData) ∨ (¬ posOf dec.n inp < dec.d ∧ flag inp = typeParity)

theorem C16_aux_mismatch_false {dec : Decoder} {inp : Bytes} (h : TypeMatches dec inp) :
    mismatch dec inp = false :=
  Lemmas.FecDec.mismatch_eq_false h

theorem C16_aux_mismatch_true {dec : Decoder} {inp : Bytes} (h : ¬ TypeMatches dec inp)
    (hf : flag inp = typeData ∨ flag inp = typeParity) : mismatch dec inp = true :=
  Lemmas.FecDec.mismatch_eq_true h hf

/-- the four ways through `decode`; the shard-set branch writes only `sets` and `newest` besides the sample -/
theorem C16_decode_cases (C : CodecNew) (dec : Decoder) (inp : Bytes) :
    (inp.length < fecHeaderSize ∧ dec.decode C inp = { st := dec, recovered := [], panic := true }) ∨
    (fecHeaderSize ≤ inp.length ∧
      ((dec.paws.toNat ≤ (seqid inp).toNat ∧ dec.decode C inp =
          { st := { dec with tune := dec.tune.sample (flag inp == typeData) (seqid inp) },
            recovered := [] }) ∨
       ((seqid inp).toNat < dec.paws.toNat ∧
        (((mismatch dec inp || dec.shouldTune) = true ∧ dec.decode C inp =
            { st := retune C { dec with tune := dec.tune.sample (flag inp == typeData) (seqid inp) }
                (seqid inp),
              recovered := [] }) ∨
         ((mismatch dec inp || dec.shouldTune) = false ∧ ∃ sets newest rec pn, dec.decode C inp =
            { st := { dec with tune := dec.tune.sample (flag inp == typeData) (seqid inp),
                               sets := sets, newest := newest },
              recovered := rec, panic := pn }))))) := by
  rcases Lemmas.FecDec.decode_cases C dec inp with h | ⟨h1, h2, e⟩ | ⟨h1, h2, h3, e⟩ | ⟨h1, h2, h3, e⟩
  · exact Or.inl h
  · exact Or.inr ⟨h1, Or.inl ⟨h2, e⟩⟩
  · exact Or.inr ⟨h1, Or.inr ⟨h2, Or.inl ⟨h3, e⟩⟩⟩
  · refine Or.inr ⟨h1, Or.inr ⟨h2, Or.inr ⟨h3, ?_⟩⟩⟩
    rw [e, Lemmas.FecDec.place_eq _ _ rfl rfl]
    split <;> exact ⟨_, _, _, _, rfl⟩

theorem C16_decode_elim (C : CodecNew) (dec : Decoder) (inp : Bytes) {P : DecOut → Prop}
    (short : inp.length < fecHeaderSize → P { st := dec, recovered := [], panic := true })
    (drop : fecHeaderSize ≤ inp.length → dec.paws.toNat ≤ (seqid inp).toNat →
      P { st := { dec with tune := dec.tune.sample (flag inp == typeData) (seqid inp) }, recovered := [] })
    (tune : fecHeaderSize ≤ inp.length → (seqid inp).toNat < dec.paws.toNat →
      (mismatch dec inp || dec.shouldTune) = true →
      P { st := retune C { dec with tune := dec.tune.sample (flag inp == typeData) (seqid inp) } (seqid inp),
          recovered := [] })
    (place : fecHeaderSize ≤ inp.length → (seqid inp).toNat < dec.paws.toNat →
      (mismatch dec inp || dec.shouldTune) = false → ∀ sets newest rec pn,
      P { st := { dec with tune := dec.tune.sample (flag inp == typeData) (seqid inp),
                           sets := sets, newest := newest },
          recovered := rec, panic := pn }) :
    P (dec.decode C inp) := by
  refine Lemmas.FecDec.decode_ind C dec inp short drop tune fun h1 h2 h3 => ?_
  rw [Lemmas.FecDec.place_eq _ _ rfl rfl]
  split <;> exact place h1 h2 h3 _ _ _ _

theorem C16_enters_tuning (C : CodecNew) (dec : Decoder) (inp : Bytes)
    (hlen : fecHeaderSize ≤ inp.length) (hpaws : (seqid inp).toNat < dec.paws.toNat)
    (h : (mismatch dec inp || dec.shouldTune) = true) :
    dec.decode C inp =
      { st := retune C { dec with tune := dec.tune.sample (flag inp == typeData) (seqid inp) } (seqid inp),
        recovered := [] } := by
  rcases Lemmas.FecDec.decode_cases C dec inp with ⟨h1, _⟩ | ⟨_, h2, _⟩ | ⟨_, _, _, e⟩ | ⟨_, _, h3, _⟩
  · omega
  · omega
  · exact e
  · exact Bool.noConfusion (h.symm.trans h3)

def sameConfig (a b : Decoder) : Prop :=
  a.d = b.d ∧ a.p = b.p ∧ a.n = b.n ∧ a.paws = b.paws ∧ a.shouldTune = b.shouldTune

theorem sameConfig.refl (a : Decoder) : sameConfig a a := ⟨rfl, rfl, rfl, rfl, rfl⟩

theorem sameConfig.trans {a b c : Decoder} (h1 : sameConfig a b) (h2 : sameConfig b c) :
    sameConfig a c := by
  obtain ⟨a1, a2, a3, a4, a5⟩ := h1
  obtain ⟨b1, b2, b3, b4, b5⟩ := h2
  exact ⟨a1.trans b1, a2.trans b2, a3.trans b3, a4.trans b4, a5.trans b5⟩

/-- `stable`, one packet (ANY packet whose type matches its position). -/
theorem C16_stable_step (C : CodecNew) (dec : Decoder) (inp : Bytes)
    (ht : dec.shouldTune = false) (hm : TypeMatches dec inp) :
    sameConfig (dec.decode C inp).st dec := by
  have ⟨h1, h2, h3, h4, _, h6⟩ := Lemmas.FecDec.decode_keeps C dec inp
    (by rw [C16_aux_mismatch_false hm, ht]; rfl)
  exact ⟨h1, h2, h3, h4, h6⟩

def feedPackets (C : CodecNew) (dec : Decoder) (pkts : List Bytes) : Decoder :=
  pkts.foldl (fun s q => (s.decode C q).st) dec

/-- `stable`: with matching configuration no sequence of packets whose types match their positions — every
    genuine packet of the peer, lost, duplicated or reordered in any way, also around the wrap — ever sets
    `shouldTune` or changes the ratio.  (The position test uses the decoder's own `n`, which the theorem
    shows to be constant along the history.) -/
theorem C16_stable (C : CodecNew) (dec : Decoder) (pkts : List Bytes)
    (ht : dec.shouldTune = false)
    (hm : ∀ q ∈ pkts, (posOf dec.n q < dec.d ∧ flag q = typeData) ∨
                       (¬ posOf dec.n q < dec.d ∧ flag q = typeParity)) :
    sameConfig (feedPackets C dec pkts) dec := by
  refine foldl_inv_mem (P := fun st => sameConfig st dec) pkts (fun st q hq hst => ?_) dec
    (sameConfig.refl dec)
  have ⟨e1, _, e3, _, e5⟩ := hst
  exact (C16_stable_step C st q (e5.trans ht) (by unfold TypeMatches; rw [e1, e3]; exact hm q hq)).trans hst

-- non-vacuity: a 2/1 decoder and the three packet headers of a group (ids 0,1 data, id 2 parity)
example : ∀ q ∈ [[0,0,0,0,0xf1,0,9,9], [1,0,0,0,0xf1,0,9,9], [2,0,0,0,0xf2,0,9,9]],
    (posOf 3 q < 2 ∧ flag q = typeData) ∨ (¬ posOf 3 q < 2 ∧ flag q = typeParity) := by decide +kernel

/-- `mismatch_detected`, arithmetic part: two different ratios disagree on the type of some id
    among ANY `2(d+p)` consecutive ids. -/
theorem C16_mismatch_detected {d p d' p' : Nat} (hd : 0 < d) (hp : 0 < p) (hd' : 0 < d') (hp' : 0 < p')
    (hne : (d', p') ≠ (d, p)) (s : Nat) :
    ∃ k, s ≤ k ∧ k < s + 2 * (d + p) ∧ label d p k ≠ label d' p' k :=
  mismatch_detect hd hp hd' hp' hne s

theorem C16_aux_agree {d p d' p' : Nat} (hd : 0 < d) (hp : 0 < p) (hd' : 0 < d') (hp' : 0 < p')
    (s : Nat) (h : ∀ i, i < 2 * (d + p) → label d p (s + i) = label d' p' (s + i)) :
    d' = d ∧ p' = p :=
  agree_ratio hd hp hd' hp' s fun k h1 h2 => by
    have := h (k - s) (by omega)
    rwa [show s + (k - s) = k by omega] at this

/-- `mismatch_detected`, decoder part: a data/parity packet below `paws'` whose type contradicts its
    position sends `decode` into the tuning branch, whatever the state. -/
theorem C16_mismatch_enters_tuning (C : CodecNew) (dec : Decoder) (inp : Bytes)
    (hlen : fecHeaderSize ≤ inp.length) (hpaws : (seqid inp).toNat < dec.paws.toNat)
    (hf : flag inp = typeData ∨ flag inp = typeParity) (hm : ¬ TypeMatches dec inp) :
    (dec.decode C inp).recovered = [] ∧
    (dec.decode C inp).st =
      retune C { dec with tune := dec.tune.sample (flag inp == typeData) (seqid inp) } (seqid inp) := by
  rw [C16_enters_tuning C dec inp hlen hpaws (by rw [C16_aux_mismatch_true hm hf]; rfl)]
  exact ⟨rfl, rfl⟩

theorem C16_aux_retune_fail (C : CodecNew) (dec : Decoder) (seq : BitVec 32)
    (h : ¬ (0 < dec.tune.findPeriod true ∧ 0 < dec.tune.findPeriod false ∧
            dec.tune.findPeriod true + dec.tune.findPeriod false < 256)) :
    retune C dec seq = { dec with shouldTune := true } :=
  (Lemmas.FecDec.retune_cases C dec seq).elim (·.2) fun h' => absurd h'.1 h

theorem C16_retune_eq (C : CodecNew) (dec : Decoder) (seq : BitVec 32) :
    (¬ (0 < dec.tune.findPeriod true ∧ 0 < dec.tune.findPeriod false ∧
          dec.tune.findPeriod true + dec.tune.findPeriod false < 256) ∧
      retune C dec seq = { dec with shouldTune := true }) ∨
    ((0 < dec.tune.findPeriod true ∧ 0 < dec.tune.findPeriod false ∧
          dec.tune.findPeriod true + dec.tune.findPeriod false < 256) ∧
      ((dec.tune.findPeriod true = dec.d ∧ dec.tune.findPeriod false = dec.p ∧
          retune C dec seq = { dec with shouldTune := false }) ∨
       ((dec.tune.findPeriod true ≠ dec.d ∨ dec.tune.findPeriod false ≠ dec.p) ∧
          retune C dec seq =
            { dec with d := (dec.tune.findPeriod true).toNat, p := (dec.tune.findPeriod false).toNat,
                       n := (dec.tune.findPeriod true).toNat + (dec.tune.findPeriod false).toNat,
                       paws := pawsOf ((dec.tune.findPeriod true).toNat + (dec.tune.findPeriod false).toNat),
                       sets := [],
                       codec := C (dec.tune.findPeriod true).toNat (dec.tune.findPeriod false).toNat,
                       shouldTune := false,
                       newest := seq / u32 ((dec.tune.findPeriod true).toNat +
                         (dec.tune.findPeriod false).toNat) }))) :=
  Lemmas.FecDec.retune_cases C dec seq

/-- `mismatch_detected`, last clause: in the tuning branch `shouldTune` stays set until a consistent period
    is found. -/
theorem C16_retune_cases (C : CodecNew) (dec : Decoder) (seq : BitVec 32) :
    ((retune C dec seq).shouldTune = true ∧ (retune C dec seq).d = dec.d ∧ (retune C dec seq).p = dec.p) ∨
    ((retune C dec seq).shouldTune = false ∧ ((retune C dec seq).d : Int) = dec.tune.findPeriod true ∧
      ((retune C dec seq).p : Int) = dec.tune.findPeriod false ∧ 0 < (retune C dec seq).d ∧
      0 < (retune C dec seq).p ∧ (retune C dec seq).d + (retune C dec seq).p < 256) := by
  rcases C16_retune_eq C dec seq with ⟨_, e⟩ | ⟨⟨h1, h2, h3⟩, ⟨e1, e2, e⟩ | ⟨_, e⟩⟩
  · rw [e]
    exact Or.inl ⟨rfl, rfl, rfl⟩
  · rw [e]
    refine Or.inr ⟨rfl, e1.symm, e2.symm, ?_, ?_, ?_⟩
    all_goals (dsimp only; omega)
  · rw [e]
    refine Or.inr ⟨rfl, ?_, ?_, ?_, ?_, ?_⟩
    all_goals (dsimp only; omega)

/-- `retune_adopts`: on a window that is an in-order run of a d/p sender with both complete pulses inside
    (`d + p < 256`) the tuning branch adopts exactly (d, p), clears `shouldTune`, and — if that changed the
    ratio — empties the shard sets, rebuilds `paws` and re-bases `newestShardId` on the current packet. -/
theorem C16_retune_adopts (C : CodecNew) (dec : Decoder) (seq : BitVec 32) {d p s : Nat}
    (hd : 0 < d) (hp : 0 < p) (hn : d + p < 256)
    (hc : 3 ≤ dec.tune.count) (hl : dec.tune.count ≤ maxAutoTuneSamples)
    (hw : dec.tune.window = run d p s dec.tune.count) (h : s + dec.tune.count ≤ 2 ^ 32)
    (h1 : (s + ((d + p) - s % (d + p))) + d < s + dec.tune.count)
    (h2 : (if s % (d + p) < d then s + (d - s % (d + p)) else s + ((d + p) - s % (d + p)) + d) + p
        < s + dec.tune.count) :
    (retune C dec seq).d = d ∧ (retune C dec seq).p = p ∧ (retune C dec seq).shouldTune = false ∧
    ((dec.d, dec.p) ≠ (d, p) →
      (retune C dec seq).sets = [] ∧ (retune C dec seq).n = d + p ∧
      (retune C dec seq).paws = pawsOf (d + p) ∧ (retune C dec seq).newest = seq / u32 (d + p)) := by
  obtain ⟨c1, c2⟩ := C16_findPeriod_complete hd hp hc hl hw h
  have e1 := c1.mpr h1
  have e2 := c2.mpr h2
  have t1 : (dec.tune.findPeriod true).toNat = d := by rw [e1]; rfl
  have t2 : (dec.tune.findPeriod false).toNat = p := by rw [e2]; rfl
  rcases C16_retune_eq C dec seq with ⟨hv, _⟩ | ⟨_, ⟨f1, f2, e⟩ | ⟨_, e⟩⟩
  · rw [e1, e2] at hv
    omega
  · have g1 : dec.d = d := by omega
    have g2 : dec.p = p := by omega
    rw [e]
    exact ⟨g1, g2, rfl, fun hne => absurd (by rw [g1, g2]) hne⟩
  · rw [e, t1, t2]
    exact ⟨rfl, rfl, rfl, fun _ => ⟨rfl, rfl, rfl, rfl⟩⟩

def runPulses (d p s len : Nat) : List Pulse := run d p s len

/-- `converges` at full strength (NOT proved, and false near the receiver's wrap — D9): from any
    decoder state, after an uninterrupted in-order run of at most `258 + 2(d+p)` genuine packets of
    a `d/p` sender (`d + p ≤ 255`) the decoder has the sender's ratio and is not tuning. -/
def C16_converges_full : Prop :=
  ∀ (C : CodecNew) (dec : Decoder) (d p : Nat) (pkts : List Bytes) (s : Nat),
    dec.tune.WF → 0 < d → 0 < p → d + p ≤ 255 → s + pkts.length ≤ 2 ^ 32 →
    pkts.length = maxAutoTuneSamples + 2 * (d + p) →
    (∀ i (h : i < pkts.length), fecHeaderSize ≤ pkts[i].length ∧ seqid pkts[i] = BitVec.ofNat 32 (s + i) ∧
        flag pkts[i] = (if label d p (s + i) then typeData else typeParity)) →
    ∃ k ≤ pkts.length, (feedPackets C dec (pkts.take k)).d = d ∧ (feedPackets C dec (pkts.take k)).p = p ∧
      (feedPackets C dec (pkts.take k)).shouldTune = false

/-- `converges`, one step of it: a decoder in ANY state whose ring is well formed has been fed an in-order
    run of at least 258 samples of a d/p sender; if it is then in the tuning branch and both complete pulses
    lie inside the window, it adopts (d, p) and stops tuning. -/
theorem C16_converges_partial (C : CodecNew) (dec : Decoder) (seq : BitVec 32) {d p s len : Nat}
    (hwf : dec.tune.WF) (hd : 0 < d) (hp : 0 < p) (hn : d + p < 256)
    (hlen : maxAutoTuneSamples ≤ len) (h32 : s + len ≤ 2 ^ 32)
    (h1 : (s + (len - maxAutoTuneSamples) + ((d + p) - (s + (len - maxAutoTuneSamples)) % (d + p))) + d
            < s + len)
    (h2 : (if (s + (len - maxAutoTuneSamples)) % (d + p) < d
            then s + (len - maxAutoTuneSamples) + (d - (s + (len - maxAutoTuneSamples)) % (d + p))
            else s + (len - maxAutoTuneSamples) + ((d + p) - (s + (len - maxAutoTuneSamples)) % (d + p)) + d) + p
            < s + len) :
    let dec' := retune C { dec with tune := feed dec.tune (run d p s len) } seq
    dec'.d = d ∧ dec'.p = p ∧ dec'.shouldTune = false := by
  intro dec'
  obtain ⟨hc, hw⟩ := C16_window_flushes hwf d p s len hlen
  have hM : 3 ≤ maxAutoTuneSamples := by decide
  have e : s + (len - maxAutoTuneSamples) + maxAutoTuneSamples = s + len := by omega
  have r := C16_retune_adopts C { dec with tune := feed dec.tune (run d p s len) } seq
    (d := d) (p := p) (s := s + (len - maxAutoTuneSamples)) hd hp hn
    (hc ▸ hM) (Nat.le_of_eq hc) (hc.symm ▸ hw) (by rw [hc, e]; exact h32)
    (by rw [hc, e]; exact h1) (by rw [hc, e]; exact h2)
  exact ⟨r.1, r.2.1, r.2.2.1⟩

/-! ## why a wrong-code reconstruction looks genuine: rows sum to 1 -/

open KcpVerif.Lemmas.RS in
/-- `rows_sum_one`, any field: every row of the systematic Vandermonde matrix `V·(V_top)⁻¹` sums to
    1, hence every parity symbol of data symbols that all equal `a` is `a` — right or wrong code. -/
theorem C16_rows_sum_one {F : Type*} [Field F] {d n : ℕ} (h : d ≤ n) {x : Fin n → F}
    (hx : Function.Injective x) (hd : 0 < d) (r : Fin n) :
    (∑ c, sysMatrix h x r c = 1) ∧ ∀ a : F, (Matrix.mulVec (sysMatrix h x) fun _ => a) r = a :=
  ⟨rows_sum_one h hx hd r, fun a => encode_const h hx hd a r⟩

open KcpVerif.Lemmas.RSRows KcpVerif.Lemmas.GF256 in
theorem C16_aux_xor_fold (row : List UInt8) (a : UInt8) :
    GF.of (row.foldl (· ^^^ ·) a) = GF.of a + ∑ j ∈ Finset.range row.length, ent row j := by
  induction row generalizing a with
  | nil => exact (add_zero _).symm
  | cons x r ih =>
    rw [List.foldl_cons, ih, List.length_cons, Finset.sum_range_succ', add_comm _ (ent (x :: r) 0),
      ← add_assoc]
    rfl

open KcpVerif.Lemmas.RSBridge in
/-- the same on the executable GF(2^8) matrices (klauspost `buildMatrix`), every ratio the FEC layer accepts -/
theorem C16_rows_sum_one_exec {d p : Nat} (hd : 0 < d) (hn : d + p ≤ 256) :
    ∀ row ∈ RS.buildMatrix d (d + p), row.foldl (· ^^^ ·) 0 = 1 := by
  intro row hrow
  obtain ⟨hl, hs⟩ := buildMatrix_row_sum hd hn row hrow
  have h := C16_aux_xor_fold row 0
  rw [hl, hs] at h
  exact h.trans (zero_add 1)

theorem C16_rows_sum_one_gf256 :
    ∀ d ∈ List.range 7, ∀ p ∈ List.range 7, 0 < d → 0 < p →
      (RS.buildMatrix d (d + p)).all (fun row => row.foldl (· ^^^ ·) 0 == 1) = true := by
  intro d hd p hp hd0 _
  have hd7 := List.mem_range.mp hd
  have hp7 := List.mem_range.mp hp
  rw [List.all_eq_true]
  intro row hrow
  exact beq_iff_eq.mpr (C16_rows_sum_one_exec hd0 (by omega) row hrow)

/-! ## the intact-under-mismatch clause is false (D10) -/

/-- wire packets (from the FEC header on) a fresh `sd/sp` sender emits for the payloads, in order,
    parity always generated (header offset 0) -/
def senderPackets (sd sp : Nat) (payloads : List Bytes) : List Bytes :=
  match Encoder.new rsNew sd sp 0 with
  | none => []
  | some e =>
    (payloads.foldl (fun (acc : Encoder × List Bytes) pl =>
        ((acc.1.encode (List.replicate fecHeaderSizePlus2 0 ++ pl) true).st,
         acc.2 ++ [(acc.1.encode (List.replicate fecHeaderSizePlus2 0 ++ pl) true).data]
               ++ (acc.1.encode (List.replicate fecHeaderSizePlus2 0 ++ pl) true).parity)) (e, [])).2

/-- everything a fresh `rd/rp` decoder returns when fed the packets -/
def receive (rd rp : Nat) (pkts : List Bytes) : List Bytes :=
  match Decoder.new rsNew rd rp with
  | none => []
  | some dec =>
    (pkts.foldl (fun (acc : Decoder × List Bytes) q =>
        ((acc.1.decode rsNew q).st, acc.2 ++ (acc.1.decode rsNew q).recovered)) (dec, [])).2

/-- a returned shard is harmless if `kcpInput` drops it or it is one of the sender's datagrams -/
def harmless (payloads : List Bytes) (r : Bytes) : Prop :=
  match trim r with
  | some x => x ∈ payloads
  | none => True

instance (payloads : List Bytes) (r : Bytes) : Decidable (harmless payloads r) := by
  unfold harmless; split <;> infer_instance

/-- the property's first clause at full strength: whatever the two ratios, whatever subset of the
    sender's packets arrives in whatever order, everything the decoder hands to KCP is one of the
    sender's datagrams.  (With matching ratios this is C07 `dec_sound`.) -/
def C16_intact_full : Prop :=
  ∀ (sd sp rd rp : Nat) (payloads : List Bytes) (arrivals : List Nat),
    ∀ r ∈ receive rd rp (arrivals.filterMap fun i => (senderPackets sd sp payloads)[i]?),
      harmless payloads r

/-- three same-size KCP PUSH segments of one conversation: conv 0x44332211, cmd 81, wnd 128,
    sn 0,1,2, len 2, two data bytes each -/
def d10Payloads : List Bytes :=
  [[0x11,0x22,0x33,0x44, 81, 0, 128,0, 7,0,0,0, 0,0,0,0, 0,0,0,0, 2,0,0,0, 0xAA,0xBB],
   [0x11,0x22,0x33,0x44, 81, 0, 128,0, 7,0,0,0, 1,0,0,0, 0,0,0,0, 2,0,0,0, 0xCC,0xDD],
   [0x11,0x22,0x33,0x44, 81, 0, 128,0, 7,0,0,0, 2,0,0,0, 0,0,0,0, 2,0,0,0, 0xEE,0xFF]]

/-- D10 on the model: sender 3/1, receiver 2/2; ids 0 (data, sn 0) and 3 (the parity packet)
    arrive.  The decoder returns one shard; it passes the size check and is a PUSH segment of the
    same conversation with sn = 1 and len = 2 whose data bytes are NOT those of the sender's sn 1. -/
theorem C16_mismatch_corrupts_witness :
    ∃ x, (receive 2 2 ([0, 3].filterMap fun i => (senderPackets 3 1 d10Payloads)[i]?)).map trim = [some x] ∧
      x.take 8 = [0x11,0x22,0x33,0x44, 81, 0, 128,0] ∧ (x.drop 12).take 4 = [1,0,0,0] ∧
      (x.drop 20).take 4 = [2,0,0,0] ∧ x.length = 26 ∧ x ∉ d10Payloads := by
  refine ⟨[17, 34, 51, 68, 81, 0, 128, 0, 7, 0, 0, 0, 1, 0, 0, 0, 0, 0, 0, 0, 2, 0, 0, 0, 180, 165], ?_⟩
  decide +kernel

/-- `mismatch_corrupts`: the intact clause does not hold. -/
theorem C16_mismatch_corrupts : ¬ C16_intact_full := by
  intro h
  obtain ⟨x, hx, _, _, _, _, hnot⟩ := C16_mismatch_corrupts_witness
  have hall := h 3 1 2 2 d10Payloads [0, 3]
  generalize receive 2 2 ([0, 3].filterMap fun i => (senderPackets 3 1 d10Payloads)[i]?) = L at hx hall
  cases L with
  | nil => cases hx
  | cons r rest =>
    have ht : trim r = some x := (List.cons.inj hx).1
    have hr := hall r (List.mem_cons_self ..)
    simp only [harmless, ht] at hr
    exact hnot hr

/-- what does hold (`intact`, partial): as long as the decoder is tuning it returns nothing, in any
    state, for any packet — reconstruction is suspended until a consistent period has been found. -/
theorem C16_intact_partial (C : CodecNew) (dec : Decoder) (inp : Bytes) (ht : dec.shouldTune = true) :
    (dec.decode C inp).recovered = [] := by
  refine C16_decode_elim C dec inp (P := fun o => o.recovered = []) (fun _ => rfl) (fun _ _ => rfl)
    (fun _ _ _ => rfl) (fun _ _ h => ?_)
  rw [ht, Bool.or_true] at h
  exact Bool.noConfusion h

end KcpVerif.Props
