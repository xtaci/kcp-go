import KcpVerif.Lemmas.C01Msg
/-!
C01 — message-mode composition (`C01_core_msg`, DESIGN.md 7.1 and 13): for two fresh cores, the
writer in message mode, under the same replay-only network as `C01_core`, the list of messages
returned by the reader's successful `Recv` calls is a prefix of the list of messages the writer's
`Send` accepted — each message with its original boundaries.

Range hypothesis: the writer has numbered fewer than 2^32 segments (`C01_core` needs `≤ 2^32` on both
sides; here the strict bound on the writer's side implies the reader's, see `C01_reader_behind`).
-/
namespace KcpVerif.Props
open KcpVerif.Kcp KcpVerif.Recv KcpVerif.C01

/-- **The reader never runs ahead of the writer** (any mode).  In the closed system of `C01_core`
the number `n` of segments the reader has accepted in order (`rcv_nxt = sn0 + n`, `n = |dl| + |rcv_queue|`)
is at most the number of segments the writer has numbered, and what the reader holds is literally
the first `n` entries of the writer's log. -/
theorem C01_reader_behind (kA kB : Kcp) (hA : Fresh kA) (hB : Fresh kB) (hsn : kB.rcv_nxt = kA.snd_nxt)
    (ops : List SOp)
    (hLa : (srun ⟨{ k := kA }, { k := kB }⟩ ops).A.log.length < 2 ^ 32) :
    (srun ⟨{ k := kA }, { k := kB }⟩ ops).B.dl.length + (srun ⟨{ k := kA }, { k := kB }⟩ ops).B.k.rcv_queue.length
        ≤ (srun ⟨{ k := kA }, { k := kB }⟩ ops).A.log.length ∧
      (srun ⟨{ k := kA }, { k := kB }⟩ ops).B.dl ++ (srun ⟨{ k := kA }, { k := kB }⟩ ops).B.k.rcv_queue.map content =
        (srun ⟨{ k := kA }, { k := kB }⟩ ops).A.log.take
          ((srun ⟨{ k := kA }, { k := kB }⟩ ops).B.dl.length + (srun ⟨{ k := kA }, { k := kB }⟩ ops).B.k.rcv_queue.length) := by
  have hinv := srun_inv ops _ (fresh_sysInv kA kB hA hB hsn)
  generalize srun ⟨{ k := kA }, { k := kB }⟩ ops = s at hinv hLa
  have hG := gOf_agree kA.snd_nxt s.A.log (by omega)
  obtain ⟨n, hn⟩ := hinv.rcv _ hG
  have hle := rcv_le_log hinv hLa hG hn
  have hc := hn.inv.count
  rw [← hc]
  exact ⟨hle, by rw [hn.inv.pre, gRange_agree hG n hle]⟩

/-- **`C01_core_msg`: the messages read are a prefix of the messages written, with their
boundaries.**  Two fresh cores `A` (writer, message mode: `stream = 0`, `mss > 0`) and `B` (reader)
with matching initial sequence numbers; ANY interleaving of arbitrary operations of `A` (including
`input` of arbitrary bytes), arbitrary non-`input` operations of `B`, and deliveries to `B` of any
datagram `A` has emitted so far (any later time, any multiplicity, any order, or never).  Range
hypothesis: `A` has numbered fewer than 2^32 segments.  Then the list of byte strings returned by
`B`'s successful `Recv` calls is a prefix of the list of buffers `A`'s `Send` accepted (return 0). -/
theorem C01_core_msg (kA kB : Kcp) (hA : Fresh kA) (hB : Fresh kB) (hsn : kB.rcv_nxt = kA.snd_nxt)
    (hm : 0 < kA.mss.toNat) (hst : kA.stream = 0) (ops : List SOp)
    (hLa : (srun ⟨{ k := kA }, { k := kB }⟩ ops).A.log.length < 2 ^ 32) :
    (srun ⟨{ k := kA }, { k := kB }⟩ ops).B.got <+: (srun ⟨{ k := kA }, { k := kB }⟩ ops).A.accM := by
  have hinv := srun_msgInv ops _ (fresh_msgInv kA kB hA hB hsn hm hst)
  obtain ⟨_, _, _, h⟩ := hinv.result hLa
  exact ⟨_, h.symm⟩

/-- the sharper form: what `B` has read are exactly the messages formed by the first `|dl|` entries
of `A`'s log (`dl` = contents of the segments `B`'s `Recv` has consumed), which end on a message
boundary; what `A` has accepted beyond that are the messages formed by the rest of the log and the
queue -/
theorem C01_core_msg_exact (kA kB : Kcp) (hA : Fresh kA) (hB : Fresh kB) (hsn : kB.rcv_nxt = kA.snd_nxt)
    (hm : 0 < kA.mss.toNat) (hst : kA.stream = 0) (ops : List SOp)
    (hLa : (srun ⟨{ k := kA }, { k := kB }⟩ ops).A.log.length < 2 ^ 32) :
    (srun ⟨{ k := kA }, { k := kB }⟩ ops).B.got =
        grp ((srun ⟨{ k := kA }, { k := kB }⟩ ops).A.log.take (srun ⟨{ k := kA }, { k := kB }⟩ ops).B.dl.length) ∧
      (srun ⟨{ k := kA }, { k := kB }⟩ ops).A.accM =
        (srun ⟨{ k := kA }, { k := kB }⟩ ops).B.got ++
          grp ((srun ⟨{ k := kA }, { k := kB }⟩ ops).A.log.drop (srun ⟨{ k := kA }, { k := kB }⟩ ops).B.dl.length ++
            (srun ⟨{ k := kA }, { k := kB }⟩ ops).A.k.snd_queue.map content) := by
  have hinv := srun_msgInv ops _ (fresh_msgInv kA kB hA hB hsn hm hst)
  obtain ⟨_, _, h1, h2⟩ := hinv.result hLa
  exact ⟨h1, h2⟩

/-- **Writer's grouping lemma.**  In message mode, in every reachable state of one core (any
operations, any arguments), the buffers `Send` has accepted are exactly the messages obtained by
cutting `L ++ snd_queue` at the `frg = 0` boundaries, and that list ends on a boundary. -/
theorem C01_send_grouping (k0 : Kcp) (hf : Fresh k0) (hm : 0 < k0.mss.toNat) (hst : k0.stream = 0) (ops : List Op) :
    (run { k := k0 } ops).accM = grp ((run { k := k0 } ops).log ++ (run { k := k0 } ops).k.snd_queue.map content) ∧
      Closed ((run { k := k0 } ops).log ++ (run { k := k0 } ops).k.snd_queue.map content) := by
  have hi := run_invM ops _ (fresh_invM k0 hf hm hst)
  exact ⟨hi.m0.acc, closed_of_countOk _ hi.cnt⟩

/-- grouping is what it should be on an example: two fragments, a single, an unfinished tail -/
example : grp [(1, [1, 2]), (0, [3]), (0, [4]), (2, [5])] = [[1, 2, 3], [4]] := by decide

/-! ### non-vacuity: a closed message-mode run with a three-fragment message -/

/-- `A` (mtu 50, so `mss = 26`) sends a 60-byte message (fragments 2, 1, 0) and a 1-byte message and
flushes (four datagrams); the network delivers them out of order, one twice; `B` reads (the first
two `Recv` calls find no complete message). -/
def C01_exMsgSys : List SOp :=
  [.a (.setMtu 50), .a (.noDelay 1 10 2 1), .a (.send (List.replicate 60 7)), .a (.send [9]), .a (.flush true 0),
   .dlv 1 true false 0, .b (.recv 100), .dlv 0 true false 0, .dlv 1 true true 1, .dlv 3 true false 1,
   .b (.recv 100), .dlv 2 true false 1, .b (.recv 100), .b (.recv 100), .b (.recv 100)]

set_option maxRecDepth 1000000 in
example : Fresh (Kcp.new 7) ∧ (Kcp.new 7).stream = 0 ∧
    (srun ⟨{ k := Kcp.new 7 }, { k := Kcp.new 7 }⟩ C01_exMsgSys).A.log.map (·.1) = [2, 1, 0, 0] ∧
    (srun ⟨{ k := Kcp.new 7 }, { k := Kcp.new 7 }⟩ C01_exMsgSys).A.accM = [List.replicate 60 7, [9]] ∧
    (srun ⟨{ k := Kcp.new 7 }, { k := Kcp.new 7 }⟩ C01_exMsgSys).B.got = [List.replicate 60 7, [9]] ∧
    (srun ⟨{ k := Kcp.new 7 }, { k := Kcp.new 7 }⟩ C01_exMsgSys).A.dead = false ∧
    (srun ⟨{ k := Kcp.new 7 }, { k := Kcp.new 7 }⟩ C01_exMsgSys).B.dead = false := by
  refine ⟨fresh_new 7, by decide, by decide, by decide, by decide, by decide, by decide⟩

end KcpVerif.Props
