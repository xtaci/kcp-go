/-
Serial-number arithmetic.  kcp-go keeps sequence numbers and millisecond clocks in 32 bits and compares them through
the sign of their 32-bit difference (`_itimediff`).  A 32-bit value stands for an integer (`Rep a z`: `a ≡ z` modulo
2^32); sums and differences of values stand for those of the integers, and the signed difference of two values is the
difference of the integers when these are less than 2^31 apart (`toInt_sub_rep`), so a wrap-around fact is linear
arithmetic after a choice of integers.  No model is imported: `Model/Wrap` and `Model/AutoTune` each have an
`itimediff`, both with the body `(a - b).toInt`.  Core Lean only.
-/

namespace KcpVerif.Serial

def Rep (a : BitVec 32) (z : Int) : Prop := ((a.toNat : Int) - z) % 2 ^ 32 = 0

theorem Rep.self (a : BitVec 32) : Rep a a.toNat := by unfold Rep; omega

theorem Rep.ofNat (n : Nat) : Rep (BitVec.ofNat 32 n) n := by
  unfold Rep; rw [BitVec.toNat_ofNat]; omega

theorem Rep.add {a b : BitVec 32} {za zb : Int} (ha : Rep a za) (hb : Rep b zb) : Rep (a + b) (za + zb) := by
  unfold Rep at *
  rw [BitVec.toNat_add]
  omega

theorem Rep.sub {a b : BitVec 32} {za zb : Int} (ha : Rep a za) (hb : Rep b zb) : Rep (a - b) (za - zb) := by
  unfold Rep at *
  rw [BitVec.toNat_sub]
  omega

theorem Rep.inj {a b : BitVec 32} {z : Int} (ha : Rep a z) (hb : Rep b z) : a = b := by
  unfold Rep at ha hb
  apply BitVec.eq_of_toNat_eq
  have := a.isLt
  have := b.isLt
  omega

theorem Rep.toNat {a : BitVec 32} {z : Int} (h : Rep a z) (h0 : 0 ≤ z) (h1 : z < 2 ^ 32) : (a.toNat : Int) = z := by
  unfold Rep at h
  have := a.isLt
  omega

theorem toInt_sub_rep {a b : BitVec 32} {za zb : Int} (ha : Rep a za) (hb : Rep b zb)
    (h1 : -2 ^ 31 ≤ za - zb) (h2 : za - zb < 2 ^ 31) : (a - b).toInt = za - zb := by
  unfold Rep at ha hb
  rw [BitVec.toInt_eq_toNat_cond, BitVec.toNat_sub]
  have := a.isLt
  have := b.isLt
  split <;> omega

theorem rep_off (base x : BitVec 32) : Rep x (base.toNat + (x - base).toNat) := by
  have h := (Rep.self (x - base)).add (Rep.self base)
  have e : x - base + base = x := by bv_omega
  rw [e] at h
  unfold Rep at h ⊢
  omega

theorem off_of_rep {base x : BitVec 32} {n : Nat} (h : Rep x (base.toNat + n)) (hn : n < 2 ^ 32) : (x - base).toNat = n := by
  have h2 : Rep (x - base) n := by
    have := h.sub (Rep.self base)
    unfold Rep at this ⊢
    omega
  have := h2.toNat (by omega) (by omega)
  omega

theorem toInt_nonneg_iff (d : BitVec 32) : 0 ≤ d.toInt ↔ d.toNat < 2 ^ 31 := by
  rw [BitVec.toInt_eq_toNat_cond]
  have := d.isLt
  split <;> omega

theorem toInt_of_small (d : BitVec 32) (hd : d.toNat < 2 ^ 31) : d.toInt = d.toNat := by
  rw [BitVec.toInt_eq_toNat_cond, if_pos (by omega)]

theorem toInt_nonneg (d : BitVec 32) (h : d.toInt ≥ 0) : d.toInt = d.toNat ∧ d.toNat < 2 ^ 31 :=
  ⟨toInt_of_small d ((toInt_nonneg_iff d).1 h), (toInt_nonneg_iff d).1 h⟩

theorem toInt_sub_small (d w : BitVec 32) (hd : d.toNat < 2 ^ 31) (hw : w.toNat < 2 ^ 31) :
    (d - w).toInt = (d.toNat : Int) - w.toNat :=
  toInt_sub_rep (Rep.self d) (Rep.self w) (by omega) (by omega)

theorem add_mod_cases (k i n : Nat) (hn : 0 < n) (hi : i ≤ n) :
    (k + i) % n = if k % n + i < n then k % n + i else k % n + i - n := by
  have h2 := Nat.mod_lt k hn
  rw [Nat.add_mod]
  rcases Nat.lt_or_ge i n with h | h
  · rw [Nat.mod_eq_of_lt h]
    split
    · next h' => exact Nat.mod_eq_of_lt h'
    · rw [Nat.mod_eq_sub_mod (by omega), Nat.mod_eq_of_lt (by omega)]
  · have : i = n := by omega
    subst this
    rw [Nat.mod_self, Nat.add_zero, Nat.mod_mod, if_neg (by omega)]; omega

end KcpVerif.Serial
