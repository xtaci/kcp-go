/-
One session with FEC (`Model/SessFec.lean`, no cipher, the model the `sessfec` component ties to real sessions) with
its ghost history: `cwire` what the core handed to `output`, `wire` what the FEC stage put on the wire, `recvd` the
FEC packets that reached the decoder.  Every step but `packetInput` is a step of the plain ghost session `toSessG`
followed by the FEC stage, in which the session may die; `packetInput` is a run of core `Input`s.
-/
import KcpVerif.Lemmas.C01FecChain

namespace KcpVerif.C01
open KcpVerif.Gen KcpVerif.Kcp KcpVerif.Recv KcpVerif.Send
open KcpVerif.SessFec KcpVerif.Props

structure FecG where
  x     : SessFec
  rd    : Bytes := []
  wr    : Bytes := []
  log   : List Content := []
  cwire : List Bytes := []
  wire  : List Bytes := []
  recvd : List Bytes := []
  dead  : Bool := false

inductive FecOp where
  | write (v : List Bytes) (now : U32) (gap : Int)
  | read (blen : Nat)
  | update (now : U32) (gap : Int)
  | input (d : Bytes) (now : U32) (gap : Int)
  | setWriteDelay (b : Bool)
  | setAckNoDelay (b : Bool)
  | noDelay (a b c d : Int)
  | wndSize (a b : Int)
  | setMtu (mtu : Int)

def fecStep (C : Fec.CodecNew) (f : FecG) (op : FecOp) : FecG :=
  if f.dead then f else
  match op with
  | .write v now gap =>
    if (f.x.writeBuffers v now gap).panic then { f with dead := true } else
    if (f.x.writeBuffers v now gap).blocked then f else
    { f with x := (f.x.writeBuffers v now gap).s, wr := f.wr ++ v.flatten,
             log := f.log ++ admitted (Sess.sendAll v f.x.s.k).k (f.x.writeBuffers v now gap).s.s.k,
             cwire := f.cwire ++ (f.x.s.writeBuffers v now).outs,
             wire := f.wire ++ (f.x.writeBuffers v now gap).outs }
  | .read blen => { f with x := { f.x with s := (f.x.read blen).s }, rd := f.rd ++ (f.x.read blen).data }
  | .update now gap =>
    if (f.x.update now gap).panic then { f with dead := true } else
    { f with x := (f.x.update now gap).s, log := f.log ++ admitted f.x.s.k (f.x.update now gap).s.s.k,
             cwire := f.cwire ++ (f.x.s.update now).outs, wire := f.wire ++ (f.x.update now gap).outs }
  | .input d now gap =>
    if (packetInput C f.x d now gap).panic then { f with dead := true } else
    { f with x := (packetInput C f.x d now gap).s,
             log := f.log ++ admitted f.x.s.k (kcpInputCore C f.x d now).c.k,
             cwire := f.cwire ++ (kcpInputCore C f.x d now).c.outs,
             wire := f.wire ++ (packetInput C f.x d now gap).outs,
             recvd := f.recvd ++ (if toDecoder d then [d] else []) }
  | .setWriteDelay b => { f with x := { f.x with s := { f.x.s with writeDelay := b } } }
  | .setAckNoDelay b => { f with x := { f.x with s := { f.x.s with ackNoDelay := b } } }
  | .noDelay a b c d => { f with x := { f.x with s := { f.x.s with k := noDelay f.x.s.k a b c d } } }
  | .wndSize a b => { f with x := { f.x with s := { f.x.s with k := wndSize f.x.s.k a b } } }
  | .setMtu mtu => { f with x := (f.x.setMtu mtu).1 }

def toSessG (f : FecG) : SessG :=
  { s := f.x.s, rd := f.rd, wr := f.wr, log := f.log, wire := f.cwire, dead := f.dead }

def plainOp (f : FecG) : FecOp → Option SessOp
  | .write v now _ => some (.write v now)
  | .read blen => some (.read blen)
  | .update now _ => some (.update now)
  | .input .. => none
  | .setWriteDelay b => some (.setWriteDelay b)
  | .setAckNoDelay b => some (.setAckNoDelay b)
  | .noDelay a b c d => some (.noDelay a b c d)
  | .wndSize a b => some (.wndSize a b)
  | .setMtu mtu =>
    some (.setMtu ((if mtu < (mtuLimit : Int) then mtu else (mtuLimit : Int)) - (f.x.headerSize : Int)))

-- the operations are used through their lemmas only; unfolding them when two states are compared is wasted work
attribute [local irreducible] Kcp.flush Kcp.input Kcp.send Kcp.recv

theorem postProcess_nil (enc : Option Fec.Encoder) (hs : Nat) (gap : Int) :
    postProcess enc hs [] gap = ⟨enc, [], false⟩ := by
  cases enc <;> rfl

/-- `f'` is `f` after the FEC stage has processed the datagrams `outs` the core emitted, the first of them `gap` ms
after the previous `encode` call -/
structure Staged (f f' : FecG) (outs : List Bytes) (gap : Int) : Prop where
  hs    : f'.x.headerSize = f.x.headerSize
  cwire : f'.cwire = f.cwire ++ outs
  ok    : (postProcess f.x.enc f.x.headerSize outs gap).panic = false
  enc   : f'.x.enc = (postProcess f.x.enc f.x.headerSize outs gap).enc
  wire  : f'.wire = f.wire ++ (postProcess f.x.enc f.x.headerSize outs gap).wire

theorem Staged.same {f f' : FecG} (h1 : f'.x.headerSize = f.x.headerSize) (h2 : f'.cwire = f.cwire)
    (h3 : f'.x.enc = f.x.enc) (h4 : f'.wire = f.wire) : Staged f f' [] 0 := by
  have e := postProcess_nil f.x.enc f.x.headerSize 0
  exact ⟨h1, by rw [h2, List.append_nil], by rw [e], by rw [e]; exact h3, by rw [e, List.append_nil]; exact h4⟩

theorem fecStep_plain (C : Fec.CodecNew) (f : FecG) (op : FecOp) (sop : SessOp) (h : plainOp f op = some sop) :
    (toSessG (fecStep C f op) = sessStep (toSessG f) sop ∨
      toSessG (fecStep C f op) = { toSessG f with dead := true }) ∧
    (fecStep C f op).x.dec = f.x.dec ∧ (fecStep C f op).recvd = f.recvd ∧
    ∃ outs gap, Staged f (fecStep C f op) outs gap := by
  -- the case analysis is done on the two steps as equations, not inside the statement
  generalize hF : fecStep C f op = f'
  generalize hS : sessStep (toSessG f) sop = x'
  unfold fecStep at hF
  unfold sessStep at hS
  by_cases hd : f.dead = true
  · have hd' : (toSessG f).dead = true := hd
    rw [if_pos hd] at hF
    rw [if_pos hd'] at hS
    subst hF hS
    exact ⟨Or.inl rfl, rfl, rfl, [], 0, .same rfl rfl rfl rfl⟩
  · have hd' : ¬ (toSessG f).dead = true := hd
    have hs : (toSessG f).s = f.x.s := rfl
    rw [if_neg hd] at hF
    rw [if_neg hd'] at hS
    cases op with
    | write v now gap =>
      cases h
      simp only [] at hF hS
      unfold SessFec.writeBuffers at hF
      simp only [] at hF
      rw [hs] at hS
      by_cases hp : (f.x.s.writeBuffers v now).panic = true
      · rw [if_pos hp, if_pos rfl] at hF
        rw [if_pos hp] at hS
        subst hF hS
        exact ⟨Or.inl rfl, rfl, rfl, [], 0, .same rfl rfl rfl rfl⟩
      · rw [if_neg hp] at hF hS
        simp only [] at hF
        by_cases hpp : (postProcess f.x.enc f.x.headerSize (f.x.s.writeBuffers v now).outs gap).panic = true
        · rw [if_pos hpp] at hF
          subst hF hS
          exact ⟨Or.inr rfl, rfl, rfl, [], 0, .same rfl rfl rfl rfl⟩
        · rw [if_neg hpp] at hF
          by_cases hb : (f.x.s.writeBuffers v now).blocked = true
          · rw [if_pos hb] at hF hS
            subst hF hS
            exact ⟨Or.inl rfl, rfl, rfl, [], 0, .same rfl rfl rfl rfl⟩
          · rw [if_neg hb] at hF hS
            subst hF hS
            exact ⟨Or.inl rfl, rfl, rfl, _, gap, rfl, rfl, Bool.eq_false_iff.mpr hpp, rfl, rfl⟩
    | update now gap =>
      cases h
      simp only [] at hF hS
      unfold SessFec.update at hF
      simp only [] at hF
      rw [hs] at hS
      by_cases hp : (f.x.s.update now).panic = true
      · rw [if_pos hp, if_pos rfl] at hF
        rw [if_pos hp] at hS
        subst hF hS
        exact ⟨Or.inl rfl, rfl, rfl, [], 0, .same rfl rfl rfl rfl⟩
      · rw [if_neg hp] at hF hS
        simp only [] at hF
        by_cases hpp : (postProcess f.x.enc f.x.headerSize (f.x.s.update now).outs gap).panic = true
        · rw [if_pos hpp] at hF
          subst hF hS
          exact ⟨Or.inr rfl, rfl, rfl, [], 0, .same rfl rfl rfl rfl⟩
        · rw [if_neg hpp] at hF
          subst hF hS
          exact ⟨Or.inl rfl, rfl, rfl, _, gap, rfl, rfl, Bool.eq_false_iff.mpr hpp, rfl, rfl⟩
    | input d now gap => cases h
    | _ =>
      cases h
      subst hF hS
      exact ⟨Or.inl rfl, rfl, rfl, [], 0, .same rfl rfl rfl rfl⟩

theorem plainOp_some (f : FecG) (op : FecOp) : (∃ d now gap, op = .input d now gap) ∨ ∃ sop, plainOp f op = some sop := by
  cases op with
  | input d now gap => exact Or.inl ⟨d, now, gap, rfl⟩
  | _ => exact Or.inr ⟨_, rfl⟩

theorem plainOp_notInput (f : FecG) (op : FecOp) (sop : SessOp) (h : plainOp f op = some sop) :
    isSessInput sop = false := by
  cases op <;> cases h <;> rfl

theorem feed_calls (C : Fec.CodecNew) (k : Kcp) (a : Bool) (now : U32) (dc : Fec.Decoder) (d : Bytes) :
    feedRecovered a now
        (if Fec.flag d = typeData then CoreIn.input { k := k } (d.drop fecHeaderSizePlus2) true a now else { k := k })
        (dc.decode C d).recovered = chain a now { k := k } (C01_fecInputCalls C dc d) := by
  unfold C01_fecInputCalls
  rw [feedRecovered_chain, chain_append]
  congr 1
  split <;> rfl

/-- what `kcpInput` does to the core for the datagram `d` is the chain of `Input` calls `calls` from the session's core -/
def Feeds (C : Fec.CodecNew) (x : SessFec) (d : Bytes) (now : U32) (calls : List (Bytes × Bool)) : Prop :=
  ∃ c0 : CoreIn, c0.k = x.s.k ∧ c0.outs = [] ∧ c0.panic = false ∧
    (kcpInputCore C x d now).c = chain x.s.ackNoDelay now c0 calls

/-- the first disjunct: the lazy decoder constructor `Decoder.new C 1 1` fails -/
theorem kcpInputCore_chain (C : Fec.CodecNew) (x : SessFec) (d : Bytes) (now : U32) :
    (kcpInputCore C x d now).c.panic = true ∨ ∃ calls, Feeds C x d now calls := by
  unfold Feeds kcpInputCore
  by_cases h1 : d.length < min IKCP_OVERHEAD (fecHeaderSizePlus2 + convSize)
  · rw [if_pos h1]
    exact Or.inr ⟨[], { k := x.s.k, errs := 1 }, rfl, rfl, rfl, rfl⟩
  · rw [if_neg h1]
    by_cases h2 : Fec.flag d = typeData ∨ Fec.flag d = typeParity
    · rw [if_pos h2]
      by_cases h3 : d.length < fecHeaderSizePlus2
      · rw [if_pos h3]
        exact Or.inr ⟨[], { k := x.s.k }, rfl, rfl, rfl, rfl⟩
      · rw [if_neg h3]
        split
        · exact Or.inl rfl
        · rename_i dc _
          exact Or.inr ⟨C01_fecInputCalls C dc d, { k := x.s.k }, rfl, rfl, rfl, feed_calls C x.s.k _ now dc d⟩
    · rw [if_neg h2]
      by_cases h4 : Fec.flag d = typeOOB
      · rw [if_pos h4]
        exact Or.inr ⟨[], { k := x.s.k }, rfl, rfl, rfl, rfl⟩
      · rw [if_neg h4]
        exact Or.inr ⟨[(d, true)], { k := x.s.k }, rfl, rfl, rfl, rfl⟩

theorem kcpInputCore_fec (C : Fec.CodecNew) (x : SessFec) (d : Bytes) (now : U32) (dc : Fec.Decoder)
    (hdec : x.dec = some dc) (ht : toDecoder d = true) :
    Feeds C x d now (C01_fecInputCalls C dc d) ∧ (kcpInputCore C x d now).dec = some (dc.decode C d).st := by
  unfold toDecoder at ht
  have ht' := of_decide_eq_true ht
  unfold Feeds kcpInputCore
  rw [if_neg ht'.1, if_pos ht'.2.1, if_neg ht'.2.2, hdec]
  exact ⟨⟨{ k := x.s.k }, rfl, rfl, rfl, feed_calls C x.s.k _ now dc d⟩, rfl⟩

theorem kcpInputCore_skip (C : Fec.CodecNew) (x : SessFec) (d : Bytes) (now : U32)
    (ht : toDecoder d = false) (hf : Fec.flag d = typeData ∨ Fec.flag d = typeParity) :
    Feeds C x d now [] ∧ (kcpInputCore C x d now).dec = x.dec := by
  unfold toDecoder at ht
  have ht' := of_decide_eq_false ht
  unfold Feeds kcpInputCore
  by_cases h1 : d.length < min IKCP_OVERHEAD (fecHeaderSizePlus2 + convSize)
  · rw [if_pos h1]; exact ⟨⟨_, rfl, rfl, rfl, rfl⟩, rfl⟩
  · rw [if_neg h1, if_pos hf]
    have h2 : d.length < fecHeaderSizePlus2 := Decidable.byContradiction fun hc => ht' ⟨h1, hf, hc⟩
    rw [if_pos h2]; exact ⟨⟨_, rfl, rfl, rfl, rfl⟩, rfl⟩

structure InputOk (C : Fec.CodecNew) (x : SessFec) (d : Bytes) (now : U32) (gap : Int) : Prop where
  core : (kcpInputCore C x d now).c.panic = false
  s    : (packetInput C x d now gap).s.s = { x.s with k := (kcpInputCore C x d now).c.k }
  dec  : (packetInput C x d now gap).s.dec = (kcpInputCore C x d now).dec
  hs   : (packetInput C x d now gap).s.headerSize = x.headerSize
  ok   : (postProcess x.enc x.headerSize (kcpInputCore C x d now).c.outs gap).panic = false
  enc  : (packetInput C x d now gap).s.enc = (postProcess x.enc x.headerSize (kcpInputCore C x d now).c.outs gap).enc
  outs : (packetInput C x d now gap).outs = (postProcess x.enc x.headerSize (kcpInputCore C x d now).c.outs gap).wire

theorem packetInput_ok (C : Fec.CodecNew) (x : SessFec) (d : Bytes) (now : U32) (gap : Int)
    (hp : (packetInput C x d now gap).panic = false) : InputOk C x d now gap := by
  unfold packetInput finishInput at hp
  by_cases h : (kcpInputCore C x d now).c.panic = true ∨ (kcpInputCore C x d now).decPanic = true
  · rw [if_pos h] at hp; cases hp
  · rw [if_neg h] at hp
    have hc : (kcpInputCore C x d now).c.panic = false := by
      cases hc : (kcpInputCore C x d now).c.panic with
      | false => rfl
      | true => exact absurd (Or.inl hc) h
    refine ⟨hc, ?_, ?_, ?_, hp, ?_, ?_⟩ <;> (unfold packetInput finishInput; rw [if_neg h])

theorem fecStep_input (C : Fec.CodecNew) (f : FecG) (d : Bytes) (now : U32) (gap : Int) :
    fecStep C f (.input d now gap) = f ∨ fecStep C f (.input d now gap) = { f with dead := true } ∨
    (f.dead = false ∧ (packetInput C f.x d now gap).panic = false) := by
  unfold fecStep
  by_cases hd : f.dead = true
  · rw [if_pos hd]
    exact Or.inl rfl
  · rw [if_neg hd]
    simp only []
    by_cases hp : (packetInput C f.x d now gap).panic = true
    · rw [if_pos hp]
      exact Or.inr (Or.inl rfl)
    · exact Or.inr (Or.inr ⟨Bool.eq_false_iff.mpr hd, Bool.eq_false_iff.mpr hp⟩)

theorem fecStep_input_live {C : Fec.CodecNew} {f : FecG} {d : Bytes} {now : U32} {gap : Int} (hd : f.dead = false)
    (hp : (packetInput C f.x d now gap).panic = false) :
    fecStep C f (.input d now gap) =
      { f with x := (packetInput C f.x d now gap).s,
               log := f.log ++ admitted f.x.s.k (kcpInputCore C f.x d now).c.k,
               cwire := f.cwire ++ (kcpInputCore C f.x d now).c.outs,
               wire := f.wire ++ (packetInput C f.x d now gap).outs,
               recvd := f.recvd ++ (if toDecoder d then [d] else []) } := by
  unfold fecStep
  rw [if_neg (by rw [hd]; exact Bool.false_ne_true)]
  simp only []
  rw [if_neg (by rw [hp]; exact Bool.false_ne_true)]

theorem fecStep_pp (C : Fec.CodecNew) (f : FecG) (op : FecOp) : ∃ outs gap, Staged f (fecStep C f op) outs gap := by
  rcases plainOp_some f op with ⟨d, now, gap, rfl⟩ | ⟨sop, h⟩
  · rcases fecStep_input C f d now gap with e | e | ⟨hd, hp⟩
    · rw [e]
      exact ⟨[], 0, .same rfl rfl rfl rfl⟩
    · rw [e]
      exact ⟨[], 0, .same rfl rfl rfl rfl⟩
    · have ok := packetInput_ok C f.x d now gap hp
      rw [fecStep_input_live hd hp]
      exact ⟨_, gap, ok.hs, rfl, ok.ok, ok.enc, by show f.wire ++ (packetInput C f.x d now gap).outs = _; rw [ok.outs]⟩
  · exact (fecStep_plain C f op sop h).2.2.2

theorem fecInput_run (C : Fec.CodecNew) {f : FecG} {g : GSt} (h : RefK (toSessG f) g) (d : Bytes) (now : U32)
    (gap : Int) (hd : f.dead = false) (hp : (packetInput C f.x d now gap).panic = false)
    {calls : List (Bytes × Bool)} (hf : Feeds C f.x d now calls) :
    RefK (toSessG (fecStep C f (.input d now gap)))
      (run g (calls.map fun cl => Op.input cl.1 cl.2 f.x.s.ackNoDelay now)) ∧
    (RefW (toSessG f) g → RefW (toSessG (fecStep C f (.input d now gap)))
      (run g (calls.map fun cl => Op.input cl.1 cl.2 f.x.s.ackNoDelay now))) ∧
    (RefR (toSessG f) g → RefR (toSessG (fecStep C f (.input d now gap)))
      (run g (calls.map fun cl => Op.input cl.1 cl.2 f.x.s.ackNoDelay now))) := by
  obtain ⟨c0, h1, h2, h3, h4⟩ := hf
  have hk : f.x.s.k = g.k := h.k
  have hlog : f.log = g.log := h.log
  have hwire : f.cwire = g.wire := h.wire
  have hcp := (packetInput_ok C f.x d now gap hp).core
  have hs := (packetInput_ok C f.x d now gap hp).s
  rw [h4] at hcp
  obtain ⟨X, o1, hrun, _⟩ := chain_run f.x.s.ackNoDelay now calls c0 g (h1.trans hk) h.alive h3 hcp
  rw [h2, List.nil_append] at o1
  rw [h1] at hrun
  rw [fecStep_input_live hd hp]
  refine ⟨?_, fun hw => ?_, fun hr => ?_⟩
  · rw [hrun]
    refine ⟨?_, ?_, ?_, h.alive⟩
    · show (packetInput C f.x d now gap).s.s.k = _
      rw [hs, h4]
    · show f.log ++ admitted f.x.s.k (kcpInputCore C f.x d now).c.k = _
      rw [h4, hlog]
    · show f.cwire ++ (kcpInputCore C f.x d now).c.outs = _
      rw [h4, o1, hwire]
  · refine hw.keep ?_ fun o ho c => ?_
    · rfl
    obtain ⟨cl, _, rfl⟩ := List.mem_map.mp ho
    exact Op.noConfusion
  · rw [hrun]
    show f.rd ++ (packetInput C f.x d now gap).s.s.bufptr = g.got.flatten
    rw [hs]
    exact hr

theorem fecInput_ref (C : Fec.CodecNew) {f : FecG} {g : GSt} (h : RefK (toSessG f) g)
    (d : Bytes) (now : U32) (gap : Int) :
    ∃ ops : List Op, RefK (toSessG (fecStep C f (.input d now gap))) (run g ops) ∧
      (RefW (toSessG f) g → RefW (toSessG (fecStep C f (.input d now gap))) (run g ops)) := by
  rcases fecStep_input C f d now gap with e | e | ⟨hd, hp⟩
  · rw [e]
    exact ⟨[], h, id⟩
  · rw [e]
    exact ⟨[], h.die, fun hw => ⟨hw.acc, hw.wr⟩⟩
  · rcases kcpInputCore_chain C f.x d now with hbad | ⟨calls, hf⟩
    · rw [(packetInput_ok C f.x d now gap hp).core] at hbad
      cases hbad
    · obtain ⟨r1, r2, _⟩ := fecInput_run C h d now gap hd hp hf
      exact ⟨_, r1, r2⟩

end KcpVerif.C01
