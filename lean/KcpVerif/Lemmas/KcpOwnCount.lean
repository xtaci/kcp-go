/-
C15 (ownership, protocol core): how every instrumented list function of `Model/KcpOwn` changes the
holding count, in frame style — `F id` counts the positions the function does not look at.
Core Lean only.
-/
import KcpVerif.Lemmas.KcpOwnPool

namespace KcpVerif.Own
open KcpVerif.Kcp

def cnt (id : Nat) : List SegO → Nat
  | [] => 0
  | x :: l => oc x.buf id + cnt id l

theorem cnt_append (id : Nat) (a b : List SegO) : cnt id (a ++ b) = cnt id a + cnt id b := by
  induction a with
  | nil => simp [cnt]
  | cons x a ih => simp only [List.cons_append, cnt, ih]; omega

theorem cnt_take_drop (id : Nat) (l : List SegO) (n : Nat) : cnt id (l.take n) + cnt id (l.drop n) = cnt id l := by
  rw [← cnt_append, List.take_append_drop]

theorem cnt_reattach (id : Nat) (new : List Seg) (old : List SegO) (h : new.length = old.length) :
    cnt id (reattach new old) = cnt id old := by
  induction new generalizing old with
  | nil => cases old with
    | nil => rfl
    | cons x old => simp at h
  | cons s new ih => cases old with
    | nil => simp at h
    | cons x old =>
      simp only [List.length_cons, Nat.add_right_cancel_iff] at h
      show oc x.buf id + cnt id (reattach new old) = oc x.buf id + cnt id old
      rw [ih old h]

theorem cnt_mem_split {x : SegO} {l : List SegO} (h : x ∈ l) :
    ∃ a b, ∀ id, cnt id l = oc x.buf id + (cnt id a + cnt id b) := by
  obtain ⟨a, b, rfl⟩ := List.append_of_mem h
  exact ⟨a, b, fun id => by rw [cnt_append]; simp only [cnt]; omega⟩

theorem W.use_mem {g : Ghost} {F : Nat → Nat} {l : List SegO} {x : SegO} (hx : x ∈ l)
    (h : W g (fun id => cnt id l + F id)) : W (g.use x.buf) (fun id => cnt id l + F id) := by
  obtain ⟨a, b, hs⟩ := cnt_mem_split hx
  have h1 : W g (fun id => oc x.buf id + (cnt id a + cnt id b + F id)) :=
    h.congr (fun id => by rw [hs id]; omega)
  exact h1.use.congr (fun id => by rw [hs id]; omega)

theorem popMsgO_W (l : List SegO) (g : Ghost) (F : Nat → Nat) (h : W g (fun id => cnt id l + F id)) :
    W (popMsgO l g).g (fun id => cnt id (popMsgO l g).rest + F id) := by
  induction l generalizing g with
  | nil => exact h
  | cons x rest ih =>
    have h2 : W ((g.use x.buf).recycle x.buf) (fun id => cnt id rest + F id) := h.assoc.use.recycle
    unfold popMsgO
    split
    · exact h2
    · exact ih _ h2

theorem moveLoopO_cnt (id : Nat) (wnd : Nat) (buf q : List SegO) (nxt : U32) :
    cnt id (moveLoopO wnd buf q nxt).buf + cnt id (moveLoopO wnd buf q nxt).q = cnt id buf + cnt id q := by
  induction buf generalizing q nxt with
  | nil => rfl
  | cons x rest ih =>
    unfold moveLoopO
    split
    · rw [ih, cnt_append]; simp only [cnt]; omega
    · rfl

theorem mkSegsO_W (mss : Nat) (stream : Bool) (n : Nat) (buf : Bytes) (g : Ghost) (F : Nat → Nat) (h : W g F) :
    W (mkSegsO mss stream n buf g).g (fun id => cnt id (mkSegsO mss stream n buf g).l + F id) := by
  induction n generalizing buf g F with
  | zero => exact h.congr (fun id => by simp [mkSegsO, cnt])
  | succ c ih =>
    have h1 := ih (buf.drop mss) g.get _ h.get
    unfold mkSegsO
    exact h1.congr (fun id => by simp only [cnt]; omega)

theorem mkSegsO_next (mss : Nat) (stream : Bool) (n : Nat) (buf : Bytes) (g : Ghost) :
    (mkSegsO mss stream n buf g).g.next = g.next + n := by
  induction n generalizing buf g with
  | zero => rfl
  | succ c ih =>
    unfold mkSegsO
    show (mkSegsO mss stream c (buf.drop mss) g.get).g.next = _
    rw [ih]; show g.next + 1 + c = _; omega

theorem cnt_appendLastO (id : Nat) (q : List SegO) (extra : Bytes) : cnt id (appendLastO q extra) = cnt id q := by
  unfold appendLastO
  split
  · rename_i x hx
    have hq : q.dropLast ++ [x] = q := by
      obtain ⟨ys, rfl⟩ := List.getLast?_eq_some_iff.1 hx
      simp
    conv => rhs; rw [← hq]
    rw [cnt_append, cnt_append]; rfl
  · rfl

/-- the stream-mode append of `Send`: `ext` bytes are written into the last queued segment -/
def sendApp (o : KcpO) (b : Bytes) (ext : Nat) : SegsG :=
  ⟨if ext > 0 then appendLastO o.sq (b.take ext) else o.sq, if ext > 0 then o.gh.use (lastBuf o.sq) else o.gh⟩

theorem sendApp_W {o : KcpO} (b : Bytes) (ext : Nat) (F : Nat → Nat) (h : W o.gh (fun id => cnt id o.sq + F id)) :
    W (sendApp o b ext).g (fun id => cnt id (sendApp o b ext).l + F id) := by
  unfold sendApp
  split
  · refine W.congr ?_ (fun id => by rw [cnt_appendLastO])
    unfold lastBuf
    split
    · rename_i x hx
      exact h.use_mem (List.mem_of_getLast? hx)
    · exact h
  · exact h

theorem unaO_W (una : U32) (l : List SegO) (g : Ghost) (F : Nat → Nat) (h : W g (fun id => cnt id l + F id)) :
    W (unaO una l g).g (fun id => cnt id (unaO una l g).l + F id) := by
  induction l generalizing g with
  | nil => exact h
  | cons x rest ih =>
    unfold unaO
    split
    · exact ih _ h.assoc.recycle
    · exact h

theorem dropAckedO_W (l : List SegO) (g : Ghost) (F : Nat → Nat) (h : W g (fun id => cnt id l + F id)) :
    W (dropAckedO l g).g (fun id => cnt id (dropAckedO l g).l + F id) := by
  induction l generalizing g with
  | nil => exact h
  | cons x rest ih =>
    unfold dropAckedO
    split
    · exact ih _ h.assoc.drop
    · exact h

theorem ackLoopO_W (sn : U32) (l : List SegO) (g : Ghost) (F : Nat → Nat) (h : W g (fun id => cnt id l + F id)) :
    W (ackLoopO sn l g).g (fun id => cnt id (ackLoopO sn l g).l + F id) := by
  induction l generalizing g F with
  | nil => exact h
  | cons x rest ih =>
    unfold ackLoopO
    split
    · exact h.assoc.recycle.congr (fun id => by simp only [cnt, oc_none]; omega)
    · split
      · exact h
      · have h1 : W g (fun id => cnt id rest + (oc x.buf id + F id)) :=
          h.congr (fun id => by simp only [cnt]; omega)
        exact (ih g _ h1).congr (fun id => by simp only [cnt]; omega)

/-- `parse_una` then `shrink_buf`, at the head of the loop body of `Input` -/
def unaShrinkO (una : U32) (sb : List SegO) (g : Ghost) : SegsG :=
  dropAckedO (unaO una sb g).l (unaO una sb g).g

theorem unaShrinkO_W (una : U32) (sb : List SegO) (g : Ghost) (F : Nat → Nat) (h : W g (fun id => cnt id sb + F id)) :
    W (unaShrinkO una sb g).g (fun id => cnt id (unaShrinkO una sb g).l + F id) :=
  dropAckedO_W _ _ _ (unaO_W _ _ _ _ h)

/-- `parse_ack` then `shrink_buf`, in the ACK branch -/
def ackShrinkO (k : Kcp) (sn : U32) (u : SegsG) : SegsG :=
  dropAckedO (if itimediff sn k.snd_una < 0 ∨ itimediff sn k.snd_nxt ≥ 0 then u else ackLoopO sn u.l u.g).l
    (if itimediff sn k.snd_una < 0 ∨ itimediff sn k.snd_nxt ≥ 0 then u else ackLoopO sn u.l u.g).g

theorem ackShrinkO_W (k : Kcp) (sn : U32) (u : SegsG) (F : Nat → Nat) (h : W u.g (fun id => cnt id u.l + F id)) :
    W (ackShrinkO k sn u).g (fun id => cnt id (ackShrinkO k sn u).l + F id) := by
  unfold ackShrinkO
  refine dropAckedO_W _ _ _ ?_
  split
  · exact h
  · exact ackLoopO_W sn _ _ _ h

theorem cnt_heapInsertO (id : Nat) (x : SegO) (l : List SegO) : cnt id (heapInsertO x l) = oc x.buf id + cnt id l := by
  induction l with
  | nil => rfl
  | cons h t ih =>
    unfold heapInsertO
    split
    · rfl
    · simp only [cnt, ih]; omega

theorem parseDataO_cases {P : DataResO → Prop} (k : Kcp) (s : Seg) (rb rq : List SegO) (g : Ghost)
    (ignored : P ⟨rb, rq, g⟩)
    (dup : P ⟨(moveLoopO k.rcv_wnd.toNat rb rq k.rcv_nxt).buf, (moveLoopO k.rcv_wnd.toNat rb rq k.rcv_nxt).q, g⟩)
    (lost : s.data.length > Gen.mtuLimit → P ⟨rb, rq, g.getLost⟩)
    (new : P ⟨(moveLoopO k.rcv_wnd.toNat (heapInsertO { s := s, buf := some g.next } rb) rq k.rcv_nxt).buf,
              (moveLoopO k.rcv_wnd.toNat (heapInsertO { s := s, buf := some g.next } rb) rq k.rcv_nxt).q, g.get⟩) :
    P (parseDataO k s rb rq g) := by
  unfold parseDataO
  exact ite_cases (fun _ => ignored) (fun _ => ite_cases (fun _ => dup) (fun _ => ite_cases lost (fun _ => new)))

theorem parseDataO_W (k : Kcp) (s : Seg) (rb rq : List SegO) (g : Ghost) (F : Nat → Nat)
    (h : W g (fun id => cnt id rb + cnt id rq + F id)) :
    W (parseDataO k s rb rq g).g
      (fun id => cnt id (parseDataO k s rb rq g).rb + cnt id (parseDataO k s rb rq g).rq + F id) := by
  refine parseDataO_cases (P := fun d => W d.g (fun id => cnt id d.rb + cnt id d.rq + F id)) k s rb rq g
    h ?_ (fun _ => h.getLost) ?_
  · exact h.congr (fun id => by simp only [moveLoopO_cnt])
  · exact h.get.congr (fun id => by simp only [moveLoopO_cnt, cnt_heapInsertO]; omega)

theorem useSent_W (k : Kcp) (now : U32) (c : Nat) (l : List SegO) (g : Ghost) (F : Nat → Nat)
    (h : W g (fun id => cnt id l + F id)) : W (useSent k now c l g) (fun id => cnt id l + F id) := by
  induction l generalizing g F with
  | nil => exact h
  | cons x rest ih =>
    unfold useSent
    have h1 := h.assoc
    have h2 : W (if x.s.acked = false ∧ (xmitDec k now (resentOf k) c x.s).1 = true then g.use x.buf else g)
        (fun id => cnt id rest + (oc x.buf id + F id)) := by
      split
      · exact h1.use.congr (fun id => by omega)
      · exact h1.congr (fun id => by omega)
    exact (ih _ _ h2).congr (fun id => by simp only [cnt]; omega)

theorem reattach_length (new : List Seg) (old : List SegO) (h : new.length = old.length) :
    (reattach new old).length = old.length := by
  unfold reattach
  rw [List.length_zipWith, h, Nat.min_self]

end KcpVerif.Own
