/-
C10 (core half): the MTU invariant `InvMss` and the invariant `FlOk m` of `flush`'s staging buffer.  `makeSpace`,
`putHdr`, `putData` keep `FlOk` when what is written fits; along the stages of `flush` (`Lemmas/KcpLiveFlush`) that
bounds everything handed to the output callback.  C05's `InvK` is `InvMss` plus the bound on the receive queues (two
structures; `InvK.invMss`, `InvK.of_invMss`), so `flush` is total under it as well.
-/
import KcpVerif.Lemmas.KcpTotal
import KcpVerif.Lemmas.KcpLiveFlush
import KcpVerif.Lemmas.Fold

namespace KcpVerif.Lemmas.KcpFlush
open KcpVerif.Gen KcpVerif.Kcp
open KcpVerif.Total (DataLe PresN)

structure InvMss (k : Kcp) : Prop where
  segs   : ∀ s ∈ k.snd_queue ++ k.snd_buf, s.data.length ≤ k.mss.toNat
  mss_eq : k.mss = k.mtu - u32 IKCP_OVERHEAD
  mtu_gt : k.mtu.toNat > IKCP_OVERHEAD
  mtu_le : k.mtu.toNat ≤ mtuLimit + IKCP_OVERHEAD
  buf    : k.bufLen = (k.mtu.toNat + IKCP_OVERHEAD) * 3

instance (k : Kcp) : Decidable (InvMss k) :=
  decidable_of_iff
    ((∀ s ∈ k.snd_queue ++ k.snd_buf, s.data.length ≤ k.mss.toNat) ∧ k.mss = k.mtu - u32 IKCP_OVERHEAD ∧
      k.mtu.toNat > IKCP_OVERHEAD ∧ k.mtu.toNat ≤ mtuLimit + IKCP_OVERHEAD ∧
      k.bufLen = (k.mtu.toNat + IKCP_OVERHEAD) * 3)
    ⟨fun ⟨a, b, c, d, e⟩ => ⟨a, b, c, d, e⟩, fun h => ⟨h.segs, h.mss_eq, h.mtu_gt, h.mtu_le, h.buf⟩⟩

theorem InvMss.mss_toNat {k : Kcp} (h : InvMss k) : k.mss.toNat = k.mtu.toNat - IKCP_OVERHEAD := by
  rw [h.mss_eq]
  exact toNat_sub_overhead h.mtu_gt

theorem InvMss.mss_le_limit {k : Kcp} (h : InvMss k) : k.mss.toNat ≤ mtuLimit := by
  have := h.mss_toNat; have := h.mtu_le; omega

theorem InvMss.segs_queue {k : Kcp} (h : InvMss k) : DataLe k.mss.toNat k.snd_queue :=
  fun s hs => h.segs s (List.mem_append_left _ hs)

theorem InvMss.segs_buf {k : Kcp} (h : InvMss k) : DataLe k.mss.toNat k.snd_buf :=
  fun s hs => h.segs s (List.mem_append_right _ hs)

theorem InvMss.of_cfg {k k' : Kcp} (h : InvMss k) (h1 : k'.mtu = k.mtu) (h2 : k'.mss = k.mss)
    (h3 : k'.bufLen = k.bufLen) (hq : DataLe k.mss.toNat k'.snd_queue) (hb : DataLe k.mss.toNat k'.snd_buf) :
    InvMss k' where
  segs := by rw [h2]; exact hq.append hb
  mss_eq := by rw [h1, h2]; exact h.mss_eq
  mtu_gt := by rw [h1]; exact h.mtu_gt
  mtu_le := by rw [h1]; exact h.mtu_le
  buf := by rw [h1, h3]; exact h.buf

theorem InvMss.of_eq {k k' : Kcp} (h : InvMss k) (h1 : k'.mtu = k.mtu) (h2 : k'.mss = k.mss)
    (h3 : k'.bufLen = k.bufLen) (h4 : k'.snd_queue = k.snd_queue) (h5 : k'.snd_buf = k.snd_buf) : InvMss k' :=
  h.of_cfg h1 h2 h3 (by rw [h4]; exact h.segs_queue) (by rw [h5]; exact h.segs_buf)

theorem InvMss.of_pres {n : Nat} {k k' : Kcp} (h : InvMss k) (hp : PresN n k k') : InvMss k' :=
  h.of_cfg hp.mtu hp.mss hp.bufLen (hp.snd _ (Nat.le_refl _) h.segs_queue h.segs_buf).1
    (hp.snd _ (Nat.le_refl _) h.segs_queue h.segs_buf).2

structure FlOk (m : Nat) (f : Fl) : Prop where
  mtu   : f.k.mtu.toNat = m
  buf   : f.k.bufLen = (m + IKCP_OVERHEAD) * 3
  cur   : f.cur.length ≤ m
  outs  : ∀ o ∈ f.outs, 0 < o.length ∧ o.length ≤ m
  panic : f.panic = false

theorem FlOk.makeSpace {m : Nat} {f : Fl} (h : FlOk m f) {n : Nat} (hn : n ≤ m) :
    FlOk m (f.makeSpace n) ∧ (f.makeSpace n).cur.length + n ≤ m := by
  unfold Fl.makeSpace
  split
  · rename_i hc
    rw [h.mtu] at hc
    have hcur := h.cur
    refine ⟨⟨h.mtu, h.buf, Nat.zero_le _, ?_, h.panic⟩, by simpa using hn⟩
    exact List.forall_mem_append.mpr ⟨h.outs, fun o ho => by rw [List.mem_singleton.mp ho]; omega⟩
  · rename_i hc
    rw [h.mtu] at hc
    exact ⟨h, by omega⟩

theorem FlOk.putHdr {m : Nat} {f : Fl} (h : FlOk m f) {hd : Bytes} (hh : hd.length = IKCP_OVERHEAD)
    (hroom : f.cur.length + IKCP_OVERHEAD ≤ m) :
    FlOk m (f.putHdr hd) ∧ (f.putHdr hd).cur.length = f.cur.length + IKCP_OVERHEAD := by
  unfold Fl.putHdr
  have hb := h.buf
  split
  · omega
  · refine ⟨⟨h.mtu, h.buf, ?_, h.outs, h.panic⟩, ?_⟩
    · simp only [List.length_append, hh]; exact hroom
    · simp only [List.length_append, hh]

theorem FlOk.putData {m : Nat} {f : Fl} (h : FlOk m f) {d : Bytes} (hroom : f.cur.length + d.length ≤ m) :
    FlOk m (f.putData d) := by
  unfold Fl.putData
  have hb := h.buf
  split
  · omega
  · exact ⟨h.mtu, h.buf, by simp only [List.length_append]; exact hroom, h.outs, h.panic⟩

theorem FlOk.setK {m : Nat} {f : Fl} (h : FlOk m f) {k' : Kcp} (h1 : k'.mtu = f.k.mtu) (h2 : k'.bufLen = f.k.bufLen) :
    FlOk m { f with k := k' } :=
  ⟨by rw [← h.mtu]; exact congrArg BitVec.toNat h1, by rw [← h.buf]; exact h2, h.cur, h.outs, h.panic⟩

theorem FlOk.emitHdr {m : Nat} {f : Fl} (h : FlOk m f) (hm : IKCP_OVERHEAD ≤ m) {hd : Bytes}
    (hh : hd.length = IKCP_OVERHEAD) : FlOk m ((f.makeSpace IKCP_OVERHEAD).putHdr hd) := by
  have h1 := h.makeSpace hm
  exact (h1.1.putHdr hh h1.2).1

theorem FlOk.emitSeg {m : Nat} {f : Fl} (h : FlOk m f) {hd d : Bytes}
    (hh : hd.length = IKCP_OVERHEAD) (hd' : IKCP_OVERHEAD + d.length ≤ m) :
    FlOk m (((f.makeSpace (IKCP_OVERHEAD + d.length)).putHdr hd).putData d) := by
  have h1 := h.makeSpace hd'
  have h2 := h1.1.putHdr hh (by omega)
  exact h2.1.putData (by rw [h2.2]; omega)

theorem flF3_ok {k : Kcp} (h : InvMss k) (now : U32) : FlOk k.mtu.toNat (Live.flF3 k now) := by
  have hm : IKCP_OVERHEAD ≤ k.mtu.toNat := Nat.le_of_lt h.mtu_gt
  have h1 : FlOk k.mtu.toNat (Live.flF1 k) :=
    (ackFlush_forall (P := FlOk k.mtu.toNat) _ _ _ _ (fun _ hf => (hf.makeSpace hm).1)
      (fun _ _ hf => hf.emitHdr hm (encodeHdr_length ..)) _ _ _ rfl
      ⟨rfl, h.buf, Nat.zero_le _, (by intro o ho; cases ho), rfl⟩).setK rfl rfl
  have h2 : FlOk k.mtu.toNat (Live.flF2 k now) := by
    obtain ⟨_, _, _, e⟩ := probePhase_shape (Live.flF1 k).k now
    unfold Live.flF2
    rw [e]
    exact h1.setK rfl rfl
  have h3a : FlOk k.mtu.toNat (Live.flF3a k now) := ite_ind (h2.emitHdr hm (encodeHdr_length ..)) h2
  have h3b : FlOk k.mtu.toNat (Live.flF3b k now) := ite_ind (h3a.emitHdr hm (encodeHdr_length ..)) h3a
  exact h3b.setK rfl rfl

theorem flAd_dataLe {k : Kcp} {m : Nat} (hq : DataLe m k.snd_queue) (hb : DataLe m k.snd_buf) (now : U32) :
    DataLe m (Live.flAd k now).queue ∧ DataLe m (Live.flAd k now).buf := by
  obtain ⟨n, _, e⟩ := Live.flAd_spec k now
  rw [e]
  exact ⟨hq.drop n, hb.append ((hq.subset fun _ h => List.mem_of_mem_take h).stamp _ _ _)⟩

/-- Phase 5 rewrites timers and counters of the segments it walks over, never their payload -/
theorem xmitKey_data : XmitKey Seg.data := fun _ _ _ _ _ _ _ _ => rfl

theorem emit_ok {m : Nat} {f : Fl} (h : FlOk m f) (s : Seg) (hs : IKCP_OVERHEAD + s.data.length ≤ m) :
    FlOk m (Live.emit f s) := by
  have h1 := h.emitSeg (encodeHdr_length s.conv s.cmd s.frg s.wnd s.ts s.sn s.una s.data.length) hs
  unfold Live.emit
  simp only []
  split
  · exact h1.setK rfl rfl
  · exact h1

theorem flX_ok {k : Kcp} (h : InvMss k) (full : Bool) (now : U32) : FlOk k.mtu.toNat (Live.flX k full now).f := by
  have hnm : IKCP_OVERHEAD + k.mss.toNat ≤ k.mtu.toNat := by
    have := h.mss_toNat; have := h.mtu_gt; omega
  have h4 : FlOk k.mtu.toNat (Live.flF4 k now) := (flF3_ok h now).setK rfl rfl
  unfold Live.flX
  split
  · exact foldl_inv_mem (P := fun st : XmitSt => FlOk k.mtu.toNat st.f) _ (fun st s hs hf => by
      rw [Live.xmitOne_f]
      refine ite_ind hf (emit_ok hf _ ?_)
      rw [Live.segAfter_key _ _ _ _ _ _ _ _ xmitKey_data]
      have := (flAd_dataLe h.segs_queue h.segs_buf now).2 s hs
      omega) _ h4
  · exact h4

theorem flush_pres (k : Kcp) (full : Bool) (now : U32) : PresN 0 k (flush k full now).k := by
  obtain ⟨pw, tp, st, ss, cw, inc, e⟩ := Live.flush_frame k full now
  rw [e]
  exact ⟨rfl, rfl, rfl, rfl,
    fun _ _ hq hb => ⟨(flAd_dataLe hq hb now).1, by
      rw [Live.flX_done]
      exact (flAd_dataLe hq hb now).2.map (Live.flSeg_key xmitKey_data k full now _)⟩,
    fun hb hq => ⟨hb, hq⟩, Nat.zero_le _⟩

theorem flush_ok (k : Kcp) (full : Bool) (now : U32) (h : InvMss k) :
    (flush k full now).panic = false
      ∧ (∀ o ∈ (flush k full now).outs, 0 < o.length ∧ o.length ≤ k.mtu.toNat)
      ∧ InvMss (flush k full now).k ∧ (flush k full now).k.mtu = k.mtu := by
  have hx := flX_ok h full now
  refine ⟨?_, ?_, h.of_pres (flush_pres k full now), (flush_pres k full now).mtu⟩
  · rw [Live.flush_panic]
    exact hx.panic
  · rw [Live.flush_eq]
    exact ite_cases (P := fun l : List Bytes => ∀ o ∈ l, 0 < o.length ∧ o.length ≤ k.mtu.toNat)
      (fun hc => List.forall_mem_append.mpr
        ⟨hx.outs, fun o ho => by rw [List.mem_singleton.mp ho]; exact ⟨hc, hx.cur⟩⟩)
      (fun _ => hx.outs)

end KcpVerif.Lemmas.KcpFlush

namespace KcpVerif.Total
open KcpVerif.Gen KcpVerif.Kcp KcpVerif.Lemmas.KcpFlush

theorem InvK.invMss {k : Kcp} (h : InvK k) : InvMss k :=
  ⟨h.sndq.append h.sndb, h.mss_bv, h.mtu_gt, by have := h.mss_eq; have := h.mss_le; omega, h.buf_eq⟩

theorem InvK.of_invMss {k : Kcp} (h : InvMss k) (hb : DataLe mtuLimit k.rcv_buf) (hq : DataLe mtuLimit k.rcv_queue) :
    InvK k :=
  ⟨h.mtu_gt, by have := h.mss_toNat; have := h.mtu_gt; omega, h.mss_le_limit, h.buf, h.segs_queue, h.segs_buf, hb, hq⟩

theorem flush_total {k : Kcp} (h : InvK k) (full : Bool) (now : U32) :
    (flush k full now).panic = false ∧ InvK (flush k full now).k ∧ (flush k full now).k.acklist = [] := by
  obtain ⟨pw, tp, st, ss, cw, inc, e⟩ := Live.flush_frame k full now
  exact ⟨(flush_ok k full now h.invMss).1, h.of_pres (flush_pres k full now), by rw [e]⟩

end KcpVerif.Total
