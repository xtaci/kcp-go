/-
One event from a consistent state, by cases, as the phases of the drain use it (`cons_cases`): of the connection that
A's `Input` leaves before its closing flush only the fields the phases read are recorded (`InA`).
-/
import KcpVerif.Lemmas.SysDrainAll

namespace KcpVerif.SysC
open KcpVerif.Kcp KcpVerif.Live KcpVerif.Wire KcpVerif.SysW KcpVerif.Sys

theorem inFrs_frame (frs : List Frm) (st : InLoop) : ∃ rw sb su al rb rq rn pr, (inFrs true frs st).k =
    { st.k with rmt_wnd := rw, snd_buf := sb, snd_una := su, acklist := al, rcv_buf := rb, rcv_queue := rq,
                rcv_nxt := rn, probe := pr } :=
  inFrs_rel (R := fun a b => ∃ rw sb su al rb rq rn pr, b.k =
      { a.k with rmt_wnd := rw, snd_buf := sb, snd_una := su, acklist := al, rcv_buf := rb, rcv_queue := rq,
                 rcv_nxt := rn, probe := pr })
    (fun _ => ⟨_, _, _, _, _, _, _, _, rfl⟩)
    (fun ⟨_, _, _, _, _, _, _, _, h1⟩ ⟨_, _, _, _, _, _, _, _, h2⟩ => ⟨_, _, _, _, _, _, _, _, by rw [h2, h1]⟩)
    (fun st fr => by
      obtain ⟨sb, su, al, rb, rq, rn, pr, h1⟩ :=
        inStep_frame true fr.conv fr.cmd fr.frg fr.wnd fr.ts fr.sn fr.una fr.data st
      exact ⟨_, _, _, _, _, _, _, _, h1⟩) frs st

theorem inA_cwnd (st : InLoop) (k1 : Kcp) (hk1 : k1 = st.k ∨ ∃ rtt, k1 = updateAck st.k rtt) (u : U32)
    (hu : st.k.snd_una = u) : (cwndOnAck k1 u).cwnd = st.k.cwnd := by
  subst hu
  rcases hk1 with rfl | ⟨rtt, rfl⟩
  · rw [cwndOnAck_self]
  · obtain ⟨a, b, c, he⟩ := updateAck_shape st.k rtt
    have hu : (updateAck st.k rtt).snd_una = st.k.snd_una := by rw [he]
    rw [← hu, cwndOnAck_self, he]

structure InA (s : State) (frs : List Frm) (K : Kcp) : Prop where
  pw : K.probe_wait = s.A.probe_wait
  tp : K.ts_probe = s.A.ts_probe
  iv : K.interval = s.A.interval
  nc : K.nocwnd = s.A.nocwnd
  sw : K.snd_wnd = s.A.snd_wnd
  nxt : K.snd_nxt = s.A.snd_nxt
  sq : K.snd_queue = s.A.snd_queue
  rmt : K.rmt_wnd = (inFrs true frs { k := s.A }).k.rmt_wnd
  idle : s.A.snd_buf = [] → K.snd_buf = [] ∧ K.snd_una = s.A.snd_una ∧ K.cwnd = s.A.cwnd

theorem inA_of_cons {p : Par} {s : State} {t0 : Nat} {frs : List Frm} {gab grest : GLink}
    (h : Cons p s gab ((t0, frs) :: grest)) (hnw : NoWrap p.base s) (k1 : Kcp)
    (hk1 : k1 = (inFrs true frs { k := s.A }).k ∨ ∃ rtt, k1 = updateAck (inFrs true frs { k := s.A }).k rtt) :
    InA s frs (cwndOnAck k1 s.A.snd_una) := by
  obtain ⟨_, _, _, _, hnx, hsq, hclean⟩ := cons_inA h hnw k1 hk1
  obtain ⟨a, b, c, cw, inc, hK⟩ := inA_shape _ k1 hk1 s.A.snd_una
  obtain ⟨rw', sb, su, al, rb, rq, rn, pr, hF⟩ := inFrs_frame frs { k := s.A }
  refine ⟨by rw [hK, hF], by rw [hK, hF], by rw [hK, hF], by rw [hK, hF], by rw [hK, hF], hnx, hsq, by rw [hK], fun hb => ?_⟩
  have hbF : (inFrs true frs { k := s.A }).k.snd_buf = [] := by
    cases hl : (inFrs true frs { k := s.A }).k.snd_buf with
    | nil => rfl
    | cons x r =>
      obtain ⟨y, hy, _⟩ := (inFrs_marked frs { k := s.A }).1 x (by rw [hl]; exact List.mem_cons_self ..)
      have : y ∈ ([] : List Seg) := by rw [← hb]; exact hy
      simp at this
  have hbK : (cwndOnAck k1 s.A.snd_una).snd_buf = [] := by rw [hK]; exact hbF
  have huK : (cwndOnAck k1 s.A.snd_una).snd_una = s.A.snd_una := by
    rw [← una_eq_nxt hclean.acon hbK, hnx, una_eq_nxt h.acon hb]
  have huF : (inFrs true frs { k := s.A }).k.snd_una = s.A.snd_una := by rw [← huK, hK]
  exact ⟨hbK, huK, by rw [inA_cwnd _ k1 hk1 _ huF, hF]⟩

/-- for A's `Input`, `M` is asked of the state after the parse and of the state after parse and flush: the invariant
holds again in between -/
theorem cons_cases {p : Par} {s : State} {gab gba : GLink} (h : Cons p s gab gba) (hnw : NoWrap p.base s) (ev : Ev)
    (M : State → Prop) (same : M s)
    (tick : quiet s = true → M { s with now := s.now + 1 })
    (send : ∀ b q, ev = .send b → M { s with A := { s.A with snd_queue := q }, panic := s.panic || (s.A.send b).panic })
    (read : M { s with B := (s.B.recv s.B.peekSize.toNat).k, got := s.got ++ (s.B.recv s.B.peekSize.toNat).data })
    (flushA : M (afterFlushA s (s.now + (s.A.flush true (clk s.now)).interval.toNat)))
    (flushB : M { s with B := (s.B.flush true (clk s.now)).k, nfB := s.now + (s.B.flush true (clk s.now)).interval.toNat,
                         ba := s.ba ++ stamp (s.now + s.D) (s.B.flush true (clk s.now)).outs,
                         panic := s.panic || (s.B.flush true (clk s.now)).panic })
    (dlvB : ∀ t0 frs grest, gab = (t0, frs) :: grest → t0 ≤ s.now →
      M { s with B := (s.B.input (encFrames frs) true s.ndB (clk s.now)).k, ab := encL grest,
                 ba := s.ba ++ stamp (s.now + s.D) (s.B.input (encFrames frs) true s.ndB (clk s.now)).outs,
                 panic := s.panic || (s.B.input (encFrames frs) true s.ndB (clk s.now)).panic })
    (dlvA : ∀ t0 frs grest K, gba = (t0, frs) :: grest → t0 ≤ s.now → InA s frs K →
      Cons p { s with A := K, ba := encL grest } gab grest → NoWrap p.base { s with A := K, ba := encL grest } →
      M { s with A := K, ba := encL grest } ∧ M (afterFlushA { s with A := K, ba := encL grest } s.nfA)) :
    M (Sys.step s ev) := by
  refine h.step_cases (P := M) ev same (fun _ => tick) (fun b he => ?_) (fun _ _ => read) (fun _ => flushA) (fun _ => flushB)
    (fun t0 frs grest _ => dlvB t0 frs grest) (fun t0 frs grest _ hg hdue => ?_)
  · have := send b (s.A.send b).k.snd_queue he
    rw [← Frame.send_k s.A b] at this
    exact this
  · subst hg
    exact h.dlvA_cases (P := M) hnw (fun k1 hk1 hc1 hnw1 => dlvA t0 frs grest _ rfl hdue (inA_of_cons h hnw k1 hk1) hc1 hnw1)

end KcpVerif.SysC
