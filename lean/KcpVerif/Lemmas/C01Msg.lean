/-
Message-mode composition for C01: the invariants behind `C01_core_msg`.

* writer: in message mode (`stream = 0`) the list of messages `Send` has accepted (`accM`) is the
  grouping of `L ++ snd_queue` at the `frg = 0` boundaries (`InvM`);
* reader: the list of byte strings returned by `Recv` (`got`) is the grouping of the delivered
  contents `dl`, which end on a boundary (`InvMB`);
* system: the reader has never accepted more segments than the writer has numbered (`rcv_le_log`).
-/
import KcpVerif.Lemmas.C01Grp

namespace KcpVerif.C01
open KcpVerif.Kcp KcpVerif.Frame KcpVerif.Recv KcpVerif.Send KcpVerif.Wire

theorem send_msg (k : Kcp) (buf : Bytes) (hs : k.stream = 0) (hm : 0 < k.mss.toNat)
    (hp : (send k buf).panic = false) :
    ((send k buf).ret = 0 ∧ ∃ (new : List Seg) (c : Nat), (send k buf).k.snd_queue = k.snd_queue ++ new ∧
        c < 255 ∧ frgs new = cd (c + 1) ∧ qbytes new = buf) ∨
    ((send k buf).ret ≠ 0 ∧ (send k buf).k.snd_queue = k.snd_queue) := by
  refine send_cases (P := fun r => r.panic = false →
      (r.ret = 0 ∧ ∃ (new : List Seg) (c : Nat), r.k.snd_queue = k.snd_queue ++ new ∧
        c < 255 ∧ frgs new = cd (c + 1) ∧ qbytes new = buf) ∨ (r.ret ≠ 0 ∧ r.k.snd_queue = k.snd_queue)) k buf
    (fun _ hr _ _ => Or.inr ⟨hr, rfl⟩) (fun _ _ _ hp => nomatch hp) (fun hs' _ _ _ => absurd hs hs') (fun c3 _ _ _ => Or.inl ?_) hp
  refine ⟨rfl, sendNew k buf, (if sendCount k buf = 0 then 1 else sendCount k buf) - 1, ?_, ?_, ?_, ?_⟩
  · show sendQ1 k buf ++ sendNew k buf = _
    rw [sendQ1_msg k buf hs]
  · split <;> omega
  · unfold sendNew
    rw [mkSegs_frgs]
    have : (decide (k.stream ≠ 0)) = false := by simp [hs]
    rw [this]
    simp only [Bool.false_eq_true, ↓reduceIte]
    congr 1
    split <;> omega
  · rw [sendNew_bytes k buf hm, sendRest_msg k buf hs]

theorem closed_of_countOk : ∀ (l : List Content), CountOkF (l.map (·.1)) → Closed l
  | [], _ => Closed.nil
  | [x], h => by
    intro y hy
    have : x = y := by simpa using hy
    rw [← this]; exact h
  | x :: y :: r, h => by
    have ih := closed_of_countOk (y :: r) h.2.2
    intro z hz
    exact ih z (by simpa [List.getLast?_cons_cons] using hz)

structure InvM0 (s : GSt) : Prop where
  st  : s.k.stream = 0
  mss : 0 < s.k.mss.toNat
  acc : s.accM = grp (s.log ++ s.k.snd_queue.map content)

theorem step_invM0 {s : GSt} (h : InvM0 s) (hc : CountOkF (pendFrgs s)) (op : Op) : InvM0 (step s op) := by
  obtain ⟨⟨hst, hm⟩, hcase⟩ := step_sender s op
  refine ⟨hst.trans h.st, hm h.mss, ?_⟩
  rcases hcase with ⟨buf, rfl, hd, hp⟩ | ⟨hp, _, ha⟩
  · rw [step_send s buf hd hp]
    show (if (send s.k buf).ret = 0 then s.accM ++ [buf] else s.accM) =
      grp (s.log ++ (send s.k buf).k.snd_queue.map content)
    rcases send_msg s.k buf h.st h.mss hp with ⟨hr, new, c, hq, hc255, hf, hb⟩ | ⟨hr, hq⟩
    · rw [if_pos hr, hq, List.map_append, ← List.append_assoc]
      have hcl : Closed (s.log ++ s.k.snd_queue.map content) := closed_of_countOk _ hc
      rw [grp_append _ _ hcl, ← h.acc]
      have hmap : (new.map content).map (·.1) = cd (c + 1) := by
        rw [← hf]; unfold frgs content; simp [List.map_map, Function.comp_def]
      have hg := ((oneMsg_cd c (new.map content) hc255 hmap).grp []).1
      have hbb : bytesOf (new.map content) = buf := hb
      unfold grp
      rw [hg, hbb]; rfl
    · rw [if_neg hr, hq]; exact h.acc
  · rw [ha]
    show s.accM = grp (pend (step s op))
    rw [hp]
    exact h.acc

structure InvM (s : GSt) : Prop where
  m0  : InvM0 s
  cnt : CountOkF (pendFrgs s)

theorem step_invM {s : GSt} (h : InvM s) (op : Op) : InvM (step s op) :=
  ⟨step_invM0 h.m0 h.cnt op, step_countOk h.cnt op⟩

theorem run_invM (ops : List Op) : ∀ s : GSt, InvM s → InvM (run s ops) :=
  foldl_inv (fun _ op h => step_invM h op) ops

theorem fresh_invM (k : Kcp) (hf : Fresh k) (hm : 0 < k.mss.toNat) (hs : k.stream = 0) : InvM { k := k } :=
  ⟨⟨hs, hm, by simp [hf.sq, grp, grpAux]⟩, fresh_countOk k hf⟩

/-- the strings returned by `Recv` are the messages of the delivered contents, which end on a
message boundary -/
structure InvMB (s : GSt) : Prop where
  got : s.got = grp s.dl
  cl  : Closed s.dl

theorem step_invMB {G : U32 → Content} {sn0 conv : U32} {s : GSt} {n : Nat}
    (hr : InvRG G sn0 conv s n) (hf : FrgOk G sn0 n) (h : InvMB s) (op : Op) : InvMB (step s op) := by
  refine step_cases (P := InvMB) s op h (fun _ => ⟨h.got, h.cl⟩) (fun _ _ _ _ => ⟨h.got, h.cl⟩) (fun buflen hn => ?_)
    (fun _ _ _ => ⟨h.got, h.cl⟩) (fun _ _ => ⟨h.got, h.cl⟩)
  obtain ⟨j, hj1, hjn, hpc, _, hdata, _, _, hz⟩ := recv_msg hr.inv hf buflen (by omega)
  have hcnt := hr.inv.count
  have hjl : j - 1 < s.k.rcv_queue.length := by omega
  have hex : ∃ x ∈ s.k.rcv_queue, x.frg = 0 := by
    refine ⟨s.k.rcv_queue[j - 1], List.getElem_mem hjl, ?_⟩
    have hg := (hr.inv.queue_get (j - 1) _ (List.getElem?_eq_getElem hjl)).1
    have e : s.dl.length + j - 1 = s.dl.length + (j - 1) := by omega
    rw [e, ← hg] at hz
    exact hz
  obtain ⟨hg, hcl, hne⟩ := (oneMsg_pop s.k.rcv_queue hex).grp []
  refine ⟨?_, hcl.append_right hne⟩
  show s.got ++ [(recv s.k buflen).data] = grp (s.dl ++ (s.k.rcv_queue.take (popCount s.k.rcv_queue)).map content)
  rw [grp_append _ _ h.cl, ← h.got, hdata, ← hpc]
  unfold grp
  rw [hg, data_flatten]; rfl

/-- The reader cannot have accepted a sequence number the writer has not numbered: the system invariant holds for EVERY
content function agreeing with the writer's log, and two such functions that differ at index `|L|` would both have to
describe the reader's accepted prefix. -/
theorem rcv_le_log {sn0 conv : U32} {s : Sys} (h : SysInv sn0 conv s) (hL : s.A.log.length < 2 ^ 32)
    {G : U32 → Content} {n : Nat} (hG : Agree G sn0 s.A.log) (hn : InvRG G sn0 conv s.B n) :
    n ≤ s.A.log.length := by
  refine Nat.le_of_not_lt fun hlt => ?_
  let x : U32 := sn0 + BitVec.ofNat 32 s.A.log.length
  let G' : U32 → Content := fun sn => if sn = x then ((G sn).1 + 1, (G sn).2) else G sn
  have hG' : Agree G' sn0 s.A.log := by
    intro i c hc
    have hi : i < s.A.log.length := lt_of_getElem? hc
    have hne : sn0 + BitVec.ofNat 32 i ≠ x := by
      intro heq
      have h1 : BitVec.ofNat 32 i = BitVec.ofNat 32 s.A.log.length := by
        have : sn0 + BitVec.ofNat 32 i = sn0 + BitVec.ofNat 32 s.A.log.length := heq
        bv_omega
      have h2 := congrArg BitVec.toNat h1
      simp only [BitVec.toNat_ofNat] at h2
      omega
    show (if sn0 + BitVec.ofNat 32 i = x then _ else _) = c
    rw [if_neg hne]; exact hG i c hc
  obtain ⟨n', hn'⟩ := h.rcv G' hG'
  have e : n' = n := by rw [hn'.inv.count, hn.inv.count]
  rw [e] at hn'
  have hpre : gRange G sn0 n = gRange G' sn0 n := by rw [← hn.inv.pre, ← hn'.inv.pre]
  have h1 := gRange_get G sn0 n _ hlt
  rw [hpre, gRange_get G' sn0 n _ hlt] at h1
  have h2 : G' x = G x := Option.some.inj h1
  have h3 : (G x).1 + 1 = (G x).1 := by
    have : G' x = ((G x).1 + 1, (G x).2) := by show (if x = x then _ else _) = _; rw [if_pos rfl]
    rw [this] at h2
    exact congrArg Prod.fst h2
  generalize (G x).1 = a at h3
  bv_omega

structure MsgInv (sn0 conv : U32) (s : Sys) : Prop where
  sys : SysInv sn0 conv s
  a   : InvM s.A
  b   : s.A.log.length < 2 ^ 32 → InvMB s.B

theorem MsgInv.reader {sn0 conv : U32} {s : Sys} (h : MsgInv sn0 conv s) (hL : s.A.log.length < 2 ^ 32) :
    ∃ n, n ≤ s.A.log.length ∧ InvRG (gOf sn0 s.A.log) sn0 conv s.B n ∧ FrgOk (gOf sn0 s.A.log) sn0 n := by
  have hG := gOf_agree sn0 s.A.log (by omega)
  obtain ⟨n, hn⟩ := h.sys.rcv _ hG
  have hle := rcv_le_log h.sys hL hG hn
  exact ⟨n, hle, hn, frgOk_of_log h.a.cnt _ sn0 hG n hle⟩

theorem sstep_msgInv {sn0 conv : U32} {s : Sys} (h : MsgInv sn0 conv s) (op : SOp) :
    MsgInv sn0 conv (sstep s op) := by
  have stepB (o : Op) (hs : SysInv sn0 conv { s with B := step s.B o }) : MsgInv sn0 conv { s with B := step s.B o } :=
    ⟨hs, h.a, fun hL => by obtain ⟨n, _, hn, hf⟩ := h.reader hL; exact step_invMB hn hf (h.b hL) o⟩
  refine sstep_cases (P := fun s' => SysInv sn0 conv s' → MsgInv sn0 conv s') s op (fun _ => h) (fun o hs => ?_)
    (fun o _ => stepB o) (fun _ _ _ _ _ => stepB _) (sstep_inv h.sys op)
  obtain ⟨_, X, hX⟩ := step_invSG h.sys.snd o
  refine ⟨hs, step_invM h.a o, fun hL => ?_⟩
  have hL' : (step s.A o).log.length < 2 ^ 32 := hL
  rw [hX, List.length_append] at hL'
  exact h.b (by omega)

theorem srun_msgInv {sn0 conv : U32} (ops : List SOp) :
    ∀ s : Sys, MsgInv sn0 conv s → MsgInv sn0 conv (srun s ops) :=
  foldl_inv (fun _ op h => sstep_msgInv h op) ops

theorem fresh_msgInv (kA kB : Kcp) (hA : Fresh kA) (hB : Fresh kB) (hsn : kB.rcv_nxt = kA.snd_nxt)
    (hm : 0 < kA.mss.toNat) (hs : kA.stream = 0) :
    MsgInv kA.snd_nxt kB.conv ⟨{ k := kA }, { k := kB }⟩ :=
  ⟨fresh_sysInv kA kB hA hB hsn, fresh_invM kA hA hm hs, fun _ => ⟨rfl, Closed.nil⟩⟩

theorem MsgInv.result {sn0 conv : U32} {s : Sys} (h : MsgInv sn0 conv s) (hL : s.A.log.length < 2 ^ 32) :
    s.B.dl.length ≤ s.A.log.length ∧ s.B.dl = s.A.log.take s.B.dl.length ∧
      s.B.got = grp (s.A.log.take s.B.dl.length) ∧
      s.A.accM = s.B.got ++ grp (s.A.log.drop s.B.dl.length ++ s.A.k.snd_queue.map content) := by
  obtain ⟨n, hle, hn, _⟩ := h.reader hL
  have hb := h.b hL
  have hcnt := hn.inv.count
  have hdl : s.B.dl = s.A.log.take s.B.dl.length :=
    hn.inv.dl_eq.trans (gRange_agree (gOf_agree sn0 s.A.log (by omega)) _ (by omega))
  refine ⟨by omega, hdl, by rw [← hdl]; exact hb.got, ?_⟩
  rw [h.a.m0.acc]
  conv => lhs; rw [← List.take_append_drop s.B.dl.length s.A.log, ← hdl, List.append_assoc]
  rw [grp_append _ _ hb.cl, ← hb.got]

end KcpVerif.C01
