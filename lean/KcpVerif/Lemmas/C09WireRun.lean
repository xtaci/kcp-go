/-
C09 `wire_reassembles`: from the invariant `WInv` to the specification decoder — every emitted datagram decodes, and
every decoded segment is genuine for the ghost log — and the two facts behind "everything numbered so far is returned".

A FULL flush transmits every segment it admits.  Phase 4 of `flush` numbers a prefix of `snd_queue` (in an ACK-only
flush as well: those segments are numbered but not put on the wire until the next full flush); phase 5 of a full flush
sends every un-acknowledged segment with `xmit = 0`.  A queued segment has `xmit = 0` and is not acknowledged (`QInv`, an
invariant of every history), so every sequence number a full flush adds to the log is on the wire when the flush returns.

In stream mode every segment is a whole message.  With `stream ≠ 0` (`SetStreamMode(true)`; the flag is part of the
initial state of a history of `C01.Op`, which has no operation that writes it) `Send` gives every segment it creates
`frg = 0`, so the ghost log always ends on a message boundary (`C01.Closed`) and the specification's reassembler never
holds anything back.
-/
import KcpVerif.Lemmas.C09WireInv
import KcpVerif.Lemmas.C09WireAsm

namespace KcpVerif.C09W
open KcpVerif.Gen KcpVerif.Kcp KcpVerif.Recv KcpVerif.Send KcpVerif.C01

/-- all segments the specification decoder finds in a list of datagrams, in wire order (a datagram it
refuses contributes nothing) -/
def wireSegs (wire : List Bytes) : List DSeg := wire.flatMap fun o => (Wire.Spec.decode o).getD []

theorem mem_wireSegs {wire : List Bytes} {x : DSeg} (h : x ∈ wireSegs wire) :
    ∃ o ∈ wire, ∃ segs, Wire.Spec.decode o = some segs ∧ x ∈ segs := by
  obtain ⟨o, ho, hx⟩ := List.mem_flatMap.mp h
  cases hd : Wire.Spec.decode o with
  | none => rw [hd] at hx; cases hx
  | some segs => rw [hd] at hx; exact ⟨o, ho, segs, hd, hx⟩

theorem mem_wireSegs_of {wire : List Bytes} {o : Bytes} {segs : List DSeg} {x : DSeg} (ho : o ∈ wire)
    (hd : Wire.Spec.decode o = some segs) (hx : x ∈ segs) : x ∈ wireSegs wire :=
  List.mem_flatMap.mpr ⟨o, ho, by rw [hd]; exact hx⟩

theorem DgOk.decode {c sn0 : U32} {L : List Content} {o : Bytes} (h : DgOk c sn0 L o) :
    ∃ frs : List Wire.Frm, frs ≠ [] ∧ o = Wire.encFrames frs ∧ (∀ fr ∈ frs, FrOk c sn0 L fr) ∧
      Wire.Spec.decode o = some (frs.map specOf) := by
  obtain ⟨frs, h1, h2, h3⟩ := h
  refine ⟨frs, h1, h2, h3, ?_⟩
  rw [h2]
  exact decode_encFrames frs h1 fun fr hfr => (h3 fr hfr).valid

theorem FrOk.spec {c : U32} {L : List Content} {fr : Wire.Frm} (h : FrOk c 0 L fr) (hL : L.length ≤ 2 ^ 32) :
    (specOf fr).1.conv = c ∧ Wire.cmdKnown (specOf fr).1.cmd = true ∧
      (specOf fr).1.len.toNat = (specOf fr).2.length ∧ (specOf fr).2.length ≤ mtuLimit ∧ SegGen L (specOf fr) := by
  have hl := h.len
  refine ⟨h.conv, (toSeg_wf fr h.cmd (by unfold mtuLimit at hl; omega)).1, ?_, hl, specOf_segGen hL h.push⟩
  show (BitVec.ofNat 32 fr.data.length).toNat = fr.data.length
  simp only [BitVec.toNat_ofNat]
  unfold mtuLimit at hl
  omega

theorem WInv.segGen {c : U32} {s : GSt} (h : WInv c 0 s) (hL : s.log.length ≤ 2 ^ 32) :
    ∀ x ∈ wireSegs s.wire, SegGen s.log x := by
  intro x hx
  obtain ⟨o, ho, segs, hd, hxs⟩ := mem_wireSegs hx
  obtain ⟨frs, _, _, h3, h4⟩ := (h.wire o ho).decode
  rw [h4] at hd
  cases hd
  obtain ⟨fr, hfr, rfl⟩ := List.mem_map.mp hxs
  exact specOf_segGen hL (h3 fr hfr).push

def QFresh (l : List Seg) : Prop := ∀ x ∈ l, x.xmit = 0 ∧ x.acked = false

def QInv (s : GSt) : Prop := QFresh s.k.snd_queue

theorem step_qInv {s : GSt} (h : QInv s) (op : Op) : QInv (step s op) :=
  step_cases (P := QInv) s op h (fun _ => h)
    (fun buf _ _ _ =>
      send_queue_forall (fun x => x.xmit = 0 ∧ x.acked = false) s.k buf h (fun _ _ => ⟨rfl, rfl⟩) (fun _ _ hs => hs))
    (fun n _ => by show QFresh (recv s.k n).k.snd_queue; rw [(recv_sndSame s.k n).snd_queue]; exact h)
    (fun k' _ htx => by
      -- a transmitting operation takes a prefix off the queue
      obtain ⟨j, _, e⟩ := htx.txSame.queue
      show QFresh k'.snd_queue
      rw [e]; exact fun x hx => h x (List.mem_of_mem_drop hx))
    (fun k' hs => by show QFresh k'.snd_queue; rw [hs.sndQ.snd_queue]; exact h)

theorem fresh_qInv (k : Kcp) (hf : Fresh k) : QInv { k := k } := by
  show QFresh k.snd_queue
  rw [hf.sq]; intro x hx; cases hx

theorem flAd_new (k : Kcp) (now : U32) (hq : QFresh k.snd_queue) :
    ∃ j, j ≤ k.snd_queue.length ∧ (Live.flAd k now).queue = k.snd_queue.drop j ∧
      ∀ t, t < j → ∃ s ∈ (Live.flAd k now).buf,
        s.sn = k.snd_nxt + BitVec.ofNat 32 t ∧ s.xmit = 0 ∧ s.acked = false ∧ s.cmd = cmdPush := by
  obtain ⟨m, hm, e⟩ := Live.flAd_spec k now
  refine ⟨m, hm, by rw [e], fun t ht => ?_⟩
  have hlt : t < (k.snd_queue.take m).length := by rw [List.length_take]; omega
  have hmem := hq _ (List.mem_of_mem_take (List.getElem_mem hlt))
  have hs := stampSegs_getElem? k.conv now _ k.snd_nxt t _ (List.getElem?_eq_getElem hlt)
  rw [e]
  exact ⟨_, List.mem_append_right _ (List.mem_of_getElem? hs), rfl, hmem.1, hmem.2, rfl⟩

theorem flush_full_transmits {sn0 c : U32} {k : Kcp} {L : List Content} (h : InvS sn0 k L) (hq : QFresh k.snd_queue)
    (hc : k.conv = c) (hb : BufC c k.snd_buf) (now : U32) (hp : (flush k true now).panic = false) :
    ∀ i, L.length ≤ i → i < (L ++ admitted k (flush k true now).k).length →
      ∃ g : List Wire.Frm, Wire.encFrames g ∈ (flush k true now).outs ∧
        (∀ fr ∈ g, FrOk c sn0 (L ++ admitted k (flush k true now).k) fr) ∧
        ∃ fr ∈ g, fr.sn = sn0 + BitVec.ofNat 32 i ∧ fr.cmd = cmdPush := by
  intro i hi1 hi2
  obtain ⟨j, hj, r1, r3⟩ := flAd_new k now hq
  obtain ⟨pw, tp, st, ss, cw, inc, hk⟩ := Live.flush_frame k true now
  have hlen : (admitted k (flush k true now).k).length = j := by
    unfold admitted
    rw [hk]
    show ((k.snd_queue.take (k.snd_queue.length - (Live.flAd k now).queue.length)).map content).length = j
    rw [r1, List.length_map, List.length_take, List.length_drop]; omega
  rw [List.length_append, hlen] at hi2
  obtain ⟨s, hs, e1, e2, e3, e4⟩ := r3 (i - L.length) (by omega)
  have hi : L.length + (i - L.length) = i := by omega
  have hsn : s.sn = sn0 + BitVec.ofNat 32 i := by
    rw [e1, h.nxt, BitVec.add_assoc, ← BitVec.ofNat_add, hi]
  -- the segment is sent by phase 5
  have hsent : SysW.sentB now (Live.resentOf k) (Live.flAd k now).count s = true := by
    unfold SysW.sentB
    rw [e3, (Live.cause_initial_iff now (Live.resentOf k) (Live.flAd k now).count s).mpr e2]; rfl
  have hmem : SysW.frmOf (Live.segAfter now (Live.resentOf k) (wndUnused k) k.rcv_nxt (Live.flAd k now).count k.rx_rto
      k.nodelay s) ∈ SysW.pushFrs k true now := by
    unfold SysW.pushFrs
    rw [if_pos rfl]
    exact List.mem_map.mpr ⟨s, List.mem_filter.mpr ⟨hs, hsent⟩, rfl⟩
  obtain ⟨gs, hgs, hflat⟩ := SysW.flush_frames k true now hp
  have hmem2 : SysW.frmOf (Live.segAfter now (Live.resentOf k) (wndUnused k) k.rcv_nxt (Live.flAd k now).count k.rx_rto
      k.nodelay s) ∈ gs.flatten := by
    rw [hflat]; unfold SysW.flushFrs; exact List.mem_append_right _ hmem
  obtain ⟨g, hg, hfr⟩ := List.mem_flatten.mp hmem2
  obtain ⟨a1, _, _, a4, _⟩ := Live.segAfter_id now (Live.resentOf k) (wndUnused k) k.rcv_nxt (Live.flAd k now).count
    k.rx_rto k.nodelay s
  refine ⟨g, by rw [hgs]; exact List.mem_map.mpr ⟨g, hg, rfl⟩,
    fun fr' hfr' => flushFrs_ok h hc hb true now fr' (by rw [← hflat]; exact List.mem_flatten.mpr ⟨g, hg, hfr'⟩),
    _, hfr, ?_, ?_⟩
  · show (Live.segAfter _ _ _ _ _ _ _ s).sn = _
    rw [a1]; exact hsn
  · show (Live.segAfter _ _ _ _ _ _ _ s).cmd = _
    rw [a4]; exact e4

theorem flush_full_avail {c : U32} {k : Kcp} {L : List Content} (h : InvS 0 k L) (hq : QFresh k.snd_queue)
    (hc : k.conv = c) (hb : BufC c k.snd_buf) (now : U32) (hp : (flush k true now).panic = false)
    (hL : (L ++ admitted k (flush k true now).k).length ≤ 2 ^ 32) :
    ∀ i, L.length ≤ i → i < (L ++ admitted k (flush k true now).k).length →
      Avail (wireSegs (flush k true now).outs) i := by
  intro i hi1 hi2
  obtain ⟨g, hg, hall, fr, hfr, hsn, hcmd⟩ := flush_full_transmits h hq hc hb now hp i hi1 hi2
  have hne : g ≠ [] := by intro e; rw [e] at hfr; cases hfr
  have hdec := decode_encFrames g hne fun fr' hfr' => (hall fr' hfr').valid
  refine ⟨specOf fr, mem_wireSegs_of hg hdec (List.mem_map.mpr ⟨fr, hfr, rfl⟩), ?_, ?_⟩
  · show (UInt8.ofNat fr.cmd.toNat).toNat = 81
    rw [u8_toNat_of_bv8, hcmd]; rfl
  · show fr.sn.toNat = i
    rw [hsn]; exact toNat_zero_add_ofNat (by rw [List.length_append] at hL hi2; omega)

structure InvStream (s : GSt) : Prop where
  st   : s.k.stream ≠ 0
  zero : ∀ f ∈ (s.log ++ s.k.snd_queue.map content).map (·.1), f = 0

theorem step_invStream {s : GSt} (h : InvStream s) (op : Op) : InvStream (step s op) :=
  ⟨by rw [(step_sender s op).1.1]; exact h.st, step_whole h.zero op fun _ _ => Or.inl h.st⟩

theorem fresh_invStream (k : Kcp) (hf : Fresh k) (hs : k.stream ≠ 0) : InvStream { k := k } :=
  ⟨hs, by simp [hf.sq]⟩

theorem InvStream.closed {s : GSt} (h : InvStream s) : Closed s.log := closed_of_whole h.zero

end KcpVerif.C09W
