/-
C07 over whole histories: what the decoder holds for ONE group is a pure function of the history.  The
ghost `track` lists the indices of the distinct packets of the group received since its shard set was
last created or emptied: a duplicate changes nothing; a new packet is appended, and the list is emptied
when it reaches `d` (the recovery block pops the whole heap); after every placed packet the list is
dropped iff the group is not `alive` w.r.t. the new `newestShardId` (`discardShards`).  After any
history of genuine packets the decoder holds exactly `(track … hist).map (G.packet C)` (`run_track`):
the hypothesis `hset` of `C07_dec_any_k`, discharged.
-/
import KcpVerif.Lemmas.FecHist
import KcpVerif.Lemmas.Ite

namespace KcpVerif.Lemmas.FecHist
open KcpVerif.Fec KcpVerif.Lemmas.FecSpec KcpVerif.Lemmas.FecDec

/-- one packet `q` arrives; `cur` is the horizon before it, `got` the indices held for group `g` -/
def trackStep (n d : Nat) (g : BitVec 32) (cur : Option (BitVec 32)) (got : List Nat) (q : Bytes) :
    List Nat :=
  if sidOf n q = g then
    if posOf n q ∈ got then got
    else if alive n (nextNewest n cur (sidOf n q)) g then
      (if got.length + 1 ≥ d then [] else got ++ [posOf n q])
    else []
  else if alive n (nextNewest n cur (sidOf n q)) g then got else []

def track (n d : Nat) (g : BitVec 32) : Option (BitVec 32) → List Nat → List Bytes → List Nat
  | _, got, [] => got
  | cur, got, q :: rest =>
    track n d g (some (nextNewest n cur (sidOf n q))) (trackStep n d g cur got q) rest

theorem track_append (n d : Nat) (g : BitVec 32) (a b : List Bytes) :
    ∀ (cur : Option (BitVec 32)) (got : List Nat),
      track n d g cur got (a ++ b)
        = track n d g (curAfter n cur (a.map (sidOf n))) (track n d g cur got a) b := by
  induction a with
  | nil => intro cur got; rfl
  | cons q rest ih =>
    intro cur got
    simp only [List.cons_append, track, List.map_cons, curAfter, List.foldl_cons]
    exact ih _ _

section Step
variable {C : CodecNew}

theorem held_decode {G' : Group} (hG' : G'.WF) (dec : Decoder) (hM : Matches C G' dec)
    (got' : List Nat) (hb' : ∀ i ∈ got', i < G'.n)
    (hset' : held (G'.base / u32 G'.n) dec = got'.map (G'.packet C)) (j' : Nat) (hj' : j' < G'.n)
    (g : BitVec 32) :
    held g (dec.decode C (G'.packet C j')).st =
      if j' ∈ got' then held g dec
      else if alive G'.n (nextNewest G'.n (horizonOf dec) (G'.base / u32 G'.n)) g then
        (if G'.base / u32 G'.n = g then
          (if got'.length + 1 ≥ G'.d then [] else (got' ++ [j']).map (G'.packet C))
         else held g dec)
      else [] := by
  rw [decode_genuine hG' dec hM got' hb' hset' j' hj']
  by_cases hmem : j' ∈ got'
  · rw [if_pos hmem, if_pos hmem]; rfl
  · rw [if_neg hmem, if_neg hmem]
    show ((lookup g (discard G'.n _ (store _ dec.sets))).getD ⟨g, []⟩).pkts = _
    rw [lookup_discard]
    cases alive G'.n (nextNewest G'.n (horizonOf dec) (G'.base / u32 G'.n)) g with
    | false => rfl
    | true =>
      rw [if_pos rfl, if_pos rfl]
      by_cases hg : G'.base / u32 G'.n = g
      · rw [if_pos hg, ← hg, lookup_store]; rfl
      · rw [if_neg hg, lookup_store_ne g _ hg]; rfl

variable {G : Group}

theorem trackStep_ghost (hG : G.WF) (g : BitVec 32) (cur : Option (BitVec 32)) (got : List Nat)
    (hgh : Ghost G got) (q : Bytes) : Ghost G (trackStep G.n G.d g cur got q) := by
  have hnil := Ghost.nil hG
  -- the only new list: `got` with a new index, while still short of `d`
  have hnew : posOf G.n q ∉ got → ¬ got.length + 1 ≥ G.d → Ghost G (got ++ [posOf G.n q]) :=
    fun hmem hfull => ⟨pairwise_snoc got hgh.nodup _ hmem,
      forall_mem_snoc hgh.bound (Nat.mod_lt _ (n_pos hG)),
      by rw [List.length_append, List.length_singleton]; omega⟩
  unfold trackStep
  -- a packet of the group (held already; alive: full or new; not alive), a packet of another group
  exact ite_ind
    (ite_cases (fun _ => hgh) (fun hmem => ite_ind (ite_cases (fun _ => hnil) (hnew hmem)) hnil))
    (ite_ind hgh hnil)

theorem track_decode (grp : Family) (dec : Decoder) (hI : HInv C grp dec) (hG : G.WF)
    (hgrp : grp (G.base / u32 G.n) = some G) (hd : G.d = dec.d) (hp : G.p = dec.p)
    (got : List Nat) (hgh : Ghost G got)
    (hset : held (G.base / u32 G.n) dec = got.map (G.packet C))
    (q : Bytes) (hq : GenuinePkt C grp dec.d dec.p q) :
    held (G.base / u32 G.n) (dec.decode C q).st
      = (trackStep G.n G.d (G.base / u32 G.n) (horizonOf dec) got q).map (G.packet C) := by
  obtain ⟨G', j', hgrp', hG', hd', hp', hj', rfl⟩ := hq
  have hn : G'.n = G.n := by unfold Group.n; rw [hd', hp', hd, hp]
  have hM' : Matches C G' dec := hI.steady.matches (hd'.trans rfl) (hp'.trans rfl)
  unfold trackStep
  by_cases hg : G'.base / u32 G'.n = G.base / u32 G.n
  · -- a packet of the tracked group itself: `held_decode` and `trackStep` branch alike
    have hGG : G' = G := by
      rw [hg, hgrp] at hgrp'
      exact (Option.some.inj hgrp').symm
    subst hGG
    rw [held_decode hG' dec hM' got hgh.bound hset j' hj', sidOf_packet hG' j' hj',
      posOf_packet hG' j' hj', if_pos rfl, if_pos rfl, hset]
    simp only [apply_ite (List.map (G'.packet C)), List.map_nil]
  · -- a packet of another group
    obtain ⟨got', ⟨_, hb', _⟩, hset'⟩ := held_genuine grp dec hI.genuine hG' hgrp'
    have hsid : sidOf G.n (G'.packet C j') = G'.base / u32 G.n := hn ▸ sidOf_packet hG' j' hj'
    have hg' : ¬ G'.base / u32 G.n = G.base / u32 G.n := hn ▸ hg
    rw [held_decode hG' dec hM' got' hb' hset' j' hj', hn, hsid, if_neg hg', if_neg hg', hset,
      apply_ite (List.map (G.packet C)), List.map_nil]
    by_cases hmem : j' ∈ got'
    · -- a duplicate: the horizon stays at `newest`, and the tracked set (if non-empty) is alive
      obtain ⟨hal', hhor⟩ := hI.of_held (g := G'.base / u32 G'.n)
        (by rw [hset']; exact fun h => List.not_mem_nil (List.map_eq_nil_iff.1 h ▸ hmem))
      rw [hM'.n, hn] at hal'
      rw [if_pos hmem, hhor, nextNewest_of_alive _ _ _ hal']
      by_cases hgot : got = []
      · rw [hgot, List.map_nil, ite_self]
      · obtain ⟨hal, _⟩ := hI.of_held (g := G.base / u32 G.n)
          (by rw [hset]; exact fun h => hgot (List.map_eq_nil_iff.1 h))
        rw [hM'.n, hn] at hal
        rw [hal, if_pos rfl]
    · rw [if_neg hmem]

end Step

section Hist
variable {C : CodecNew} {G : Group}

theorem run_track (grp : Family) (hG : G.WF) (hgrp : grp (G.base / u32 G.n) = some G) :
    ∀ (hist : List Bytes) (dec : Decoder) (got : List Nat), HInv C grp dec → G.d = dec.d →
      G.p = dec.p → Ghost G got → held (G.base / u32 G.n) dec = got.map (G.packet C) →
      (∀ q ∈ hist, GenuinePkt C grp G.d G.p q) →
      HInv C grp (run C dec hist) ∧ G.d = (run C dec hist).d ∧ G.p = (run C dec hist).p ∧
      horizonOf (run C dec hist) = curAfter G.n (horizonOf dec) (hist.map (sidOf G.n)) ∧
      held (G.base / u32 G.n) (run C dec hist)
        = (track G.n G.d (G.base / u32 G.n) (horizonOf dec) got hist).map (G.packet C) ∧
      Ghost G (track G.n G.d (G.base / u32 G.n) (horizonOf dec) got hist) := by
  intro hist
  induction hist with
  | nil => intro dec got hI hd hp hgh hset _; exact ⟨hI, hd, hp, rfl, hset, hgh⟩
  | cons q rest ih =>
    intro dec got hI hd hp hgh hset hgen
    have hq := hgen q (List.mem_cons_self ..)
    have hq' : GenuinePkt C grp dec.d dec.p q := by rw [← hd, ← hp]; exact hq
    have hT := track_decode grp dec hI hG hgrp hd hp got hgh hset q hq'
    have hgh' := trackStep_ghost hG (G.base / u32 G.n) (horizonOf dec) got hgh q
    obtain ⟨hI', e1, e2, _, hhor⟩ := hinv_step grp dec hI q hq'
    have := ih (dec.decode C q).st _ hI' (hd.trans e1.symm) (hp.trans e2.symm) hgh' hT
      (fun q hq => hgen q (List.mem_cons_of_mem _ hq))
    rw [hhor, (hI.steady.matches hd hp).n] at this
    exact this

theorem step_out (hC : Lawful C) (grp : Family) (hG : G.WF) (hgrp : grp (G.base / u32 G.n) = some G)
    (dec : Decoder) (got : List Nat) (hI : HInv C grp dec) (hd : G.d = dec.d) (hp : G.p = dec.p)
    (hgh : Ghost G got) (hset : held (G.base / u32 G.n) dec = got.map (G.packet C))
    (a : List Bytes) (hgen : ∀ q ∈ a, GenuinePkt C grp G.d G.p q) (j : Nat) (hj : j < G.n) :
    ((run C dec a).decode C (G.packet C j)).recovered
      = (if j ∉ track G.n G.d (G.base / u32 G.n) (horizonOf dec) got a ∧
            (track G.n G.d (G.base / u32 G.n) (horizonOf dec) got a).length + 1 = G.d
         then missing G (track G.n G.d (G.base / u32 G.n) (horizonOf dec) got a ++ [j]) else []) ∧
    ((run C dec a).decode C (G.packet C j)).panic = false := by
  obtain ⟨hI', hd', hp', _, hT, hgh'⟩ := run_track grp hG hgrp a dec got hI hd hp hgh hset hgen
  exact decode_out hC hG _ (hI'.steady.matches hd' hp') _ hgh' hT j hj

end Hist

end KcpVerif.Lemmas.FecHist
