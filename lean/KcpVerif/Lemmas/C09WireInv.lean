/-
C09 `wire_reassembles`: the invariant of the send side that the specification decoder needs.

The C01 invariants (`Send.InvS`, `C01.InvSG`) say that every datagram handed to `output` is a concatenation
of frames whose PUSH members carry the logged content of their sequence number.  `Wire.Spec.decode` needs
more: the datagram is not empty, every frame has the connection's `conv` and a known command, every
payload fits the `len` field.  `WInv` adds that over every history; its bound `wlen` (`InvMss.mtu_le`) is what lets the
16-bit size field of the FEC header hold the length.
-/
import KcpVerif.Lemmas.C09WireEnc
import KcpVerif.Lemmas.C01Ops
import KcpVerif.Lemmas.KcpMss

namespace KcpVerif.C09W
open KcpVerif.Gen KcpVerif.Kcp KcpVerif.Frame KcpVerif.Recv KcpVerif.Send KcpVerif.C01
open KcpVerif.Lemmas.KcpFlush (InvMss)

abbrev cmdPush : BitVec 8 := BitVec.ofNat 8 IKCP_CMD_PUSH

/-- a frame an independent observer can use -/
structure FrOk (c sn0 : U32) (L : List Content) (fr : Wire.Frm) : Prop where
  conv : fr.conv = c
  cmd  : Live.validCmd fr.cmd
  len  : fr.data.length ≤ mtuLimit
  push : fr.cmd.toNat = IKCP_CMD_PUSH → ∃ i, fr.sn = sn0 + BitVec.ofNat 32 i ∧ L[i]? = some (fr.frg, fr.data)

/-- a datagram: a NON-EMPTY list of good frames, laid out by the core's encoder -/
def DgOk (c sn0 : U32) (L : List Content) (o : Bytes) : Prop :=
  ∃ frs : List Wire.Frm, frs ≠ [] ∧ o = Wire.encFrames frs ∧ ∀ fr ∈ frs, FrOk c sn0 L fr

theorem FrOk.valid {c sn0 : U32} {L : List Content} {fr : Wire.Frm} (h : FrOk c sn0 L fr) :
    Live.validCmd fr.cmd ∧ fr.data.length < 4294967296 :=
  ⟨h.cmd, Nat.lt_of_le_of_lt h.len (by decide)⟩

theorem FrOk.mono {c sn0 : U32} {L : List Content} {fr : Wire.Frm} (h : FrOk c sn0 L fr) (X : List Content) :
    FrOk c sn0 (L ++ X) fr :=
  ⟨h.conv, h.cmd, h.len, fun hp => by
    obtain ⟨i, h1, h2⟩ := h.push hp
    exact ⟨i, h1, getElem?_append_of_some h2 X⟩⟩

theorem DgOk.mono {c sn0 : U32} {L : List Content} {o : Bytes} (h : DgOk c sn0 L o) (X : List Content) :
    DgOk c sn0 (L ++ X) o := by
  obtain ⟨frs, h1, h2, h3⟩ := h
  exact ⟨frs, h1, h2, fun fr hfr => (h3 fr hfr).mono X⟩

def BufC (c : U32) (l : List Seg) : Prop := ∀ s ∈ l, s.conv = c ∧ s.cmd = cmdPush

theorem BufC.nil (c : U32) : BufC c [] := fun _ h => by cases h

/-- `Input` writes neither `conv` nor `cmd` of a buffered segment -/
theorem BufC.marked {c : U32} {l l' : List Seg} (hm : Marked l l') (h : BufC c l) : BufC c l' := fun s' hs' => by
  obtain ⟨s, hs, _, _, _, rfl, _⟩ := hm s' hs'
  exact h s hs

theorem BufC.loopSteps (c : U32) : LoopSteps fun a b => BufC c a.snd_buf → BufC c b.snd_buf where
  refl _ := id
  trans f g := g ∘ f
  rmtWnd _ _ h := h
  una k una h := BufC.marked (Live.shrinkBuf_marked (parseUna k una).1).1 fun x hx => h x (List.mem_of_mem_drop hx)
  ack k sn ts h := BufC.marked (Live.ackPath_marked k sn ts).1 h
  acklist _ _ h := h
  data k s h := by rw [(parseData_sndSame k s).snd_buf]; exact h
  probe _ h := h

theorem inputLoop_bufC {c : U32} (regular : Bool) (fuel : Nat) (data : Bytes) (st : InLoop) :
    BufC c st.k.snd_buf → BufC c (inputLoop regular fuel data st).k.snd_buf :=
  (BufC.loopSteps c).loop regular fuel data st

/-- phase 4 of a flush appends segments stamped with the connection's `conv` and PUSH … -/
theorem flAd_bufC {c : U32} {k : Kcp} (hc : k.conv = c) (hb : BufC c k.snd_buf) (now : U32) :
    BufC c (Live.flAd k now).buf := by
  obtain ⟨m, _, e⟩ := Live.flAd_spec k now
  rw [e]
  intro s hs
  rcases List.mem_append.mp hs with h1 | h1
  · exact hb s h1
  · obtain ⟨_, _, _, rfl⟩ := mem_stampSegs h1
    exact ⟨hc, rfl⟩

/-- … and a (re)transmission writes neither field -/
theorem flush_bufC {c : U32} {k : Kcp} (hc : k.conv = c) (hb : BufC c k.snd_buf) (full : Bool) (now : U32) :
    BufC c (flush k full now).k.snd_buf := by
  have hk := Live.flush_snd_buf_key (key := fun x : Seg => (x.conv, x.cmd)) (fun _ _ _ _ _ _ _ _ => rfl) k full now
  intro s' hs'
  obtain ⟨s, hs, e⟩ := List.mem_map.mp (hk ▸ List.mem_map_of_mem (f := fun x : Seg => (x.conv, x.cmd)) hs')
  have h0 := flAd_bufC hc hb now s hs
  exact ⟨(congrArg Prod.fst e).symm.trans h0.1, (congrArg Prod.snd e).symm.trans h0.2⟩

theorem flushFrs_ok {sn0 c : U32} {k : Kcp} {L : List Content} (h : InvS sn0 k L) (hc : k.conv = c)
    (hb : BufC c k.snd_buf) (full : Bool) (now : U32) :
    ∀ fr ∈ SysW.flushFrs k full now, FrOk c sn0 (L ++ admitted k (flush k full now).k) fr := by
  intro fr hfr
  obtain ⟨hl, hpush⟩ := flushFrs_logged h full now fr hfr
  rcases SysW.flushFrs_cases hfr with h1 | h1 | h1
  · obtain ⟨a1, a2, _⟩ := SysW.ackFrsOf_mem k fr h1
    exact ⟨a1.trans hc, Or.inr (Or.inl a2), hl, hpush⟩
  · obtain ⟨a1, a2, _⟩ := SysW.probeFrs_mem k now fr h1
    exact ⟨a1.trans hc, a2.elim (fun a => Or.inr (Or.inr (Or.inl a))) (fun a => Or.inr (Or.inr (Or.inr a))), hl, hpush⟩
  · obtain ⟨s, hs, _, e1, e2, _⟩ := pushFrs_mem k full now fr h1
    have hcs := flAd_bufC hc hb now s hs
    exact ⟨e1.trans hcs.1, Or.inl (by rw [e2, hcs.2]; decide), hl, hpush⟩

theorem flush_dg {sn0 c : U32} {k : Kcp} {L : List Content} (h : InvS sn0 k L) (hc : k.conv = c)
    (hb : BufC c k.snd_buf) (full : Bool) (now : U32) (hp : (flush k full now).panic = false)
    (hne : ∀ o ∈ (flush k full now).outs, 0 < o.length) :
    ∀ o ∈ (flush k full now).outs, DgOk c sn0 (L ++ admitted k (flush k full now).k) o := by
  obtain ⟨gs, hgs, hflat⟩ := SysW.flush_frames k full now hp
  have hall := flushFrs_ok h hc hb full now
  intro o ho
  rw [hgs] at ho
  obtain ⟨g, hg, rfl⟩ := List.mem_map.mp ho
  refine ⟨g, ?_, rfl, fun fr hfr => hall fr ?_⟩
  · intro hnil
    have := hne (Wire.encFrames g) (by rw [hgs]; exact List.mem_map.mpr ⟨g, hg, rfl⟩)
    rw [hnil] at this
    simp [Wire.encFrames] at this
  · rw [← hflat]
    exact List.mem_flatten.mpr ⟨g, hg, hfr⟩

/-- what an operation from `k` (log `L`) to `k'` that emitted `outs` owes the wire invariant, unless it panicked or
emitted an empty datagram -/
def StepOk (c sn0 : U32) (k : Kcp) (L : List Content) (k' : Kcp) (outs : List Bytes) (panic : Bool) : Prop :=
  panic = false → (∀ o ∈ outs, 0 < o.length) →
    k'.conv = c ∧ BufC c k'.snd_buf ∧ ∀ o ∈ outs, DgOk c sn0 (L ++ admitted k k') o

theorem StepOk.quiet {c sn0 : U32} {k k' : Kcp} {L : List Content} (hc : k'.conv = c) (hb : BufC c k'.snd_buf) (p : Bool) :
    StepOk c sn0 k L k' [] p :=
  fun _ _ => ⟨hc, hb, fun _ ho => by cases ho⟩

/-- a flush from a state `k1` that still has the log and the queue of `k` -/
theorem StepOk.flush {c sn0 : U32} {k k1 : Kcp} {L : List Content} (h : InvS sn0 k1 L) (hq : k1.snd_queue = k.snd_queue)
    (hc : k1.conv = c) (hb : BufC c k1.snd_buf) (full : Bool) (now : U32) :
    StepOk c sn0 k L (flush k1 full now).k (flush k1 full now).outs (flush k1 full now).panic := fun hp hne =>
  ⟨(flush_keep k1 full now).conv.trans hc, flush_bufC hc hb full now, by
    rw [admitted_congr k k1 _ hq]; exact flush_dg h hc hb full now hp hne⟩

structure WInv (c sn0 : U32) (s : GSt) : Prop where
  sg    : InvSG sn0 s
  mss   : InvMss s.k
  conv  : s.k.conv = c
  bufc  : BufC c s.k.snd_buf
  wire  : ∀ o ∈ s.wire, DgOk c sn0 s.log o
  wlen  : ∀ o ∈ s.wire, o.length ≤ mtuLimit + IKCP_OVERHEAD
  alive : s.dead = false

theorem fresh_wInv (k : Kcp) (hf : Fresh k) (hm : InvMss k) : WInv k.conv k.snd_nxt { k := k } :=
  ⟨fresh_invSG k hf, hm, rfl, by show BufC _ k.snd_buf; rw [hf.sb]; exact BufC.nil _, (fun _ ho => by cases ho),
   (fun _ ho => by cases ho), rfl⟩

section
-- the operations are used through their lemmas only; unfolding them when two states are compared is wasted work
attribute [local irreducible] Kcp.flush Kcp.input Kcp.update

theorem _root_.KcpVerif.C01.Tx.stepOk {c sn0 : U32} {k k' : Kcp} {L : List Content} {op : Op} {outs : List Bytes} (htx : Tx k op k' outs)
    (h : InvS sn0 k L) (hc : k.conv = c) (hb : BufC c k.snd_buf) : StepOk c sn0 k L k' outs false := by
  cases htx with
  | input data regular ackNoDelay now hp =>
    have hcv : (inputLoop regular (data.length / IKCP_OVERHEAD + 1) data { k := k }).k.conv = c :=
      (TxSame.steps.loop regular _ data { k := k }).conv.trans hc
    -- after the parse loop the log and the queue are as before; `Input` then stops or flushes once
    have key := Kcp.input_ind (now := now) (Q := fun r => StepOk c sn0 k L r.k r.outs r.panic)
      (S := fun st => InvS sn0 st.k L ∧ st.k.snd_queue = k.snd_queue ∧ st.k.conv = c ∧ BufC c st.k.snd_buf)
      ⟨inputLoop_invS regular _ data { k := k } h, inputLoop_queue regular _ data { k := k }, hcv,
        inputLoop_bufC regular _ data { k := k } hb⟩
      (StepOk.quiet hc hb false) (fun _ _ p hS => StepOk.quiet hS.2.2.1 hS.2.2.2 p)
      (fun st nd ⟨hl, hq, hc1, hb1⟩ => by
        have hs := (inputK1_same st regular now k.snd_una).2
        have hb2 : BufC c (cwndOnAck (inputK1 st regular now) k.snd_una).snd_buf := by rw [hs.snd_buf]; exact hb1
        exact Kcp.inputFin_ind (Q := fun r => StepOk c sn0 k L r.k r.outs r.panic)
          (fun full => StepOk.flush (hl.same hs) (hs.snd_queue.trans hq) (hs.conv.trans hc1) hb2 full now)
          (StepOk.quiet (hs.conv.trans hc1) hb2 false) _ _)
      ackNoDelay
    exact fun _ => key hp
  | flush full now hp => exact fun _ => StepOk.flush h rfl hc hb full now hp
  | update now hp =>
    -- `Update` writes `updated`/`ts_flush` and then flushes or not
    have key := Kcp.update_ind (k := k) (now := now) (Q := fun r => StepOk c sn0 k L r.k r.outs r.panic)
      (fun u t => StepOk.flush (k1 := { k with updated := u, ts_flush := t }) (h.congr rfl rfl rfl rfl) rfl hc hb true now)
      (fun u t => StepOk.quiet (k' := { k with updated := u, ts_flush := t }) hc hb false)
    exact fun _ => key hp

theorem _root_.KcpVerif.C01.Tx.mss {k k' : Kcp} {op : Op} {outs : List Bytes} (htx : Tx k op k' outs) (h : InvMss k) :
    InvMss k' ∧ ∀ o ∈ outs, 0 < o.length ∧ o.length ≤ k.mtu.toNat := by
  cases htx with
  | input d r a now _ => exact ⟨(Lemmas.KcpMss.input_ok k d r a now h).2.2.1, (Lemmas.KcpMss.input_ok k d r a now h).2.1⟩
  | flush full now _ => exact ⟨(Lemmas.KcpFlush.flush_ok k full now h).2.2.1, (Lemmas.KcpFlush.flush_ok k full now h).2.1⟩
  | update now _ => exact ⟨(Lemmas.KcpMss.update_ok k now h).2.2.1, (Lemmas.KcpMss.update_ok k now h).2.1⟩

theorem _root_.KcpVerif.C01.Setter.mss {k k' : Kcp} (hs : Setter k k') (h : InvMss k) : InvMss k' := by
  cases hs with
  | setMtu m => exact Lemmas.KcpMss.setMtu_inv k m h
  | noDelay a b c d => exact h.of_pres (Total.noDelay_pres k a b c d)
  | wndSize a b => exact h.of_pres (Total.wndSize_pres k a b)

end

theorem _root_.KcpVerif.C01.Panics.mss {k : Kcp} {op : Op} (hp : Panics k op) (h : InvMss k) : False := by
  cases hp with
  | send buf hp => rw [(Lemmas.KcpMss.send_ok k buf h).1] at hp; cases hp
  | input d r a now hp => rw [(Lemmas.KcpMss.input_ok k d r a now h).1] at hp; cases hp
  | flush full now hp => rw [(Lemmas.KcpFlush.flush_ok k full now h).1] at hp; cases hp
  | update now hp => rw [(Lemmas.KcpMss.update_ok k now h).1] at hp; cases hp

theorem step_wInv {c sn0 : U32} {s : GSt} (h : WInv c sn0 s) (op : Op) : WInv c sn0 (step s op) := by
  have same (s' : GSt) (hm : InvMss s'.k) (hc : s'.k.conv = s.k.conv) (hb : s'.k.snd_buf = s.k.snd_buf) (hl : s'.log = s.log)
      (hw : s'.wire = s.wire) (ha : s'.dead = false) (hsg : InvSG sn0 s') : WInv c sn0 s' :=
    ⟨hsg, hm, hc.trans h.conv, by rw [hb]; exact h.bufc, by rw [hw, hl]; exact h.wire, by rw [hw]; exact h.wlen, ha⟩
  refine step_cases (P := fun s' => InvSG sn0 s' → WInv c sn0 s') s op (fun _ => h) (fun hp => (hp.mss h.mss).elim)
    (fun buf _ _ _ => same _ (Lemmas.KcpMss.send_ok s.k buf h.mss).2.1 (by show (send s.k buf).k.conv = _; rw [send_k])
      (by show (send s.k buf).k.snd_buf = _; rw [send_k]) rfl rfl h.alive)
    (fun n _ => same _ (h.mss.of_pres (Total.recv_pres s.k n)) (recv_sndSame s.k n).conv (recv_sndSame s.k n).snd_buf rfl rfl
      h.alive)
    (fun k' outs htx hsg => ?_)
    (fun k' hs => same _ (hs.mss h.mss) hs.rcvSame.conv hs.sndQ.snd_buf rfl rfl h.alive) (step_invSG h.sg op).1
  obtain ⟨hm, hne⟩ := htx.mss h.mss
  obtain ⟨kc, kb, kw⟩ := htx.stepOk h.sg.inv h.conv h.bufc rfl fun o ho => (hne o ho).1
  refine ⟨hsg, hm, kc, kb, fun o ho => ?_, fun o ho => ?_, h.alive⟩
  · exact (List.mem_append.mp ho).elim (fun h1 => (h.wire o h1).mono _) (kw o)
  · exact (List.mem_append.mp ho).elim (h.wlen o) fun h1 => Nat.le_trans (hne o h1).2 h.mss.mtu_le
end KcpVerif.C09W
