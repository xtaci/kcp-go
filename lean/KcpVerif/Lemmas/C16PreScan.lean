/-
C16: the period detector on a window of GENUINE samples, in whatever order they arrived.

A sender with ratio d/p emits, over its whole life, exactly the pairs `(label d p id, id)` with `id < paws`
(`enc.next` wraps at `paws = 0xffffffff / (d+p) * (d+p) ≤ 2^32 − 1`, so `id + 1` never overflows).  Whatever the
network does to these packets, every sample that reaches the receiver's ring is such a pair: the type bit is a
function of the id.  On ANY list of such samples — unsorted, with gaps, duplicates, ids on both sides of the
wrap — the scan returns `−1` or the true pulse width: it only walks over consecutive ids, and there genuine
labels are the periodic d/p pattern.  So nothing is assumed about what `sort.Slice` does with ids more than
2^31 apart.  Core Lean only.
-/
import KcpVerif.Lemmas.AutoTune

namespace KcpVerif.Lemmas.C16Pre
open KcpVerif.AutoTune KcpVerif.Gen KcpVerif.Lemmas.AutoTune

/-- a sample a d/p sender can have caused; the id is not `2^32 − 1` (sender ids are below `paws ≤ 2^32 − 1`) -/
def Genuine (d p : Nat) (x : Pulse) : Prop :=
  x.bit = label d p x.seq.toNat ∧ x.seq.toNat + 1 < 2 ^ 32

instance (d p : Nat) (x : Pulse) : Decidable (Genuine d p x) := by
  unfold Genuine; infer_instance

theorem genuine_of_sender (d p : Nat) (x : Pulse) (hb : x.bit = label d p x.seq.toNat)
    (hlt : x.seq.toNat < 0xffffffff / (d + p) * (d + p)) : Genuine d p x := by
  refine ⟨hb, ?_⟩
  have : 0xffffffff / (d + p) * (d + p) ≤ 0xffffffff := Nat.div_mul_le_self _ _
  omega

theorem genuine_pulseAt (d p k : Nat) (hk : k + 1 < 2 ^ 32) : Genuine d p (pulseAt d p k) := by
  have e : (BitVec.ofNat 32 k).toNat = k := by
    rw [BitVec.toNat_ofNat, Nat.mod_eq_of_lt (by omega)]
  refine ⟨?_, ?_⟩
  · simp only [pulseAt, e]
  · simp only [pulseAt, e]; exact hk

theorem genuine_run {d p s len : Nat} (h : s + len < 2 ^ 32) :
    ∀ x ∈ run d p s len, Genuine d p x := by
  intro x hx
  obtain ⟨j, hj, rfl⟩ := mem_run hx
  exact genuine_pulseAt d p (s + j) (by omega)

theorem edge_test {d p : Nat} {last q : Pulse} (want : Bool) (hl : Genuine d p last)
    (hq : Genuine d p q) (hs : last.seq + 1 = q.seq) :
    q.seq.toNat = last.seq.toNat + 1 ∧
    ((last.bit != want) && (q.bit == want)) = isEdge d p want last.seq.toNat := by
  have h1 : q.seq.toNat = last.seq.toNat + 1 := by
    rw [← hs, BitVec.toNat_add]
    exact Nat.mod_eq_of_lt hl.2
  refine ⟨h1, ?_⟩
  rw [isEdge, hl.1, hq.1, h1]

theorem scan_genuine {d p : Nat} (want : Bool) :
    ∀ (l : List Pulse) (last : Pulse) (idx i : Nat) (pl : Pulse) (rest : List Pulse),
      Genuine d p last → (∀ x ∈ l, Genuine d p x) →
      scanEdge want last idx l = some (i, pl, rest) →
      ∃ t, i = idx + t ∧ pl.seq.toNat = last.seq.toNat + t + 1 ∧ Genuine d p pl ∧
        (∀ x ∈ rest, Genuine d p x) ∧
        (∀ j, j < t → isEdge d p want (last.seq.toNat + j) = false) ∧
        isEdge d p want (last.seq.toNat + t) = true := by
  intro l
  induction l with
  | nil => intro last idx i pl rest _ _ h; simp only [scanEdge] at h; cases h
  | cons q l ih =>
    intro last idx i pl rest hlast hl h
    have hq : Genuine d p q := hl q (List.mem_cons_self ..)
    have hl' : ∀ x ∈ l, Genuine d p x := fun x hx => hl x (List.mem_cons_of_mem _ hx)
    simp only [scanEdge] at h
    by_cases hs : last.seq + 1 = q.seq
    · obtain ⟨hn, he⟩ := edge_test want hlast hq hs
      rw [if_pos (by simp only [hs, beq_self_eq_true])] at h
      rw [he] at h
      cases hedge : isEdge d p want last.seq.toNat with
      | true =>
        rw [hedge, if_pos rfl] at h
        simp only [Option.some.injEq, Prod.mk.injEq] at h
        obtain ⟨h1, h2, h3⟩ := h
        subst h1 h2 h3
        exact ⟨0, rfl, by omega, hq, hl', fun j hj => absurd hj (Nat.not_lt_zero j), hedge⟩
      | false =>
        rw [hedge, if_neg (by decide)] at h
        obtain ⟨t, h1, h2, h3, h4, h5, h6⟩ := ih q (idx + 1) i pl rest hq hl' h
        refine ⟨t + 1, by omega, by omega, h3, h4, ?_, ?_⟩
        · intro j hj
          rcases j with _ | j
          · exact hedge
          · have := h5 j (by omega)
            rw [hn] at this
            rw [show last.seq.toNat + (j + 1) = last.seq.toNat + 1 + j by omega]
            exact this
        · rw [hn] at h6
          rw [show last.seq.toNat + (t + 1) = last.seq.toNat + 1 + t by omega]
          exact h6
    · rw [if_neg (by simp only [beq_iff_eq]; exact hs)] at h
      cases h

theorem period_genuine {d p : Nat} (hd : 0 < d) (hp : 0 < p) (want : Bool) (w : List Pulse)
    (h : ∀ x ∈ w, Genuine d p x) :
    periodOfSorted want w = -1 ∨ periodOfSorted want w = (width d p want : Int) := by
  cases w with
  | nil => exact Or.inl rfl
  | cons p0 rest =>
    have h0 : Genuine d p p0 := h p0 (List.mem_cons_self ..)
    have hr : ∀ x ∈ rest, Genuine d p x := fun x hx => h x (List.mem_cons_of_mem _ hx)
    simp only [periodOfSorted]
    cases h1 : scanEdge want p0 1 rest with
    | none => exact Or.inl rfl
    | some v1 =>
      obtain ⟨l, pl, rest1⟩ := v1
      obtain ⟨t1, e1, s1, g1, gr1, _, he1⟩ := scan_genuine want rest p0 1 l pl rest1 h0 hr h1
      simp only
      cases h2 : scanEdge (!want) pl (l + 1) rest1 with
      | none => exact Or.inl rfl
      | some v2 =>
        obtain ⟨r, pr, rest2⟩ := v2
        obtain ⟨t2, e2, _, _, _, hne2, he2⟩ :=
          scan_genuine (!want) rest1 pl (l + 1) r pr rest2 g1 gr1 h2
        right
        simp only
        rw [s1] at hne2 he2
        have := width_of_edges hd hp want (p0.seq.toNat + t1) t2 he1 hne2 he2
        omega

theorem findPeriod_genuine {d p : Nat} {t : Tune} (hd : 0 < d) (hp : 0 < p)
    (h : ∀ x ∈ t.window, Genuine d p x) (bit : Bool) :
    t.findPeriod bit = -1 ∨ t.findPeriod bit = (width d p bit : Int) := by
  unfold Tune.findPeriod
  split
  · exact Or.inl rfl
  · exact period_genuine hd hp bit _ (fun x hx => h x (List.mem_mergeSort.mp hx))

def GenuineRing (d p : Nat) (t : Tune) : Prop := t.WF ∧ ∀ x ∈ t.window, Genuine d p x

theorem window_init : Tune.init.window = [] := rfl

theorem genuineRing_init (d p : Nat) : GenuineRing d p Tune.init :=
  ⟨wf_init, fun x hx => by rw [window_init] at hx; exact absurd hx List.not_mem_nil⟩

theorem genuineRing_sample {d p : Nat} {t : Tune} (h : GenuineRing d p t) (b : Bool) (q : BitVec 32)
    (hx : Genuine d p { bit := b, seq := q }) : GenuineRing d p (t.sample b q) := by
  refine ⟨wf_sample b q h.1, ?_⟩
  intro x hm
  rw [window_sample b q h.1] at hm
  have hm' := List.mem_of_mem_drop hm
  rcases List.mem_append.mp hm' with h1 | h1
  · exact h.2 x h1
  · rw [List.mem_singleton] at h1
    rw [h1]; exact hx

theorem genuineRing_feed {d p : Nat} (l : List Pulse) {t : Tune} (h : GenuineRing d p t)
    (hl : ∀ x ∈ l, Genuine d p x) : GenuineRing d p (feed t l) :=
  foldl_inv_mem (P := GenuineRing d p) l (fun _ x hx ha => genuineRing_sample ha x.bit x.seq (hl x hx)) t h

/-- ANY well-formed ring is genuine once 258 genuine samples went in: what it held has been overwritten -/
theorem genuineRing_feed_any {d p : Nat} {t : Tune} (l : List Pulse) (hwf : t.WF)
    (h : GenuineRing d p t ∨ maxAutoTuneSamples ≤ l.length) (hl : ∀ x ∈ l, Genuine d p x) :
    GenuineRing d p (feed t l) := by
  rcases h with h | h
  · exact genuineRing_feed l h hl
  · refine ⟨wf_feed l hwf, fun x hx => hl x ?_⟩
    have hk : t.window.length ≤ t.count + l.length - maxAutoTuneSamples := by
      rw [window_length]; omega
    rw [(feed_window hwf l).2, List.drop_append, List.drop_of_length_le hk, List.nil_append] at hx
    exact List.mem_of_mem_drop hx

theorem genuineRing_feed_run {d p s m : Nat} {t : Tune} (hwf : t.WF)
    (h : GenuineRing d p t ∨ maxAutoTuneSamples ≤ m) (h32 : s + m < 2 ^ 32) :
    GenuineRing d p (feed t (run d p s m)) :=
  genuineRing_feed_any _ hwf (by rw [length_run]; exact h) (genuine_run h32)

theorem findPeriod_genuineRing {d p : Nat} {t : Tune} (hd : 0 < d) (hp : 0 < p)
    (h : GenuineRing d p t) :
    (t.findPeriod true = -1 ∨ t.findPeriod true = (d : Int)) ∧
    (t.findPeriod false = -1 ∨ t.findPeriod false = (p : Int)) :=
  ⟨findPeriod_genuine hd hp h.2 true, findPeriod_genuine hd hp h.2 false⟩

/-- one genuine but stale sample (id `J`, not adjacent to the run) blocks the detector until it is evicted: the
    sorted window starts with it and the first `seq + 1` test fails -/
theorem findPeriod_stale (d p J s m : Nat) (b bit : Bool) (hJ : J + 1 < s) (hs : s + m ≤ 2 ^ 32)
    (hclose : s + m ≤ J + 2 ^ 31) (hm : 1 + m ≤ maxAutoTuneSamples) :
    (feed (Tune.init.sample b (BitVec.ofNat 32 J)) (run d p s m)).findPeriod bit = -1 := by
  obtain ⟨hc, hw⟩ := feed_init_window (({ bit := b, seq := BitVec.ofNat 32 J } : Pulse) :: run d p s m)
    (by rw [List.length_cons, length_run]; omega)
  rw [List.length_cons, length_run] at hc
  show (feed Tune.init (({ bit := b, seq := BitVec.ofNat 32 J } : Pulse) :: run d p s m)).findPeriod bit = -1
  unfold Tune.findPeriod
  split
  · rfl
  · rename_i h3
    have hm2 : 2 ≤ m := by omega
    obtain ⟨m, rfl⟩ : ∃ k, m = k + 1 := ⟨m - 1, by omega⟩
    have hsorted : (({ bit := b, seq := BitVec.ofNat 32 J } : Pulse) :: run d p s (m + 1)).Pairwise
        (fun a c => pulseLe a c = true) :=
      List.Pairwise.cons (pulseLe_run b (by omega) (by omega)) (pairwise_run (by omega))
    rw [hw, sortPulses, List.mergeSort_of_pairwise hsorted, run_succ]
    have hne : ¬ (BitVec.ofNat 32 J + 1 = BitVec.ofNat 32 s) := by
      intro e
      have := congrArg BitVec.toNat e
      rw [ofNat_succ, BitVec.toNat_ofNat, BitVec.toNat_ofNat, Nat.mod_eq_of_lt (by omega),
        Nat.mod_eq_of_lt (by omega)] at this
      omega
    simp only [periodOfSorted, scanEdge, pulseAt, beq_iff_eq, hne, if_false]

/-- a lossy, reordered, duplicated pre-history of a 10/3 sender, then the start of an in-order run -/
def exHistory : List Pulse :=
  [pulseAt 10 3 40, pulseAt 10 3 38, pulseAt 10 3 38, pulseAt 10 3 51, pulseAt 10 3 4294967000,
   pulseAt 10 3 45] ++ run 10 3 60 30

example : ∀ x ∈ exHistory, Genuine 10 3 x := by decide +kernel

example : GenuineRing 10 3 (feed Tune.init exHistory) :=
  genuineRing_feed _ (genuineRing_init 10 3) (by decide +kernel)

example : ((feed Tune.init exHistory).findPeriod true = -1 ∨
            (feed Tune.init exHistory).findPeriod true = 10) ∧
          ((feed Tune.init exHistory).findPeriod false = -1 ∨
            (feed Tune.init exHistory).findPeriod false = 3) :=
  findPeriod_genuineRing (by decide) (by decide)
    (genuineRing_feed _ (genuineRing_init 10 3) (by decide +kernel))

example : ¬ Genuine 10 3 { bit := false, seq := 5#32 } := by decide +kernel

end KcpVerif.Lemmas.C16Pre
