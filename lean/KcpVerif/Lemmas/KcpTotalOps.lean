/-
C05 (protocol core): every operation of the core is total under `InvK` and preserves it; hence,
by induction over an arbitrary operation list starting from `NewKCP`, no operation ever panics.
-/
import KcpVerif.Lemmas.KcpMss

namespace KcpVerif.Total
open KcpVerif.Gen KcpVerif.Kcp
open KcpVerif.Lemmas.KcpMss (setMtu_inv new_inv update_ok update_pres)

theorem invK_new (conv : U32) : InvK (Kcp.new conv) :=
  InvK.of_invMss (new_inv conv) (DataLe.nil _) (DataLe.nil _)

theorem send_total {k : Kcp} (h : InvK k) (buffer : Bytes) :
    (send k buffer).panic = false ∧ InvK (send k buffer).k :=
  ⟨send_safe h.mss_le buffer, h.of_pres (send_pres k buffer)⟩

theorem recv_total {k : Kcp} (h : InvK k) (buflen : Nat) : InvK (recv k buflen).k :=
  h.of_pres (recv_pres k buflen)

theorem update_total {k : Kcp} (h : InvK k) (now : U32) :
    (update k now).panic = false ∧ InvK (update k now).k ∧
    (update k now).k.acklist.length ≤ k.acklist.length :=
  ⟨(update_ok k now h.invMss).1, h.of_pres (update_pres k now), (update_pres k now).ackl⟩

theorem setMtu_total {k : Kcp} (h : InvK k) (m : Int) : InvK (setMtu k m).1 := by
  obtain ⟨_, _, _, e⟩ := setMtu_shape k m
  exact InvK.of_invMss (setMtu_inv k m h.invMss) (by rw [e]; exact h.rcvb) (by rw [e]; exact h.rcvq)

/-- every entry point of the core, with arbitrary arguments; the readers `Check`, `PeekSize`, `WaitSnd` are steps that
change nothing (C10's `Lemmas.KcpMss.Op` leaves them out) -/
inductive Op where
  | send (b : Bytes)
  | recv (buflen : Nat)
  | input (d : Bytes) (regular ackNoDelay : Bool) (now : U32)
  | flush (full : Bool) (now : U32)
  | update (now : U32)
  | check (now : U32)
  | peekSize
  | waitSnd
  | setMtu (m : Int)
  | noDelay (nodelay interval resend nc : Int)
  | wndSize (snd rcv : Int)
deriving Repr

structure StepRes where
  k     : Kcp
  panic : Bool
deriving Repr

/-- one operation: the next state and whether the Go code would have panicked -/
def step (k : Kcp) : Op → StepRes
  | .send b => ⟨(send k b).k, (send k b).panic⟩
  | .recv n => ⟨(recv k n).k, false⟩
  | .input d r a now => ⟨(input k d r a now).k, (input k d r a now).panic⟩
  | .flush full now => ⟨(flush k full now).k, (flush k full now).panic⟩
  | .update now => ⟨(update k now).k, (update k now).panic⟩
  | .check _ => ⟨k, false⟩
  | .peekSize => ⟨k, false⟩
  | .waitSnd => ⟨k, false⟩
  | .setMtu m => ⟨(setMtu k m).1, false⟩
  | .noDelay a b c d => ⟨noDelay k a b c d, false⟩
  | .wndSize s r => ⟨wndSize k s r, false⟩

def run (k : Kcp) : List Op → StepRes
  | [] => ⟨k, false⟩
  | op :: rest => if (step k op).panic then step k op else run (step k op).k rest

theorem step_total {k : Kcp} (h : InvK k) (op : Op) :
    (step k op).panic = false ∧ InvK (step k op).k ∧
    (step k op).k.acklist.length ≤
      (match op with
       | .input d _ _ _ => k.acklist.length + d.length / IKCP_OVERHEAD
       | .flush _ _ => 0
       | _ => k.acklist.length) := by
  cases op with
  | send b =>
    exact ⟨send_safe h.mss_le b, h.of_pres (send_pres k b), (send_pres k b).ackl⟩
  | recv n => exact ⟨rfl, h.of_pres (recv_pres k n), (recv_pres k n).ackl⟩
  | input d r a now =>
    have hi := input_total h d r a now
    exact ⟨hi.1, hi.2.1, Nat.le_trans hi.2.2.2.2.1 (Nat.add_le_add_left (pushSpec_le _ _ _) _)⟩
  | flush full now =>
    have hf := flush_total h full now
    exact ⟨hf.1, hf.2.1, Nat.le_of_eq (congrArg List.length hf.2.2)⟩
  | update now => exact update_total h now
  | check _ => exact ⟨rfl, h, Nat.le_refl _⟩
  | peekSize => exact ⟨rfl, h, Nat.le_refl _⟩
  | waitSnd => exact ⟨rfl, h, Nat.le_refl _⟩
  | setMtu m =>
    obtain ⟨_, _, _, e⟩ := setMtu_shape k m
    exact ⟨rfl, setMtu_total h m, by show (setMtu k m).1.acklist.length ≤ _; rw [e]; exact Nat.le_refl _⟩
  | noDelay a b c d => exact ⟨rfl, h.of_pres (noDelay_pres k a b c d), (noDelay_pres k a b c d).ackl⟩
  | wndSize s r => exact ⟨rfl, h.of_pres (wndSize_pres k s r), (wndSize_pres k s r).ackl⟩

inductive Reachable : Kcp → Prop where
  | new (conv : U32) : Reachable (Kcp.new conv)
  | step {k : Kcp} (op : Op) : Reachable k → (step k op).panic = false → Reachable (step k op).k

theorem Reachable.invK {k : Kcp} (h : Reachable k) : InvK k := by
  induction h with
  | new conv => exact invK_new conv
  | step op _ _ ih => exact (step_total ih op).2.1

/-- the ack list as bounded by the operations alone: an `Input` of `n` bytes adds at most `n / 24` entries, a flush
empties it, nothing else adds -/
def ackBound (acc : Nat) : List Op → Nat
  | [] => acc
  | .input d _ _ _ :: rest => ackBound (acc + d.length / IKCP_OVERHEAD) rest
  | .flush _ _ :: rest => ackBound 0 rest
  | _ :: rest => ackBound acc rest

theorem ackBound_mono {a b : Nat} (h : a ≤ b) (ops : List Op) : ackBound a ops ≤ ackBound b ops := by
  induction ops generalizing a b with
  | nil => exact h
  | cons op rest ih =>
    cases op with
    | input d _ _ _ => exact ih (Nat.add_le_add_right h _)
    | flush _ _ => exact Nat.le_refl _
    | _ => exact ih h

theorem run_total {k : Kcp} (h : InvK k) (acc : Nat) (hacc : k.acklist.length ≤ acc) (ops : List Op) :
    (run k ops).panic = false ∧ InvK (run k ops).k ∧ (run k ops).k.acklist.length ≤ ackBound acc ops := by
  induction ops generalizing k acc with
  | nil => exact ⟨rfl, h, hacc⟩
  | cons op rest ih =>
    obtain ⟨hp, hk, ha⟩ := step_total h op
    unfold run
    rw [if_neg (by rw [hp]; decide)]
    cases op with
    | input d _ _ _ => exact ih hk _ (Nat.le_trans ha (Nat.add_le_add_right hacc _))
    | flush _ _ => exact ih hk _ ha
    | _ => exact ih hk _ (Nat.le_trans ha hacc)

end KcpVerif.Total
