/-
The invariant of the sender's FEC stage and its preservation by one `encode` call: as long as the FEC ids have
not wrapped, everything a session with a `d/p` encoder has put on the wire is a packet of a well-formed `d/p` group of ONE family — the finished
groups (parity generated or skipped) in order, followed by the group that is still filling, completed
with empty placeholder payloads — and the payloads of these groups are the datagrams the core handed
to `output` (or the empty placeholder).
-/
import KcpVerif.Lemmas.C01FecRef
import KcpVerif.Lemmas.FecEnc

namespace KcpVerif.C01
open KcpVerif.Gen
open KcpVerif.Fec KcpVerif.Lemmas.FecSpec KcpVerif.Lemmas KcpVerif.Lemmas.FecEnc

/-- datagrams of the core that go through `encode` (the output callback drops shorter ones) -/
def bigCount (l : List Bytes) : Nat := (l.filter fun o => decide (IKCP_OVERHEAD ≤ o.length)).length

theorem bigCount_append (a b : List Bytes) : bigCount (a ++ b) = bigCount a + bigCount b := by
  unfold bigCount; rw [List.filter_append, List.length_append]

theorem bigCount_big (o : Bytes) (ho : IKCP_OVERHEAD ≤ o.length) : bigCount [o] = 1 := by
  simp only [bigCount, List.filter_cons, List.filter_nil, ho, decide_true, if_true, List.length_singleton]

theorem bigCount_small (o : Bytes) (ho : o.length < IKCP_OVERHEAD) : bigCount [o] = 0 := by
  have hn : ¬ IKCP_OVERHEAD ≤ o.length := Nat.not_le_of_lt ho
  simp only [bigCount, List.filter_cons, List.filter_nil, hn, decide_false, Bool.false_eq_true, if_false,
    List.length_nil]

/-- range hypothesis: the group being filled still lies below the wrap value of the FEC ids
(`paws = 0xffffffff / n * n`): fewer than `paws / n * d` datagrams have been encoded -/
def NoWrap (d p : Nat) (cw : List Bytes) : Prop :=
  (bigCount cw / d + 1) * (d + p) ≤ (pawsOf (d + p)).toNat

instance (d p : Nat) (cw : List Bytes) : Decidable (NoWrap d p cw) := by unfold NoWrap; infer_instance

theorem NoWrap.mono {d p : Nat} {a b : List Bytes} (h : NoWrap d p (a ++ b)) : NoWrap d p a := by
  unfold NoWrap at h ⊢
  rw [bigCount_append] at h
  have : bigCount a / d ≤ (bigCount a + bigCount b) / d := Nat.div_le_div_right (Nat.le_add_right _ _)
  have := Nat.mul_le_mul_right (d + p) (Nat.add_le_add_right this 1)
  omega

theorem NoWrap.below {d p g r : Nat} {cw : List Bytes} (h : NoWrap d p cw) (hc : bigCount cw = g * d + r)
    (hr : r < d) : (g + 1) * (d + p) ≤ (pawsOf (d + p)).toNat := by
  unfold NoWrap at h
  rw [hc, Nat.mul_comm g d, Nat.mul_add_div (Nat.zero_lt_of_lt hr), Nat.div_eq_of_lt hr, Nat.add_zero] at h
  exact h

def openPkt (base i : Nat) (b : Bytes) : Bytes :=
  Fec.le32 (BitVec.ofNat 32 (base + i)) ++ Fec.le16 typeData ++ bodyOf (b.drop fecHeaderSizePlus2)

/-- the group with index `g` that is still filling, completed with empty placeholder payloads -/
def openGroup (d p g : Nat) (bs : List Bytes) : Group :=
  { d := d, p := p, base := BitVec.ofNat 32 (g * (d + p)),
    payloads := bs.map (List.drop fecHeaderSizePlus2) ++ List.replicate (d - bs.length) [] }

theorem openGroup_count (d p g : Nat) (bs : List Bytes) (hlen : bs.length ≤ d) :
    (openGroup d p g bs).payloads.length = d := by
  show (bs.map (List.drop fecHeaderSizePlus2) ++ List.replicate (d - bs.length) []).length = d
  rw [List.length_append, List.length_map, List.length_replicate]
  omega

theorem openGroup_payload? (d p g : Nat) {bs : List Bytes} {i : Nat} {b : Bytes} (hb : bs[i]? = some b) :
    (openGroup d p g bs).payloads[i]? = some (b.drop fecHeaderSizePlus2) := by
  show (bs.map (List.drop fecHeaderSizePlus2) ++ List.replicate (d - bs.length) [])[i]? = _
  rw [List.getElem?_append_left (by rw [List.length_map]; exact lt_of_getElem? hb), List.getElem?_map, hb]
  rfl

theorem openGroup_payload_some (d p g : Nat) {bs : List Bytes} {i : Nat} {b : Bytes} (hb : bs[i]? = some b) :
    (openGroup d p g bs).payloads.getD i [] = b.drop fecHeaderSizePlus2 := by
  rw [List.getD_eq_getElem?_getD, openGroup_payload? d p g hb]
  rfl

theorem openGroup_payload_none (d p g : Nat) {bs : List Bytes} {i : Nat} (hb : bs[i]? = none) :
    (openGroup d p g bs).payloads.getD i [] = [] := by
  have hi : bs.length ≤ i := List.getElem?_eq_none_iff.mp hb
  show (bs.map (List.drop fecHeaderSizePlus2) ++ List.replicate (d - bs.length) []).getD i [] = _
  rw [List.getD_eq_getElem?_getD, List.getElem?_append_right (by rw [List.length_map]; exact hi)]
  cases h : (List.replicate (d - bs.length) ([] : Bytes))[i - (bs.map (List.drop fecHeaderSizePlus2)).length]? with
  | none => rfl
  | some x => rw [(List.mem_replicate.mp (List.mem_of_getElem? h)).2]; rfl

theorem openGroup_payload_ok (d p g : Nat) {bs : List Bytes} {CW : List Bytes} (h : ∀ b ∈ bs, b.drop fecHeaderSizePlus2 ∈ CW)
    (k : Nat) : (openGroup d p g bs).payloads.getD k [] ∈ CW ∨
      ((openGroup d p g bs).payloads.getD k []).length < IKCP_OVERHEAD := by
  cases hb : bs[k]? with
  | some b =>
    rw [openGroup_payload_some d p g hb]
    exact Or.inl (h b (List.mem_of_getElem? hb))
  | none =>
    rw [openGroup_payload_none d p g hb]
    exact Or.inr (by decide)

/-- a packet of the group that is still filling does not depend on the buffers still to come -/
theorem openGroup_packet (C : CodecNew) (d p g : Nat) {bs : List Bytes} (hlen : bs.length ≤ d) {i : Nat} {b : Bytes}
    (hb : bs[i]? = some b) : (openGroup d p g bs).packet C i = openPkt (g * (d + p)) i b := by
  have hid : i < (openGroup d p g bs).d := Nat.lt_of_lt_of_le (lt_of_getElem? hb) hlen
  rw [packet_data C _ hid, FecDec.bodies_getD (by rw [openGroup_count d p g bs hlen]; exact hid),
    openGroup_payload_some d p g hb]
  show Fec.le32 (BitVec.ofNat 32 (g * (d + p)) + BitVec.ofNat 32 i) ++ _ ++ _ = _
  rw [← BitVec.ofNat_add]
  rfl

theorem openGroup_base (d p g : Nat) (bs : List Bytes) (hbelow : (g + 1) * (d + p) ≤ (pawsOf (d + p)).toNat) :
    (openGroup d p g bs).base.toNat = g * (d + p) := by
  have hlt := (pawsOf (d + p)).isLt
  have hexp : (g + 1) * (d + p) = g * (d + p) + (d + p) := Nat.succ_mul g (d + p)
  show (BitVec.ofNat 32 (g * (d + p))).toNat = _
  rw [BitVec.toNat_ofNat, Nat.mod_eq_of_lt (by omega)]

theorem openGroup_wf {C : CodecNew} {d p : Nat} {e0 : Encoder} (inv : EncInv C e0) (hd : e0.d = d) (hp : e0.p = p)
    (g : Nat) (bs : List Bytes) (hlen : bs.length ≤ d)
    (hbs : ∀ b ∈ bs, fecHeaderSizePlus2 ≤ b.length ∧ b.length ≤ mtuLimit)
    (hbelow : (g + 1) * (d + p) ≤ (pawsOf (d + p)).toNat) : (openGroup d p g bs).WF := by
  have hexp : (g + 1) * (d + p) = g * (d + p) + (d + p) := Nat.succ_mul g (d + p)
  have hbase := openGroup_base d p g bs hbelow
  refine ⟨by rw [← hd]; exact inv.d_pos, by rw [← hp]; exact inv.p_pos, ?_, openGroup_count d p g bs hlen, ?_, ?_, ?_⟩
  · show d + p ≤ 256
    rw [← hd, ← hp, ← inv.n_eq]; exact inv.n_le
  · intro pl hpl
    rcases List.mem_append.mp hpl with h1 | h1
    · obtain ⟨b, hb, rfl⟩ := List.mem_map.mp h1
      obtain ⟨hb1, hb2⟩ := hbs b hb
      rw [List.length_drop]
      -- the payload with its size field and the FEC header fits where the buffer did
      show b.length - fecHeaderSizePlus2 + 2 + fecHeaderSize ≤ mtuLimit
      have h8 : fecHeaderSizePlus2 = fecHeaderSize + 2 := rfl
      omega
    · rw [(List.mem_replicate.mp h1).2]
      decide
  · show (openGroup d p g bs).base.toNat % (d + p) = 0
    rw [hbase, Nat.mul_mod_left]
  · show (openGroup d p g bs).base.toNat + (d + p) ≤ (pawsOf (d + p)).toNat
    rw [hbase, ← hexp]
    exact hbelow

theorem openGroup_next (d p g : Nat) (hbelow : (g + 1) * (d + p) < (pawsOf (d + p)).toNat) :
    advance (BitVec.ofNat 32 (g * (d + p))) (d + p) (pawsOf (d + p)) = BitVec.ofNat 32 ((g + 1) * (d + p)) := by
  have hlt := (pawsOf (d + p)).isLt
  have hexp : (g + 1) * (d + p) = g * (d + p) + (d + p) := Nat.succ_mul g (d + p)
  have hb : (BitVec.ofNat 32 (g * (d + p))).toNat = g * (d + p) := openGroup_base d p g [] (Nat.le_of_lt hbelow)
  apply BitVec.eq_of_toNat_eq
  rw [advance_toNat _ _ _ (by rw [hb]; omega), hb, ← hexp, Nat.mod_eq_of_lt hbelow, BitVec.toNat_ofNat,
    Nat.mod_eq_of_lt (by omega)]

theorem openGroup_bodies_take (d p g : Nat) (bs : List Bytes) (b : Bytes) :
    (openGroup d p g (bs ++ [b])).bodies.take bs.length = (openGroup d p g bs).bodies.take bs.length := by
  unfold Group.bodies openGroup
  simp only [List.map_append, List.append_assoc]
  rw [List.take_append_of_le_length (by simp), List.take_append_of_le_length (by simp)]

/-- the family: finished groups in order, the index is the shard id -/
def famOf (l : List Group) : FecDec.Family := fun id => l[id.toNat]?

theorem famOf_key {d p : Nat} {l : List Group} (hpos : 0 < d + p) (hsmall : d + p ≤ 256)
    (hl : l.length * (d + p) ≤ 2 ^ 32) {i : Nat} {G : Group} (hG : l[i]? = some G) (hGd : G.d = d)
    (hGp : G.p = p) (hGb : G.base = BitVec.ofNat 32 (i * (d + p))) : famOf l (G.base / Fec.u32 G.n) = some G := by
  have hi : i < l.length := lt_of_getElem? hG
  have hin : i * (d + p) < 2 ^ 32 := by
    have : (i + 1) * (d + p) ≤ l.length * (d + p) := Nat.mul_le_mul_right _ hi
    rw [Nat.succ_mul] at this
    omega
  have hn : G.n = d + p := by unfold Group.n; rw [hGd, hGp]
  unfold famOf Fec.u32
  rw [hn, hGb, BitVec.toNat_udiv, BitVec.toNat_ofNat, BitVec.toNat_ofNat, Nat.mod_eq_of_lt hin,
    Nat.mod_eq_of_lt (by omega), Nat.mul_div_cancel _ hpos]
  exact hG

/-- `gs`: the finished groups; `bs`: the buffers fed to the encoder since, which stands `bs.length` packets
into the group they open -/
structure HistW (C : CodecNew) (d p : Nat) (e : Encoder) (W CW : List Bytes)
    (gs : List Group) (bs : List Bytes) : Prop where
  fill : Filling C (openGroup d p gs.length bs) e bs.length
  eo   : e.headerOffset = 0
  len  : bs.length < d
  bsok : ∀ b ∈ bs, fecHeaderSizePlus2 ≤ b.length ∧ b.length ≤ mtuLimit
  bspl : ∀ b ∈ bs, b.drop fecHeaderSizePlus2 ∈ CW
  gsok : ∀ i G, gs[i]? = some G → G.WF ∧ G.d = d ∧ G.p = p ∧ G.base = BitVec.ofNat 32 (i * (d + p))
  gspl : ∀ G ∈ gs, ∀ k, G.payloads.getD k [] ∈ CW ∨ (G.payloads.getD k []).length < IKCP_OVERHEAD
  wire : ∀ q ∈ W, (∃ (i : Nat) (G : Group) (j : Nat), gs[i]? = some G ∧ j < G.n ∧ q = G.packet C j) ∨
           (∃ (i : Nat) (b : Bytes), bs[i]? = some b ∧ q = openPkt (gs.length * (d + p)) i b)

def Hist (C : CodecNew) (d p : Nat) (e : Encoder) (W CW : List Bytes) : Prop :=
  NoWrap d p CW → ∃ gs bs, HistW C d p e W CW gs bs ∧ bigCount CW = gs.length * d + bs.length

section
variable {C : CodecNew} {d p : Nat} {e : Encoder} {W CW : List Bytes} {gs : List Group} {bs : List Bytes} {b : Bytes}

theorem HistW.core_mono (H : HistW C d p e W CW gs bs) {CW' : List Bytes} (hsub : ∀ x ∈ CW, x ∈ CW') :
    HistW C d p e W CW' gs bs :=
  { H with
    bspl := fun b hb => hsub _ (H.bspl b hb)
    gspl := fun G hG k => (H.gspl G hG k).imp_left (hsub _) }

theorem hist_genuine (h : HistW C d p e W CW gs bs)
    (hbelow : (gs.length + 1) * (d + p) ≤ (pawsOf (d + p)).toNat) :
    ∃ grp : FecDec.Family, (∀ q ∈ W, FecDec.GenuinePkt C grp d p q) ∧
      ∀ (G : Group) (k : Nat), grp (G.base / Fec.u32 G.n) = some G → k < G.d →
        G.payloads.getD k [] ∈ CW ∨ (G.payloads.getD k []).length < IKCP_OVERHEAD := by
  have hd : e.d = d := h.fill.d
  have hp : e.p = p := h.fill.p
  have hpos : 0 < d + p := by rw [← hd]; exact Nat.lt_add_right _ h.fill.inv.d_pos
  have hsmall : d + p ≤ 256 := by rw [← hd, ← hp, ← h.fill.inv.n_eq]; exact h.fill.inv.n_le
  have hO : (openGroup d p gs.length bs).WF :=
    openGroup_wf h.fill.inv hd hp gs.length bs (Nat.le_of_lt h.len) h.bsok hbelow
  have hall : ∀ i G, (gs ++ [openGroup d p gs.length bs])[i]? = some G →
      G.WF ∧ G.d = d ∧ G.p = p ∧ G.base = BitVec.ofNat 32 (i * (d + p)) := by
    intro i G hG
    rcases getElem?_snoc hG with h1 | ⟨rfl, rfl⟩
    · exact h.gsok i G h1
    · exact ⟨hO, rfl, rfl, rfl⟩
  have hl : (gs ++ [openGroup d p gs.length bs]).length * (d + p) ≤ 2 ^ 32 := by
    rw [List.length_append, List.length_singleton]
    exact Nat.le_trans hbelow (Nat.le_of_lt (pawsOf (d + p)).isLt)
  have hkey : ∀ (i : Nat) (G : Group), (gs ++ [openGroup d p gs.length bs])[i]? = some G →
      famOf (gs ++ [openGroup d p gs.length bs]) (G.base / Fec.u32 G.n) = some G := by
    intro i G hG
    obtain ⟨_, g2, g3, g4⟩ := hall i G hG
    exact famOf_key hpos hsmall hl hG g2 g3 g4
  refine ⟨famOf (gs ++ [openGroup d p gs.length bs]), ?_, ?_⟩
  · intro q hq
    rcases h.wire q hq with ⟨i, G, j, hG, hj, rfl⟩ | ⟨i, b, hb, rfl⟩
    · have hG' := getElem?_append_of_some hG [openGroup d p gs.length bs]
      obtain ⟨g1, g2, g3, _⟩ := hall i G hG'
      exact ⟨G, j, hkey i G hG', g1, g2, g3, hj, rfl⟩
    · have hlast : (gs ++ [openGroup d p gs.length bs])[gs.length]? = some (openGroup d p gs.length bs) :=
        List.getElem?_concat_length
      refine ⟨openGroup d p gs.length bs, i, hkey gs.length _ hlast, hO, rfl, rfl, ?_, ?_⟩
      · show i < d + p
        have := lt_of_getElem? hb
        have := h.len
        omega
      · rw [openGroup_packet C d p gs.length (Nat.le_of_lt h.len) hb]
  · intro G k hG _
    rcases List.mem_append.mp (List.mem_of_getElem? hG) with h1 | h1
    · exact h.gspl G h1 k
    · rw [List.mem_singleton.mp h1]
      exact openGroup_payload_ok d p gs.length h.bspl k

/-- one more buffer `b`: the encoder as it stands, seen from the open group with `b` in it, and the data packet the
call emits -/
theorem HistW.call (H : HistW C d p e W CW gs bs) (hb1 : fecHeaderSizePlus2 ≤ b.length) (hb2 : b.length ≤ mtuLimit)
    (cont : Bool) :
    e.payloadOffset + 2 ≤ b.length ∧ Filling C (openGroup d p gs.length (bs ++ [b])) e bs.length ∧
    (openGroup d p gs.length (bs ++ [b])).payloads[bs.length]? = some (b.drop (e.payloadOffset + 2)) ∧
    (e.encode b cont).data = (openGroup d p gs.length (bs ++ [b])).packet C bs.length := by
  have hpo : e.payloadOffset + 2 = fecHeaderSizePlus2 := by unfold Encoder.payloadOffset; rw [H.eo]; rfl
  have h1 : e.payloadOffset + 2 ≤ b.length := by rw [hpo]; exact hb1
  have hF : Filling C (openGroup d p gs.length (bs ++ [b])) e bs.length :=
    H.fill.congr rfl rfl rfl (openGroup_bodies_take d p gs.length bs b)
  have hlast : (openGroup d p gs.length (bs ++ [b])).payloads[bs.length]? = some (b.drop (e.payloadOffset + 2)) := by
    rw [hpo]; exact openGroup_payload? d p gs.length List.getElem?_concat_length
  have hdat := hF.data (cont := cont) (show bs.length < d from H.len) h1 hb2 hlast
  rw [H.eo, List.take_zero, List.nil_append] at hdat
  exact ⟨h1, hF, hlast, hdat⟩

theorem HistW.push (H : HistW C d p e W CW gs bs) (hb1 : fecHeaderSizePlus2 ≤ b.length) (hb2 : b.length ≤ mtuLimit)
    (hpl : b.drop fecHeaderSizePlus2 ∈ CW) (hm : bs.length + 1 ≠ d) (cont : Bool) :
    HistW C d p (e.encode b cont).st (W ++ (e.encode b cont).data :: (e.encode b cont).parity) CW
      gs (bs ++ [b]) := by
  obtain ⟨h1, hF, hlast, hdat⟩ := H.call hb1 hb2 cont
  have hlen := H.len
  have hl : (bs ++ [b]).length = bs.length + 1 := by rw [List.length_append, List.length_singleton]
  have hmid : e.shardCount + 1 ≠ e.d := by rw [H.fill.count, H.fill.d]; exact hm
  obtain ⟨hpar, hst⟩ := encode_mid (cont := cont) h1 hb2 hmid
  rw [openGroup_packet C d p gs.length (by rw [hl]; omega) (List.getElem?_concat_length (l := bs) (a := b))] at hdat
  refine { H with fill := by rw [hst, hl]; exact hF.mid hmid h1 hb2 hlast, eo := by rw [hst]; exact H.eo,
                  len := by rw [hl]; omega, bsok := forall_mem_snoc H.bsok ⟨hb1, hb2⟩,
                  bspl := forall_mem_snoc H.bspl hpl, wire := ?_ }
  intro q hq
  rw [hpar] at hq
  rcases List.mem_append.mp hq with h1 | h1
  · rcases H.wire q h1 with hfin | ⟨i, b', hb, rfl⟩
    · exact Or.inl hfin
    · exact Or.inr ⟨i, b', getElem?_append_of_some hb _, rfl⟩
  · rw [List.mem_singleton.mp h1, hdat]
    exact Or.inr ⟨bs.length, b, List.getElem?_concat_length, rfl⟩

theorem HistW.close (hC : Lawful C) (H : HistW C d p e W CW gs bs) (hb1 : fecHeaderSizePlus2 ≤ b.length)
    (hb2 : b.length ≤ mtuLimit) (hpl : b.drop fecHeaderSizePlus2 ∈ CW) (hm : bs.length + 1 = d)
    (hbelow : (gs.length + 1) * (d + p) < (pawsOf (d + p)).toNat) (cont : Bool) :
    HistW C d p (e.encode b cont).st (W ++ (e.encode b cont).data :: (e.encode b cont).parity) CW
      (gs ++ [openGroup d p gs.length (bs ++ [b])]) [] := by
  obtain ⟨h1, hF, hlast, hdat⟩ := H.call hb1 hb2 cont
  have hd : e.d = d := H.fill.d
  have hp : e.p = p := H.fill.p
  have hlen : (bs ++ [b]).length = d := by rw [List.length_append, List.length_singleton]; exact hm
  have hG : (openGroup d p gs.length (bs ++ [b])).WF :=
    openGroup_wf H.fill.inv hd hp gs.length _ (Nat.le_of_eq hlen) (forall_mem_snoc H.bsok ⟨hb1, hb2⟩)
      (Nat.le_of_lt hbelow)
  obtain ⟨hpar, hst⟩ := hF.last (cont := cont) hC hG hm h1 hb2 hlast
  -- the encoder stands at the start of the next group
  have hnext : advance (openGroup d p gs.length (bs ++ [b])).base (openGroup d p gs.length (bs ++ [b])).n e.paws =
      BitVec.ofNat 32 ((gs ++ [openGroup d p gs.length (bs ++ [b])]).length * (d + p)) + BitVec.ofNat 32 0 := by
    rw [H.fill.inv.paws_eq, H.fill.inv.n_eq, hd, hp, List.length_append, List.length_singleton, BitVec.add_zero]
    exact openGroup_next d p gs.length hbelow
  have hinv := inv_encode (cont := cont) H.fill.inv (encode_no_panic h1 hb2)
  rw [hst] at hinv ⊢
  exact
    { fill := ⟨hinv, hd, hp, hnext, rfl, rfl, Nat.zero_sub _⟩
      eo := H.eo
      len := by show 0 < d; omega
      bsok := nofun, bspl := nofun
      gsok := by
        intro i G hiG
        rcases getElem?_snoc hiG with h1 | ⟨rfl, rfl⟩
        · exact H.gsok i G h1
        · exact ⟨hG, rfl, rfl, rfl⟩
      gspl := forall_mem_snoc H.gspl (openGroup_payload_ok d p gs.length (forall_mem_snoc H.bspl hpl))
      wire := by
        intro q hq
        left
        rcases List.mem_append.mp hq with h1 | h1
        · rcases H.wire q h1 with ⟨i, G, j, g1, g2, g3⟩ | ⟨i, b', hb, rfl⟩
          · exact ⟨i, G, j, getElem?_append_of_some g1 _, g2, g3⟩
          · refine ⟨gs.length, _, i, List.getElem?_concat_length, ?_, ?_⟩
            · show i < d + p
              have := lt_of_getElem? hb
              omega
            · rw [openGroup_packet C d p gs.length (Nat.le_of_eq hlen) (getElem?_append_of_some hb [b])]
        · rcases List.mem_cons.mp h1 with h2 | h2
          · refine ⟨gs.length, _, bs.length, List.getElem?_concat_length, ?_, by rw [h2, hdat]⟩
            show bs.length < d + p
            omega
          · rw [hpar] at h2
            cases cont
            · cases h2
            · rw [if_pos rfl, H.eo] at h2
              obtain ⟨k, hk, rfl⟩ := List.mem_map.mp h2
              refine ⟨gs.length, _, d + k, List.getElem?_concat_length, ?_, rfl⟩
              show d + k < d + p
              have : k < p := List.mem_range.mp hk
              omega }

theorem hist_encode (hC : Lawful C) (h : Hist C d p e W CW) (o : Bytes) (ho : IKCP_OVERHEAD ≤ o.length)
    (cont : Bool) (hp : (e.encode (List.replicate fecHeaderSizePlus2 0 ++ o) cont).panic = false) :
    Hist C d p (e.encode (List.replicate fecHeaderSizePlus2 0 ++ o) cont).st
      (W ++ ((e.encode (List.replicate fecHeaderSizePlus2 0 ++ o) cont).data ::
        (e.encode (List.replicate fecHeaderSizePlus2 0 ++ o) cont).parity)) (CW ++ [o]) := by
  intro hw
  obtain ⟨gs, bs, H, hcnt⟩ := h hw.mono
  have H' := H.core_mono (CW' := CW ++ [o]) (fun x hx => List.mem_append_left _ hx)
  have hb1 : fecHeaderSizePlus2 ≤ (List.replicate fecHeaderSizePlus2 0 ++ o).length := by
    rw [List.length_append, List.length_replicate]; exact Nat.le_add_right _ _
  have hb2 := (encode_panic_false hp).2
  have hpl : (List.replicate fecHeaderSizePlus2 0 ++ o).drop fecHeaderSizePlus2 ∈ CW ++ [o] := by
    rw [List.drop_left' (List.length_replicate ..)]
    exact List.mem_append_right _ (List.mem_singleton.mpr rfl)
  have hcnt' : bigCount (CW ++ [o]) = gs.length * d + bs.length + 1 := by
    rw [bigCount_append, hcnt, bigCount_big o ho]
  by_cases hm : bs.length + 1 = d
  · have hfull : bigCount (CW ++ [o]) = (gs.length + 1) * d + 0 := by rw [hcnt', Nat.succ_mul]; omega
    have hbelow := hw.below hfull (by omega)
    rw [Nat.succ_mul] at hbelow
    have hpp : 0 < p := by have hp : e.p = p := H.fill.p; rw [← hp]; exact H.fill.inv.p_pos
    refine ⟨_, [], H'.close hC hb1 hb2 hpl hm (by omega) cont, ?_⟩
    rw [hfull, List.length_append, List.length_singleton]
    rfl
  · refine ⟨gs, _, H'.push hb1 hb2 hpl hm cont, ?_⟩
    rw [hcnt', List.length_append, List.length_singleton, Nat.add_assoc]

end

end KcpVerif.C01
