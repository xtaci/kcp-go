/-
C12 — shift simulation of `flush`: the output buffer and the loops of phases 1, 2 and 4; phase 5 (`xmitOne` along
`Kcp.xmitOne_eq`, and the fold); the whole `flush` along the stages of `Live.flush_eq`; `update`, `check`.
-/
import KcpVerif.Lemmas.KcpShiftBasic
import KcpVerif.Lemmas.KcpOps

namespace KcpVerif.Shift
open KcpVerif.Gen KcpVerif.Kcp

structure FlSim (σ : Sigma) (f f' : Fl) : Prop where
  k     : Sim σ f.k f'.k
  cur   : OutRel σ f.cur f'.cur
  outs  : All₂ (OutRel σ) f.outs f'.outs
  panic : f'.panic = f.panic

theorem makeSpace_sim {σ : Sigma} {f f' : Fl} (h : FlSim σ f f') (n : Nat) :
    FlSim σ (f.makeSpace n) (f'.makeSpace n) := by
  unfold Fl.makeSpace
  exact ite_rel (by rw [← h.cur.length_eq, h.k.mtu])
    (fun _ => { h with outs := All₂.append h.outs (All₂.single h.cur), cur := OutRel.nil }) (fun _ => h)

theorem makeSpace_k (f : Fl) (n : Nat) : (f.makeSpace n).k = f.k := Fl.makeSpace_k f n

theorem putHdr_sim {σ : Sigma} {f f' : Fl} (h : FlSim σ f f') (hd hd' : Bytes)
    (ho : OutRel σ (f.cur ++ hd) (f'.cur ++ hd')) : FlSim σ (f.putHdr hd) (f'.putHdr hd') := by
  unfold Fl.putHdr
  exact ite_rel (by rw [← h.cur.length_eq, h.k.bufLen]) (fun _ => { h with panic := rfl }) (fun _ => { h with cur := ho })

theorem putData_sim {σ : Sigma} {f f' : Fl} (h : FlSim σ f f') (d : Bytes) :
    FlSim σ (f.putData d) (f'.putData d) := by
  unfold Fl.putData
  exact ite_rel (by rw [← h.cur.length_eq, h.k.bufLen]) (fun _ => { h with panic := rfl })
    (fun _ => { h with cur := OutRel.data d h.cur })

theorem wndUnused_sim {σ : Sigma} {k k' : Kcp} (h : Sim σ k k') : wndUnused k' = wndUnused k := by
  unfold wndUnused
  rw [h.rcv_queue, List.length_map, h.rcv_wnd]

theorem ackFlush_sim {σ : Sigma} (wnd : BitVec 16) (una : U32) (total : Nat) (l : List Ack) (i : Nat)
    (st st' : AckSt) (hf : FlSim σ st.f st'.f) (hc : st.sc.cmd = BitVec.ofNat 8 IKCP_CMD_ACK)
    (hc' : st'.sc.cmd = BitVec.ofNat 8 IKCP_CMD_ACK) :
    FlSim σ (ackFlush wnd una total l i st).f
      (ackFlush wnd (una + σ.b) total (l.map (shAck σ)) i st').f := by
  induction l generalizing i st st' with
  | nil => exact hf
  | cons a rest ih =>
    have h1 := makeSpace_sim hf IKCP_OVERHEAD
    have e : itimediff (shAck σ a).sn (st'.f.makeSpace IKCP_OVERHEAD).k.rcv_nxt =
        itimediff a.sn (st.f.makeSpace IKCP_OVERHEAD).k.rcv_nxt := by
      rw [h1.k.rcv_nxt]; exact itd_shift _ _ _
    simp only [List.map_cons, ackFlush]
    refine ite_rel (R := fun s s' : AckSt => FlSim σ s.f s'.f) (by rw [e])
      (fun _ => ?_) (fun _ => ih _ _ _ h1 hc hc')
    apply ih
    · apply putHdr_sim h1
      rw [h1.k.conv, hc, hc']
      exact OutRel.ack _ _ _ _ _ h1.cur
    · exact hc
    · exact hc'

theorem probePhase_sim {σ : Sigma} {k k' : Kcp} (h : Sim σ k k') (now : U32) :
    Sim σ (probePhase k now) (probePhase k' (now + σ.t)) := by
  have e4 : now + σ.t + nextProbeWait k'.probe_wait = now + nextProbeWait k.probe_wait + σ.t := by
    rw [h.probe_wait, add_shift]
  unfold probePhase
  generalize u32 IKCP_PROBE_INIT = w0
  generalize u32 IKCP_ASK_SEND = w1
  refine ite_rel (by rw [h.rmt_wnd]) (fun _ => ?_)
    (fun _ => { h with probe_wait := rfl, ts_probe := fun hh => absurd rfl hh })
  refine ite_rel (by rw [h.probe_wait])
    (fun _ => { h with probe_wait := rfl, ts_probe := fun _ => add_shift now _ σ.t }) (fun c2 => ?_)
  exact ite_rel (by rw [h.ts_probe c2, itd_shift])
    (fun _ => { h with probe_wait := congrArg nextProbeWait h.probe_wait, ts_probe := fun _ => e4,
                       probe := congrArg (· ||| w1) h.probe })
    (fun _ => h)

theorem admitSegs_sim {σ : Sigma} (conv una cwnd now : U32) (q : List Seg) (hq : Fresh q)
    (buf buf' : List Seg) (nxt : U32) (c : Nat) (hb : All₂ (SndRel σ) buf buf') :
    (admitSegs conv (una + σ.a) cwnd (now + σ.t) q buf' (nxt + σ.a) c).queue
        = (admitSegs conv una cwnd now q buf nxt c).queue ∧
      All₂ (SndRel σ) (admitSegs conv una cwnd now q buf nxt c).buf
        (admitSegs conv (una + σ.a) cwnd (now + σ.t) q buf' (nxt + σ.a) c).buf ∧
      (admitSegs conv (una + σ.a) cwnd (now + σ.t) q buf' (nxt + σ.a) c).nxt
        = (admitSegs conv una cwnd now q buf nxt c).nxt + σ.a ∧
      (admitSegs conv (una + σ.a) cwnd (now + σ.t) q buf' (nxt + σ.a) c).count
        = (admitSegs conv una cwnd now q buf nxt c).count ∧
      Fresh (admitSegs conv una cwnd now q buf nxt c).queue := by
  induction q generalizing buf buf' nxt c with
  | nil => exact ⟨rfl, hb, rfl, rfl, hq⟩
  | cons s rest ih =>
    simp only [admitSegs, itd_shift_add]
    by_cases c1 : itimediff nxt (una + cwnd) ≥ 0
    · simp only [if_pos c1]
      exact ⟨trivial, hb, trivial, trivial, hq⟩
    · simp only [if_neg c1, succ_shift]
      have hx : s.xmit = 0 := hq s (List.mem_cons_self)
      apply ih (fun x hx => hq x (List.mem_cons_of_mem _ hx))
      apply All₂.append hb
      apply All₂.single
      constructor
      case una => exact fun hh => absurd hx hh
      all_goals rfl

theorem emit_sim {σ : Sigma} {f f' : Fl} (h : FlSim σ f f') {s s' : Seg} (hr : SndRel σ s s')
    (huna : s'.una = s.una + σ.b) : FlSim σ (Live.emit f s) (Live.emit f' s') := by
  have h1 := makeSpace_sim h (IKCP_OVERHEAD + s.data.length)
  have ho : OutRel σ
      ((f.makeSpace (IKCP_OVERHEAD + s.data.length)).cur ++
        encodeHdr s.conv s.cmd s.frg s.wnd s.ts s.sn s.una s.data.length)
      ((f'.makeSpace (IKCP_OVERHEAD + s.data.length)).cur ++
        encodeHdr s'.conv s'.cmd s'.frg s'.wnd s'.ts s'.sn s'.una s.data.length) := by
    rw [hr.conv, hr.cmd, hr.frg, hr.wnd, hr.ts, hr.sn, huna]
    exact OutRel.seg _ _ _ _ _ _ _ _ h1.cur
  have h3 := putData_sim (putHdr_sim h1 _ _ ho) s.data
  unfold Live.emit
  simp only []
  rw [hr.data]
  exact ite_rel (by rw [hr.xmit, h3.k.dead_link]) (fun _ => { h3 with k := { h3.k with state := rfl } }) (fun _ => h3)

/-- the retransmission decision reads `rx_rto` and `nodelay` of the state, the clock only through
`itimediff now resendts` -/
theorem xmitDec_sim {σ : Sigma} {k k' : Kcp} (hk : Sim σ k k') {s s' : Seg} (hr : SndRel σ s s')
    (now resent : U32) (n : Nat) :
    (xmitDec k' (now + σ.t) resent n s').1 = (xmitDec k now resent n s).1 ∧
      SndRel σ (xmitDec k now resent n s).2.1 (xmitDec k' (now + σ.t) resent n s').2.1 ∧
      (xmitDec k' (now + σ.t) resent n s').2.2 = (xmitDec k now resent n s).2.2 := by
  have e3 : itimediff (now + σ.t) s'.resendts = itimediff now s.resendts := by rw [hr.resendts, itd_shift]
  have er : (if k.nodelay = 0 then s'.rto + k.rx_rto else s'.rto + k.rx_rto / 2) =
      (if k.nodelay = 0 then s.rto + k.rx_rto else s.rto + k.rx_rto / 2) := by rw [hr.rto]
  have et : now + σ.t + (if k.nodelay = 0 then s'.rto + k.rx_rto else s'.rto + k.rx_rto / 2) =
      now + (if k.nodelay = 0 then s.rto + k.rx_rto else s.rto + k.rx_rto / 2) + σ.t := by
    rw [er, add_shift]
  let R (r r' : Bool × Seg × Nat × Nat) : Prop := r'.1 = r.1 ∧ SndRel σ r.2.1 r'.2.1 ∧ r'.2.2 = r.2.2
  unfold xmitDec
  rw [hk.rx_rto, hk.nodelay]
  refine ite_rel (R := R) (by rw [hr.xmit])
    (fun _ => ⟨rfl, { hr with rto := rfl, resendts := add_shift _ _ _ }, rfl⟩) (fun _ => ?_)
  refine ite_rel (R := R) (by rw [hr.fastack])
    (fun _ => ⟨rfl, { hr with rto := rfl, fastack := rfl, resendts := add_shift _ _ _ }, rfl⟩) (fun _ => ?_)
  refine ite_rel (R := R) (by rw [hr.fastack])
    (fun _ => ⟨rfl, { hr with rto := rfl, fastack := rfl, resendts := add_shift _ _ _ }, rfl⟩) (fun _ => ?_)
  exact ite_rel (R := R) (by rw [e3])
    (fun _ => ⟨rfl, { hr with rto := er, fastack := rfl, resendts := et }, rfl⟩) (fun _ => ⟨rfl, hr, rfl⟩)

theorem xmitStamp_sim {σ : Sigma} {s s' : Seg} (hr : SndRel σ s s') (b : Bool) (now : U32) (wnd : BitVec 16)
    (una : U32) : SndRel σ (xmitStamp b s now wnd una) (xmitStamp b s' (now + σ.t) wnd (una + σ.b)) := by
  cases b
  · exact hr
  · exact { hr with xmit := congrArg (· + 1) hr.xmit, ts := rfl, wnd := rfl, una := fun _ => rfl }

theorem nextUpd_sim {σ : Sigma} {s s' : Seg} (hr : SndRel σ s s') (now next : U32) :
    Live.nextUpd (now + σ.t) s' next = Live.nextUpd now s next := by
  unfold Live.nextUpd
  rw [hr.resendts, itd_shift]

structure XSim (σ : Sigma) (x x' : XmitSt) : Prop where
  f      : FlSim σ x.f x'.f
  done   : All₂ (SndRel σ) x.done x'.done
  change : x'.change = x.change
  lost   : x'.lost = x.lost
  next   : x'.next = x.next

theorem xmitOne_sim {σ : Sigma} {st st' : XmitSt} (h : XSim σ st st') {s s' : Seg} (hr : SndRel σ s s')
    (now resent : U32) (wnd : BitVec 16) (una : U32) (n : Nat) :
    XSim σ (xmitOne now resent wnd una n st s) (xmitOne (now + σ.t) resent wnd (una + σ.b) n st' s') := by
  rw [Kcp.xmitOne_eq, Kcp.xmitOne_eq]
  refine ite_rel (by rw [hr.acked]) (fun _ => { h with done := All₂.append h.done (All₂.single hr) })
    (fun _ => ?_)
  simp only []
  obtain ⟨r1, r2, r3⟩ := xmitDec_sim h.f.k hr now resent n
  generalize xmitDec st.f.k now resent n s = R at r1 r2 r3 ⊢
  generalize xmitDec st'.f.k (now + σ.t) resent n s' = R' at r1 r2 r3 ⊢
  have hs := xmitStamp_sim r2 R.1 now wnd una
  rw [r1, r3, h.next, h.change, h.lost]
  refine ⟨?_, All₂.append h.done (All₂.single hs), rfl, rfl, nextUpd_sim hs now st.next⟩
  refine ite_rel (R := FlSim σ) Iff.rfl (fun hb => emit_sim h.f hs ?_) (fun _ => h.f)
  rw [hb]
  rfl

theorem xmitFold_sim {σ : Sigma} {l l' : List Seg} (hl : All₂ (SndRel σ) l l') {st st' : XmitSt}
    (h : XSim σ st st') (now resent : U32) (wnd : BitVec 16) (una : U32) (n : Nat) :
    XSim σ (l.foldl (xmitOne now resent wnd una n) st)
      (l'.foldl (xmitOne (now + σ.t) resent wnd (una + σ.b) n) st') := by
  induction hl generalizing st st' with
  | nil => exact h
  | cons hr _ ih =>
    simp only [List.foldl_cons]
    exact ih (xmitOne_sim h hr now resent wnd una n)

theorem flAck_sim {σ : Sigma} {k k' : Kcp} (h : Sim σ k k') : FlSim σ (Live.flAck k).f (Live.flAck k').f := by
  have hlen : k'.acklist.length = k.acklist.length := by rw [h.acklist, List.length_map]
  unfold Live.flAck
  rw [wndUnused_sim h, h.rcv_nxt, hlen, h.acklist]
  exact ackFlush_sim (wndUnused k) k.rcv_nxt k.acklist.length k.acklist 0 _ _ ⟨h, OutRel.nil, All₂.nil, rfl⟩ rfl rfl

theorem flF2_sim {σ : Sigma} {k k' : Kcp} (h : Sim σ k k') (now : U32) :
    FlSim σ (Live.flF2 k now) (Live.flF2 k' (now + σ.t)) := by
  have ha := flAck_sim h
  unfold Live.flF2 Live.flF1
  generalize Live.flAck k = A at ha ⊢
  generalize Live.flAck k' = A' at ha ⊢
  have hk : Sim σ { A.f.k with acklist := [] } { A'.f.k with acklist := [] } := { ha.k with acklist := rfl }
  exact { ha with k := probePhase_sim hk now }

/-- `sn` and `ts` of a WASK / WINS header come from the scratch header and are not related -/
theorem probeHdr_sim {σ : Sigma} {f f' : Fl} (h : FlSim σ f f') (flag : U32) {cmd : BitVec 8}
    (hcmd : cmd = BitVec.ofNat 8 IKCP_CMD_WASK ∨ cmd = BitVec.ofNat 8 IKCP_CMD_WINS)
    (wnd : BitVec 16) (ts sn ts' sn' una : U32) :
    FlSim σ
      (if f.k.probe &&& flag ≠ 0 then (f.makeSpace IKCP_OVERHEAD).putHdr (encodeHdr f.k.conv cmd 0 wnd ts sn una 0) else f)
      (if f'.k.probe &&& flag ≠ 0 then
        (f'.makeSpace IKCP_OVERHEAD).putHdr (encodeHdr f'.k.conv cmd 0 wnd ts' sn' (una + σ.b) 0) else f') := by
  have h1 := makeSpace_sim h IKCP_OVERHEAD
  rw [h.k.conv]
  exact ite_rel (by rw [h.k.probe]) (fun _ => putHdr_sim h1 _ _ (OutRel.probe _ _ _ _ _ _ _ _ hcmd h1.cur))
    (fun _ => h)

theorem flF3a_sim {σ : Sigma} {k k' : Kcp} (h : Sim σ k k') (now : U32) :
    FlSim σ (Live.flF3a k now) (Live.flF3a k' (now + σ.t)) := by
  unfold Live.flF3a
  rw [wndUnused_sim h, h.rcv_nxt]
  exact probeHdr_sim (flF2_sim h now) _ (Or.inl rfl) _ _ _ _ _ _

theorem flF3b_sim {σ : Sigma} {k k' : Kcp} (h : Sim σ k k') (now : U32) :
    FlSim σ (Live.flF3b k now) (Live.flF3b k' (now + σ.t)) := by
  unfold Live.flF3b
  rw [wndUnused_sim h, h.rcv_nxt]
  exact probeHdr_sim (flF3a_sim h now) _ (Or.inr rfl) _ _ _ _ _ _

theorem flF3_sim {σ : Sigma} {k k' : Kcp} (h : Sim σ k k') (now : U32) :
    FlSim σ (Live.flF3 k now) (Live.flF3 k' (now + σ.t)) := by
  have hb := flF3b_sim h now
  unfold Live.flF3
  generalize Live.flF3b k now = B at hb ⊢
  generalize Live.flF3b k' (now + σ.t) = B' at hb ⊢
  exact { hb with k := { hb.k with probe := rfl } }

theorem effWnd_sim {σ : Sigma} {k k' : Kcp} (h : Sim σ k k') : Live.effWnd k' = Live.effWnd k := by
  unfold Live.effWnd
  rw [h.nocwnd, h.cwnd, h.snd_wnd, h.rmt_wnd]

theorem flF4_sim {σ : Sigma} {k k' : Kcp} (h : Sim σ k k') (now : U32) :
    FlSim σ (Live.flF4 k now) (Live.flF4 k' (now + σ.t)) ∧
      (Live.flAd k' (now + σ.t)).count = (Live.flAd k now).count := by
  have h3 := flF3_sim h now
  unfold Live.flF4 Live.flAd
  generalize Live.flF3 k now = f at h3 ⊢
  generalize Live.flF3 k' (now + σ.t) = f' at h3 ⊢
  obtain ⟨a1, a2, a3, a4, a5⟩ := admitSegs_sim (σ := σ) f.k.conv f.k.snd_una (Live.effWnd f.k) now f.k.snd_queue
    h3.k.fresh f.k.snd_buf f'.k.snd_buf f.k.snd_nxt 0 h3.k.snd_buf
  rw [h3.k.conv, h3.k.snd_una, effWnd_sim h3.k, h3.k.snd_queue, h3.k.snd_nxt]
  exact ⟨{ h3 with k := { h3.k with snd_queue := a1, snd_buf := a2, snd_nxt := a3, fresh := a5 } }, a4⟩

theorem resentOf_sim {σ : Sigma} {k k' : Kcp} (h : Sim σ k k') : Live.resentOf k' = Live.resentOf k := by
  unfold Live.resentOf
  rw [h.fastresend]

theorem flX_sim {σ : Sigma} {k k' : Kcp} (h : Sim σ k k') (full : Bool) (now : U32) :
    XSim σ (Live.flX k full now) (Live.flX k' full (now + σ.t)) := by
  obtain ⟨h4, hc⟩ := flF4_sim h now
  unfold Live.flX
  rw [wndUnused_sim h, h.rcv_nxt, hc, resentOf_sim h4.k]
  generalize Live.flF4 k now = f at h4 ⊢
  generalize Live.flF4 k' (now + σ.t) = f' at h4 ⊢
  have h0 : XSim σ { f := f, next := f.k.interval } { f := f', next := f'.k.interval } :=
    ⟨h4, All₂.nil, rfl, rfl, h4.k.interval⟩
  exact ite_rel Iff.rfl (fun _ => xmitFold_sim h4.k.snd_buf h0 now _ (wndUnused k) k.rcv_nxt _)
    (fun _ => ⟨h4, h4.k.snd_buf, rfl, rfl, h4.k.interval⟩)

theorem phase6_congr (k k' : Kcp) (cwnd resent : U32) (change lost : Nat) (h0 : k'.nocwnd = k.nocwnd)
    (h1 : k'.snd_nxt - k'.snd_una = k.snd_nxt - k.snd_una) (h2 : k'.mss = k.mss) (h3 : k'.cwnd = k.cwnd)
    (h4 : k'.ssthresh = k.ssthresh) (h5 : k'.incr = k.incr) :
    (phase6 k' cwnd resent change lost).ssthresh = (phase6 k cwnd resent change lost).ssthresh ∧
    (phase6 k' cwnd resent change lost).cwnd = (phase6 k cwnd resent change lost).cwnd ∧
    (phase6 k' cwnd resent change lost).incr = (phase6 k cwnd resent change lost).incr := by
  unfold phase6 p6floor p6lost p6change
  simp only [h0, h1, h2, h3, h4, h5, apply_ite Kcp.cwnd, apply_ite Kcp.incr, apply_ite Kcp.ssthresh,
    apply_ite Kcp.mss, and_self]

theorem phase6_sim {σ : Sigma} {k k' : Kcp} (h : Sim σ k k') (cwnd resent : U32) (change lost : Nat) :
    Sim σ (phase6 k cwnd resent change lost) (phase6 k' cwnd resent change lost) := by
  have h1 : k'.snd_nxt - k'.snd_una = k.snd_nxt - k.snd_una := by rw [h.snd_nxt, h.snd_una, sub_shift]
  obtain ⟨e1, e2, e3⟩ := phase6_congr k k' cwnd resent change lost h.nocwnd h1 h.mss h.cwnd h.ssthresh h.incr
  obtain ⟨a, b, c, e⟩ := phase6_shape k cwnd resent change lost
  obtain ⟨a', b', c', e'⟩ := phase6_shape k' cwnd resent change lost
  rw [e, e'] at e1 e2 e3
  rw [e, e']
  exact { h with ssthresh := e1, cwnd := e2, incr := e3 }

structure FlushRel (σ : Sigma) (r r' : FlushRes) : Prop where
  k        : Sim σ r.k r'.k
  outs     : All₂ (OutRel σ) r.outs r'.outs
  interval : r'.interval = r.interval
  panic    : r'.panic = r.panic

theorem flush_sim {σ : Sigma} {k k' : Kcp} (h : Sim σ k k') (full : Bool) (now : U32) :
    FlushRel σ (flush k full now) (flush k' full (now + σ.t)) := by
  obtain ⟨h4, _⟩ := flF4_sim h now
  have hx := flX_sim h full now
  rw [Live.flush_eq, Live.flush_eq, effWnd_sim (flF3_sim h now).k, resentOf_sim h4.k]
  unfold Live.flF5
  generalize Live.flX k full now = x at hx ⊢
  generalize Live.flX k' full (now + σ.t) = x' at hx ⊢
  rw [hx.change, hx.lost, hx.next, hx.f.panic, ← hx.f.cur.length_eq]
  have hk5 : Sim σ { x.f.k with snd_buf := x.done } { x'.f.k with snd_buf := x'.done } :=
    { hx.f.k with snd_buf := hx.done }
  refine ⟨phase6_sim hk5 _ _ _ _, ?_, rfl, rfl⟩
  exact ite_rel (R := All₂ (OutRel σ)) Iff.rfl (fun _ => All₂.append hx.f.outs (All₂.single hx.f.cur))
    (fun _ => hx.f.outs)

/-- after the first-call initialisation of `Update`, `ts_flush` is live -/
theorem updInit_sim {σ : Sigma} {k k' : Kcp} (h : Sim σ k k') (now : U32) :
    Sim σ (if k.updated = 0 then { k with updated := 1, ts_flush := now } else k)
      (if k'.updated = 0 then { k' with updated := 1, ts_flush := now + σ.t } else k') ∧
    (if k.updated = 0 then { k with updated := 1, ts_flush := now } else k).updated ≠ 0 := by
  have one : (1 : U32) ≠ 0 := by decide
  exact ⟨ite_rel (by rw [h.updated]) (fun _ => { h with updated := rfl, ts_flush := fun _ => rfl }) (fun _ => h),
    ite_cases (P := fun x : Kcp => x.updated ≠ 0) (fun _ => one) (fun c => c)⟩

theorem updK2_sim {σ : Sigma} {k k' : Kcp} (h : Sim σ k k') (now : U32) :
    Sim σ (updK2 k now) (updK2 k' (now + σ.t)) ∧ (updK2 k now).updated ≠ 0 ∧
      (updGo k' (now + σ.t) ↔ updGo k now) := by
  obtain ⟨h1, hup⟩ := updInit_sim h now
  unfold updK2 updGo
  simp only []
  generalize (if k.updated = 0 then { k with updated := 1, ts_flush := now } else k) = k1 at h1 hup ⊢
  generalize (if k'.updated = 0 then { k' with updated := 1, ts_flush := now + σ.t } else k') = k1' at h1 ⊢
  rw [h1.ts_flush hup, itd_shift]
  exact ⟨ite_rel Iff.rfl (fun _ => { h1 with ts_flush := fun _ => rfl }) (fun _ => h1),
    ite_ind (P := fun x : Kcp => x.updated ≠ 0) hup hup, Iff.rfl⟩

theorem updTf_sim {σ : Sigma} {k k' : Kcp} (h : Sim σ k k') (hup : k.updated ≠ 0) (now : U32) :
    updTf k' (now + σ.t) = updTf k now + σ.t := by
  unfold updTf
  rw [h.ts_flush hup, h.interval, add_shift k.ts_flush, add_shift now, itd_shift]
  split <;> rfl

theorem update_sim {σ : Sigma} {k k' : Kcp} (h : Sim σ k k') (now : U32) :
    FlushRel σ (update k now) (update k' (now + σ.t)) := by
  obtain ⟨h2, hup, hgo⟩ := updK2_sim h now
  rw [Kcp.update_eq, Kcp.update_eq]
  generalize updK2 k now = k2 at h2 hup ⊢
  generalize updK2 k' (now + σ.t) = k2' at h2 ⊢
  refine ite_rel hgo (fun _ => flush_sim ?_ true now) (fun _ => ⟨h2, All₂.nil, rfl, rfl⟩)
  exact { h2 with ts_flush := fun _ => updTf_sim h2 hup now }

theorem checkLoop_shift {σ : Sigma} {l l' : List Seg} (h : All₂ (SndRel σ) l l') (now : U32) (tm : Int) :
    checkLoop (now + σ.t) l' tm = checkLoop now l tm := by
  induction h generalizing tm with
  | nil => rfl
  | cons hr _ ih => simp only [checkLoop, hr.resendts, itd_shift, ih]

theorem check_sim {σ : Sigma} {k k' : Kcp} (h : Sim σ k k') (now : U32) :
    check k' (now + σ.t) = check k now + σ.t := by
  let R (r r' : U32) : Prop := r' = r + σ.t
  have e (c : Prop) [Decidable c] (x y : U32) : (if c then x + σ.t else y + σ.t) = (if c then x else y) + σ.t :=
    (apply_ite (· + σ.t) c x y).symm
  unfold check
  refine ite_rel (R := R) (by rw [h.updated]) (fun _ => rfl) (fun c => ?_)
  simp only []
  rw [h.ts_flush c, itd_shift, checkLoop_shift h.snd_buf, h.interval, e]
  generalize (if itimediff now k.ts_flush ≥ 10000 ∨ itimediff now k.ts_flush < -10000 then now else k.ts_flush) = tsf
  rw [itd_shift, itd_shift]
  refine ite_rel (R := R) Iff.rfl (fun _ => rfl) (fun _ => ?_)
  cases checkLoop now k.snd_buf 0x7fffffff with
  | none => rfl
  | some tm => exact add_shift _ _ _

end KcpVerif.Shift
