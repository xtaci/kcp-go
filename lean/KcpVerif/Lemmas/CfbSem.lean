import KcpVerif.Lemmas.CfbUnroll
/-! Consecutive blocks are written to adjacent ranges, so the whole block loop is a single
`Bufs.write` of the textbook output; the two memory layouts are told apart only in the lemmas about
`write`.  Encryption and decryption differ in the feedback block `fb` of `Mode`. -/
namespace KcpVerif.Cfb

variable (E : Bytes → Bytes) (bs : Nat)

theorem rd_xor (c : Bool) (b T : Bytes) (off : Nat) (h : T.length ≤ bs) :
    xorB (rd c bs b off) T = xorB ((b.drop off).take bs) T := by
  cases c
  · simp only [rd, Bool.false_eq_true, if_false]; rw [xorB_take_left _ _ _ h]
  · simp only [rd, if_true]

theorem rd_take (c : Bool) (b : Bytes) (off : Nat) :
    (rd c bs b off).take bs = (b.drop off).take bs := by
  cases c
  · simp only [rd, Bool.false_eq_true, if_false]
  · simp only [rd, if_true, List.take_take, Nat.min_self]

/-- the contract of `BlockCrypt.Encrypt/Decrypt(dst, src)` on its two slices -/
structure Ok (m : Bufs) : Prop where
  len : m.src.length ≤ m.dst.length
  al : m.alias = true → m.dst = m.src

theorem length_blk (b : Bytes) (off : Nat) (h : off + bs ≤ b.length) :
    ((b.drop off).take bs).length = bs := by
  simp only [List.length_take, List.length_drop]; omega

theorem write_facts (m : Bufs) (off : Nat) (x : Bytes) (hk : Ok m)
    (hb : off + x.length ≤ m.src.length) :
    Ok (m.write off x) ∧ (m.write off x).src.length = m.src.length ∧
    (∀ k, off + x.length ≤ k → (m.write off x).src.drop k = m.src.drop k) := by
  have hl := hk.len
  have hd : (m.write off x).dst.length = m.dst.length := length_splice _ _ _ (by omega)
  cases ha : m.alias
  · have hs : (m.write off x).src = m.src := by
      simp only [Bufs.write, ha, Bool.false_eq_true, if_false]
    refine ⟨⟨by rw [hs, hd]; exact hl, fun h => ?_⟩, by rw [hs], fun k _ => by rw [hs]⟩
    rw [show (m.write off x).alias = false from ha] at h
    cases h
  · have hs : (m.write off x).src = splice m.src off x := by simp only [Bufs.write, ha, if_true]
    have hsl : (m.write off x).src.length = m.src.length := by rw [hs]; exact length_splice _ _ _ hb
    refine ⟨⟨by rw [hsl, hd]; exact hl, fun _ => by rw [hs, ← hk.al ha]; rfl⟩, hsl, ?_⟩
    intro k hk'
    rw [hs]
    exact drop_splice_ge _ _ _ _ (by omega) hk'

theorem write_write (m : Bufs) (off : Nat) (x y : Bytes) (hk : Ok m) (h : off ≤ m.src.length) :
    (m.write off x).write (off + x.length) y = m.write off (x ++ y) := by
  have hl := hk.len
  obtain ⟨src, dst, a⟩ := m
  cases a
  · simp only [Bufs.write, Bool.false_eq_true, if_false]
    rw [splice_splice dst off x y (Nat.le_trans h hl)]
  · simp only [Bufs.write, if_true]
    rw [splice_splice dst off x y (Nat.le_trans h hl), splice_splice src off x y h]

theorem write_all (m : Bufs) (x : Bytes) (hk : Ok m) (hx : x.length = m.src.length) :
    (m.write 0 x).dst = x ++ m.dst.drop m.src.length ∧
      (m.write 0 x).src = if m.alias then (m.write 0 x).dst else m.src := by
  refine ⟨by rw [write0_dst, hx], ?_⟩
  cases ha : m.alias
  · simp only [Bufs.write, ha, Bool.false_eq_true, if_false]
  · simp only [Bufs.write, ha, if_true, hk.al ha]

theorem blocks_ind (hbs : 0 < bs) {P : Bytes → Prop} (small : ∀ p, p.length < bs → P p)
    (block : ∀ p, bs ≤ p.length → P (p.drop bs) → P p) (p : Bytes) : P p :=
  if h : p.length < bs then small p h
  else block p (Nat.le_of_not_lt h) (blocks_ind hbs small block (p.drop bs))
termination_by p.length
decreasing_by simp only [List.length_drop]; omega

theorem cfbEnc_small (prev p : Bytes) (h : p.length < bs) : cfbEnc E bs prev p = xorB p (E prev) := by
  rw [cfbEnc, dif_pos (Or.inr h)]

theorem cfbEnc_step (prev p : Bytes) (hbs : 0 < bs) (h : bs ≤ p.length) :
    cfbEnc E bs prev p =
      xorB (p.take bs) (E prev) ++ cfbEnc E bs (xorB (p.take bs) (E prev)) (p.drop bs) := by
  rw [cfbEnc, dif_neg (by omega)]

theorem cfbDec_small (prev p : Bytes) (h : p.length < bs) : cfbDec E bs prev p = xorB p (E prev) := by
  rw [cfbDec, dif_pos (Or.inr h)]

theorem cfbDec_step (prev p : Bytes) (hbs : 0 < bs) (h : bs ≤ p.length) :
    cfbDec E bs prev p = xorB (p.take bs) (E prev) ++ cfbDec E bs (p.take bs) (p.drop bs) := by
  rw [cfbDec, dif_neg (by omega)]

/-- a feedback mode over blocks of `bs` bytes: `L` is one step of the block loop, `T` the textbook
definition, `fb block out` the block whose encryption is the next key block (CFB encryption: the
block written; decryption: the block read) -/
structure Mode (fb T : Bytes → Bytes → Bytes) (L : Bool → St → St) : Prop where
  fb_len : ∀ b o : Bytes, b.length = bs → o.length = bs → (fb b o).length = bs
  small : ∀ prev p : Bytes, p.length < bs → T prev p = xorB p (E prev)
  block : ∀ prev p : Bytes, bs ≤ p.length →
    T prev p = xorB (p.take bs) (E prev) ++ T (fb (p.take bs) (xorB (p.take bs) (E prev))) (p.drop bs)
  step : ∀ (c : Bool) (m : Bufs) (prev nx : Bytes) (base : Nat), (E prev).length = bs → Ok m →
    base + bs ≤ m.src.length →
    ∃ nx', L c ⟨m, E prev, nx, base⟩ =
      ⟨m.write base (xorB ((m.src.drop base).take bs) (E prev)),
        E (fb ((m.src.drop base).take bs) (xorB ((m.src.drop base).take bs) (E prev))), nx', base + bs⟩

theorem enc_mode (hbs : 0 < bs) : Mode E bs (fun _ o => o) (cfbEnc E bs) (encL E bs) where
  fb_len := fun _ _ _ h => h
  small := cfbEnc_small E bs
  block := fun prev p h => cfbEnc_step E bs prev p hbs h
  step := by
    intro c m prev nx base ht hk hb
    have hl := hk.len
    have hx : (xorB ((m.src.drop base).take bs) (E prev)).length = bs := by
      rw [length_xorB, length_blk bs _ _ hb, ht, Nat.min_self]
    have hr := drop_take_splice m.dst base (xorB ((m.src.drop base).take bs) (E prev)) (by omega)
    rw [hx] at hr
    refine ⟨nx, ?_⟩
    simp only [encL, encAt, St.setBase, Bufs.write]
    rw [rd_xor bs c _ _ _ (Nat.le_of_eq ht), rd_take, hr]

theorem dec_mode (hbs : 0 < bs) : Mode E bs (fun b _ => b) (cfbDec E bs) (decL E bs) where
  fb_len := fun _ _ h _ => h
  small := cfbDec_small E bs
  block := fun prev p h => cfbDec_step E bs prev p hbs h
  step := by
    intro c m prev nx base ht _ _
    refine ⟨E prev, ?_⟩
    simp only [decL, decA, St.setBase, St.swap]
    rw [rd_xor bs c _ _ _ (Nat.le_of_eq ht), rd_take]

section
variable {E bs} {fb T : Bytes → Bytes → Bytes} {L : Bool → St → St} (M : Mode E bs fb T L)
  (hE : ∀ x : Bytes, x.length = bs → (E x).length = bs)
include M hE

theorem loop_eq_write : ∀ (fl : List Bool) (m : Bufs) (prev nx : Bytes) (base : Nat), prev.length = bs → Ok m →
    base + fl.length * bs ≤ m.src.length → m.src.length < base + fl.length * bs + bs →
    (tailXor (steps L fl ⟨m, E prev, nx, base⟩)).m = m.write base (T prev (m.src.drop base)) := by
  intro fl
  induction fl with
  | nil =>
    intro m prev nx base hp hk h1 h2
    rw [List.length_nil, Nat.zero_mul, Nat.add_zero] at h2
    rw [M.small prev _ (by rw [List.length_drop]; omega)]
    rfl
  | cons c fl ih =>
    intro m prev nx base hp hk h1 h2
    rw [List.length_cons, Nat.succ_mul] at h1 h2
    have hb : base + bs ≤ m.src.length := by omega
    have hblk := length_blk bs m.src base hb
    have hx : (xorB ((m.src.drop base).take bs) (E prev)).length = bs := by
      rw [length_xorB, hblk, hE prev hp, Nat.min_self]
    obtain ⟨nx', e⟩ := M.step c m prev nx base (hE prev hp) hk hb
    obtain ⟨ok', w1, w6⟩ :=
      write_facts m base (xorB ((m.src.drop base).take bs) (E prev)) hk (by omega)
    have ww := write_write m base (xorB ((m.src.drop base).take bs) (E prev))
      (T (fb ((m.src.drop base).take bs) (xorB ((m.src.drop base).take bs) (E prev)))
        (m.src.drop (base + bs))) hk (by omega)
    rw [hx] at ww
    show (tailXor (steps L fl (L c _))).m = _
    rw [e, ih _ _ nx' _ (M.fb_len _ _ hblk hx) ok' (by rw [w1]; omega) (by rw [w1]; omega),
      w6 (base + bs) (by omega), M.block prev _ (by rw [List.length_drop]; omega), List.drop_drop]
    exact ww

theorem length_T (hbs : 0 < bs) (p : Bytes) :
    ∀ prev : Bytes, prev.length = bs → (T prev p).length = p.length := by
  induction p using blocks_ind bs hbs with
  | small p h =>
    intro prev hp
    rw [M.small prev p h, length_xorB, hE prev hp]; omega
  | block p h ih =>
    intro prev hp
    have ht : (p.take bs).length = bs := by rw [List.length_take]; omega
    have hc : (xorB (p.take bs) (E prev)).length = bs := by
      rw [length_xorB, ht, hE prev hp, Nat.min_self]
    rw [M.block prev p h, List.length_append, hc, ih _ (M.fb_len _ _ ht hc), List.length_drop]
    omega

theorem call_eq_textbook (hbs : 0 < bs) (hiv : bs ≤ Gen.initialVector.length) (c : Bool) (src dst : Bytes)
    (alias : Bool) (nx : Bytes) (hlen : src.length ≤ dst.length) (hal : alias = true → dst = src) :
    let f := tailXor (steps L (flags c (src.length / bs)) (start E bs src dst alias nx))
    f.m.dst = T (Gen.initialVector.take bs) src ++ dst.drop src.length ∧
      f.m.src = if alias then f.m.dst else src := by
  have hp : (Gen.initialVector.take bs).length = bs := by rw [List.length_take]; omega
  have h := loop_eq_write M hE (flags c (src.length / bs)) ⟨src, dst, alias⟩ (Gen.initialVector.take bs) nx 0
    hp ⟨hlen, hal⟩
    (by rw [length_flags]
        show 0 + _ ≤ src.length
        have := Nat.div_mul_le_self src.length bs; omega)
    (by rw [length_flags]
        show src.length < 0 + _ + bs
        have := Nat.lt_div_mul_add (a := src.length) hbs; omega)
  intro f
  rw [show f.m = _ from h]
  exact write_all ⟨src, dst, alias⟩ _ ⟨hlen, hal⟩ (length_T M hE hbs src _ hp)

end

theorem length_cfbEnc (hbs : 0 < bs) (hE : ∀ x : Bytes, x.length = bs → (E x).length = bs)
    (p prev : Bytes) (hp : prev.length = bs) : (cfbEnc E bs prev p).length = p.length :=
  length_T (enc_mode E bs hbs) hE hbs p prev hp

theorem cfbDec_cfbEnc (hbs : 0 < bs) (hE : ∀ x : Bytes, x.length = bs → (E x).length = bs)
    (p : Bytes) : ∀ prev : Bytes, prev.length = bs → cfbDec E bs prev (cfbEnc E bs prev p) = p := by
  induction p using blocks_ind bs hbs with
  | small p h =>
    intro prev hp
    rw [cfbEnc_small E bs prev p h, cfbDec_small E bs prev _ (by rw [length_xorB]; omega),
      xorB_cancel _ _ (by rw [hE prev hp]; omega)]
  | block p h ih =>
    intro prev hp
    have hc : (xorB (p.take bs) (E prev)).length = bs := by
      rw [length_xorB, List.length_take, hE prev hp]; omega
    rw [cfbEnc_step E bs prev p hbs h,
      cfbDec_step E bs prev _ hbs (by rw [List.length_append, hc]; omega),
      List.take_left' hc, List.drop_left' hc,
      xorB_cancel _ _ (by rw [List.length_take, hE prev hp]; omega), ih _ hc, List.take_append_drop]

/-- `cfbDec_cfbEnc` behind a bound `n` on the length that plays no part -/
theorem cfb_roundtrip (hbs : 0 < bs) (hE : ∀ x : Bytes, x.length = bs → (E x).length = bs) :
    ∀ (n : Nat) (p prev : Bytes), p.length ≤ n → prev.length = bs →
      cfbDec E bs prev (cfbEnc E bs prev p) = p :=
  fun _ p prev _ hp => cfbDec_cfbEnc E bs hbs hE p prev hp

end KcpVerif.Cfb
