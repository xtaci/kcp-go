/-
C15 (ownership, protocol core): the ghost state of `Model/KcpOwn` against the sanitizer of
`Model/Pool`.  `W g c`: the log of `g` is accepted by the sanitizer, and the sanitizer's "owned" set
after the log is exactly what the core holds — `c id` is the number of queue positions that hold
buffer `id` (plus the buffers dropped next to a panic), it is 1 for owned buffers and 0 otherwise.
`W.get`, `W.recycle` and `W.use` are the only places where the sanitizer's state machine is looked
at (`W.getLost` goes through `W.get`, `W.drop` touches only `lost`); everything else is counting.
Core Lean only.
-/
import KcpVerif.Model.KcpOwn
import KcpVerif.Lemmas.Pool

namespace KcpVerif.Own
open KcpVerif.Pool

def owned (g : Ghost) : List Nat := (replay St.init g.log).owned

def oc (o : Option Nat) (id : Nat) : Nat := if o = some id then 1 else 0

theorem oc_none (id : Nat) : oc none id = 0 := by simp [oc]
theorem oc_some_self (id : Nat) : oc (some id) id = 1 := by simp [oc]
theorem oc_some_ne {j id : Nat} (h : j ≠ id) : oc (some j) id = 0 := by simp [oc, h]

structure W (g : Ghost) (c : Nat → Nat) : Prop where
  ok    : sanitize g.log = .ok
  fresh : ∀ id ∈ owned g, id < g.next
  bal   : ∀ id, c id + g.lost.count id = if id ∈ owned g then 1 else 0

theorem W.congr {g : Ghost} {c c' : Nat → Nat} (h : W g c) (hc : ∀ id, c' id = c id) : W g c' :=
  ⟨h.ok, h.fresh, fun id => by rw [hc id]; exact h.bal id⟩

/-- the count of a list with a head unfolds to `head + rest + frame`; the lemmas below take `head + (rest + frame)` -/
theorem W.assoc {g : Ghost} {a b F : Nat → Nat} (h : W g (fun id => a id + b id + F id)) :
    W g (fun id => a id + (b id + F id)) :=
  h.congr (fun _ => (Nat.add_assoc ..).symm)

theorem W.init : W {} (fun _ => 0) :=
  ⟨rfl, fun id h => by simp [owned, replay, St.init] at h, fun id => by simp [owned, replay, St.init]⟩

theorem W.owned_of_pos {g : Ghost} {c : Nat → Nat} (h : W g c) {id : Nat} (hp : 0 < c id) : id ∈ owned g := by
  have hb := h.bal id
  by_cases hm : id ∈ owned g
  · exact hm
  · simp only [hm, if_false] at hb; omega

theorem W.get {g : Ghost} {c : Nat → Nat} (h : W g c) : W g.get (fun id => oc (some g.next) id + c id) := by
  have hn : g.next ∉ owned g := fun hm => Nat.lt_irrefl _ (h.fresh _ hm)
  have hn' : g.next ∉ (replay St.init g.log).owned := hn
  have hst : (step (replay St.init g.log) (.get g.next)) =
      { v := .ok, st := { owned := g.next :: (replay St.init g.log).owned,
                          free := remove (replay St.init g.log).free g.next } } := by
    simp only [step, hn', if_false]
  have how : owned g.get = g.next :: owned g := by
    show (replay St.init (g.log ++ [.get g.next])).owned = _
    rw [replay_snoc, hst]; rfl
  refine ⟨?_, ?_, ?_⟩
  · show sanitize (g.log ++ [.get g.next]) = .ok
    rw [sanitize_snoc]; exact ⟨h.ok, by rw [hst]⟩
  · intro id hid
    rw [how] at hid
    show id < g.next + 1
    rcases List.mem_cons.1 hid with rfl | hm
    · exact Nat.lt_succ_self _
    · exact Nat.lt_succ_of_lt (h.fresh _ hm)
  · intro id
    rw [how]
    show oc (some g.next) id + c id + g.lost.count id = _
    have hc := h.bal id
    by_cases hid : g.next = id
    · subst hid
      simp only [hn, if_false] at hc
      simp only [oc_some_self, List.mem_cons, true_or, if_true]
      omega
    · have : ¬ id = g.next := fun e => hid e.symm
      simp only [oc_some_ne hid, List.mem_cons, this, false_or]
      omega

theorem W.recycle {g : Ghost} {c : Nat → Nat} {o : Option Nat} (h : W g (fun id => oc o id + c id)) :
    W (g.recycle o) c := by
  cases o with
  | none => exact h.congr (fun id => by simp [oc_none])
  | some j =>
    have hjo : j ∈ owned g := h.owned_of_pos (id := j) (by show 0 < oc (some j) j + c j; rw [oc_some_self]; omega)
    have hjo' : j ∈ (replay St.init g.log).owned := hjo
    have hst : (step (replay St.init g.log) (.put j)) =
        { v := .ok, st := { owned := remove (replay St.init g.log).owned j,
                            free := j :: (replay St.init g.log).free } } := by
      simp only [step, hjo', if_true]
    have how : owned (g.recycle (some j)) = remove (owned g) j := by
      show (replay St.init (g.log ++ [.put j])).owned = _
      rw [replay_snoc, hst]; rfl
    refine ⟨?_, ?_, ?_⟩
    · show sanitize (g.log ++ [.put j]) = .ok
      rw [sanitize_snoc]; exact ⟨h.ok, by rw [hst]⟩
    · intro id hid
      rw [how, mem_remove] at hid
      exact h.fresh _ hid.1
    · intro id
      rw [how]
      show c id + g.lost.count id = _
      have hc := h.bal id
      by_cases hid : j = id
      · subst hid
        have : ¬ (j ∈ remove (owned g) j) := by rw [mem_remove]; exact fun h => h.2 rfl
        simp only [this, if_false]
        simp only [oc_some_self, hjo, if_true] at hc
        omega
      · have hne : id ≠ j := fun e => hid e.symm
        simp only [oc_some_ne hid] at hc
        simp only [mem_remove, hne, ne_eq, not_false_eq_true, and_true]
        omega

theorem W.use {g : Ghost} {c : Nat → Nat} {o : Option Nat} (h : W g (fun id => oc o id + c id)) :
    W (g.use o) (fun id => oc o id + c id) := by
  cases o with
  | none => exact h
  | some j =>
    have hjo : j ∈ owned g := h.owned_of_pos (id := j) (by show 0 < oc (some j) j + c j; rw [oc_some_self]; omega)
    have hjo' : j ∈ (replay St.init g.log).owned := hjo
    have hst : (step (replay St.init g.log) (.use j)) = { v := .ok, st := replay St.init g.log } := by
      simp only [step, hjo', if_true]
    have how : owned (g.use (some j)) = owned g := by
      show (replay St.init (g.log ++ [.use j])).owned = _
      rw [replay_snoc, hst]; rfl
    refine ⟨?_, ?_, ?_⟩
    · show sanitize (g.log ++ [.use j]) = .ok
      rw [sanitize_snoc]; exact ⟨h.ok, by rw [hst]⟩
    · intro id hid
      rw [how] at hid
      exact h.fresh _ hid
    · intro id
      rw [how]
      exact h.bal id

theorem W.getLost {g : Ghost} {c : Nat → Nat} (h : W g c) : W g.getLost c := by
  have hg := h.get
  refine ⟨hg.ok, hg.fresh, ?_⟩
  intro id
  have hc := hg.bal id
  show c id + (g.next :: g.lost).count id = if id ∈ owned g.get then 1 else 0
  rw [← hc]
  show c id + (g.next :: g.lost).count id = oc (some g.next) id + c id + g.lost.count id
  by_cases hid : g.next = id
  · subst hid
    simp only [oc_some_self, List.count_cons_self]; omega
  · simp only [oc_some_ne hid, List.count_cons_of_ne hid]; omega

theorem W.drop {g : Ghost} {c : Nat → Nat} {o : Option Nat} (h : W g (fun id => oc o id + c id)) :
    W (g.drop o) c := by
  cases o with
  | none => exact h.congr (fun id => by simp [oc_none])
  | some j =>
    refine ⟨h.ok, h.fresh, ?_⟩
    intro id
    have hb := h.bal id
    show c id + (j :: g.lost).count id = if id ∈ owned g then 1 else 0
    rw [← hb]
    by_cases hid : j = id
    · subst hid; simp only [oc_some_self, List.count_cons_self]; omega
    · simp only [oc_some_ne hid, List.count_cons_of_ne hid]; omega

theorem use_lost (g : Ghost) (o : Option Nat) : (g.use o).lost = g.lost := by cases o <;> rfl
theorem recycle_lost (g : Ghost) (o : Option Nat) : (g.recycle o).lost = g.lost := by cases o <;> rfl

end KcpVerif.Own
