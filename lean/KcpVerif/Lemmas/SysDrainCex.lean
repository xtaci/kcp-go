/-
C02, the wedge.  A core that owes no ACK, has no probe pending, believes the peer's window open, can admit nothing
and holds only segments flagged `acked` writes nothing when it flushes.  Two such cores with empty links are stuck
for ever under `Old.step` (the `Input` of kcp-go before 475aa81, which keeps flagged heads in `snd_buf`), although
A's send buffer is not empty; one reordered and one lost datagram lead there.
-/
import KcpVerif.Lemmas.SysWire
import KcpVerif.Model.SysOld
import KcpVerif.Lemmas.Fold

namespace KcpVerif.SysC
open KcpVerif.Kcp KcpVerif.Live KcpVerif.Sys

theorem fold_acked (now resent : U32) (wnd : BitVec 16) (una : U32) (n : Nat) : ∀ (l : List Seg) (st : XmitSt),
    (∀ x ∈ l, x.acked = true) → l.foldl (xmitOne now resent wnd una n) st = { st with done := st.done ++ l } := by
  intro l
  induction l with
  | nil => intro st _; simp
  | cons a r ih =>
    intro st h
    simp only [List.foldl_cons]
    have ha : xmitOne now resent wnd una n st a = { st with done := st.done ++ [a] } := by
      unfold xmitOne; rw [if_pos (h a (List.mem_cons_self ..))]
    rw [ha, ih _ (fun x hx => h x (List.mem_cons_of_mem _ hx))]
    simp

structure Idle (k : Kcp) : Prop where
  ack : k.acklist = []
  prb : k.probe = 0
  rmt : k.rmt_wnd ≠ 0
  ncw : k.nocwnd ≠ 0
  cls : itimediff k.snd_nxt (k.snd_una + effWnd k) ≥ 0 ∨ k.snd_queue = []
  akd : ∀ x ∈ k.snd_buf, x.acked = true

instance (k : Kcp) : Decidable (Idle k) :=
  decidable_of_iff (k.acklist = [] ∧ k.probe = 0 ∧ k.rmt_wnd ≠ 0 ∧ k.nocwnd ≠ 0 ∧
      (itimediff k.snd_nxt (k.snd_una + effWnd k) ≥ 0 ∨ k.snd_queue = []) ∧ ∀ x ∈ k.snd_buf, x.acked = true)
    ⟨fun ⟨a, b, c, d, e, f⟩ => ⟨a, b, c, d, e, f⟩, fun h => ⟨h.ack, h.prb, h.rmt, h.ncw, h.cls, h.akd⟩⟩

theorem flush_idle (k : Kcp) (full : Bool) (now : U32) (h : Idle k) :
    (flush k full now).outs = [] ∧ (flush k full now).panic = false ∧
    (flush k full now).k = { k with ts_probe := 0, probe_wait := 0 } ∧
    (full = true → (flush k full now).interval = k.interval) := by
  have h3 : flF3 k now = { k := { k with ts_probe := 0, probe_wait := 0 } } := by
    unfold flF3 flF3b flF3a flF2 flF1 flAck
    simp only [h.ack, ackFlush, probePhase, if_neg h.rmt, h.prb]
    simp
  have hk3 : (flF3 k now).k = { k with ts_probe := 0, probe_wait := 0 } := by rw [h3]
  have heff : effWnd (flF3 k now).k = effWnd k := by rw [hk3]; rfl
  have had : flAd k now = ⟨k.snd_queue, k.snd_buf, k.snd_nxt, 0⟩ := by
    unfold flAd
    rw [heff, hk3]
    rcases h.cls with hc | hc
    · exact admitSegs_closed _ _ _ _ _ _ _ _ hc
    · show admitSegs _ _ _ _ k.snd_queue _ _ _ = _
      rw [hc]; rfl
  have h4 : flF4 k now = { k := { k with ts_probe := 0, probe_wait := 0 } } := by
    unfold flF4
    rw [had, h3]
  have hx : (flX k full now).f = flF4 k now ∧ (flX k full now).done = k.snd_buf ∧
      (flX k full now).change = 0 ∧ (flX k full now).lost = 0 ∧
      (full = true → (flX k full now).next = k.interval) := by
    have hb : (flF4 k now).k.snd_buf = k.snd_buf := by rw [h4]
    cases full
    · rw [flX_ackonly]
      exact ⟨rfl, hb, rfl, rfl, fun c => by cases c⟩
    · have e : flX k true now = (flF4 k now).k.snd_buf.foldl
          (xmitOne now (resentOf (flF4 k now).k) (wndUnused k) k.rcv_nxt (flAd k now).count)
          { f := flF4 k now, next := (flF4 k now).k.interval } := by
        unfold flX; rfl
      rw [e, hb, fold_acked _ _ _ _ _ _ _ h.akd, h4]
      exact ⟨rfl, by simp, rfl, rfl, fun _ => rfl⟩
  have h5 : flF5 k full now = { k := { k with ts_probe := 0, probe_wait := 0 } } := by
    unfold flF5
    rw [hx.1, hx.2.1, h4]
  rw [flush_eq, h5, hx.2.2.1, hx.2.2.2.1]
  refine ⟨by simp, rfl, ?_, hx.2.2.2.2⟩
  unfold phase6
  rw [if_neg (by exact h.ncw)]

theorem Idle.keep {k : Kcp} (h : Idle k) : Idle { k with ts_probe := 0, probe_wait := 0 } :=
  ⟨h.ack, h.prb, h.rmt, h.ncw, h.cls, h.akd⟩

structure Stuck (s : State) : Prop where
  ab : s.ab = []
  ba : s.ba = []
  a  : Idle s.A
  b  : Idle s.B
  bq : s.B.rcv_queue = []
  ac : itimediff s.A.snd_nxt (s.A.snd_una + effWnd s.A) ≥ 0   -- A's admission is closed, queue or not

instance (s : State) : Decidable (Stuck s) :=
  decidable_of_iff (s.ab = [] ∧ s.ba = [] ∧ Idle s.A ∧ Idle s.B ∧ s.B.rcv_queue = [] ∧
      itimediff s.A.snd_nxt (s.A.snd_una + effWnd s.A) ≥ 0)
    ⟨fun ⟨a, b, c, d, e, f⟩ => ⟨a, b, c, d, e, f⟩, fun h => ⟨h.ab, h.ba, h.a, h.b, h.bq, h.ac⟩⟩

theorem stuck_flushA {s : State} (ha : Idle s.A) (hab : s.ab = []) :
    Old.step s .flushA =
      { s with A := { s.A with ts_probe := 0, probe_wait := 0 }, nfA := s.now + s.A.interval.toNat } := by
  obtain ⟨o1, o2, o3, o4⟩ := flush_idle s.A true (clk s.now) ha
  show ({ s with A := (s.A.flush true (clk s.now)).k, nfA := s.now + (s.A.flush true (clk s.now)).interval.toNat,
                 ab := s.ab ++ stamp (s.now + s.D) (s.A.flush true (clk s.now)).outs,
                 panic := s.panic || (s.A.flush true (clk s.now)).panic } : State) = _
  rw [o1, o2, o3, o4 rfl, hab, Bool.or_false]
  rfl

theorem stuck_flushB {s : State} (hb : Idle s.B) (hba : s.ba = []) :
    Old.step s .flushB =
      { s with B := { s.B with ts_probe := 0, probe_wait := 0 }, nfB := s.now + s.B.interval.toNat } := by
  obtain ⟨o1, o2, o3, o4⟩ := flush_idle s.B true (clk s.now) hb
  show ({ s with B := (s.B.flush true (clk s.now)).k, nfB := s.now + (s.B.flush true (clk s.now)).interval.toNat,
                 ba := s.ba ++ stamp (s.now + s.D) (s.B.flush true (clk s.now)).outs,
                 panic := s.panic || (s.B.flush true (clk s.now)).panic } : State) = _
  rw [o1, o2, o3, o4 rfl, hba, Bool.or_false]
  rfl

theorem stuck_step (s : State) (h : Stuck s) (ev : Ev) :
    Stuck (Old.step s ev) ∧ (Old.step s ev).A.snd_buf = s.A.snd_buf ∧ (Old.step s ev).got = s.got ∧
    (Old.step s ev).A.snd_nxt = s.A.snd_nxt := by
  cases ev with
  | tick =>
    rw [show Old.step s .tick = (if quiet s then { s with now := s.now + 1 } else s) from rfl]
    split
    · exact ⟨⟨h.ab, h.ba, h.a, h.b, h.bq, h.ac⟩, rfl, rfl, rfl⟩
    · exact ⟨h, rfl, rfl, rfl⟩
  | send b =>
    obtain ⟨q, hq⟩ := Kcp.send_shape s.A b
    rw [show Old.step s (.send b) = { s with A := (s.A.send b).k, panic := s.panic || (s.A.send b).panic } from rfl, hq]
    exact ⟨⟨h.ab, h.ba, ⟨h.a.ack, h.a.prb, h.a.rmt, h.a.ncw, Or.inl h.ac, h.a.akd⟩, h.b, h.bq, h.ac⟩, rfl, rfl, rfl⟩
  | read =>
    have hp : s.B.peekSize = -1 := by unfold peekSize; rw [h.bq]
    have hn : (s.B.recv s.B.peekSize.toNat).n < 0 := by
      rw [recv_fail1 s.B _ (by rw [hp]; decide)]; show (-1 : Int) < 0; omega
    rw [show Old.step s .read = (if (s.B.recv s.B.peekSize.toNat).n < 0 then s
      else { s with B := (s.B.recv s.B.peekSize.toNat).k, got := s.got ++ (s.B.recv s.B.peekSize.toNat).data }) from rfl]
    rw [if_pos hn]
    exact ⟨h, rfl, rfl, rfl⟩
  | dlvA =>
    have : Old.step s .dlvA = s := by simp only [Old.step, h.ba]
    rw [this]; exact ⟨h, rfl, rfl, rfl⟩
  | dlvB =>
    have : Old.step s .dlvB = s := by simp only [Old.step, h.ab]
    rw [this]; exact ⟨h, rfl, rfl, rfl⟩
  | flushA =>
    rw [stuck_flushA h.a h.ab]
    exact ⟨⟨h.ab, h.ba, h.a.keep, h.b, h.bq, h.ac⟩, rfl, rfl, rfl⟩
  | flushB =>
    rw [stuck_flushB h.b h.ba]
    exact ⟨⟨h.ab, h.ba, h.a, h.b.keep, h.bq, h.ac⟩, rfl, rfl, rfl⟩

theorem stuck_run (evs : List Ev) (s : State) (h : Stuck s) :
    Stuck (Old.run s evs) ∧ (Old.run s evs).A.snd_buf = s.A.snd_buf ∧ (Old.run s evs).got = s.got ∧
    (Old.run s evs).A.snd_nxt = s.A.snd_nxt :=
  foldl_inv (P := fun s' => Stuck s' ∧ s'.A.snd_buf = s.A.snd_buf ∧ s'.got = s.got ∧ s'.A.snd_nxt = s.A.snd_nxt)
    (fun a ev ⟨h1, h2, h3, h4⟩ =>
      let ⟨j1, j2, j3, j4⟩ := stuck_step a h1 ev
      ⟨j1, j2.trans h2, j3.trans h3, j4.trans h4⟩) evs s ⟨h, rfl, rfl, rfl⟩

theorem old_run_append (s : State) (a b : List Ev) : Old.run s (a ++ b) = Old.run (Old.run s a) b := by
  unfold Old.run; rw [List.foldl_append]

theorem stuck_quiet {s : State} (h : Stuck s) (ha : s.now < s.nfA) (hb : s.now < s.nfB) : quiet s = true := by
  unfold quiet peekSize
  rw [h.ab, h.ba, h.bq]
  simp [ha, hb]

theorem stuck_tick {s : State} (hq : quiet s = true) : Old.step s .tick = { s with now := s.now + 1 } :=
  if_pos hq

def stuckRound : List Ev := [.flushA, .flushB, .tick]

theorem stuck_round (s : State) (h : Stuck s) (ha : 0 < s.A.interval.toNat) (hb : 0 < s.B.interval.toNat) :
    (Old.run s stuckRound).now = s.now + 1 ∧ (Old.run s stuckRound).A.interval = s.A.interval ∧
    (Old.run s stuckRound).B.interval = s.B.interval := by
  have h1 : Stuck (Old.step s .flushA) := (stuck_step s h .flushA).1
  have h2 : Stuck (Old.step (Old.step s .flushA) .flushB) := (stuck_step _ h1 .flushB).1
  have e2 : Old.step (Old.step s .flushA) .flushB =
      { s with A := { s.A with ts_probe := 0, probe_wait := 0 }, nfA := s.now + s.A.interval.toNat,
               B := { s.B with ts_probe := 0, probe_wait := 0 }, nfB := s.now + s.B.interval.toNat } := by
    rw [stuck_flushB h1.b h1.ba, stuck_flushA h.a h.ab]
  have hq : quiet (Old.step (Old.step s .flushA) .flushB) = true :=
    stuck_quiet h2 (by rw [e2]; exact Nat.lt_add_of_pos_right ha) (by rw [e2]; exact Nat.lt_add_of_pos_right hb)
  rw [show Old.run s stuckRound = Old.step (Old.step (Old.step s .flushA) .flushB) .tick from rfl,
    stuck_tick hq, e2]
  exact ⟨rfl, rfl, rfl⟩

def stuckRounds : Nat → List Ev
  | 0 => []
  | n + 1 => stuckRound ++ stuckRounds n

theorem stuckRounds_nosend : ∀ n, ∀ ev ∈ stuckRounds n, ∀ b, ev ≠ .send b := by
  intro n
  induction n with
  | zero => intro ev h; simp [stuckRounds] at h
  | succ m ih =>
    intro ev h b
    unfold stuckRounds at h
    rcases List.mem_append.mp h with h | h
    · simp [stuckRound] at h
      rcases h with rfl | rfl | rfl <;> exact fun c => by cases c
    · exact ih ev h b

theorem stuck_rounds_now : ∀ (n : Nat) (s : State), Stuck s → 0 < s.A.interval.toNat → 0 < s.B.interval.toNat →
    (Old.run s (stuckRounds n)).now = s.now + n := by
  intro n
  induction n with
  | zero => intro s _ _ _; rfl
  | succ m ih =>
    intro s h ha hb
    unfold stuckRounds
    rw [old_run_append]
    obtain ⟨r1, r2, r3⟩ := stuck_round s h ha hb
    rw [ih _ (stuck_run stuckRound s h).1 (by rw [r2]; exact ha) (by rw [r3]; exact hb), r1]
    omega

/-! The fault history: `D = 0`; `rcv_wnd = 1` at B; nodelay mode without congestion window on both sides.  The two link
manipulations are the faults: the first datagram of B is held back and delivered after the second
(reordering), the third is lost. -/

def wedgeA : Kcp := Kcp.noDelay (Kcp.new 1) 1 10 2 1
def wedgeB : Kcp := Kcp.wndSize (Kcp.noDelay (Kcp.new 1) 1 10 2 1) 32 1

/-- A sends segment 0; B takes it, the reader reads it, B flushes `X0 = [ACK 0, una 1, wnd 1]` -/
def wedge1 : State := Old.run (Sys.init wedgeA wedgeB 0 1000) [.send [0], .flushA, .dlvB, .read, .flushB]
/-- `X0` is held back by the network.  A sends segments 1 and 2 in one datagram; B queues 1 (the queue
is full now) and keeps 2 in the reorder buffer, acknowledged but not delivered:
`X1 = [ACK 2, una 2, wnd 0]`; A inputs `X1`: 0 and 1 removed, 2 FLAGGED, `rmt_wnd = 0` -/
def wedge2 : State := Old.run { wedge1 with ba := [] } [.send [1], .send [2], .flushA, .dlvB, .flushB, .dlvA]
/-- the stale `X0` arrives now (`rmt_wnd = 1` again: the zero-window probe is disarmed); the reader reads
1 and 2; B flushes the window update `[WINS, una 3]` -/
def wedge3 : State := Old.run { wedge2 with ba := wedge1.ba } [.dlvA, .read, .read, .flushB]
/-- the window update is lost — the last fault -/
def wedgeState : State := { wedge3 with ba := [] }

end KcpVerif.SysC
