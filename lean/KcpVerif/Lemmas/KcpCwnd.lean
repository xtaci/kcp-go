/-
C04 (congestion window): collapse to one segment after a retransmission timeout, floor of one
segment after every flush, cap at the remote window after the ack-driven growth; and the arithmetic of that growth:
in every reachable state the remote window fits 16 bits and the segment size is in [1, mtuLimit] (`CwOK`), hence it
never divides by zero and `(cwnd+1)*mss` never wraps.
Core Lean only.
-/
import KcpVerif.Lemmas.KcpOps
import KcpVerif.Lemmas.Fold

namespace KcpVerif.Kcp
open KcpVerif.Gen

/-- segment `s` of `snd_buf` is retransmitted BY TIMEOUT in phase 5 (not acknowledged, sent before,
not taken by either fast-retransmit rule, `resendts` reached) -/
def RtoDue (now resent : U32) (newSegs : Nat) (s : Seg) : Prop :=
  s.acked = false ∧ s.xmit ≠ 0 ∧ ¬ (s.fastack ≥ resent ∧ s.fastack ≠ 0xFFFFFFFF#32) ∧
  ¬ (s.fastack > 0 ∧ s.fastack ≠ 0xFFFFFFFF#32 ∧ newSegs = 0) ∧ itimediff now s.resendts ≥ 0

instance (now resent : U32) (n : Nat) (s : Seg) : Decidable (RtoDue now resent n s) := by
  unfold RtoDue; exact inferInstance

theorem rtoDue_iff (now resent : U32) (n : Nat) (s : Seg) :
    RtoDue now resent n s ↔ s.acked = false ∧ Live.cause now resent n s = .timeout := by
  unfold RtoDue
  refine and_congr_right fun _ => ?_
  exact Live.cause_cases now resent n s
    (P := fun c => (s.xmit ≠ 0 ∧ ¬ (s.fastack ≥ resent ∧ s.fastack ≠ 0xFFFFFFFF#32) ∧
      ¬ (s.fastack > 0 ∧ s.fastack ≠ 0xFFFFFFFF#32 ∧ n = 0) ∧ itimediff now s.resendts ≥ 0) ↔ c = .timeout)
    (fun x => ⟨fun h => absurd x h.1, fun h => by cases h⟩)
    (fun _ f => ⟨fun h => absurd f h.2.1, fun h => by cases h⟩)
    (fun _ _ e => ⟨fun h => absurd e h.2.2.1, fun h => by cases h⟩)
    (fun x f e d => ⟨fun _ => rfl, fun _ => ⟨x, f, e, d⟩⟩)
    (fun _ _ _ d => ⟨fun h => absurd h.2.2.2 (Int.not_le.mpr d), fun h => by cases h⟩)

/-- the number of timeout retransmissions of a full flush of `k` at time `now` -/
def flushLost (k : Kcp) (now : U32) : Nat :=
  (flushAd k now).buf.countP (fun s => decide (RtoDue now (resentOf k) (flushAd k now).count s))

theorem flX_lost (k : Kcp) (now : U32) : (Live.flX k true now).lost = flushLost k now := by
  have h := (Live.flX_spec k now).lost
  rw [flAd_flushAd] at h
  rw [h]
  refine (Nat.zero_add _).trans (List.countP_congr fun s _ => ?_)
  rw [decide_eq_true_eq, rtoDue_iff, Bool.and_eq_true, Bool.not_eq_true', decide_eq_true_eq]
  exact Iff.rfl

theorem flush_rto_collapse (k : Kcp) (now : U32) (hn : k.nocwnd = 0) (hl : flushLost k now > 0) :
    (flush k true now).k.cwnd = 1 := by
  obtain ⟨pw, tp, st, e⟩ := flush_stages k true now
  rw [e]
  exact phase6_collapse _ _ _ _ _ hn (by rw [flX_lost]; exact hl)

theorem flush_cwnd_ge (k : Kcp) (full : Bool) (now : U32) (hn : k.nocwnd = 0) :
    1 ≤ (flush k full now).k.cwnd := by
  obtain ⟨pw, tp, st, e⟩ := flush_stages k full now
  rw [e]
  exact phase6_ge _ _ _ _ _ hn

theorem flush_ackonly_cwnd (k : Kcp) (now : U32) (h1 : 1 ≤ k.cwnd) : (flush k false now).k.cwnd = k.cwnd := by
  obtain ⟨pw, tp, st, e⟩ := flush_stages k false now
  rw [e, Live.flX_ackonly]
  show (phase6 _ _ _ 0 0).cwnd = k.cwnd
  rw [phase6_keep]
  exact h1

/-- a condition on `k.snd_buf` alone: phase 4 only appends to it -/
theorem flushLost_pos (k : Kcp) (now : U32) (s : Seg) (hs : s ∈ k.snd_buf) (ha : s.acked = false)
    (hx : s.xmit ≠ 0) (hf : s.fastack = 0 ∨ s.fastack = 0xFFFFFFFF#32) (hd : itimediff now s.resendts ≥ 0) :
    flushLost k now > 0 := by
  unfold flushLost
  rw [gt_iff_lt, List.countP_pos_iff]
  obtain ⟨m, _, e⟩ := admitSegs_eq k.conv k.snd_una (effCwnd k) now k.snd_queue k.snd_buf k.snd_nxt 0
  refine ⟨s, ?_, ?_⟩
  · unfold flushAd; rw [e]; exact List.mem_append_left _ hs
  · have hr := Live.resentOf_ne_zero k
    rw [decide_eq_true_eq]
    refine ⟨ha, hx, ?_, ?_, hd⟩
    · rintro ⟨h1, h2⟩
      rcases hf with h | h
      · rw [h] at h1; exact hr (BitVec.eq_of_toNat_eq (Nat.le_zero.1 h1))
      · exact h2 h
    · rintro ⟨h1, h2, _⟩
      rcases hf with h | h
      · rw [h] at h1; exact absurd h1 (by decide)
      · exact h2 h

theorem cwndOnAck_le (k : Kcp) (oldUna : U32)
    (hc : k.nocwnd = 0 ∧ itimediff k.snd_una oldUna > 0 ∧ k.cwnd < k.rmt_wnd) :
    (cwndOnAck k oldUna).cwnd ≤ (cwndOnAck k oldUna).rmt_wnd := by
  rw [cwndOnAck_eq, if_pos hc]
  exact ite_cases (P := fun x : Kcp => x.cwnd ≤ x.rmt_wnd) (fun _ => BitVec.le_refl _) Nat.le_of_not_lt

theorem cwndOnAck_changed (k : Kcp) (oldUna : U32) (hch : (cwndOnAck k oldUna).cwnd ≠ k.cwnd) :
    (cwndOnAck k oldUna).cwnd ≤ (cwndOnAck k oldUna).rmt_wnd := by
  by_cases hc : k.nocwnd = 0 ∧ itimediff k.snd_una oldUna > 0 ∧ k.cwnd < k.rmt_wnd
  · exact cwndOnAck_le k oldUna hc
  · exfalso; apply hch; rw [cwndOnAck_eq, if_neg hc]

theorem cwndOnAck_noadvance (k : Kcp) (oldUna : U32) (h : ¬ itimediff k.snd_una oldUna > 0) :
    cwndOnAck k oldUna = k := by
  rw [cwndOnAck_eq, if_neg (fun hc => h hc.2.1)]

theorem cwndOnAck_rmt (k : Kcp) (oldUna : U32) : (cwndOnAck k oldUna).rmt_wnd = k.rmt_wnd := by
  obtain ⟨a, b, e⟩ := cwndOnAck_shape k oldUna
  rw [e]

/-- what the congestion arithmetic relies on: the remote window fits 16 bits, the segment size is
positive and at most the pool buffer size -/
def CwOK (k : Kcp) : Prop := k.rmt_wnd.toNat < 2^16 ∧ 1 ≤ k.mss.toNat ∧ k.mss.toNat ≤ mtuLimit

instance (k : Kcp) : Decidable (CwOK k) := by unfold CwOK; exact inferInstance

theorem setMtu_cw (k : Kcp) (m : Int) (h : CwOK k) : CwOK (setMtu k m).1 := by
  rcases setMtu_cases k m with ⟨_, e⟩ | ⟨ha, e⟩
  · rw [e]; exact h
  rw [e]
  have hm := ha.toNat
  obtain ⟨h1, h2, _⟩ := ha
  simp only [IKCP_OVERHEAD, mtuLimit] at h1 h2
  have hs := toNat_sub_overhead (x := BitVec.ofInt 32 m) (by unfold IKCP_OVERHEAD; omega)
  refine ⟨h.1, ?_, ?_⟩
  · show 1 ≤ (BitVec.ofInt 32 m - u32 IKCP_OVERHEAD).toNat
    rw [hs]; unfold IKCP_OVERHEAD; omega
  · show (BitVec.ofInt 32 m - u32 IKCP_OVERHEAD).toNat ≤ mtuLimit
    rw [hs]; unfold IKCP_OVERHEAD mtuLimit; omega

theorem flush_cw (k : Kcp) (full : Bool) (now : U32) (h : CwOK k) : CwOK (flush k full now).k := by
  obtain ⟨_, _, _, _, _, _, _, hk, _⟩ := flush_k k full now
  rw [hk]; exact h

/-- only the remote window learned from a header needs an argument: it is 16 bits wide -/
theorem CwOK.steps : Steps fun a b => CwOK a → CwOK b :=
  keeps_steps flush_cw (hrmt := fun _ w h => by
    refine ⟨?_, h.2⟩
    show (w.setWidth 32).toNat < 2^16
    rw [BitVec.toNat_setWidth]
    exact Nat.lt_of_le_of_lt (Nat.mod_le _ _) w.isLt)

theorem step_cw (k : Kcp) (op : Op) (h : CwOK k) : CwOK (step k op) :=
  inv_step (ok := fun _ _ => True) CwOK.steps k op trivial h (hmtu := setMtu_cw)

theorem run_cw (k : Kcp) (ops : List Op) (h : CwOK k) : CwOK (run k ops) :=
  foldl_inv (fun k op => step_cw k op) ops k h

theorem start_cw (conv snd0 rcv0 : U32) : CwOK (start conv snd0 rcv0) := by
  refine ⟨?_, ?_, ?_⟩
  · show (u32 IKCP_WND_RCV).toNat < 2^16
    decide
  · show 1 ≤ (u32 IKCP_MTU_DEF - u32 IKCP_OVERHEAD).toNat
    decide
  · show (u32 IKCP_MTU_DEF - u32 IKCP_OVERHEAD).toNat ≤ mtuLimit
    decide

theorem CwOK.divisor_pos (k : Kcp) (h : CwOK k) : (if k.incr < k.mss then k.mss else k.incr) ≠ 0 := by
  have := h.2.1
  split
  · intro h0; rw [h0] at this; simp at this
  · rename_i hh; intro h0; rw [h0] at hh
    exact hh this

theorem CwOK.mss_pos (k : Kcp) (h : CwOK k) : k.mss > 0 := by
  show (0 : U32).toNat < k.mss.toNat
  exact h.2.1

/-- `hlt`: the growth step runs only while `cwnd < rmt_wnd` -/
theorem CwOK.no_wrap (k : Kcp) (h : CwOK k) (hlt : k.cwnd < k.rmt_wnd) :
    ((k.cwnd + 1) * k.mss).toNat = (k.cwnd.toNat + 1) * k.mss.toNat := by
  obtain ⟨h1, _, h3⟩ := h
  have hl : mtuLimit = 1500 := by decide
  rw [hl] at h3
  have hlt' : k.cwnd.toNat < k.rmt_wnd.toNat := hlt
  have hc : k.cwnd.toNat + 1 < 2^16 := by omega
  have h1' : (k.cwnd + 1).toNat = k.cwnd.toNat + 1 := by
    rw [BitVec.toNat_add]
    exact Nat.mod_eq_of_lt (Nat.lt_trans hc (by decide))
  rw [BitVec.toNat_mul, h1']
  apply Nat.mod_eq_of_lt
  calc (k.cwnd.toNat + 1) * k.mss.toNat ≤ 2^16 * 1500 := Nat.mul_le_mul (Nat.le_of_lt hc) h3
    _ < 2^32 := by decide

end KcpVerif.Kcp
