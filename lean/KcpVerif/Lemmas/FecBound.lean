/-
C05 (FEC part) — `Model/Fec.Decoder.decode` (fec.go `fecDecoder.decode`) cannot crash or bloat on
ARBITRARY (forged) packets: the invariant `InvDec` is kept by every call on a packet of admissible
length (`decode_total`) and bounds the shard sets, held packets and held bytes.  The bound on the
number of sets is a pigeonhole over the `slot`s of the discard window: a set whose age
`(A − id·n) mod 2^32` lies in `[0, K·n]` occupies one of `K + 1` slots, and two sets in one slot have
the same id — for ANY horizon `A` (`newest·n` is a wrapping product).  Core Lean only.
-/
import KcpVerif.Lemmas.FecSets
import KcpVerif.Lemmas.Fold
import KcpVerif.Lemmas.AutoTune

namespace KcpVerif.Lemmas.FecBound
open KcpVerif.Gen KcpVerif.AutoTune KcpVerif.Fec KcpVerif.Lemmas.AutoTune KcpVerif.Lemmas.FecDec

theorem sum_map_le {α : Type} (f : α → Nat) (b : Nat) :
    ∀ (l : List α), (∀ x ∈ l, f x ≤ b) → (l.map f).sum ≤ l.length * b
  | [], _ => by simp only [List.map_nil, List.sum_nil, List.length_nil, Nat.zero_mul, Nat.le_refl]
  | x :: rest, h => by
    have h1 := h x (List.mem_cons_self ..)
    have h2 := sum_map_le f b rest (fun y hy => h y (List.mem_cons_of_mem _ hy))
    simp only [List.map_cons, List.sum_cons, List.length_cons, Nat.succ_mul]
    omega

/-- the age `(A − P) mod 2^32` of a product `P` seen from the horizon `A` -/
def ageNat (A P : Nat) : Nat := (2 ^ 32 - P + A) % 2 ^ 32

/-- slot of the non-wrapping product `P = id·n` in the window of ages `[0, K·n]` that ends at the
    horizon `A`: products `≤ A` count down from `A`, products `> A` (seen across the 2^32 wrap)
    count down from `2^32 − 1` and come after them -/
def slot (N A P : Nat) : Nat :=
  if P ≤ A then (A - P) / N else A / N + 1 + (2 ^ 32 - 1 - P) / N

theorem slot_le {N K A j : Nat} (hN : 0 < N) (hA : A < 2 ^ 32) (hP : j * N < 2 ^ 32)
    (hage : ageNat A (j * N) ≤ K * N) : slot N A (j * N) ≤ K := by
  unfold slot
  unfold ageNat at hage
  generalize j * N = P at *
  split
  · next h =>
    have : A - P ≤ K * N := by omega
    calc (A - P) / N ≤ K * N / N := Nat.div_le_div_right this
      _ = K := Nat.mul_div_cancel _ hN
  · next h =>
    have hq := Nat.div_mul_le_self A N
    have hAK : A < K * N := by omega
    have hqK : A / N < K := (Nat.div_lt_iff_lt_mul hN).2 hAK
    have : (2 ^ 32 - 1 - P) / N < K - A / N := by
      rw [Nat.div_lt_iff_lt_mul hN, Nat.sub_mul]
      omega
    omega

theorem eq_of_div_mod {x y N : Nat} (hd : x / N = y / N) (hm : x % N = y % N) : x = y := by
  rw [← Nat.div_add_mod x N, ← Nat.div_add_mod y N, hd, hm]

theorem sub_mul_mod' {x k N : Nat} (h : k * N ≤ x) : (x - k * N) % N = x % N := by
  rw [Nat.mul_comm] at h ⊢
  exact Nat.sub_mul_mod h

theorem slot_inj {N A i j : Nat} (hN : 0 < N) (hi : i * N < 2 ^ 32) (hj : j * N < 2 ^ 32)
    (h : slot N A (i * N) = slot N A (j * N)) : i = j := by
  apply Nat.eq_of_mul_eq_mul_right hN
  unfold slot at h
  have low : ∀ k, (A - k * N) / N ≤ A / N := fun k => Nat.div_le_div_right (Nat.sub_le _ _)
  split at h <;> split at h
  · next h1 h2 =>
    have := eq_of_div_mod h ((sub_mul_mod' h1).trans (sub_mul_mod' h2).symm)
    omega
  · have := low i
    have := Nat.zero_le ((2 ^ 32 - 1 - j * N) / N)
    omega
  · have := low j
    have := Nat.zero_le ((2 ^ 32 - 1 - i * N) / N)
    omega
  · have h' : (2 ^ 32 - 1 - i * N) / N = (2 ^ 32 - 1 - j * N) / N := by omega
    have := eq_of_div_mod h'
      ((sub_mul_mod' (x := 2 ^ 32 - 1) (by omega)).trans (sub_mul_mod' (x := 2 ^ 32 - 1) (by omega)).symm)
    omega

/-- a signed age in `[0, K·n]` is the unsigned difference `(newest·n − id·n) mod 2^32` -/
theorem age_toNat {n K : Nat} (hn : n ≤ 256) (nw id : BitVec 32)
    (hid : id.toNat * n < 2 ^ 32)
    (h0 : 0 ≤ itimediff (nw * u32 n) (id * u32 n))
    (h1 : itimediff (nw * u32 n) (id * u32 n) ≤ ((K * n : Nat) : Int)) :
    ageNat (nw * u32 n).toNat (id.toNat * n) ≤ K * n := by
  unfold itimediff at h0 h1
  rw [BitVec.toInt_eq_toNat_cond, BitVec.toNat_sub, mul_u32 hn id hid] at h0 h1
  unfold ageNat
  generalize (nw * u32 n).toNat = A at h0 h1 ⊢
  generalize id.toNat * n = P at h0 h1 hid ⊢
  generalize K * n = B at h0 h1 ⊢
  split at h1 <;> omega

/-- nothing is assumed about `newest` (any 32-bit value, `newest·n` may wrap) -/
structure InvDec (dec : Decoder) : Prop where
  d_pos : 0 < dec.d
  p_pos : 0 < dec.p
  n_eq : dec.n = dec.d + dec.p
  n_le : dec.n ≤ 256
  paws_eq : dec.paws = pawsOf dec.n
  tune_wf : dec.tune.WF
  ids_distinct : dec.sets.Pairwise (fun a b => a.id ≠ b.id)
  id_small : ∀ s ∈ dec.sets, s.id.toNat * dec.n < 2 ^ 32
  age : ∀ s ∈ dec.sets, 0 ≤ itimediff (dec.newest * u32 dec.n) (s.id * u32 dec.n) ∧
        itimediff (dec.newest * u32 dec.n) (s.id * u32 dec.n) ≤ ((maxShardSets * dec.n : Nat) : Int)
  pkt_count : ∀ s ∈ dec.sets, s.pkts.length < dec.d
  pkt_size : ∀ s ∈ dec.sets, ∀ q ∈ s.pkts, fecHeaderSize ≤ q.length ∧ q.length ≤ mtuLimit

def heldBytes (dec : Decoder) : Nat := (dec.sets.map fun s => (s.pkts.map List.length).sum).sum

def heldPackets (dec : Decoder) : Nat := (dec.sets.map fun s => s.pkts.length).sum

def run (C : CodecNew) (dec : Decoder) (pkts : List Bytes) : Decoder :=
  pkts.foldl (fun s q => (s.decode C q).st) dec

theorem InvDec.n_pos {dec : Decoder} (h : InvDec dec) : 0 < dec.n := by
  have := h.d_pos; have := h.n_eq; omega

theorem InvDec.d_le {dec : Decoder} (h : InvDec dec) : dec.d ≤ 255 := by
  have := h.p_pos; have := h.n_eq; have := h.n_le; omega

theorem inv_sample {dec : Decoder} (h : InvDec dec) (b : Bool) (q : BitVec 32) :
    InvDec { dec with tune := dec.tune.sample b q } :=
  { h with tune_wf := wf_sample b q h.tune_wf }

theorem inv_of_sets_nil {dec : Decoder} (hd : 0 < dec.d) (hp : 0 < dec.p) (hn : dec.n = dec.d + dec.p)
    (hle : dec.n ≤ 256) (hpaws : dec.paws = pawsOf dec.n) (hw : dec.tune.WF) (hs : dec.sets = []) :
    InvDec dec :=
  { d_pos := hd, p_pos := hp, n_eq := hn, n_le := hle, paws_eq := hpaws, tune_wf := hw
    ids_distinct := by rw [hs]; exact List.Pairwise.nil
    id_small := fun s h => by rw [hs] at h; exact absurd h List.not_mem_nil
    age := fun s h => by rw [hs] at h; exact absurd h List.not_mem_nil
    pkt_count := fun s h => by rw [hs] at h; exact absurd h List.not_mem_nil
    pkt_size := fun s h => by rw [hs] at h; exact absurd h List.not_mem_nil }

theorem inv_retune (C : CodecNew) {dec : Decoder} (h : InvDec dec) (seq : BitVec 32) :
    InvDec (retune C dec seq) := by
  rcases retune_cases C dec seq with ⟨_, e⟩ | ⟨⟨h1, h2, h3⟩, ⟨_, _, e⟩ | ⟨_, e⟩⟩ <;> rw [e]
  · exact { h with }
  · exact { h with }
  · exact inv_of_sets_nil (by dsimp only; omega) (by dsimp only; omega) rfl (by dsimp only; omega)
      rfl h.tune_wf rfl

theorem inv_rebase {dec : Decoder} (h : InvDec dec) (sid : BitVec 32) :
    InvDec { dec with newest := (FecHist.horizonOf dec).getD sid } := by
  unfold FecHist.horizonOf
  by_cases he : dec.sets.isEmpty = true
  · exact inv_of_sets_nil h.d_pos h.p_pos h.n_eq h.n_le h.paws_eq h.tune_wf (List.isEmpty_iff.1 he)
  · rw [if_neg he]
    exact { h with }

theorem shardId_small {n : Nat} (hn : n ≤ 256) (seq : BitVec 32) :
    (seq / u32 n).toNat * n < 2 ^ 32 := by
  rw [BitVec.toNat_udiv, u32_toNat hn]
  have := Nat.div_mul_le_self seq.toNat n
  have := seq.isLt
  omega

/-- the horizon may move to ANY value `nw` -/
theorem inv_store_discard {dec : Decoder} (h : InvDec dec) (sid nw : BitVec 32) (pk : List Bytes)
    (hsid : sid.toNat * dec.n < 2 ^ 32) (hcount : pk.length < dec.d)
    (hsize : ∀ q ∈ pk, fecHeaderSize ≤ q.length ∧ q.length ≤ mtuLimit) :
    InvDec { dec with sets := discard dec.n nw (store { id := sid, pkts := pk } dec.sets), newest := nw } :=
  { d_pos := h.d_pos, p_pos := h.p_pos, n_eq := h.n_eq, n_le := h.n_le, paws_eq := h.paws_eq
    tune_wf := h.tune_wf
    ids_distinct := discard_distinct _ _ _ (store_distinct _ _ h.ids_distinct)
    id_small := fun s hs => by
      rcases mem_store _ _ _ ((mem_discard_iff _ _ _ _).1 hs).1 with e | e
      · rw [e]; exact hsid
      · exact h.id_small s e
    age := fun s hs => (alive_iff _ _ _).1 ((mem_discard_iff _ _ _ _).1 hs).2
    pkt_count := fun s hs => by
      rcases mem_store _ _ _ ((mem_discard_iff _ _ _ _).1 hs).1 with e | e
      · rw [e]; exact hcount
      · exact h.pkt_count s e
    pkt_size := fun s hs => by
      rcases mem_store _ _ _ ((mem_discard_iff _ _ _ _).1 hs).1 with e | e
      · rw [e]; exact hsize
      · exact h.pkt_size s e }

/-- O3: fewer than `fecHeaderSize` bytes panic (the header reads), the state is untouched — the
    callers' length guard is necessary -/
theorem place_total (dec1 : Decoder) (inp : Bytes) (h : InvDec dec1)
    (h1 : fecHeaderSize ≤ inp.length) (h2 : inp.length ≤ mtuLimit) :
    (place dec1 inp).panic = false ∧ InvDec (place dec1 inp).st := by
  rw [place_eq _ _ rfl rfl]
  split
  · exact ⟨rfl, inv_rebase h _⟩
  · -- sizes of the packets held for the shard id plus the new one
    have hsz : ∀ q ∈ held (FecHist.sidOf dec1.n inp) dec1 ++ [inp],
        fecHeaderSize ≤ q.length ∧ q.length ≤ mtuLimit := by
      intro q hq
      rcases List.mem_append.1 hq with hq | hq
      · rcases held_cases (FecHist.sidOf dec1.n inp) dec1 with ⟨_, e⟩ | ⟨s, hs', _, e⟩
        · rw [e] at hq; cases hq
        · exact h.pkt_size s hs' q (e ▸ hq)
      · rw [List.mem_singleton.1 hq]; exact ⟨h1, h2⟩
    refine ⟨?_, inv_store_discard h _ _ _ (shardId_small h.n_le _) ?_ ?_⟩
    · show (decide (inp.length > mtuLimit) || (_ && recoverPanics dec1 _)) = false
      rw [recoverPanics_false _ _ (fun q hq => (hsz q hq).2), Bool.and_false, Bool.or_false]
      exact decide_eq_false (by omega)
    · split
      · exact h.d_pos
      · next hf => rw [List.length_append, List.length_singleton]; exact Nat.lt_of_not_le hf
    · split
      · exact fun q hq => absurd hq List.not_mem_nil
      · exact hsz

theorem decode_total (C : CodecNew) (dec : Decoder) (inp : Bytes) (h : InvDec dec)
    (h1 : fecHeaderSize ≤ inp.length) (h2 : inp.length ≤ mtuLimit) :
    (dec.decode C inp).panic = false ∧ InvDec (dec.decode C inp).st := by
  have hs : InvDec (sampled dec inp) := inv_sample h (flag inp == typeData) (seqid inp)
  exact decode_ind C dec inp (P := fun o => o.panic = false ∧ InvDec o.st)
    (fun h0 => absurd h1 (Nat.not_le.2 h0)) (fun _ _ => ⟨rfl, hs⟩)
    (fun _ _ _ => ⟨rfl, inv_retune C hs _⟩) (fun _ _ _ => place_total _ inp hs h1 h2)

theorem sets_le {dec : Decoder} (h : InvDec dec) : dec.sets.length ≤ maxShardSets + 1 := by
  have hN := h.n_pos
  apply length_le_of_keys dec.sets
    (fun s => slot dec.n (dec.newest * u32 dec.n).toNat (s.id.toNat * dec.n))
  · intro s hs
    obtain ⟨a0, a1⟩ := h.age s hs
    exact Nat.lt_succ_of_le (slot_le hN (dec.newest * u32 dec.n).isLt (h.id_small s hs)
      (age_toNat h.n_le _ _ (h.id_small s hs) a0 a1))
  · refine h.ids_distinct.imp_of_mem ?_
    intro a b ha hb hne heq
    exact hne (BitVec.eq_of_toNat_eq (slot_inj hN (h.id_small a ha) (h.id_small b hb) heq))

theorem held_le {dec : Decoder} (h : InvDec dec) :
    heldPackets dec ≤ (maxShardSets + 1) * (dec.d - 1) := by
  have h1 := sum_map_le (fun s : ShardSet => s.pkts.length) (dec.d - 1) dec.sets
    (fun s hs => by have := h.pkt_count s hs; omega)
  exact Nat.le_trans h1 (Nat.mul_le_mul_right _ (sets_le h))

theorem held_le_const {dec : Decoder} (h : InvDec dec) : heldPackets dec ≤ (maxShardSets + 1) * 255 :=
  Nat.le_trans (held_le h) (Nat.mul_le_mul_left _ (by have := h.d_le; omega))

theorem heldBytes_le {dec : Decoder} (h : InvDec dec) :
    heldBytes dec ≤ (maxShardSets + 1) * 255 * mtuLimit := by
  have hset : ∀ s ∈ dec.sets, (s.pkts.map List.length).sum ≤ 255 * mtuLimit := by
    intro s hs
    have h1 := sum_map_le (fun q : Bytes => q.length) mtuLimit s.pkts
      (fun q hq => (h.pkt_size s hs q hq).2)
    have h2 : s.pkts.length ≤ 255 := by have := h.pkt_count s hs; have := h.d_le; omega
    exact Nat.le_trans h1 (Nat.mul_le_mul_right _ h2)
  have h1 := sum_map_le (fun s : ShardSet => (s.pkts.map List.length).sum) (255 * mtuLimit) dec.sets hset
  rw [Nat.mul_assoc]
  exact Nat.le_trans h1 (Nat.mul_le_mul_right _ (sets_le h))

theorem ring_in_range {dec : Decoder} (h : InvDec dec) :
    dec.tune.pulses.length = maxAutoTuneSamples ∧ dec.tune.count ≤ maxAutoTuneSamples ∧
    ∀ i < dec.tune.count, (dec.tune.head + i) % maxAutoTuneSamples < dec.tune.pulses.length := by
  obtain ⟨hlen, _, _, hcount, _⟩ := h.tune_wf
  refine ⟨hlen, hcount, fun i _ => ?_⟩
  rw [hlen]
  exact Nat.mod_lt _ maxAutoTuneSamples_pos

theorem run_eq (C : CodecNew) (dec : Decoder) (pkts : List Bytes) :
    run C dec pkts = FecHist.run C dec pkts := rfl

theorem run_nil (C : CodecNew) (dec : Decoder) : run C dec [] = dec := rfl

theorem run_append (C : CodecNew) (dec : Decoder) (l1 l2 : List Bytes) :
    run C dec (l1 ++ l2) = run C (run C dec l1) l2 :=
  FecHist.run_append C dec l1 l2

theorem inv_run (C : CodecNew) {dec : Decoder} (h : InvDec dec) :
    ∀ (pkts : List Bytes), (∀ q ∈ pkts, fecHeaderSize ≤ q.length ∧ q.length ≤ mtuLimit) →
      InvDec (run C dec pkts) := by
  intro pkts hp
  exact foldl_inv_mem pkts (fun st q hq hst => (decode_total C st q hst (hp q hq).1 (hp q hq).2).2) dec h

theorem run_never_panics (C : CodecNew) {dec : Decoder} (h : InvDec dec) (pkts : List Bytes)
    (hp : ∀ q ∈ pkts, fecHeaderSize ≤ q.length ∧ q.length ≤ mtuLimit)
    (pre : List Bytes) (q : Bytes) (post : List Bytes) (hsplit : pkts = pre ++ q :: post) :
    ((run C dec pre).decode C q).panic = false := by
  have hpre : ∀ r ∈ pre, fecHeaderSize ≤ r.length ∧ r.length ≤ mtuLimit :=
    fun r hr => hp r (by rw [hsplit]; exact List.mem_append_left _ hr)
  have hq := hp q (by rw [hsplit]; exact List.mem_append_right _ (List.mem_cons_self ..))
  exact (decode_total C _ q (inv_run C h pre hpre) hq.1 hq.2).1

def runPanics (C : CodecNew) (dec : Decoder) (pkts : List Bytes) : Bool :=
  (pkts.foldl (fun (acc : Decoder × Bool) q =>
    ((acc.1.decode C q).st, acc.2 || (acc.1.decode C q).panic)) (dec, false)).2

theorem runPanics_false (C : CodecNew) {dec : Decoder} (h : InvDec dec) (pkts : List Bytes)
    (hp : ∀ q ∈ pkts, fecHeaderSize ≤ q.length ∧ q.length ≤ mtuLimit) :
    runPanics C dec pkts = false :=
  (foldl_inv_mem (P := fun acc : Decoder × Bool => InvDec acc.1 ∧ acc.2 = false) pkts
    (fun acc q hq ⟨hi, hb⟩ => by
      obtain ⟨e1, e2⟩ := decode_total C acc.1 q hi (hp q hq).1 (hp q hq).2
      exact ⟨e2, by rw [e1, Bool.or_false]; exact hb⟩) (dec, false) ⟨h, rfl⟩).2

end KcpVerif.Lemmas.FecBound
