/-
C04 (after a timeout): with congestion control on and no fast-resend threshold configured
(`fastresend ≤ 0`, the default), a closed congestion window (`cwnd ≤` segments in flight) stays
closed — and nothing new is admitted — for as long as `snd_una` does not move, whatever operations
run and whatever a peer sends.  After a timeout retransmission the window IS closed (`cwnd = 1`).
Core Lean only.
-/
import KcpVerif.Lemmas.KcpAdmit
import KcpVerif.Lemmas.KcpCwnd

namespace KcpVerif.Kcp
open KcpVerif.Gen

/-- `cwnd` at most the number of segments in flight, with congestion control on and no fast-resend threshold -/
structure Closed (k : Kcp) : Prop where
  cc : k.nocwnd = 0
  nofast : k.fastresend.sle 0 = true
  inflight : k.snd_buf ≠ []
  closed : k.cwnd.toNat ≤ k.snd_buf.length

instance (k : Kcp) : Decidable (Closed k) :=
  decidable_of_iff (k.nocwnd = 0 ∧ k.fastresend.sle 0 = true ∧ k.snd_buf ≠ [] ∧ k.cwnd.toNat ≤ k.snd_buf.length)
    ⟨fun ⟨a, b, c, d⟩ => ⟨a, b, c, d⟩, fun ⟨a, b, c, d⟩ => ⟨a, b, c, d⟩⟩

/-- under `Inv`, `snd_una` and `snd_nxt` fix the length of `snd_buf` -/
theorem Closed.transfer {k k' : Kcp} (hc : Closed k) (hi : Inv k) (hi' : Inv k')
    (hu : k'.snd_una = k.snd_una) (hn : k'.snd_nxt = k.snd_nxt) (hcw : k'.cwnd = k.cwnd)
    (hcc : k'.nocwnd = 0) (hf : k'.fastresend.sle 0 = true) :
    Closed k' ∧ k'.snd_buf.length = k.snd_buf.length := by
  have h1 := hi.snd.inflight
  have h2 := hi'.snd.inflight
  rw [hu, hn] at h2
  have hlen : k'.snd_buf.length = k.snd_buf.length := by omega
  refine ⟨⟨hcc, hf, ?_, ?_⟩, hlen⟩
  · intro he
    have := hc.inflight
    rw [he] at hlen
    exact this (List.eq_nil_of_length_eq_zero hlen.symm)
  · rw [hcw, hlen]; exact hc.closed

/-- phase 6 cannot open a closed window when no fast-resend threshold is configured:
after a fast retransmit `cwnd = ssthresh + 0xFFFFFFFF = max(inflight/2, 2) - 1 ≤ inflight` -/
theorem phase6_closed (k5 : Kcp) (cwnd : U32) (change lost len : Nat) (hn : k5.nocwnd = 0)
    (hlen : (k5.snd_nxt - k5.snd_una).toNat = len) (h1 : 1 ≤ len) (hc : k5.cwnd.toNat ≤ len) :
    (phase6 k5 cwnd 0xFFFFFFFF#32 change lost).cwnd.toNat ≤ len := by
  let P (x : Kcp) : Prop := x.cwnd.toNat ≤ len
  have ha : P (p6change k5 0xFFFFFFFF#32 change) := by
    refine ite_ind ?_ hc
    show ((if (k5.snd_nxt - k5.snd_una) / 2 ≥ u32 IKCP_THRESH_MIN then (k5.snd_nxt - k5.snd_una) / 2 else u32 IKCP_THRESH_MIN)
      + 0xFFFFFFFF#32).toNat ≤ len
    rw [show u32 IKCP_THRESH_MIN = 2#32 from rfl]
    generalize (k5.snd_nxt - k5.snd_una) = d at hlen
    have hdiv : (d / 2).toNat = d.toNat / 2 := BitVec.toNat_udiv
    generalize d / 2 = half at hdiv
    by_cases hge : half ≥ 2#32
    · have h2 : 2 ≤ half.toNat := hge
      rw [if_pos hge, BitVec.toNat_add]
      show (half.toNat + 4294967295) % 2 ^ 32 ≤ len
      omega
    · rw [if_neg hge]
      exact h1
  have hb : P (p6lost (p6change k5 0xFFFFFFFF#32 change) cwnd lost) := ite_ind h1 ha
  have hf : P (p6floor (p6lost (p6change k5 0xFFFFFFFF#32 change) cwnd lost)) := ite_ind h1 hb
  show P (phase6 k5 cwnd 0xFFFFFFFF#32 change lost)
  unfold phase6
  rw [if_pos hn]
  exact hf

theorem flush_cwnd_full (k : Kcp) (full : Bool) (now : U32) (hi : Inv k) (hn : k.nocwnd = 0)
    (hc : k.cwnd.toNat ≤ k.snd_buf.length) :
    (flush k full now).k.snd_nxt = k.snd_nxt ∧ (flush k full now).k.snd_queue = k.snd_queue ∧
    (flush k full now).k.snd_buf.length = k.snd_buf.length := by
  refine flush_window_full k full now hi (fun hlt => ?_)
  have hlt' : (k.snd_nxt - k.snd_una).toNat < (effCwnd k).toNat := hlt
  have := effCwnd_le_cwnd k hn
  have := hi.snd.inflight
  omega

theorem closed_flush (k : Kcp) (full : Bool) (now : U32) (hi : Inv k) (hc : Closed k) :
    Closed (flush k full now).k ∧ (flush k full now).k.snd_nxt = k.snd_nxt ∧
    (flush k full now).k.snd_una = k.snd_una := by
  have hfl := hi.snd.inflight
  obtain ⟨hnxt, _, hlen⟩ := flush_cwnd_full k full now hi hc.cc hc.closed
  obtain ⟨pw, tp, st, ss, cw, inc, done, hk, _⟩ := flush_k k full now
  have hcc : (flush k full now).k.nocwnd = 0 := by rw [hk]; exact hc.cc
  have hfr : (flush k full now).k.fastresend.sle 0 = true := by rw [hk]; exact hc.nofast
  refine ⟨⟨hcc, hfr, ?_, ?_⟩, hnxt, Live.flush_una k full now⟩
  · intro he
    rw [he] at hlen
    exact hc.inflight (List.eq_nil_of_length_eq_zero hlen.symm)
  · rw [hlen]
    obtain ⟨pw', tp', st', e⟩ := flush_stages k full now
    rw [e, show resentOf k = 0xFFFFFFFF#32 from if_pos hc.nofast]
    have hadn : (flushAd k now).nxt = k.snd_nxt := by
      have : (flush k full now).k.snd_nxt = (flushAd k now).nxt := by rw [hk]
      rw [← this]; exact hnxt
    apply phase6_closed
    · exact hc.cc
    · show ((flushAd k now).nxt - k.snd_una).toNat = _
      rw [hadn]; exact hfl
    · exact List.length_pos_iff.2 hc.inflight
    · exact hc.closed

theorem LoopShape.cc {k k' : Kcp} (h : LoopShape k k') :
    k'.snd_nxt = k.snd_nxt ∧ k'.cwnd = k.cwnd ∧ k'.nocwnd = k.nocwnd ∧ k'.fastresend = k.fastresend := by
  obtain ⟨_, _, _, _, _, _, _, _, rfl⟩ := h
  exact ⟨rfl, rfl, rfl, rfl⟩

theorem closed_input (k : Kcp) (data : Bytes) (regular ackNoDelay : Bool) (now : U32) (hi : Inv k) (hc : Closed k)
    (hu : (input k data regular ackNoDelay now).k.snd_una = k.snd_una) :
    Closed (input k data regular ackNoDelay now).k ∧ (input k data regular ackNoDelay now).k.snd_nxt = k.snd_nxt := by
  refine input_ind (Q := fun r => r.k.snd_una = k.snd_una → Closed r.k ∧ r.k.snd_nxt = k.snd_nxt)
    (S := fun st => Inv st.k ∧ LoopShape k st.k)
    ⟨Inv.steps.loop regular _ data { k := k } hi, inputLoop_shape regular _ data { k := k }⟩
    (fun _ => ⟨hc, rfl⟩) ?_ ?_ ackNoDelay hu
  · rintro st r p ⟨his, hs⟩ hu
    obtain ⟨hn, hcw, hcc, hfr⟩ := hs.cc
    exact ⟨(hc.transfer hi his hu hn hcw (hcc.trans hc.cc) (by rw [hfr]; exact hc.nofast)).1, hn⟩
  · rintro st nd ⟨his, hs⟩ hu
    obtain ⟨hn, hcw, hcc, hfr⟩ := hs.cc
    -- the RTT update touches nothing relevant
    have hi1 : Inv (inputK1 st regular now) := ite_ind (Inv.steps.rtt _ _ his) his
    obtain ⟨a, b, c, hk1⟩ : ∃ a b c, inputK1 st regular now = { st.k with rx_srtt := a, rx_rttvar := b, rx_rto := c } :=
      ite_ind (P := fun x : Kcp => ∃ a b c, x = { st.k with rx_srtt := a, rx_rttvar := b, rx_rto := c })
        (updateAck_shape _ _) ⟨st.k.rx_srtt, st.k.rx_rttvar, st.k.rx_rto, rfl⟩
    generalize inputK1 st regular now = k1 at hu hi1 hk1 ⊢
    -- the flush decision and the cwnd update keep `snd_una`, so it is still the entry value …
    have hfin : (inputFin (cwndOnAck k1 k.snd_una) st.flushSeg nd now).k.snd_una = (cwndOnAck k1 k.snd_una).snd_una :=
      inputFin_ind (Q := fun r => r.k.snd_una = (cwndOnAck k1 k.snd_una).snd_una) (fun _ => Live.flush_una _ _ _) rfl _ _
    obtain ⟨cw, inc, hcwa⟩ := cwndOnAck_shape k1 k.snd_una
    have hu1 : k1.snd_una = k.snd_una := by
      rw [hfin, hcwa] at hu; exact hu
    -- … and the cwnd update did nothing
    have hid : cwndOnAck k1 k.snd_una = k1 := hu1 ▸ cwndOnAck_self k1
    rw [hid]
    have hn1 : k1.snd_nxt = k.snd_nxt := by rw [hk1]; exact hn
    have hc1 : Closed k1 := by
      refine (hc.transfer hi hi1 hu1 hn1 ?_ ?_ ?_).1
      · rw [hk1]; exact hcw
      · rw [hk1]; exact hcc.trans hc.cc
      · rw [hk1]; show st.k.fastresend.sle 0 = true; rw [hfr]; exact hc.nofast
    exact inputFin_ind (Q := fun r => Closed r.k ∧ r.k.snd_nxt = k.snd_nxt)
      (fun full => ⟨(closed_flush k1 full now hi1 hc1).1, (closed_flush k1 full now hi1 hc1).2.1.trans hn1⟩)
      ⟨hc1, hn1⟩ _ _

/-- `hcc`, `hfr` are about the state AFTER the operation: only `noDelay` can change either -/
theorem closed_step (k : Kcp) (op : Op) (hok : op.ok k) (hi : Inv k) (hc : Closed k)
    (hcc : (step k op).nocwnd = 0) (hfr : (step k op).fastresend.sle 0 = true)
    (hu : (step k op).snd_una = k.snd_una) :
    Closed (step k op) ∧ (step k op).snd_nxt = k.snd_nxt := by
  rcases step_cases k op with ⟨d, reg, nd, now, rfl⟩ | ⟨full, now, rfl⟩ | ⟨now, rfl⟩ | ⟨e1, e2, e3⟩
  · exact closed_input k d reg nd now hi hc hu
  · exact ⟨(closed_flush k full now hi hc).1, (closed_flush k full now hi hc).2.1⟩
  · refine update_ind (Q := fun r => Closed r.k ∧ r.k.snd_nxt = k.snd_nxt) (fun u t => ?_)
      (fun u t => ⟨⟨hc.cc, hc.nofast, hc.inflight, hc.closed⟩, rfl⟩)
    have := closed_flush { k with updated := u, ts_flush := t } true now ⟨hi.win, hi.rq, hi.snd⟩
      ⟨hc.cc, hc.nofast, hc.inflight, hc.closed⟩
    exact ⟨this.1, this.2.1⟩
  · exact ⟨⟨hcc, hfr, by rw [e2]; exact hc.inflight, by rw [e1, e2]; exact hc.closed⟩, e3⟩

/-- `P` of the state after each operation of the run: how "`snd_una` does not move, congestion control stays on" is said -/
def allAfter (P : Kcp → Prop) (k : Kcp) : List Op → Prop
  | [] => True
  | op :: rest => P (step k op) ∧ allAfter P (step k op) rest

instance allAfterDec (P : Kcp → Prop) [DecidablePred P] : (k : Kcp) → (ops : List Op) → Decidable (allAfter P k ops)
  | _, [] => isTrue trivial
  | k, op :: rest =>
    have : Decidable (allAfter P (step k op) rest) := allAfterDec P (step k op) rest
    (inferInstance : Decidable (P (step k op) ∧ allAfter P (step k op) rest))

theorem closed_run (k : Kcp) (ops : List Op) (hok : okRun k ops) (hi : Inv k) (hc : Closed k)
    (hq : allAfter (fun k' => k'.nocwnd = 0 ∧ k'.fastresend.sle 0 = true ∧ k'.snd_una = k.snd_una) k ops) :
    Closed (run k ops) ∧ (run k ops).snd_nxt = k.snd_nxt := by
  induction ops generalizing k with
  | nil => exact ⟨hc, rfl⟩
  | cons op rest ih =>
    obtain ⟨⟨h1, h2, h3⟩, hrest⟩ := hq
    have hs := closed_step k op hok.1 hi hc h1 h2 h3
    have := ih (step k op) hok.2 (step_inv k op hok.1 hi) hs.1 (by rw [h3]; exact hrest)
    exact ⟨this.1, this.2.trans hs.2⟩

theorem closed_after_rto (k : Kcp) (now : U32) (hn : k.nocwnd = 0) (hf : k.fastresend.sle 0 = true)
    (hl : flushLost k now > 0) : Closed (flush k true now).k := by
  obtain ⟨pw, tp, st, ss, cw, inc, done, hk, hd⟩ := flush_k k true now
  have hcw := flush_rto_collapse k now hn hl
  have hlen : (flush k true now).k.snd_buf.length = (flushAd k now).buf.length := by
    rw [hk]; show done.length = _
    have := congrArg List.length hd
    simpa using this
  have hpos : 0 < (flushAd k now).buf.length := by
    unfold flushLost at hl
    exact Nat.lt_of_lt_of_le hl List.countP_le_length
  refine ⟨by rw [hk]; exact hn, by rw [hk]; exact hf, ?_, ?_⟩
  · intro he; rw [he] at hlen; simp at hlen; omega
  · rw [hcw, hlen]; exact hpos

end KcpVerif.Kcp
