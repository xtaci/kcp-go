import KcpVerif.Model.SessIn
import KcpVerif.Lemmas.Fold
import KcpVerif.Lemmas.Ite
/-!
What `sessionPacketInput`, `closeSess`, `tryCreateD` and `listenerInputD` do: each first by equations, one for each
condition the code tests, then as a case list for proofs that treat all outcomes alike (`tryCreate` and
`listenerInput` are the instances `dead = false`); and the invariant `WF` of the session table.
-/
namespace KcpVerif.SessIn
open KcpVerif.Gen

section
variable {σ : Type} (c : Cipher) (kcpInput : σ → Bytes → σ) (s : σ) (data : Bytes)

theorem sessionPacketInput_short (hg : cryptGate c data = .short) :
    sessionPacketInput c kcpInput s data = { st := s, counters := [], delivered := none } := by
  unfold sessionPacketInput; rw [hg]

theorem sessionPacketInput_csum (hg : cryptGate c data = .csum) :
    sessionPacketInput c kcpInput s data = { st := s, counters := [.InCsumErrors], delivered := none } := by
  unfold sessionPacketInput; rw [hg]

theorem sessionPacketInput_ok (p : Bytes) (hg : cryptGate c data = .ok p) :
    sessionPacketInput c kcpInput s data =
      if p.length < minPacket then { st := s, counters := [.KCPInErrors], delivered := none }
      else { st := kcpInput s p, counters := [], delivered := some p } := by
  unfold sessionPacketInput; rw [hg]

theorem cryptGate_aead (ns ov : Nat) (hk : c.kind = .aead ns ov) :
    cryptGate c data =
      if data.length < ns + ov then .short
      else match c.aopen (data.take ns) (data.drop ns) with
        | none => .csum
        | some p => .ok p := by
  unfold cryptGate
  rw [hk]
  rfl

end

theorem lookup_unmap (t : List (String × Nat)) (a b : String) :
    lookup (unmap t a) b = if b = a then none else lookup t b := by
  induction t with
  | nil => simp [unmap, lookup]
  | cons e rest ih =>
    unfold unmap at ih ⊢
    by_cases he : e.1 = a
    · -- an entry for `a` is dropped; it could only have answered a lookup of `a`
      rw [List.filter_cons_of_neg (by simp [he]), ih]
      by_cases hb : b = a
      · rw [if_pos hb, if_pos hb]
      · rw [if_neg hb, if_neg hb, lookup, if_neg (fun h => hb (h.symm.trans he))]
    · -- an entry for another key stays in front
      rw [List.filter_cons_of_pos (by simp [he]), lookup, lookup, ih]
      by_cases heb : e.1 = b
      · rw [if_pos heb, if_pos heb, if_neg (fun h => he (heb.trans h))]
      · rw [if_neg heb, if_neg heb]

theorem modifyAt_eq_modify {α : Type} (xs : List α) (i : Nat) (f : α → α) : modifyAt xs i f = xs.modify i f := by
  induction xs generalizing i with
  | nil => simp [modifyAt]
  | cons x rest ih => cases i with
    | zero => rfl
    | succ k => exact congrArg (x :: ·) (ih k)

theorem modifyAt_length {α : Type} (xs : List α) (i : Nat) (f : α → α) :
    (modifyAt xs i f).length = xs.length := by
  rw [modifyAt_eq_modify]; exact List.length_modify ..

theorem getElem?_modifyAt {α : Type} (xs : List α) (i j : Nat) (f : α → α) :
    (modifyAt xs i f)[j]? = if j = i then xs[j]?.map f else xs[j]? := by
  rw [modifyAt_eq_modify, List.getElem?_modify]
  by_cases h : j = i
  · subst h; rw [if_pos rfl]; cases xs[j]? <;> simp
  · rw [if_neg h]
    have : ¬ i = j := fun e => h e.symm
    cases xs[j]? <;> simp [this]

theorem modifyAt_get {α : Type} {xs : List α} {i j : Nat} {f : α → α} {y : α} (h : (modifyAt xs i f)[j]? = some y) :
    (j ≠ i ∧ xs[j]? = some y) ∨ (j = i ∧ ∃ x, xs[i]? = some x ∧ y = f x) := by
  rw [getElem?_modifyAt] at h
  by_cases hj : j = i
  · subst hj
    rw [if_pos rfl] at h
    cases hx : xs[j]? with
    | none => rw [hx] at h; cases h
    | some x => rw [hx] at h; exact Or.inr ⟨rfl, x, rfl, (Option.some.inj h).symm⟩
  · rw [if_neg hj] at h; exact Or.inl ⟨hj, h⟩

variable {σ : Type}

theorem closeSess_none (w : World σ) (l : Listener σ) (id : Nat) (ho : l.objs[id]? = none) :
    closeSess w l id = l := by
  unfold closeSess
  rw [ho]

theorem closeSess_closed (w : World σ) (l : Listener σ) (id : Nat) (o : Sess σ) (ho : l.objs[id]? = some o)
    (hc : o.closed = true) : closeSess w l id = l := by
  unfold closeSess
  rw [ho]
  simp only [hc, if_true]

theorem closeSess_open (w : World σ) (l : Listener σ) (id : Nat) (o : Sess σ)
    (ho : l.objs[id]? = some o) (hoc : o.closed = false) :
    closeSess w l id =
      { l with objs := modifyAt l.objs id (fun o => { o with st := w.closeFx o.st, closed := true }),
               table := unmap l.table o.addr } := by
  unfold closeSess
  rw [ho]
  simp only [hoc, Bool.false_eq_true, if_false]

theorem closeSess_cases (w : World σ) (l : Listener σ) (id : Nat) :
    closeSess w l id = l ∨
    ∃ o, l.objs[id]? = some o ∧ o.closed = false ∧
      closeSess w l id =
        { l with objs := modifyAt l.objs id (fun o => { o with st := w.closeFx o.st, closed := true }),
                 table := unmap l.table o.addr } := by
  cases ho : l.objs[id]? with
  | none => exact Or.inl (closeSess_none w l id ho)
  | some o =>
    cases hc : o.closed with
    | true => exact Or.inl (closeSess_closed w l id o ho hc)
    | false => exact Or.inr ⟨o, rfl, hc, closeSess_open w l id o ho hc⟩

theorem closeSess_accepts (w : World σ) (l : Listener σ) (id : Nat) :
    (closeSess w l id).accepts = l.accepts := by
  rcases closeSess_cases w l id with e | ⟨_, _, _, e⟩ <;> rw [e]

theorem closeSess_length (w : World σ) (l : Listener σ) (id : Nat) :
    (closeSess w l id).objs.length = l.objs.length := by
  rcases closeSess_cases w l id with e | ⟨_, _, _, e⟩ <;> rw [e]
  exact modifyAt_length _ _ _

theorem closeSess_objs (w : World σ) (l : Listener σ) (id j : Nat) (hj : j ≠ id) :
    (closeSess w l id).objs[j]? = l.objs[j]? := by
  rcases closeSess_cases w l id with e | ⟨_, _, _, e⟩ <;> rw [e]
  simp only [getElem?_modifyAt, hj, if_false]

theorem closeAll_eq_foldl (w : World σ) : ∀ (ids : List Nat) (l : Listener σ),
    closeAll w l ids = ids.foldl (closeSess w) l
  | [], _ => rfl
  | id :: rest, l => closeAll_eq_foldl w rest (closeSess w l id)

theorem closeAll_inv {P : Listener σ → Prop} (w : World σ) (h : ∀ l id, P l → P (closeSess w l id))
    (ids : List Nat) (l : Listener σ) (h0 : P l) : P (closeAll w l ids) :=
  closeAll_eq_foldl w ids l ▸ foldl_inv h ids l h0

theorem closeAll_shape (w : World σ) (ids : List Nat) (l : Listener σ) :
    (closeAll w l ids).objs.length = l.objs.length ∧ (closeAll w l ids).accepts = l.accepts :=
  closeAll_inv (P := fun l' => l'.objs.length = l.objs.length ∧ l'.accepts = l.accepts) w
    (fun l' id h => ⟨(closeSess_length w l' id).trans h.1, (closeSess_accepts w l' id).trans h.2⟩) ids l ⟨rfl, rfl⟩

theorem closeAll_objs (w : World σ) (ids : List Nat) (l : Listener σ) (j : Nat) (hj : j ∉ ids) :
    (closeAll w l ids).objs[j]? = l.objs[j]? :=
  closeAll_eq_foldl w ids l ▸ foldl_inv_mem (P := fun l' => l'.objs[j]? = l.objs[j]?) ids
    (fun l' i hi h => (closeSess_objs w l' i j (fun e => hj (e ▸ hi))).trans h) l rfl

theorem tryCreateD_noconv (w : World σ) (l : Listener σ) (dead : Bool) (p : Bytes) (a : String) (h : Hdr)
    (old : Option Nat) (hc : h.hasConv = false) :
    tryCreateD w l dead p a h old = { l := l, dec := .drop .noConv } := by
  unfold tryCreateD
  rw [if_pos (by simp [hc])]

theorem tryCreateD_full (w : World σ) (l : Listener σ) (dead : Bool) (p : Bytes) (a : String) (h : Hdr)
    (old : Option Nat) (hc : h.hasConv = true) (hfull : l.accepts.length ≥ acceptBacklog) :
    tryCreateD w l dead p a h old =
      { l := l, dec := match old with
                       | none => .drop .backlogFull
                       | some o => .closedOnly a o } := by
  unfold tryCreateD
  rw [if_neg (by simp [hc]), if_pos hfull]
  rfl

theorem tryCreateD_dead (w : World σ) (l : Listener σ) (p : Bytes) (a : String) (h : Hdr)
    (old : Option Nat) (hc : h.hasConv = true) (hroom : l.accepts.length < acceptBacklog) :
    tryCreateD w l true p a h old =
      { l := l, dec := match old with
                       | none => .drop .listenerClosed
                       | some o => .closedOnly a o } := by
  unfold tryCreateD
  rw [if_neg (by simp [hc]), if_neg (Nat.not_le.mpr hroom), if_pos rfl]
  rfl

theorem tryCreateD_room (w : World σ) (l : Listener σ) (p : Bytes) (a : String) (h : Hdr)
    (old : Option Nat) (hc : h.hasConv = true) (hroom : l.accepts.length < acceptBacklog) :
    tryCreateD w l false p a h old =
      { l := { objs := l.objs ++ [{ conv := h.conv, addr := a, st := w.kcpInput (w.init h.conv) p, closed := false }],
               table := (a, l.objs.length) :: unmap l.table a,
               accepts := l.accepts ++ [l.objs.length] },
        dec := .create a h.conv old l.objs.length } := by
  unfold tryCreateD
  rw [if_neg (by simp [hc]), if_neg (Nat.not_le.mpr hroom), if_neg Bool.false_ne_true]

theorem tryCreateD_cases (w : World σ) (l : Listener σ) (dead : Bool) (p : Bytes) (a : String) (h : Hdr)
    (old : Option Nat) :
    (∃ why, tryCreateD w l dead p a h old = { l := l, dec := .drop why }) ∨
    (∃ o, old = some o ∧ tryCreateD w l dead p a h old = { l := l, dec := .closedOnly a o }) ∨
    (h.hasConv = true ∧ l.accepts.length < acceptBacklog ∧ dead = false ∧
      tryCreateD w l dead p a h old =
        { l := { objs := l.objs ++ [{ conv := h.conv, addr := a, st := w.kcpInput (w.init h.conv) p, closed := false }],
                 table := (a, l.objs.length) :: unmap l.table a,
                 accepts := l.accepts ++ [l.objs.length] },
          dec := .create a h.conv old l.objs.length }) := by
  cases hc : h.hasConv with
  | false => exact Or.inl ⟨_, tryCreateD_noconv w l dead p a h old hc⟩
  | true =>
    rcases Nat.lt_or_ge l.accepts.length acceptBacklog with hroom | hfull
    · cases dead with
      | true =>
        rw [tryCreateD_dead w l p a h old hc hroom]
        cases old with
        | none => exact Or.inl ⟨_, rfl⟩
        | some o => exact Or.inr (Or.inl ⟨o, rfl, rfl⟩)
      | false => exact Or.inr (Or.inr ⟨rfl, hroom, rfl, tryCreateD_room w l p a h old hc hroom⟩)
    · rw [tryCreateD_full w l dead p a h old hc hfull]
      cases old with
      | none => exact Or.inl ⟨_, rfl⟩
      | some o => exact Or.inr (Or.inl ⟨o, rfl, rfl⟩)

theorem tryCreateD_false (w : World σ) (l : Listener σ) (p : Bytes) (a : String) (h : Hdr) (old : Option Nat) :
    tryCreateD w l false p a h old = tryCreate w l p a h old := by
  unfold tryCreateD tryCreate
  simp only [Bool.false_eq_true, if_false]

theorem tryCreateD_objs (w : World σ) (l : Listener σ) (dead : Bool) (p : Bytes) (a : String) (h : Hdr)
    (old : Option Nat) (j : Nat) (hj : j < l.objs.length) :
    (tryCreateD w l dead p a h old).l.objs[j]? = l.objs[j]? := by
  rcases tryCreateD_cases w l dead p a h old with ⟨_, e⟩ | ⟨_, _, e⟩ | ⟨_, _, _, e⟩ <;> rw [e]
  exact List.getElem?_append_left hj

theorem tryCreateD_grow (w : World σ) (l : Listener σ) (dead : Bool) (p : Bytes) (a : String) (h : Hdr)
    (old : Option Nat) :
    ((∀ a' cv o n, (tryCreateD w l dead p a h old).dec ≠ .create a' cv o n) ∧
      (tryCreateD w l dead p a h old).l.accepts = l.accepts ∧
      (tryCreateD w l dead p a h old).l.objs.length = l.objs.length) ∨
    ((∃ cv o, (tryCreateD w l dead p a h old).dec = .create a cv o l.objs.length) ∧
      (tryCreateD w l dead p a h old).l.accepts = l.accepts ++ [l.objs.length] ∧
      (tryCreateD w l dead p a h old).l.objs.length = l.objs.length + 1 ∧ l.accepts.length < acceptBacklog) := by
  rcases tryCreateD_cases w l dead p a h old with ⟨_, e⟩ | ⟨_, _, e⟩ | ⟨_, hr, _, e⟩ <;> rw [e]
  · exact Or.inl ⟨fun _ _ _ _ hd => (nomatch hd), rfl, rfl⟩
  · exact Or.inl ⟨fun _ _ _ _ hd => (nomatch hd), rfl, rfl⟩
  · exact Or.inr ⟨⟨_, _, rfl⟩, rfl, List.length_append, hr⟩

theorem gate_dichotomy (c : Cipher) (data : Bytes) :
    (∀ p, cryptGate c data = .ok p → p.length < minPacket ∨ parseHdr p = none) ∨
    ∃ p h, cryptGate c data = .ok p ∧ minPacket ≤ p.length ∧ parseHdr p = some h := by
  cases hg : cryptGate c data with
  | short => exact Or.inl (fun _ h => nomatch h)
  | csum => exact Or.inl (fun _ h => nomatch h)
  | ok p =>
    by_cases hm : p.length < minPacket
    · exact Or.inl (fun p' h => by cases h; exact Or.inl hm)
    · cases hp : parseHdr p with
      | none => exact Or.inl (fun p' h => by cases h; exact Or.inr hp)
      | some h => exact Or.inr ⟨p, h, rfl, by omega, hp⟩

theorem listenerInputD_after_gate (w : World σ) (c : Cipher) (l : Listener σ) (dead : Bool) (data p : Bytes)
    (a : String) (h : Hdr) (hg : cryptGate c data = .ok p) (hm : minPacket ≤ p.length)
    (hp : parseHdr p = some h) :
    listenerInputD w c l dead data a =
      match lookup l.table a with
      | none => tryCreateD w l dead p a h none
      | some id =>
        match l.objs[id]? with
        | none => { l := l, dec := .drop .noConv }
        | some o =>
          if !h.hasConv || h.conv = o.conv then
            { l := { l with objs := modifyAt l.objs id (fun o => { o with st := w.kcpInput o.st p }) },
              dec := .route a id }
          else if h.sn ≠ 0 then { l := l, dec := .drop .convMismatch }
          else tryCreateD w (closeSess w l id) dead p a h (some id) := by
  unfold listenerInputD
  rw [hg]
  simp only [if_neg (Nat.not_lt.mpr hm), hp]
  rfl

theorem listenerInputD_same_of_gate (w : World σ) (c : Cipher) (l : Listener σ) (dead : Bool) (data : Bytes)
    (a : String) (h : ∀ p, cryptGate c data = .ok p → p.length < minPacket ∨ parseHdr p = none) :
    (listenerInputD w c l dead data a).l = l := by
  unfold listenerInputD
  cases hg : cryptGate c data with
  | short => rfl
  | csum => rfl
  | ok p =>
    rcases h p hg with h1 | h1
    · simp only [if_pos h1]
    · simp only [h1]
      exact ite_ind (P := fun r : LStep σ => r.l = l) rfl rfl

theorem listenerInputD_cases (w : World σ) (c : Cipher) (l : Listener σ) (data : Bytes) (a : String) :
    (∃ why, ∀ dead, listenerInputD w c l dead data a = { l := l, dec := .drop why }) ∨
    ∃ p h, cryptGate c data = .ok p ∧ minPacket ≤ p.length ∧ parseHdr p = some h ∧
      ((lookup l.table a = none ∧
          ∀ dead, listenerInputD w c l dead data a = tryCreateD w l dead p a h none) ∨
       ∃ id o, lookup l.table a = some id ∧ l.objs[id]? = some o ∧
        (((h.hasConv = false ∨ h.conv = o.conv) ∧
            ∀ dead, listenerInputD w c l dead data a =
              { l := { l with objs := modifyAt l.objs id (fun o => { o with st := w.kcpInput o.st p }) },
                dec := .route a id }) ∨
         (h.hasConv = true ∧ h.conv ≠ o.conv ∧ h.sn = 0 ∧
            ∀ dead, listenerInputD w c l dead data a =
              tryCreateD w (closeSess w l id) dead p a h (some id)))) := by
  cases hg : cryptGate c data with
  | short => exact Or.inl ⟨.short, fun _ => by simp only [listenerInputD, hg]⟩
  | csum => exact Or.inl ⟨.csum, fun _ => by simp only [listenerInputD, hg]⟩
  | ok p =>
    by_cases hm : p.length < minPacket
    · exact Or.inl ⟨.minSize, fun _ => by simp only [listenerInputD, hg, if_pos hm]⟩
    · cases hp : parseHdr p with
      | none => exact Or.inl ⟨.rawShort, fun _ => by simp only [listenerInputD, hg, if_neg hm, hp]⟩
      | some h =>
        have hm' : minPacket ≤ p.length := by omega
        have key := fun dead => listenerInputD_after_gate w c l dead data p a h hg hm' hp
        cases hl : lookup l.table a with
        | none => exact Or.inr ⟨p, h, rfl, hm', hp, Or.inl ⟨rfl, fun dead => by simp only [key, hl]⟩⟩
        | some id =>
          cases ho : l.objs[id]? with
          | none => exact Or.inl ⟨.noConv, fun dead => by simp only [key, hl, ho]⟩
          | some o =>
            by_cases hr : (!h.hasConv || decide (h.conv = o.conv)) = true
            · refine Or.inr ⟨p, h, rfl, hm', hp, Or.inr ⟨id, o, rfl, ho, Or.inl ⟨?_, fun dead => by
                simp only [key, hl, ho, if_pos hr]⟩⟩⟩
              cases hh : h.hasConv with
              | false => exact Or.inl rfl
              | true => rw [hh] at hr; exact Or.inr (by simpa using hr)
            · by_cases hsn : h.sn ≠ 0
              · exact Or.inl ⟨.convMismatch, fun dead => by simp only [key, hl, ho, if_neg hr, if_pos hsn]⟩
              · refine Or.inr ⟨p, h, rfl, hm', hp, Or.inr ⟨id, o, rfl, ho, Or.inr ⟨?_, ?_, ?_, fun dead => by
                  simp only [key, hl, ho, if_neg hr, if_neg hsn]⟩⟩⟩
                · cases hh : h.hasConv with
                  | false => rw [hh] at hr; exact absurd rfl hr
                  | true => rfl
                · intro e
                  rw [e] at hr
                  simp at hr
                · exact Classical.byContradiction hsn

/-- `data` passes the gate as plaintext `p` with header `h` -/
structure Gated (c : Cipher) (data p : Bytes) (h : Hdr) : Prop where
  ok : cryptGate c data = .ok p
  min : minPacket ≤ p.length
  hdr : parseHdr p = some h

theorem listenerInputD_ind {P : LStep σ → Prop} (w : World σ) (c : Cipher) (l : Listener σ) (dead : Bool)
    (data : Bytes) (a : String)
    (drop : ∀ why, P { l := l, dec := .drop why })
    (fresh : ∀ p h, Gated c data p h → lookup l.table a = none → P (tryCreateD w l dead p a h none))
    (route : ∀ p h id o, Gated c data p h → lookup l.table a = some id → l.objs[id]? = some o →
      (h.hasConv = false ∨ h.conv = o.conv) →
      P { l := { l with objs := modifyAt l.objs id (fun o => { o with st := w.kcpInput o.st p }) },
          dec := .route a id })
    (reset : ∀ p h id o, Gated c data p h → lookup l.table a = some id → l.objs[id]? = some o →
      (h.hasConv = true ∧ h.conv ≠ o.conv ∧ h.sn = 0) →
      P (tryCreateD w (closeSess w l id) dead p a h (some id))) :
    P (listenerInputD w c l dead data a) := by
  rcases listenerInputD_cases w c l data a with
    ⟨why, e⟩ | ⟨p, h, hg, hm, hp, ⟨hl, e⟩ | ⟨id, o, hl, ho, ⟨hc, e⟩ | ⟨hc, hne, hsn, e⟩⟩⟩ <;> rw [e dead]
  · exact drop why
  · exact fresh p h ⟨hg, hm, hp⟩ hl
  · exact route p h id o ⟨hg, hm, hp⟩ hl ho hc
  · exact reset p h id o ⟨hg, hm, hp⟩ hl ho ⟨hc, hne, hsn⟩

theorem listenerInputD_false (w : World σ) (c : Cipher) (l : Listener σ) (data : Bytes) (a : String) :
    listenerInputD w c l false data a = listenerInput w c l data a := by
  unfold listenerInputD listenerInput
  simp only [tryCreateD_false]

theorem frameD_objects (w : World σ) (c : Cipher) (l : Listener σ) (dead : Bool) (data : Bytes) (a : String)
    (j : Nat) (hj : j < l.objs.length) (hne : lookup l.table a ≠ some j) :
    (listenerInputD w c l dead data a).l.objs[j]? = l.objs[j]? := by
  refine listenerInputD_ind (P := fun r => r.l.objs[j]? = l.objs[j]?) w c l dead data a (fun _ => rfl)
    (fun p h _ _ => tryCreateD_objs w l dead p a h none j hj) ?route ?reset
  case route =>
    intro p h id o _ hl _ _
    have hji : j ≠ id := fun e => hne (by rw [hl, e])
    simp only [getElem?_modifyAt, hji, if_false]
  case reset =>
    intro p h id o _ hl _ _
    have hji : j ≠ id := fun e => hne (by rw [hl, e])
    show (tryCreateD w (closeSess w l id) dead p a h (some id)).l.objs[j]? = _
    rw [tryCreateD_objs w _ dead p a h _ j (by rw [closeSess_length]; exact hj)]
    exact closeSess_objs w l id j hji

theorem listenerInputD_grow (w : World σ) (c : Cipher) (l : Listener σ) (dead : Bool) (data : Bytes) (a : String) :
    ((∀ a' cv o n, (listenerInputD w c l dead data a).dec ≠ .create a' cv o n) ∧
      (listenerInputD w c l dead data a).l.accepts = l.accepts ∧
      (listenerInputD w c l dead data a).l.objs.length = l.objs.length) ∨
    ((∃ cv o, (listenerInputD w c l dead data a).dec = .create a cv o l.objs.length) ∧
      (listenerInputD w c l dead data a).l.accepts = l.accepts ++ [l.objs.length] ∧
      (listenerInputD w c l dead data a).l.objs.length = l.objs.length + 1 ∧ l.accepts.length < acceptBacklog) := by
  refine listenerInputD_ind w c l dead data a
    (P := fun r => ((∀ a' cv o n, r.dec ≠ .create a' cv o n) ∧ r.l.accepts = l.accepts ∧
        r.l.objs.length = l.objs.length) ∨
      ((∃ cv o, r.dec = .create a cv o l.objs.length) ∧ r.l.accepts = l.accepts ++ [l.objs.length] ∧
        r.l.objs.length = l.objs.length + 1 ∧ l.accepts.length < acceptBacklog))
    (fun _ => Or.inl ⟨fun _ _ _ _ hd => (nomatch hd), rfl, rfl⟩)
    (fun p h _ _ => tryCreateD_grow w l dead p a h none)
    (fun _ _ _ _ _ _ _ _ => Or.inl ⟨fun _ _ _ _ hd => (nomatch hd), rfl, modifyAt_length _ _ _⟩) ?reset
  case reset =>
    intro p h id o _ _ _ _
    have := tryCreateD_grow w (closeSess w l id) dead p a h (some id)
    rw [closeSess_accepts, closeSess_length] at this
    exact this

/-! ### the closed listener against the open one: the same state, except that a `create` is not carried out -/

theorem tryCreateD_dead_l (w : World σ) (l : Listener σ) (p : Bytes) (a : String) (h : Hdr) (old : Option Nat) :
    (tryCreateD w l true p a h old).l = l := by
  rcases tryCreateD_cases w l true p a h old with ⟨_, e⟩ | ⟨_, _, e⟩ | ⟨_, _, hd, _⟩
  · rw [e]
  · rw [e]
  · cases hd

/-- the state a closed listener is in after what an open one would have decided -/
def deadOutcome (w : World σ) (l : Listener σ) (r : LStep σ) : Listener σ :=
  match r.dec with
  | .create _ _ (some old) _ => closeSess w l old
  | .create _ _ none _ => l
  | _ => r.l

theorem listenerInputD_dead (w : World σ) (c : Cipher) (l : Listener σ) (data : Bytes) (a : String) :
    (listenerInputD w c l true data a).l = deadOutcome w l (listenerInput w c l data a) := by
  rw [← listenerInputD_false]
  rcases listenerInputD_cases w c l data a with
    ⟨_, e⟩ | ⟨p, h, _, _, _, ⟨_, e⟩ | ⟨id, _, _, _, ⟨_, e⟩ | ⟨_, _, _, e⟩⟩⟩ <;> rw [e true, e false]
  · rfl
  · rw [tryCreateD_dead_l]
    rcases tryCreateD_cases w l false p a h none with ⟨_, e⟩ | ⟨_, _, e⟩ | ⟨_, _, _, e⟩ <;> rw [e] <;> rfl
  · rfl
  · rw [tryCreateD_dead_l]
    rcases tryCreateD_cases w (closeSess w l id) false p a h (some id) with
      ⟨_, e⟩ | ⟨_, _, e⟩ | ⟨_, _, _, e⟩ <;> rw [e] <;> rfl

theorem listenerInputD_dead_shape (w : World σ) (c : Cipher) (l : Listener σ) (data : Bytes) (a : String) :
    (listenerInputD w c l true data a).l.accepts = l.accepts ∧
    (listenerInputD w c l true data a).l.objs.length = l.objs.length := by
  refine listenerInputD_ind (P := fun r => r.l.accepts = l.accepts ∧ r.l.objs.length = l.objs.length)
    w c l true data a (fun _ => ⟨rfl, rfl⟩) ?fresh (fun _ _ _ _ _ _ _ _ => ⟨rfl, modifyAt_length _ _ _⟩) ?reset
  case fresh =>
    intro p h _ _
    rw [tryCreateD_dead_l]
    exact ⟨rfl, rfl⟩
  case reset =>
    intro p h id o _ _ _ _
    rw [tryCreateD_dead_l]
    exact ⟨closeSess_accepts w l id, closeSess_length w l id⟩

/-- `Close` unmaps (`closeSession`): what the table maps is open, and was created for that address -/
def WF {σ : Type} (l : Listener σ) : Prop :=
  ∀ a id, lookup l.table a = some id → ∃ o, l.objs[id]? = some o ∧ o.addr = a ∧ o.closed = false

theorem WF_empty : WF (Listener.empty : Listener σ) := by
  intro a id h; simp [Listener.empty, lookup] at h

theorem WF_inj {l : Listener σ} (h : WF l) {a b : String} {id : Nat}
    (ha : lookup l.table a = some id) (hb : lookup l.table b = some id) : a = b := by
  obtain ⟨o, ho, hoa, _⟩ := h a id ha
  obtain ⟨o', ho', hob, _⟩ := h b id hb
  rw [ho] at ho'
  cases ho'
  rw [← hoa, ← hob]

theorem WF_closeSess (w : World σ) (l : Listener σ) (id : Nat) (h : WF l) :
    WF (closeSess w l id) := by
  rcases closeSess_cases w l id with e | ⟨o, ho, _, e⟩
  · rw [e]; exact h
  · rw [e]
    intro b id' hl
    simp only [lookup_unmap] at hl
    by_cases hb : b = o.addr
    · simp [hb] at hl
    · simp only [hb, if_false] at hl
      obtain ⟨o', ho', hoa, hoc⟩ := h b id' hl
      have hne : id' ≠ id := by
        intro heq
        rw [heq, ho] at ho'
        cases ho'
        exact hb hoa.symm
      refine ⟨o', ?_, hoa, hoc⟩
      simp only [getElem?_modifyAt, hne, if_false]
      exact ho'

theorem WF_tryCreateD (w : World σ) (l : Listener σ) (dead : Bool) (p : Bytes) (a : String) (hd : Hdr)
    (old : Option Nat) (h : WF l) : WF (tryCreateD w l dead p a hd old).l := by
  rcases tryCreateD_cases w l dead p a hd old with ⟨_, e⟩ | ⟨_, _, e⟩ | ⟨_, _, _, e⟩ <;> rw [e]
  · exact h
  · exact h
  · intro b id' hl
    simp only [lookup] at hl
    by_cases hb : a = b
    · simp only [hb, if_true, Option.some.injEq] at hl
      subst hl
      refine ⟨{ conv := hd.conv, addr := a, st := w.kcpInput (w.init hd.conv) p, closed := false }, ?_, hb, rfl⟩
      simp
    · simp only [hb, if_false, lookup_unmap] at hl
      have hb' : ¬ b = a := fun e => hb e.symm
      simp only [hb', if_false] at hl
      obtain ⟨o', ho', hoa, hoc⟩ := h b id' hl
      refine ⟨o', ?_, hoa, hoc⟩
      rw [List.getElem?_append_left (lt_of_getElem? ho')]
      exact ho'

theorem WF_modify (l : Listener σ) (id : Nat) (g : Sess σ → Sess σ)
    (hg : ∀ o, (g o).addr = o.addr ∧ (g o).closed = o.closed) (h : WF l) :
    WF { l with objs := modifyAt l.objs id g } := by
  intro b id' hl
  obtain ⟨o', ho', hoa, hoc⟩ := h b id' hl
  by_cases he : id' = id
  · refine ⟨g o', ?_, (hg o').1.trans hoa, (hg o').2.trans hoc⟩
    simp only [getElem?_modifyAt, he, if_true]
    rw [← he, ho']; rfl
  · refine ⟨o', ?_, hoa, hoc⟩
    simp only [getElem?_modifyAt, he, if_false]
    exact ho'

theorem WF_listenerInputD (w : World σ) (c : Cipher) (l : Listener σ) (dead : Bool) (data : Bytes)
    (a : String) (h : WF l) : WF (listenerInputD w c l dead data a).l := by
  exact listenerInputD_ind (P := fun r => WF r.l) w c l dead data a (fun _ => h)
    (fun p hd _ _ => WF_tryCreateD w l dead p a hd none h)
    (fun _ _ id _ _ _ _ _ => WF_modify l id _ (fun o => ⟨rfl, rfl⟩) h)
    (fun p hd id _ _ _ _ _ => WF_tryCreateD w _ dead p a hd _ (WF_closeSess w l id h))

theorem WF_listenerInput (w : World σ) (c : Cipher) (l : Listener σ) (data : Bytes) (a : String)
    (h : WF l) : WF (listenerInput w c l data a).l := by
  rw [← listenerInputD_false]
  exact WF_listenerInputD w c l false data a h

theorem accept_cases (l : Listener σ) :
    (l.accepts = [] ∧ accept l = { l := l, got := none }) ∨
    ∃ id rest, l.accepts = id :: rest ∧ accept l = { l := { l with accepts := rest }, got := some id } := by
  unfold accept
  cases l.accepts with
  | nil => exact Or.inl ⟨rfl, rfl⟩
  | cons id rest => exact Or.inr ⟨id, rest, rfl, rfl⟩

theorem WF_accept (l : Listener σ) (h : WF l) : WF (accept l).l := by
  rcases accept_cases l with ⟨_, e⟩ | ⟨_, _, _, e⟩ <;> rw [e] <;> exact h

theorem WF_userClose (w : World σ) (l : Listener σ) (id : Nat) (h : WF l) :
    WF (userClose w l id) := WF_closeSess w l id h

namespace Dial

theorem filter_latched (f : Filter) (addr : Addr) (h : f.src = none → f.srcStr ≠ "") :
    (filter f addr).f = f ∧
    ((filter f addr).pass = true ↔
      match f.src with
      | some u => addr.udp = some u
      | none => addr.str = f.srcStr) := by
  unfold filter
  cases hs : f.src with
  | none => simp [h hs]
  | some u =>
    cases hu : addr.udp with
    | none => simp
    | some u2 =>
      obtain ⟨i1, p1, z1⟩ := u
      obtain ⟨i2, p2, z2⟩ := u2
      simp only [sameUDPAddr, Option.some.injEq, Prod.mk.injEq, true_and]
      by_cases hp : p1 = p2
      · by_cases hz : z1 = z2
        · subst hp; subst hz
          simp only [ne_eq, not_true_eq_false, or_self, if_false, beq_iff_eq, and_true]
          exact ⟨fun e => e.symm, fun e => e.symm⟩
        · simp only [ne_eq, hz, not_false_eq_true, or_true, if_true, Bool.false_eq_true, false_iff]
          intro ⟨_, _, e⟩; exact hz e.symm
      · simp only [ne_eq, hp, not_false_eq_true, true_or, if_true, Bool.false_eq_true, false_iff]
        intro ⟨_, e, _⟩; exact hp e.symm

end Dial

end KcpVerif.SessIn
