/-
Why `Lawful` (Lemmas/FecSpec) is restricted to `d + p ≤ 256`: the same law quantified over ALL ratios
(`LawfulAll`: `Lawful` without the range) is satisfied by NO codec constructor, so theorems assuming it
would be vacuous.  The instance `d = 2`, `p = 300`, one-byte shards would be a `[302, 2]` MDS code over
an alphabet of 256 letters: two distinct codewords agree in at most one position (`two_positions`); the
256 codewords of the data `(0, b)` agree in position 0, hence differ pairwise in every other position,
so in each position `j ≥ 1` they take all 256 values and one of them meets the codeword of `(1, 0)`
there; distinct positions give distinct `b` — an injection of 301 positions into 256 bytes.
-/
import KcpVerif.Lemmas.FecSpec
import Mathlib.Data.Fintype.Card
import Mathlib.Data.Fintype.EquivFin

namespace KcpVerif.Lemmas.LawRange
open KcpVerif.Fec KcpVerif.Lemmas.FecSpec

structure LawfulAll (C : CodecNew) : Prop where
  enc_length : ∀ (d p : Nat) (data : List Bytes), data.length = d → ((C d p).enc data).length = p
  enc_size : ∀ (d p L : Nat) (data : List Bytes), data.length = d → (∀ s ∈ data, s.length = L) →
    ∀ s ∈ (C d p).enc data, s.length = L
  recon : ∀ (d p L : Nat) (data : List Bytes) (present : List Bool), 0 < d → 0 < L →
    data.length = d → (∀ s ∈ data, s.length = L) → present.length = d + p →
    d ≤ present.count true →
    (C d p).recon (mask present (data ++ (C d p).enc data)) = some data

def pres (n i j : Nat) : List Bool := (List.range n).map fun k => k == i || k == j

theorem count_range_mono (f : Nat → Bool) {m n : Nat} (h : m ≤ n) :
    ((List.range m).map f).count true ≤ ((List.range n).map f).count true :=
  (((List.range_sublist).2 h).map f).count_le true

theorem count_range_succ (f : Nat → Bool) (n : Nat) (h : f n = true) :
    ((List.range (n + 1)).map f).count true = ((List.range n).map f).count true + 1 := by
  rw [List.range_succ, List.map_append, List.count_append, List.map_singleton, h]
  rfl

theorem count_pres {n i j : Nat} (hij : i < j) (hj : j < n) : 2 ≤ (pres n i j).count true := by
  unfold pres
  have h1 := count_range_mono (fun k => k == i || k == j) (show j + 1 ≤ n by omega)
  have h2 := count_range_succ (fun k => k == i || k == j) j (by simp)
  have h3 := count_range_mono (fun k => k == i || k == j) (show i + 1 ≤ j by omega)
  have h4 := count_range_succ (fun k => k == i || k == j) i (by simp)
  omega

theorem mask_pres {n i j : Nat} {cw : List Bytes} (hcw : cw.length = n) :
    mask (pres n i j) cw
      = (List.range n).map fun k => if (k == i || k == j) = true then some (cw.getD k []) else none := by
  unfold mask pres
  apply List.ext_getElem
  · simp [hcw]
  · intro k h1 h2
    have hk : k < n := by simpa using h2
    simp only [List.getElem_zipWith, List.getElem_map, List.getElem_range]
    rw [List.getD_eq_getElem?_getD, List.getElem?_eq_getElem (hcw ▸ hk)]
    rfl

theorem singleton_of_length {s : Bytes} (h : s.length = 1) : s = [s.headD 0] := by
  match s, h with
  | [x], _ => rfl

theorem ofFin_inj {a b : Fin 256} (h : UInt8.ofFin a = UInt8.ofFin b) : a = b := by
  have := congrArg UInt8.toFin h
  simpa using this

section
variable {C : CodecNew} (hC : LawfulAll C)

def dat (a b : Fin 256) : List Bytes := [[UInt8.ofFin a], [UInt8.ofFin b]]

def cw (C : CodecNew) (a b : Fin 256) : List Bytes := dat a b ++ (C 2 300).enc (dat a b)

def sym (C : CodecNew) (a b : Fin 256) (j : Nat) : Fin 256 := (((cw C a b).getD j []).headD 0).toFin

theorem dat_size (a b : Fin 256) : ∀ t ∈ dat a b, t.length = 1 := by
  intro t ht
  simp only [dat, List.mem_cons, List.not_mem_nil, or_false] at ht
  rcases ht with rfl | rfl <;> rfl

include hC

theorem cw_length (a b : Fin 256) : (cw C a b).length = 302 := by
  unfold cw; rw [List.length_append, hC.enc_length 2 300 _ rfl]; rfl

theorem cw_size (a b : Fin 256) : ∀ s ∈ cw C a b, s.length = 1 := by
  intro s hs
  rcases List.mem_append.1 hs with h | h
  · exact dat_size a b s h
  · exact hC.enc_size 2 300 1 (dat a b) rfl (dat_size a b) s h

theorem shard_eq (a b : Fin 256) {j : Nat} (hj : j < 302) :
    (cw C a b).getD j [] = [UInt8.ofFin (sym C a b j)] := by
  have hmem : (cw C a b).getD j [] ∈ cw C a b := by
    rw [List.getD_eq_getElem?_getD, List.getElem?_eq_getElem (by rw [cw_length hC]; exact hj)]
    exact List.getElem_mem _
  rw [singleton_of_length (cw_size hC a b _ hmem)]
  simp [sym]

theorem two_positions {a b a' b' : Fin 256} {i j : Nat} (hij : i < j) (hj : j < 302)
    (h1 : sym C a b i = sym C a' b' i) (h2 : sym C a b j = sym C a' b' j) : a = a' ∧ b = b' := by
  have hr := hC.recon 2 300 1 (dat a b) (pres 302 i j) (by decide) (by decide) rfl
    (dat_size a b)
    (by simp [pres]) (count_pres hij hj)
  have hr' := hC.recon 2 300 1 (dat a' b') (pres 302 i j) (by decide) (by decide) rfl
    (dat_size a' b')
    (by simp [pres]) (count_pres hij hj)
  have hmask : mask (pres 302 i j) (cw C a b) = mask (pres 302 i j) (cw C a' b') := by
    rw [mask_pres (cw_length hC a b), mask_pres (cw_length hC a' b')]
    apply List.map_congr_left
    intro k hk
    have hk' : k < 302 := List.mem_range.1 hk
    split
    · rename_i hkk
      rw [shard_eq hC a b hk', shard_eq hC a' b' hk']
      simp only [Bool.or_eq_true, beq_iff_eq] at hkk
      rcases hkk with rfl | rfl
      · rw [h1]
      · rw [h2]
    · rfl
  have : some (dat a b) = some (dat a' b') := by
    rw [← hr, ← hr']; exact congrArg _ hmask
  simp only [dat, Option.some.injEq, List.cons.injEq, and_true] at this
  exact ⟨ofFin_inj this.1, ofFin_inj this.2⟩

omit hC in
theorem sym_zero (a b : Fin 256) : sym C a b 0 = a := by
  simp [sym, cw, dat]

theorem impossible : False := by
  -- in every position j ≥ 1 the codewords of (0, b) take all values
  have hinj : ∀ j, 1 ≤ j → j < 302 → Function.Injective (fun b : Fin 256 => sym C 0 b j) := by
    intro j h1 h2 b b' hbb
    exact (two_positions hC (i := 0) (j := j) (by omega) h2
      (by rw [sym_zero, sym_zero]) hbb).2
  have hsurj : ∀ j, 1 ≤ j → j < 302 → ∃ b : Fin 256, sym C 0 b j = sym C 1 0 j := by
    intro j h1 h2
    exact (Finite.injective_iff_surjective.1 (hinj j h1 h2)) _
  choose g hg using hsurj
  let G : Fin 301 → Fin 256 := fun j => g (j.val + 1) (by omega) (by omega)
  have hG : Function.Injective G := by
    intro x y hxy
    by_contra hne
    have hne' : x.val ≠ y.val := fun h => hne (Fin.ext h)
    rcases Nat.lt_or_gt_of_ne hne' with hlt | hlt
    · have := two_positions hC (a := 0) (b := G x) (a' := 1) (b' := 0) (i := x.val + 1) (j := y.val + 1)
        (by omega) (by omega) (hg _ _ _) (by rw [hxy]; exact hg _ _ _)
      exact absurd this.1 (by decide)
    · have := two_positions hC (a := 0) (b := G y) (a' := 1) (b' := 0) (i := y.val + 1) (j := x.val + 1)
        (by omega) (by omega) (hg _ _ _) (by rw [← hxy]; exact hg _ _ _)
      exact absurd this.1 (by decide)
  have := Fintype.card_le_of_injective G hG
  simp at this

end

end KcpVerif.Lemmas.LawRange
