/-
C15 (ownership, protocol core): alignment of the buffer ids with the segments.  In every reachable
state a segment of snd_buf has lost its buffer exactly if it is marked acked (`seg.data == nil ↔
seg.acked == 1`), and every segment of snd_queue, rcv_buf and rcv_queue has one.  Phase 5 of flush
reads only segments that are not acked and Recv reads segments of rcv_queue, so the segments the read
sites meet own their buffers.  Core Lean only.
-/
import KcpVerif.Lemmas.KcpOwnOps

namespace KcpVerif.Own
open KcpVerif.Kcp

/-- a segment of snd_queue -/
def QOk (x : SegO) : Prop := x.buf ≠ none ∧ x.s.acked = false
/-- a segment of snd_buf -/
def SbOk (x : SegO) : Prop := x.buf = none ↔ x.s.acked = true
/-- a segment of rcv_buf or rcv_queue -/
def Has (x : SegO) : Prop := x.buf ≠ none

structure Aligned (o : KcpO) : Prop where
  sq : ∀ x ∈ o.sq, QOk x
  sb : ∀ x ∈ o.sb, SbOk x
  rb : ∀ x ∈ o.rb, Has x
  rq : ∀ x ∈ o.rq, Has x

theorem QOk.sbOk {x : SegO} (h : QOk x) : SbOk x := by
  unfold SbOk
  constructor
  · intro hn; exact absurd hn h.1
  · intro ha; rw [h.2] at ha; cases ha

theorem reattach_sbOk (new : List Seg) (old : List SegO)
    (ha : new.map (·.acked) = old.map (·.s.acked)) (h : ∀ x ∈ old, SbOk x) : ∀ x ∈ reattach new old, SbOk x := by
  induction new generalizing old with
  | nil => cases old with
    | nil => intro x hx; cases hx
    | cons y old => simp at ha
  | cons s new ih => cases old with
    | nil => simp at ha
    | cons y old =>
      simp only [List.map_cons, List.cons.injEq] at ha
      intro x hx
      have hx' : x = { y with s := s } ∨ x ∈ reattach new old := List.mem_cons.1 hx
      rcases hx' with rfl | hm
      · have hy := h y (List.mem_cons_self ..)
        unfold SbOk at hy ⊢
        show y.buf = none ↔ s.acked = true
        rw [ha.1]; exact hy
      · exact ih old ha.2 (fun z hz => h z (List.mem_cons_of_mem _ hz)) x hm

theorem popMsgO_mem (l : List SegO) (g : Ghost) : ∀ x ∈ (popMsgO l g).rest, x ∈ l := by
  induction l generalizing g with
  | nil => intro x hx; exact hx
  | cons y rest ih =>
    unfold popMsgO
    split
    · intro x hx; exact List.mem_cons_of_mem _ hx
    · intro x hx; exact List.mem_cons_of_mem _ (ih _ x hx)

theorem moveLoopO_mem (wnd : Nat) (buf q : List SegO) (nxt : U32) :
    (∀ x ∈ (moveLoopO wnd buf q nxt).buf, x ∈ buf) ∧
    (∀ x ∈ (moveLoopO wnd buf q nxt).q, x ∈ q ∨ x ∈ buf) := by
  induction buf generalizing q nxt with
  | nil => exact ⟨fun x hx => hx, fun x hx => Or.inl hx⟩
  | cons y rest ih =>
    unfold moveLoopO
    split
    · obtain ⟨h1, h2⟩ := ih (q ++ [y]) (nxt + 1)
      refine ⟨fun x hx => List.mem_cons_of_mem _ (h1 x hx), fun x hx => ?_⟩
      rcases h2 x hx with hq | hr
      · rcases List.mem_append.1 hq with hq | hy
        · exact Or.inl hq
        · rw [List.mem_singleton.1 hy]; exact Or.inr (List.mem_cons_self ..)
      · exact Or.inr (List.mem_cons_of_mem _ hr)
    · exact ⟨fun x hx => hx, fun x hx => Or.inl hx⟩

theorem mkSegsO_qOk (mss : Nat) (stream : Bool) (n : Nat) (buf : Bytes) (g : Ghost) :
    ∀ x ∈ (mkSegsO mss stream n buf g).l, QOk x := by
  induction n generalizing buf g with
  | zero => intro x hx; cases hx
  | succ c ih =>
    unfold mkSegsO
    intro x hx
    rcases List.mem_cons.1 hx with rfl | hm
    · exact ⟨by simp, rfl⟩
    · exact ih _ _ x hm

theorem appendLastO_qOk (q : List SegO) (extra : Bytes) (h : ∀ x ∈ q, QOk x) : ∀ x ∈ appendLastO q extra, QOk x := by
  unfold appendLastO
  split
  · rename_i y hy
    intro x hx
    rcases List.mem_append.1 hx with hd | hl
    · exact h x (List.dropLast_subset _ hd)
    · rw [List.mem_singleton.1 hl]
      exact h y (List.mem_of_getLast? hy)
  · exact h

theorem unaO_mem (una : U32) (l : List SegO) (g : Ghost) : ∀ x ∈ (unaO una l g).l, x ∈ l := by
  induction l generalizing g with
  | nil => intro x hx; exact hx
  | cons y rest ih =>
    unfold unaO
    split
    · intro x hx; exact List.mem_cons_of_mem _ (ih _ x hx)
    · intro x hx; exact hx

theorem ackLoopO_sbOk (sn : U32) (l : List SegO) (g : Ghost) (h : ∀ x ∈ l, SbOk x) :
    ∀ x ∈ (ackLoopO sn l g).l, SbOk x := by
  induction l generalizing g with
  | nil => intro x hx; cases hx
  | cons y rest ih =>
    unfold ackLoopO
    split
    · intro x hx
      rcases List.mem_cons.1 hx with rfl | hm
      · exact ⟨fun _ => rfl, fun _ => rfl⟩
      · exact h x (List.mem_cons_of_mem _ hm)
    · split
      · exact h
      · intro x hx
        rcases List.mem_cons.1 hx with rfl | hm
        · exact h _ (List.mem_cons_self ..)
        · exact ih g (fun z hz => h z (List.mem_cons_of_mem _ hz)) x hm

theorem heapInsertO_mem (y : SegO) (l : List SegO) : ∀ x ∈ heapInsertO y l, x = y ∨ x ∈ l := by
  induction l with
  | nil => intro x hx; exact Or.inl (List.mem_singleton.1 hx)
  | cons h t ih =>
    unfold heapInsertO
    split
    · intro x hx
      rcases List.mem_cons.1 hx with rfl | hm
      · exact Or.inl rfl
      · exact Or.inr hm
    · intro x hx
      rcases List.mem_cons.1 hx with rfl | hm
      · exact Or.inr (List.mem_cons_self ..)
      · rcases ih x hm with rfl | ht
        · exact Or.inl rfl
        · exact Or.inr (List.mem_cons_of_mem _ ht)

theorem parseDataO_has (k : Kcp) (s : Seg) (rb rq : List SegO) (g : Ghost)
    (hb : ∀ x ∈ rb, Has x) (hq : ∀ x ∈ rq, Has x) :
    (∀ x ∈ (parseDataO k s rb rq g).rb, Has x) ∧ (∀ x ∈ (parseDataO k s rb rq g).rq, Has x) := by
  have hi : ∀ x ∈ heapInsertO { s := s, buf := some g.next } rb, Has x := by
    intro x hx
    rcases heapInsertO_mem _ _ x hx with rfl | hr
    · exact Option.some_ne_none _
    · exact hb x hr
  -- the segments of `rcv_buf` stay or move to the end of `rcv_queue`
  have moved : ∀ (l : List SegO), (∀ x ∈ l, Has x) →
      (∀ x ∈ (moveLoopO k.rcv_wnd.toNat l rq k.rcv_nxt).buf, Has x) ∧
      (∀ x ∈ (moveLoopO k.rcv_wnd.toNat l rq k.rcv_nxt).q, Has x) := fun l hl =>
    ⟨fun x hx => hl x ((moveLoopO_mem _ l rq _).1 x hx), fun x hx => ((moveLoopO_mem _ l rq _).2 x hx).elim (hq x) (hl x)⟩
  exact parseDataO_cases (P := fun d => (∀ x ∈ d.rb, Has x) ∧ (∀ x ∈ d.rq, Has x)) k s rb rq g
    ⟨hb, hq⟩ (moved rb hb) (fun _ => ⟨hb, hq⟩) (moved _ hi)

theorem Aligned.new (conv : U32) : Aligned (KcpO.new conv) :=
  ⟨fun _ h => (by cases h), fun _ h => (by cases h), fun _ h => (by cases h), fun _ h => (by cases h)⟩

theorem Aligned.setK {o : KcpO} (h : Aligned o) (k' : Kcp) : Aligned { o with k := k' } := ⟨h.sq, h.sb, h.rb, h.rq⟩

theorem recvO_al {o : KcpO} (h : Aligned o) (n : Nat) : Aligned (recvO o n).o := by
  obtain ⟨m1, m2⟩ := moveLoopO_mem o.k.rcv_wnd.toNat o.rb (popMsgO o.rq o.gh).rest o.k.rcv_nxt
  exact recvO_cases o n (fun _ => h) (fun _ _ => ⟨h.sq, h.sb, fun x hx => h.rb x (m1 x hx),
    fun x hx => (m2 x hx).elim (fun hq => h.rq x (popMsgO_mem _ _ x hq)) (h.rb x)⟩)

theorem sendO_al {o : KcpO} (h : Aligned o) (b : Bytes) : Aligned (sendO o b).o := by
  have h1 : ∀ x ∈ (sendApp o b (sendExt o.k b)).l, QOk x := by
    unfold sendApp
    split
    · exact appendLastO_qOk _ _ h.sq
    · exact h.sq
  refine sendO_cases o b rfl rfl (fun _ => h) (fun _ => ⟨h1, h.sb, h.rb, h.rq⟩) (fun _ _ => ⟨h1, h.sb, h.rb, h.rq⟩)
    (fun n _ => ⟨fun x hx => ?_, h.sb, h.rb, h.rq⟩)
  rcases List.mem_append.1 hx with hq | hn
  · exact h1 x hq
  · exact mkSegsO_qOk _ _ _ _ _ x hn

theorem flushO_al {o : KcpO} (hs : Sync o) (h : Aligned o) (full : Bool) (now : U32) :
    Aligned (flushO o full now).o := by
  obtain ⟨ha4, ha5⟩ := flushO_acked hs full now
  have hold : ∀ x ∈ o.sb ++ o.sq.take (flushAd o.k now).count, SbOk x := by
    intro x hx
    rcases List.mem_append.1 hx with hb | hq
    · exact h.sb x hb
    · exact (h.sq x (List.mem_of_mem_take hq)).sbOk
  have h5 := reattach_sbOk _ _ ha5 (reattach_sbOk _ _ ha4 hold)
  unfold flushO
  simp only []
  exact ⟨fun x hx => h.sq x (List.mem_of_mem_drop hx), h5, h.rb, h.rq⟩

theorem dropAckedO_mem (l : List SegO) (g : Ghost) : ∀ x ∈ (dropAckedO l g).l, x ∈ l := by
  induction l generalizing g with
  | nil => intro x hx; exact hx
  | cons y rest ih =>
    unfold dropAckedO
    split
    · intro x hx; exact List.mem_cons_of_mem _ (ih _ x hx)
    · intro x hx; exact hx

theorem unaShrinkO_mem (una : U32) (sb : List SegO) (g : Ghost) : ∀ x ∈ (unaShrinkO una sb g).l, x ∈ sb :=
  fun x hx => unaO_mem _ _ _ x (dropAckedO_mem _ _ x hx)

theorem ackShrinkO_sbOk (k : Kcp) (sn : U32) (u : SegsG) (h : ∀ x ∈ u.l, SbOk x) :
    ∀ x ∈ (ackShrinkO k sn u).l, SbOk x := by
  unfold ackShrinkO
  intro x hx
  have hx := dropAckedO_mem _ _ x hx
  split at hx
  · exact h x hx
  · exact ackLoopO_sbOk _ _ _ h x hx

theorem inBodyO_al (regular : Bool) (data : Bytes) {st : InLoopO} {sq : List SegO} (hs : Sync (st.toO sq))
    (h : Aligned (st.toO sq)) : Aligned ((inBodyO regular data st).toO sq) := by
  have hu : ∀ x ∈ (unaShrinkO (rd32 data 16) st.sb st.gh).l, SbOk x := fun x hx => h.sb x (unaShrinkO_mem _ _ _ x hx)
  have hue := unaShrinkO_er regular (rd16 data 6) (rd32 data 16) hs.sb
  refine inBodyO_cases (P := fun st' => Aligned (st'.toO sq)) regular data st rfl rfl
    (fun hb => ?_) (fun seg _ _ => ?_) (fun _ => ⟨h.sq, hu, h.rb, h.rq⟩)
  · refine ⟨h.sq, ?_, h.rb, h.rq⟩
    show ∀ x ∈ reattach (inBody regular data st.m).k.snd_buf _, SbOk x
    rw [hb]
    exact reattach_sbOk _ _ (inAck_acked _ _ _ _ hue) (ackShrinkO_sbOk _ _ _ hu)
  · obtain ⟨d1, d2⟩ := parseDataO_has (inSt1 regular (rd16 data 6) (rd32 data 16) st.m).k seg st.rb st.rq (unaShrinkO (rd32 data 16) st.sb st.gh).g h.rb h.rq
    exact ⟨h.sq, hu, d1, d2⟩

/-- alignment of snd_buf through `flush` and the parse loop rests on the model's `acked` flags: the two travel together -/
def SyncAl (o : KcpO) : Prop := Sync o ∧ Aligned o

theorem SyncAl.setK {o : KcpO} (h : SyncAl o) {k' : Kcp} (e : SameQ k' o.k) : SyncAl { o with k := k' } :=
  ⟨h.1.setK e, h.2.setK _⟩

theorem flushO_syncAl {o : KcpO} (h : SyncAl o) (full : Bool) (now : U32) : SyncAl (flushO o full now).o :=
  ⟨flushO_sync h.1 _ _, flushO_al h.1 h.2 _ _⟩

theorem inBodyO_syncAl (regular : Bool) (data : Bytes) {st : InLoopO} {sq : List SegO} (h : SyncAl (st.toO sq)) :
    SyncAl ((inBodyO regular data st).toO sq) :=
  ⟨inBodyO_sync regular data h.1, inBodyO_al regular data h.1 h.2⟩

end KcpVerif.Own
