/-
The clean-path invariant `Clean` and the window bookkeeping `Win` of the closed system.  Ghost data: for each link
the list of (arrival time, frames) whose encodings are the datagrams in flight.  Sequence numbers are compared
through their offsets `o base ·` from the first one of the run; `NoWrap` keeps the offsets below 2^31.  The file
ends with the sender's FULL flush (`clean_flushA`), which the scheduled flush and the flush that ends A's `Input` share.
-/
import KcpVerif.Lemmas.SysRunP
import KcpVerif.Lemmas.SysWinBase

namespace KcpVerif.SysC
open KcpVerif.Gen KcpVerif.Kcp KcpVerif.Live KcpVerif.Wire KcpVerif.SysW KcpVerif.Sys KcpVerif.Serial

structure Par where
  base : U32      -- first sequence number of the run
  conv : U32
  M    : Nat      -- A's minimum RTO
  I    : Nat      -- B's flush interval
  W    : Nat      -- B's receive window

abbrev GLink := List (Nat × List Frm)

def encL (g : GLink) : List Dgram := g.map (fun d => ⟨d.1, encFrames d.2⟩)

def allFrs (g : GLink) : List Frm := (g.map (fun d => d.2)).flatten

/-- where the acknowledgement of the segment `sn` transmitted at time `t` is: its PUSH is on the way
to B; or B has listed the ACK and will flush it by `t + D + I`; or a frame whose `una` covers it is
on the way back and arrives by `t + 2D + I` -/
def Loc (p : Par) (s : State) (gab gba : GLink) (sn : U32) (t : Nat) : Prop :=
  (∃ d ∈ gab, d.1 = t + s.D ∧ ∃ fr ∈ d.2, fr.cmd.toNat = IKCP_CMD_PUSH ∧ fr.sn = sn) ∨
  ((∃ a ∈ s.B.acklist, a.sn = sn) ∧ s.nfB ≤ t + s.D + p.I) ∨
  (∃ d ∈ gba, d.1 ≤ t + 2 * s.D + p.I ∧ ∃ fr ∈ d.2, o p.base sn < o p.base fr.una)

def SegOk (p : Par) (s : State) (gab gba : GLink) (x : Seg) : Prop :=
  x.acked = false ∧ x.xmit = 1 ∧ x.fastack = 0 ∧ x.resendts = x.ts + x.rto ∧ p.M ≤ x.rto.toNat ∧
  x.rto.toNat ≤ 60000 ∧ ∃ t, x.ts = clk t ∧ t ≤ s.now ∧ Loc p s gab gba x.sn t

section
variable {p : Par} {s : State} {gab gba : GLink} {x : Seg}
theorem SegOk.unacked (h : SegOk p s gab gba x) : x.acked = false := h.1
theorem SegOk.xmit_one (h : SegOk p s gab gba x) : x.xmit = 1 := h.2.1
theorem SegOk.no_fastack (h : SegOk p s gab gba x) : x.fastack = 0 := h.2.2.1
end

/-- `ord` is what makes the path clean: the PUSH frames in flight from A to B, in link order, carry exactly the
numbers `rcv_nxt(B) … snd_nxt(A) − 1` — nothing lost, duplicated or reordered.  `tnf`: B flushes within its interval;
`par`: the timing precondition `2D + I < rx_minrto(A)`; `aseg`: every segment waiting at A was sent once and its
acknowledgement is located (`Loc`). -/
structure Clean (p : Par) (s : State) (gab gba : GLink) : Prop where
  hab : s.ab = encL gab
  hba : s.ba = encL gba
  tab : ∀ d ∈ gab, s.now ≤ d.1
  tba : ∀ d ∈ gba, s.now ≤ d.1
  tnf : s.now ≤ s.nfB ∧ s.nfB ≤ s.now + p.I
  par : 2 * s.D + p.I < p.M
  np  : s.panic = false
  aK  : Total.InvK s.A
  aconv : s.A.conv = p.conv
  aack : s.A.acklist = []
  amin : s.A.rx_minrto.toNat = p.M
  arto : p.M ≤ s.A.rx_rto.toNat ∧ s.A.rx_rto.toNat ≤ 60000
  aq  : ∀ x ∈ s.A.snd_queue, Fresh x
  asort : Sorted p.base s.A.snd_buf
  abnd : ∀ x ∈ s.A.snd_buf, o p.base x.sn < o p.base s.A.snd_nxt
  aseg : ∀ x ∈ s.A.snd_buf, SegOk p s gab gba x
  bK  : Total.InvK s.B
  bconv : s.B.conv = p.conv
  bsb : s.B.snd_buf = []
  bsq : s.B.snd_queue = []
  brb : s.B.rcv_buf = []
  bint : s.B.interval.toNat = p.I
  bw  : s.B.rcv_wnd.toNat = p.W ∧ p.W < 2 ^ 31
  back : ∀ a ∈ s.B.acklist, o p.base a.sn < o p.base s.B.rcv_nxt
  fab : ∀ d ∈ gab, ∀ fr ∈ d.2, fr.conv = p.conv ∧ DataLike fr
  fba : ∀ d ∈ gba, ∀ fr ∈ d.2, fr.conv = p.conv ∧ fr.data = [] ∧ AckLike p.base s.B.rcv_nxt fr
  ord : (pushes (allFrs gab)).map (fun fr => o p.base fr.sn) =
          List.range' (o p.base s.B.rcv_nxt) (pushes (allFrs gab)).length ∧
        o p.base s.B.rcv_nxt + (pushes (allFrs gab)).length = o p.base s.A.snd_nxt

/-- run hypothesis 1: fewer than 2^31 segments are queued over the whole run.  kcp-go compares sequence numbers
through the sign of their 32-bit difference (`itimediff`), which agrees with the order of the offsets from the
first one exactly while these stay below 2^31. -/
def NoWrap (base : U32) (s : State) : Prop := o base s.A.snd_nxt + s.A.snd_queue.length < 2 ^ 31

/-- run hypothesis 2: the receive queue has room for everything A has sent and B has not yet taken
(what the window precondition of the property is there to guarantee) -/
def RoomOk (s : State) : Prop :=
  s.B.rcv_queue.length + (s.A.snd_nxt - s.B.rcv_nxt).toNat ≤ s.B.rcv_wnd.toNat

instance (base : U32) (s : State) : Decidable (NoWrap base s) := by unfold NoWrap; infer_instance
instance (s : State) : Decidable (RoomOk s) := by unfold RoomOk; infer_instance

/-- the window bookkeeping: every `(una, wnd)` pair on its way to A, and A's current
`(snd_una, min(snd_wnd, rmt_wnd))`, satisfy `una + wnd + |rcv_queue| ≤ rcv_nxt + rcv_wnd` at B; A's send
buffer is contiguous; the `una`s on the link are non-decreasing -/
structure Win (p : Par) (s : State) (gba : GLink) : Prop where
  wc  : Contig p.base s.A
  wAu : o p.base s.A.snd_una ≤ o p.base s.B.rcv_nxt
  wA  : o p.base s.A.snd_una + min s.A.snd_wnd.toNat s.A.rmt_wnd.toNat + s.B.rcv_queue.length ≤
          o p.base s.B.rcv_nxt + p.W
  wR  : o p.base s.A.snd_nxt + s.B.rcv_queue.length ≤ o p.base s.B.rcv_nxt + p.W
  wB  : ∀ d ∈ gba, ∀ fr ∈ d.2,
          o p.base fr.una + fr.wnd.toNat + s.B.rcv_queue.length ≤ o p.base s.B.rcv_nxt + p.W ∧
          o p.base s.A.snd_una ≤ o p.base fr.una
  wU  : ∀ d ∈ gba, ∀ fr ∈ d.2, ∀ fr' ∈ d.2, fr.una = fr'.una ∧ fr.wnd = fr'.wnd
  wS  : gba.Pairwise (fun d d' => ∀ fr ∈ d.2, ∀ fr' ∈ d'.2, o p.base fr.una ≤ o p.base fr'.una)

theorem Clean.rn {p : Par} {s : State} {gab gba : GLink} (h : Clean p s gab gba) :
    o p.base s.B.rcv_nxt ≤ o p.base s.A.snd_nxt := by have := h.ord.2; omega

theorem Win.room {p : Par} {s : State} {gab gba : GLink} (h : Clean p s gab gba) (w : Win p s gba) : RoomOk s := by
  unfold RoomOk
  rw [o_sub p.base s.B.rcv_nxt s.A.snd_nxt h.rn, h.bw.1]
  have := w.wR
  have := h.rn
  omega

/-- 60000 is `IKCP_RTO_MAX`; any bound that keeps age and `rto` together below 2^31 would do -/
theorem quiet_of_age (now t : Nat) (rto : U32) (h1 : t ≤ now) (h2 : now - t < rto.toNat) (h3 : rto.toNat ≤ 60000) :
    itimediff (clk now) (clk t + rto) < 0 := by
  rw [itimediff_rep (clk_rep now) ((clk_rep t).add (Rep.self rto)) (by omega) (by omega)]
  omega

theorem encL_append (a b : GLink) : encL (a ++ b) = encL a ++ encL b := by simp [encL]

theorem stamp_groups (t : Nat) (gs : List (List Frm)) :
    stamp t (gs.map encFrames) = encL (gs.map (fun g => (t, g))) := by
  simp [stamp, encL, List.map_map]

theorem allFrs_append (a b : GLink) : allFrs (a ++ b) = allFrs a ++ allFrs b := by simp [allFrs]

theorem allFrs_groups (t : Nat) (gs : List (List Frm)) : allFrs (gs.map (fun g => (t, g))) = gs.flatten := by
  simp [allFrs, List.map_map, Function.comp_def]

theorem allFrs_cons (d : Nat × List Frm) (g : GLink) : allFrs (d :: g) = d.2 ++ allFrs g := by simp [allFrs]

theorem flush_links (k : Kcp) (full : Bool) (now : U32) (hp : (flush k full now).panic = false) {l : List Dgram}
    {g : GLink} (hl : l = encL g) (t : Nat) :
    ∃ gnew : GLink, l ++ stamp t (flush k full now).outs = encL (g ++ gnew) ∧
      (∀ d ∈ gnew, d.1 = t ∧ ∀ fr ∈ d.2, fr ∈ flushFrs k full now) ∧
      (∀ fr ∈ flushFrs k full now, ∃ d ∈ gnew, fr ∈ d.2) ∧ allFrs gnew = flushFrs k full now := by
  obtain ⟨gs, hgs, hfl⟩ := flush_frames k full now hp
  refine ⟨gs.map (fun g => (t, g)), by rw [hgs, stamp_groups, encL_append, hl], fun d hd => ?_, fun fr hfr => ?_,
    by rw [allFrs_groups, hfl]⟩
  · obtain ⟨g0, hg0, rfl⟩ := List.mem_map.mp hd
    exact ⟨rfl, fun fr hfr => hfl ▸ List.mem_flatten.mpr ⟨g0, hg0, hfr⟩⟩
  · obtain ⟨g0, hg0, hfr0⟩ := List.mem_flatten.mp (hfl ▸ hfr)
    exact ⟨(t, g0), List.mem_map.mpr ⟨g0, hg0, rfl⟩, hfr0⟩

/-- the age bound: an un-acknowledged transmitted segment is never older than `2D + I` -/
theorem Clean.age_nat {p : Par} {s : State} {gab gba : GLink} (h : Clean p s gab gba) {x : Seg} (hx : SegOk p s gab gba x) :
    ∃ t, x.ts = clk t ∧ t ≤ s.now ∧ s.now ≤ t + 2 * s.D + p.I := by
  obtain ⟨_, _, _, _, _, _, t, ht, htn, hloc⟩ := hx
  refine ⟨t, ht, htn, ?_⟩
  rcases hloc with ⟨d, hd, hd1, _⟩ | ⟨_, hn⟩ | ⟨d, hd, hd1, _⟩
  · have := h.tab d hd; omega
  · have := h.tnf.1; omega
  · have := h.tba d hd; omega

theorem Clean.age {p : Par} {s : State} {gab gba : GLink} (h : Clean p s gab gba) {x : Seg} (hx : SegOk p s gab gba x) :
    Quiet (clk s.now) x := by
  obtain ⟨t, ht, htn, hage⟩ := h.age_nat hx
  obtain ⟨h1, h2, h3, h4, h5, h6, _⟩ := hx
  refine ⟨h1, h2, h3, ?_⟩
  rw [h4, ht]
  have := h.par
  exact quiet_of_age s.now t x.rto htn (by omega) h6

theorem SegOk.mono {p : Par} {s s' : State} {gab gba gab' gba' : GLink} {x : Seg} (h : SegOk p s gab gba x)
    (hnow : s.now ≤ s'.now) (hloc : ∀ t, Loc p s gab gba x.sn t → Loc p s' gab' gba' x.sn t) :
    SegOk p s' gab' gba' x := by
  obtain ⟨a1, a2, a3, a4, a5, a6, t, ht, htn, hl⟩ := h
  exact ⟨a1, a2, a3, a4, a5, a6, t, ht, Nat.le_trans htn hnow, hloc t hl⟩

theorem stampSegs_sn (base conv now : U32) : ∀ (l : List Seg) (nxt : U32), o base nxt + l.length < 2 ^ 32 →
    (stampSegs conv now nxt l).map (fun y => o base y.sn) = List.range' (o base nxt) l.length := by
  intro l
  induction l with
  | nil => intro _ _; rfl
  | cons s r ih =>
    intro nxt hn
    simp only [List.length_cons] at hn
    have hs := o_succ base nxt (by omega)
    rw [stampSegs, List.map_cons, List.length_cons, List.range'_succ, ih (nxt + 1) (by rw [hs]; omega), hs]

theorem stamp_facts (base : U32) (k : Kcp) (now : U32) (l : List Seg) (nxt : U32) (hn : o base nxt + l.length < 2 ^ 31) :
    Sorted base ((stampSegs k.conv now nxt l).map (sendInit k now)) ∧
    (∀ y ∈ (stampSegs k.conv now nxt l).map (sendInit k now),
      o base nxt ≤ o base y.sn ∧ o base y.sn < o base nxt + l.length ∧ y.conv = k.conv ∧
      y.cmd = BitVec.ofNat 8 IKCP_CMD_PUSH ∧ y.ts = now ∧ y.rto = k.rx_rto ∧ y.resendts = now + k.rx_rto ∧
      ∃ q ∈ l, y.data = q.data ∧ y.xmit = q.xmit + 1 ∧ y.fastack = q.fastack ∧ y.acked = q.acked) ∧
    ((stampSegs k.conv now nxt l).map (sendInit k now)).map (fun y => o base y.sn) = List.range' (o base nxt) l.length := by
  have h3 : ((stampSegs k.conv now nxt l).map (sendInit k now)).map (fun y => o base y.sn) =
      List.range' (o base nxt) l.length := by
    rw [List.map_map]
    exact stampSegs_sn base k.conv now l nxt (by omega)
  refine ⟨?_, fun y hy => ?_, h3⟩
  · have := List.pairwise_lt_range' (s := o base nxt) (n := l.length) (step := 1) (by omega)
    rw [← h3] at this
    exact List.pairwise_map.mp this
  · have hm : o base y.sn ∈ List.range' (o base nxt) l.length := by
      rw [← h3]; exact List.mem_map.mpr ⟨y, hy, rfl⟩
    obtain ⟨y0, hy0, rfl⟩ := List.mem_map.mp hy
    obtain ⟨q, hq, n, rfl⟩ := mem_stampSegs hy0
    have := List.mem_range'_1.mp hm
    exact ⟨this.1, this.2, rfl, rfl, rfl, rfl, rfl, q, hq, rfl, rfl, rfl, rfl⟩

/-- from `s` to `s'`: `snd_nxt` did not go back, and every segment in the later send buffer is an
unmodified segment of the earlier one or was admitted in between -/
def Keep (base : U32) (s s' : State) : Prop :=
  o base s.A.snd_nxt ≤ o base s'.A.snd_nxt ∧
  ∀ y ∈ s'.A.snd_buf, y ∈ s.A.snd_buf ∨ o base s.A.snd_nxt ≤ o base y.sn

theorem Keep.refl (base : U32) (s : State) : Keep base s s := ⟨Nat.le_refl _, fun _ hy => Or.inl hy⟩

theorem Keep.trans {base : U32} {a b c : State} (h1 : Keep base a b) (h2 : Keep base b c) : Keep base a c := by
  refine ⟨Nat.le_trans h1.1 h2.1, fun y hy => ?_⟩
  rcases h2.2 y hy with h | h
  · exact h1.2 y h
  · exact Or.inr (Nat.le_trans h1.1 h)

theorem Keep.ofA {base : U32} {s s' : State} (h : s'.A = s.A) : Keep base s s' := by
  unfold Keep; rw [h]; exact ⟨Nat.le_refl _, fun _ hy => Or.inl hy⟩

section
-- the unifier otherwise unfolds the whole of `flush` / `input` when it compares two states
attribute [local irreducible] Kcp.flush Kcp.input

/-- an event other than `send` takes a prefix of A's send queue and moves `snd_nxt` by as much, whatever the state -/
theorem step_admit (s : State) (ev : Ev) (hev : isSend ev = false) : Admit s.A (Sys.step s ev).A :=
  step_cases (P := fun s' => Admit s.A s'.A) s ev (Admit.steps.refl _) (fun _ _ => Admit.steps.refl _)
    (fun b hb => by rw [hb] at hev; cases hev) (fun _ _ => Admit.steps.refl _) (fun _ => Admit.steps.flush _ _ _)
    (fun _ => Admit.steps.refl _) (fun _ _ _ _ _ => Admit.steps.refl _) (fun d _ _ _ _ => Admit.steps.input _ _ _ _ _)

/-- no event changes `interval`, `rcv_wnd` or `conv` of either endpoint, whatever the state -/
theorem step_cfg (s : State) (ev : Ev) : CfgSame s.A (Sys.step s ev).A ∧ CfgSame s.B (Sys.step s ev).B := by
  have r : ∀ k : Kcp, CfgSame k k := CfgSame.steps.refl
  refine step_cases (P := fun s' => CfgSame s.A s'.A ∧ CfgSame s.B s'.B) s ev ⟨r _, r _⟩ (fun _ _ => ⟨r _, r _⟩)
    (fun b _ => ⟨?_, r _⟩) (fun _ _ => ⟨r _, ?_⟩) (fun _ => ⟨CfgSame.steps.flush _ _ _, r _⟩)
    (fun _ => ⟨r _, CfgSame.steps.flush _ _ _⟩) (fun d _ _ _ _ => ⟨r _, CfgSame.steps.input _ _ _ _ _⟩)
    (fun d _ _ _ _ => ⟨CfgSame.steps.input _ _ _ _ _, r _⟩)
  · obtain ⟨q, e⟩ := send_shape s.A b
    show CfgSame s.A (s.A.send b).k
    rw [e]
    exact ⟨rfl, rfl, rfl⟩
  · obtain ⟨q, rb, x, pr, e⟩ := recv_shape s.B s.B.peekSize.toNat
    show CfgSame s.B (s.B.recv s.B.peekSize.toNat).k
    rw [e]
    exact ⟨rfl, rfl, rfl⟩

end

/-- what an event owes the clean path; `gab' gba'` are the ghost links afterwards -/
structure StepOk (p : Par) (s : State) (gba : GLink) (s' : State) (gab' gba' : GLink) : Prop where
  clean : Clean p s' gab' gba'
  win   : Win p s gba → Win p s' gba'
  keep  : Keep p.base s s'

theorem StepOk.ofA {p : Par} {s s' : State} {gab' gba gba' : GLink} (hc : Clean p s' gab' gba')
    (hw : Win p s gba → Win p s' gba') (hA : s'.A = s.A) : StepOk p s gba s' gab' gba' :=
  ⟨hc, hw, Keep.ofA hA⟩

/-- `nf`: the next-flush time is not part of the invariant -/
def afterFlushA (s : State) (nf : Nat) : State :=
  { s with A := (s.A.flush true (clk s.now)).k, nfA := nf,
           ab := s.ab ++ stamp (s.now + s.D) (s.A.flush true (clk s.now)).outs,
           panic := s.panic || (s.A.flush true (clk s.now)).panic }

theorem clean_flushA {p : Par} {s : State} {gab gba : GLink} (h : Clean p s gab gba) (hnw : NoWrap p.base s) (nf : Nat) :
    ∃ gab', StepOk p s gba (afterFlushA s nf) gab' gba ∧
      (flX s.A true (clk s.now)).lost = 0 ∧ (flX s.A true (clk s.now)).change = 0 := by
  unfold afterFlushA
  have hquiet : ∀ x ∈ s.A.snd_buf, Quiet (clk s.now) x := fun x hx => h.age (h.aseg x hx)
  obtain ⟨m, hm, f1, f2, f3, f4, f5, f6⟩ := flush_clean s.A (clk s.now) h.aq hquiet h.aack
  obtain ⟨hpan, hK, hal⟩ := Total.flush_total h.aK true (clk s.now)
  obtain ⟨gnew, hlink, hmem, hsent, hall⟩ := flush_links s.A true (clk s.now) hpan h.hab (s.now + s.D)
  rw [f4] at hmem hsent hall
  obtain ⟨pw, tp, st, ss, cw, inc, hk⟩ := flush_frame s.A true (clk s.now)
  unfold NoWrap at hnw
  have hlen : (s.A.snd_queue.take m).length = m := by rw [List.length_take]; omega
  obtain ⟨n1, n2, n3⟩ := stamp_facts p.base s.A (clk s.now) (s.A.snd_queue.take m) s.A.snd_nxt (by rw [hlen]; omega)
  rw [hlen] at n2 n3
  have hnxt : o p.base (s.A.snd_nxt + u32 m) = o p.base s.A.snd_nxt + m := o_add _ _ _ (by omega)
  -- from here on the flush result and the admitted segments are opaque: only the facts above are used
  have hb := fun hs => flush_nxt_bound p.base s.A (clk s.now) (by rw [f3, hnxt]; omega) (by rw [f3, hnxt]; omega) hs
  generalize s.A.flush true (clk s.now) = R at f1 f2 f3 hpan hK hal hlink hk hb ⊢
  have e1 : R.k.snd_una = s.A.snd_una := by rw [hk]
  have e4 : R.k.snd_wnd = s.A.snd_wnd := by rw [hk]
  have e5 : R.k.rmt_wnd = s.A.rmt_wnd := by rw [hk]
  generalize (stampSegs s.A.conv (clk s.now) s.A.snd_nxt (s.A.snd_queue.take m)).map (sendInit s.A (clk s.now)) = new
    at f1 hmem hsent hall n1 n2 n3
  have hl : new.length = m := by
    have := congrArg List.length n3
    simpa using this
  have hpp : pushes (probeFrs s.A (clk s.now)) = [] := by
    unfold pushes
    apply List.filter_eq_nil_iff.mpr
    intro fr hfr
    simp only [decide_eq_true_eq]
    exact probe_ne_push (probeFrs_mem s.A (clk s.now) fr hfr).2.1
  have hpn : pushes (new.map frmOf) = new.map frmOf := by
    unfold pushes
    apply List.filter_eq_self.mpr
    intro fr hfr
    obtain ⟨y, hy, rfl⟩ := List.mem_map.mp hfr
    have := (n2 y hy).2.2.2.1
    simp only [decide_eq_true_eq]
    show y.cmd.toNat = _
    rw [this]; decide
  have hsub : ∀ d ∈ gab, d ∈ gab ++ gnew := fun d hd => List.mem_append_left _ hd
  refine ⟨gab ++ gnew,
    ⟨{ h with hab := hlink, tab := ?_, np := ?_, aK := hK, aconv := ?_, aack := hal, amin := ?_, arto := ?_, aq := ?_,
              asort := ?_, abnd := ?_, aseg := ?_, fab := ?_, ord := ?_ },
     fun w => { w with wc := ?_, wAu := ?_, wA := ?_, wR := ?_, wB := ?_ },
     ⟨?_, ?_⟩⟩, f5, f6⟩
  · intro d hd
    rcases List.mem_append.mp hd with hd | hd
    · exact h.tab d hd
    · have := (hmem d hd).1
      show s.now ≤ d.1
      omega
  · show (s.panic || R.panic) = false
    rw [h.np, hpan]; rfl
  · show R.k.conv = _
    rw [hk]; exact h.aconv
  · show R.k.rx_minrto.toNat = _
    rw [hk]; exact h.amin
  · show _ ≤ R.k.rx_rto.toNat ∧ R.k.rx_rto.toNat ≤ _
    rw [hk]; exact h.arto
  · show ∀ x ∈ R.k.snd_queue, Fresh x
    rw [f2]; exact fun x hx => h.aq x (List.mem_of_mem_drop hx)
  · show Sorted p.base R.k.snd_buf
    rw [f1]
    apply List.pairwise_append.mpr
    refine ⟨h.asort, n1, fun a ha b hb => ?_⟩
    have := h.abnd a ha
    have := (n2 b hb).1
    omega
  · show ∀ x ∈ R.k.snd_buf, o p.base x.sn < o p.base R.k.snd_nxt
    rw [f1, f3, hnxt]
    intro x hx
    rcases List.mem_append.mp hx with hx | hx
    · have := h.abnd x hx; omega
    · have := (n2 x hx).2.1; omega
  · show ∀ x ∈ R.k.snd_buf, _
    rw [f1]
    intro x hx
    rcases List.mem_append.mp hx with hx | hx
    · exact (h.aseg x hx).mono (Nat.le_refl _) fun t hl => Or.imp_left (fun ⟨d, hd, r⟩ => ⟨d, hsub d hd, r⟩) hl
    · obtain ⟨b1, b2, b3, b4, b5, b6, b7, q, hq, c1, c2, c3, c4⟩ := n2 x hx
      have hfq := h.aq q (List.mem_of_mem_take hq)
      refine ⟨by rw [c4]; exact hfq.2.2, by rw [c2, hfq.1]; rfl, by rw [c3]; exact hfq.2.1, by rw [b7, b5, b6],
        by rw [b6]; exact h.arto.1, by rw [b6]; exact h.arto.2, s.now, b5, Nat.le_refl _, ?_⟩
      obtain ⟨d, hd, hd2⟩ := hsent (frmOf x) (List.mem_append_right _ (List.mem_map.mpr ⟨x, hx, rfl⟩))
      exact Or.inl ⟨d, List.mem_append_right _ hd, (hmem d hd).1, frmOf x, hd2, by show x.cmd.toNat = _; rw [b4]; decide, rfl⟩
  · intro d hd fr hfr
    rcases List.mem_append.mp hd with hd | hd
    · exact h.fab d hd fr hfr
    · rcases List.mem_append.mp ((hmem d hd).2 fr hfr) with hin | hin
      · obtain ⟨e1, e2, _, e4⟩ := probeFrs_mem s.A (clk s.now) fr hin
        exact ⟨by rw [e1]; exact h.aconv, Or.inr e2, by rw [e4]; simp⟩
      · obtain ⟨y, hy, rfl⟩ := List.mem_map.mp hin
        obtain ⟨b1, b2, b3, b4, b5, b6, b7, q, hq, c1, c2, c3, c4⟩ := n2 y hy
        refine ⟨by show y.conv = _; rw [b3]; exact h.aconv, Or.inl (by show y.cmd.toNat = _; rw [b4]; decide), ?_⟩
        show y.data.length ≤ mtuLimit
        rw [c1]
        exact Nat.le_trans (h.aK.sndq q (List.mem_of_mem_take hq)) h.aK.mss_le
  · show (pushes (allFrs (gab ++ gnew))).map (fun fr => o p.base fr.sn) =
        List.range' (o p.base s.B.rcv_nxt) (pushes (allFrs (gab ++ gnew))).length ∧
      o p.base s.B.rcv_nxt + (pushes (allFrs (gab ++ gnew))).length = o p.base R.k.snd_nxt
    rw [allFrs_append, hall, pushes_append, pushes_append, hpp, hpn, List.nil_append, f3, hnxt,
      List.map_append, List.length_append, List.map_map, List.length_map, hl]
    constructor
    · rw [h.ord.1]
      have : (fun fr => o p.base fr.sn) ∘ frmOf = fun y => o p.base y.sn := rfl
      rw [this, n3, ← h.ord.2, List.range'_append_1]
    · have := h.ord.2
      omega
  · show R.k.snd_buf.map (fun x => o p.base x.sn) = List.range' (o p.base R.k.snd_una) R.k.snd_buf.length ∧
      o p.base R.k.snd_una + R.k.snd_buf.length = o p.base R.k.snd_nxt
    rw [e1, f1, f3, hnxt, List.map_append, List.length_append, w.wc.1, n3, hl]
    exact ⟨by rw [← w.wc.2, List.range'_append_1], by have := w.wc.2; omega⟩
  · show o p.base R.k.snd_una ≤ _
    rw [e1]; exact w.wAu
  · show o p.base R.k.snd_una + min R.k.snd_wnd.toNat R.k.rmt_wnd.toNat + _ ≤ _
    rw [e1, e4, e5]; exact w.wA
  · -- phase 4 admits only below `snd_una + min(snd_wnd, rmt_wnd)`, for which B has room
    show o p.base R.k.snd_nxt + s.B.rcv_queue.length ≤ o p.base s.B.rcv_nxt + p.W
    have := w.wA
    have := h.rn
    have := h.bw
    rcases hb (by omega) with hb | hb
    · rw [hb]; exact w.wR
    · omega
  · show ∀ d ∈ gba, ∀ fr ∈ d.2, _ ∧ o p.base R.k.snd_una ≤ _
    rw [e1]; exact w.wB
  · show _ ≤ o p.base R.k.snd_nxt
    rw [f3, hnxt]; omega
  · show ∀ y ∈ R.k.snd_buf, _
    rw [f1]
    intro y hy
    rcases List.mem_append.mp hy with hy | hy
    · exact Or.inl hy
    · exact Or.inr (n2 y hy).1

end KcpVerif.SysC
