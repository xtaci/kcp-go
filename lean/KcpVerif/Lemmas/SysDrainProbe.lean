/-
Zero-window probing, the facts about one core: a flush with `rmt_wnd = 0` arms the probe timer, leaves it alone before
its time and writes a WASK at or after it; a core that owes the answer (ASK_TELL) writes a WINS at its next flush, and
every frame of that flush carries the window computed there; `Input` takes over the window of every frame it parses.
-/
import KcpVerif.Lemmas.SysDrainStep

namespace KcpVerif.SysC
open KcpVerif.Gen KcpVerif.Kcp KcpVerif.Live KcpVerif.Wire KcpVerif.SysW KcpVerif.Sys

theorem flush_probe_closed (k : Kcp) (full : Bool) (now : U32) (h0 : k.rmt_wnd = 0) :
    (k.probe_wait = 0 → (flush k full now).k.probe_wait = u32 IKCP_PROBE_INIT ∧
      (flush k full now).k.ts_probe = now + u32 IKCP_PROBE_INIT) ∧
    (k.probe_wait ≠ 0 → itimediff now k.ts_probe < 0 →
      (flush k full now).k.probe_wait = k.probe_wait ∧ (flush k full now).k.ts_probe = k.ts_probe) ∧
    (k.probe_wait ≠ 0 → itimediff now k.ts_probe ≥ 0 →
      (flush k full now).k.probe_wait = nextProbeWait k.probe_wait ∧
      (flush k full now).k.ts_probe = now + nextProbeWait k.probe_wait ∧
      ∃ fr ∈ flushFrs k full now, fr.cmd.toNat = IKCP_CMD_WASK) := by
  have hf := flush_probe_timer k full now
  refine ⟨fun h1 => ?_, fun h1 h2 => ?_, fun h1 h2 => ?_⟩
  · rw [hf.1, hf.2, probePhase_arm { k with acklist := [] } now h0 h1]; exact ⟨rfl, rfl⟩
  · rw [hf.1, hf.2, probePhase_wait { k with acklist := [] } now h0 h1 (by show ¬ itimediff now k.ts_probe ≥ 0; omega)]
    exact ⟨rfl, rfl⟩
  · have hpp := probePhase_fire { k with acklist := [] } now h0 h1 h2
    refine ⟨by rw [hf.1, hpp], by rw [hf.2, hpp], ?_⟩
    have hprobe := flF2_send k now h0 h1 h2
    refine ⟨⟨(flF2 k now).k.conv, BitVec.ofNat 8 IKCP_CMD_WASK, 0, wndUnused k, (flAck k).sc.ts, (flAck k).sc.sn,
      k.rcv_nxt, []⟩, ?_, by show (BitVec.ofNat 8 IKCP_CMD_WASK).toNat = IKCP_CMD_WASK; decide⟩
    unfold flushFrs probeFrs waskFrs
    rw [if_pos hprobe]
    simp

theorem flush_wins_frame (k : Kcp) (full : Bool) (now : U32) (h : k.probe &&& u32 IKCP_ASK_TELL ≠ 0) :
    ∃ fr ∈ flushFrs k full now, fr.cmd.toNat = IKCP_CMD_WINS := by
  have hprobe := flF3a_tell k now h
  refine ⟨⟨(flF3a k now).k.conv, BitVec.ofNat 8 IKCP_CMD_WINS, 0, wndUnused k, (flAck k).sc.ts, (flAck k).sc.sn,
    k.rcv_nxt, []⟩, ?_, by show (BitVec.ofNat 8 IKCP_CMD_WINS).toNat = IKCP_CMD_WINS; decide⟩
  unfold flushFrs probeFrs winsFrs
  rw [if_pos hprobe]
  simp

theorem flushFrs_nodata (K : Kcp) (hsb : K.snd_buf = []) (hsq : K.snd_queue = []) (full : Bool) (now : U32) :
    ∀ x ∈ flushFrs K full now, x.data = [] := by
  intro x hx
  rw [(flush_empty K full now hsb hsq).1] at hx
  rcases List.mem_append.mp hx with h | h
  · exact (ackFrsOf_mem K x h).2.2.2.1
  · exact (probeFrs_mem K now x h).2.2.2

/-- the receive queue is not full and the window fits the 16-bit `wnd` field -/
def RoomK (k : Kcp) : Prop := k.rcv_queue.length < k.rcv_wnd.toNat ∧ k.rcv_wnd.toNat < 65536

theorem RoomK.wnd_ne {k : Kcp} (h : RoomK k) : wndUnused k ≠ 0 := by
  obtain ⟨h1, h2⟩ := h
  intro e
  have := wndUnused_eq k (by omega)
  rw [e] at this
  have z : (0 : BitVec 16).toNat = 0 := rfl
  omega

theorem RoomK.of_flush {K : Kcp} {full : Bool} {now : U32} (h : RoomK (flush K full now).k) : RoomK K := by
  obtain ⟨_, a, _, c⟩ := flush_rcv K full now
  unfold RoomK at h
  rw [a, c] at h
  exact h

theorem inFr_rmt (st : InLoop) (fr : Frm) : (inFr true st fr).k.rmt_wnd = fr.wnd.setWidth 32 := by
  unfold inFr
  obtain ⟨sb, su, al, rb, rq, rn, pr, h⟩ := inStep_frame true fr.conv fr.cmd fr.frg fr.wnd fr.ts fr.sn fr.una fr.data st
  rw [h]; rfl

theorem setWidth_ne (w : BitVec 16) (h : w ≠ 0) : w.setWidth 32 ≠ 0 := by
  intro e
  apply h
  have := congrArg BitVec.toNat e
  have z : (0 : BitVec 32).toNat = 0 := rfl
  have z' : (0 : BitVec 16).toNat = 0 := rfl
  rw [z] at this
  simp only [BitVec.toNat_setWidth] at this
  apply BitVec.eq_of_toNat_eq
  have := w.isLt
  rw [z']
  omega

theorem inFrs_rmt : ∀ (frs : List Frm) (st : InLoop), (∀ fr ∈ frs, fr.wnd ≠ 0) → frs ≠ [] ∨ st.k.rmt_wnd ≠ 0 →
    (inFrs true frs st).k.rmt_wnd ≠ 0 := by
  intro frs
  induction frs with
  | nil =>
    intro st _ h
    rcases h with h | h
    · exact absurd rfl h
    · exact h
  | cons fr rest ih =>
    intro st hall _
    have h1 : (inFr true st fr).k.rmt_wnd ≠ 0 := by
      rw [inFr_rmt]; exact setWidth_ne _ (hall fr (List.mem_cons_self ..))
    unfold inFrs
    split
    · exact h1
    · exact ih _ (fun x hx => hall x (List.mem_cons_of_mem _ hx)) (Or.inr h1)

theorem inFr_tell (st : InLoop) (fr : Frm) :
    (fr.cmd.toNat = IKCP_CMD_WASK ∨ st.k.probe &&& u32 IKCP_ASK_TELL ≠ 0) →
    (inFr true st fr).k.probe &&& u32 IKCP_ASK_TELL ≠ 0 := by
  intro h
  unfold inFr
  rw [inStep_probe]
  split
  · exact tell_or _
  · rcases h with h | h
    · rename_i hn; exact absurd h hn
    · exact h

theorem inFrs_tell : ∀ (frs : List Frm) (st : InLoop),
    ((∃ fr ∈ frs, fr.cmd.toNat = IKCP_CMD_WASK) ∨ st.k.probe &&& u32 IKCP_ASK_TELL ≠ 0) →
    (inFrs true frs st).panic = false → (inFrs true frs st).k.probe &&& u32 IKCP_ASK_TELL ≠ 0 := by
  intro frs
  induction frs with
  | nil =>
    intro st h _
    rcases h with ⟨fr, hfr, _⟩ | h
    · simp at hfr
    · exact h
  | cons fr rest ih =>
    intro st h hp
    unfold inFrs at hp ⊢
    by_cases hpan : (inFr true st fr).panic = true
    · rw [if_pos hpan] at hp
      rw [hp] at hpan; cases hpan
    · rw [if_neg hpan] at hp ⊢
      apply ih _ _ hp
      rcases h with ⟨x, hx, hw⟩ | h
      · rcases List.mem_cons.mp hx with rfl | hx'
        · exact Or.inr (inFr_tell st x (Or.inl hw))
        · exact Or.inl ⟨x, hx', hw⟩
      · exact Or.inr (inFr_tell st fr (Or.inr h))

theorem flush_rmt (k : Kcp) (full : Bool) (now : U32) : (flush k full now).k.rmt_wnd = k.rmt_wnd := by
  obtain ⟨pw, tp, st, ss, cw, inc, hk⟩ := flush_frame k full now
  rw [hk]

theorem clk_add (t n : Nat) : clk t + u32 n = clk (t + n) := BitVec.ofNat_add_ofNat t n

theorem clk_before (t P : Nat) (h : ¬ itimediff (clk t) (clk P) ≥ 0) (h2 : t < P + 2 ^ 31) : t < P := by
  rcases Nat.lt_or_ge t P with hlt | hge
  · exact hlt
  · exact absurd (clk_due t P hge h2) h

theorem zA_flush (K : Kcp) (t IA T0 T1 : Nat) (h0 : K.rmt_wnd = 0) (hiv : K.interval.toNat = IA)
    (hz : (K.probe_wait = 0 ∧ t ≤ T0 ∧ T0 + IKCP_PROBE_INIT + IA ≤ T1 ∧ T1 < t + IKCP_PROBE_INIT + 2 ^ 31) ∨
      (K.probe_wait ≠ 0 ∧ t ≤ T1 ∧ ∃ P, K.ts_probe = clk P ∧ P + IA ≤ T1 ∧ T1 < P + 2 ^ 31)) :
    ((flush K true (clk t)).k.probe_wait ≠ 0 ∧ t + (flush K true (clk t)).interval.toNat ≤ T1 ∧
      ∃ P, (flush K true (clk t)).k.ts_probe = clk P ∧ P + IA ≤ T1 ∧ T1 < P + 2 ^ 31) ∨
    (∃ fr ∈ flushFrs K true (clk t), fr.cmd.toNat = IKCP_CMD_WASK) := by
  obtain ⟨f0, f1, f2⟩ := flush_probe_closed K true (clk t) h0
  have hle := flush_interval_le K (clk t)
  rw [BitVec.le_def, hiv] at hle
  rcases hz with ⟨z1, z2, z3, z4⟩ | ⟨z1, z2, P, zP, z3, z4⟩
  · left
    obtain ⟨e1, e2⟩ := f0 z1
    refine ⟨by rw [e1]; unfold u32 IKCP_PROBE_INIT; decide, by omega, t + IKCP_PROBE_INIT, by rw [e2, clk_add], by omega, by omega⟩
  · by_cases hdue : itimediff (clk t) K.ts_probe ≥ 0
    · right
      exact (f2 z1 hdue).2.2
    · left
      obtain ⟨e1, e2⟩ := f1 z1 (by omega)
      have hlt : t < P := clk_before t P (by rw [← zP]; exact hdue) (by omega)
      exact ⟨by rw [e1]; exact z1, by omega, P, by rw [e2]; exact zP, z3, z4⟩

theorem emitA {p : Par} {s : State} {gab gba : GLink} (h : Cons p s gab gba) (hnw : NoWrap p.base s) (fr : Frm)
    (hfr : fr ∈ flushFrs s.A true (clk s.now)) :
    ∃ g, (⟨s.now + s.D, encFrames g⟩ : Dgram) ∈ stamp (s.now + s.D) (s.A.flush true (clk s.now)).outs ∧ fr ∈ g ∧
      ∀ x ∈ g, x.data.length ≤ mtuLimit := by
  obtain ⟨g1, g2, g3, g4, g5, g6, g7⟩ := flush_gen p.base s.A (clk s.now) h.aK h.aack h.acon
    (by rw [h.aconv]; exact h.atag) h.aq hnw
  obtain ⟨g, hg, hfg, hsub⟩ := flush_frs_out s.A true (clk s.now) (Total.flush_total h.aK true (clk s.now)).1 hfr
  exact ⟨g, List.mem_map.mpr ⟨encFrames g, hg, rfl⟩, hfg, fun x hx => (g7 x (hsub x hx)).2.1.2⟩

theorem emitB (K : Kcp) (hsb : K.snd_buf = []) (hsq : K.snd_queue = []) (full : Bool) (now : U32)
    (hpan : (flush K full now).panic = false) (fr : Frm) (hfr : fr ∈ flushFrs K full now) :
    ∃ g, encFrames g ∈ (flush K full now).outs ∧ g ≠ [] ∧ (∀ x ∈ g, x.data = []) ∧ ∀ x ∈ g, x.wnd = wndUnused K := by
  obtain ⟨g, hg, hfg, hsub⟩ := flush_frs_out K full now hpan hfr
  exact ⟨g, hg, List.ne_nil_of_mem hfg, fun x hx => flushFrs_nodata K hsb hsq full now x (hsub x hx),
    fun x hx => flushFrs_wnd K full now x (hsub x hx)⟩

theorem emitB_all (K : Kcp) (hsb : K.snd_buf = []) (hsq : K.snd_queue = []) (full : Bool) (now : U32)
    (hpan : (flush K full now).panic = false) :
    ∀ o ∈ (flush K full now).outs, ∃ g, o = encFrames g ∧ (∀ x ∈ g, x.data = []) ∧ ∀ x ∈ g, x.wnd = wndUnused K := by
  intro o ho
  obtain ⟨g, rfl, hsub⟩ := flush_outs_mem K full now hpan ho
  exact ⟨g, rfl, fun x hx => flushFrs_nodata K hsb hsq full now x (hsub x hx),
    fun x hx => flushFrs_wnd K full now x (hsub x hx)⟩

end KcpVerif.SysC
