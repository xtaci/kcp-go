import KcpVerif.Lemmas.C11IsoSys
/-!
The dialled side of `C11_isolation`: a dialled `Model/Sess` session behind the source filter of its
read loop (`SessIn.Dial.filter`, readloop.go), its peer session, and a socket that also receives
ARBITRARY datagrams from other sources.  Whatever arrives from a source that is not the remote is
never passed to `packetInput` (`C11_dial_filter`), so the pair stays a reachable state of the
two-session system of `C01_session_plain`.
-/
namespace KcpVerif.C11Iso
open KcpVerif.SessIn KcpVerif.C01

/-- the remote a session was dialled to: a `*net.UDPAddr` (canonical IP, port, zone) or any other
`net.Addr` (its non-empty `String()`) -/
inductive Remote where
  | udp (u : List UInt8 × Nat × String)
  | str (s : String)

/-- the datagram's source IS the remote, as the read loop compares them -/
def Remote.is (r : Remote) (addr : Dial.Addr) : Prop :=
  match r with
  | .udp u => addr.udp = some u
  | .str s => addr.str = s

instance Remote.decIs : (r : Remote) → (addr : Dial.Addr) → Decidable (r.is addr)
  | .udp u, addr => inferInstanceAs (Decidable (addr.udp = some u))
  | .str s, addr => inferInstanceAs (Decidable (addr.str = s))

def Remote.filter : Remote → Dial.Filter
  | .udp u => { src := some u, srcStr := "" }
  | .str s => { src := none, srcStr := s }

def Remote.ok : Remote → Prop
  | .udp _ => True
  | .str s => s ≠ ""

structure DSys where
  srv : SessG            -- the peer (the session at the remote address)
  cli : SessG            -- the dialled session
  f   : Dial.Filter

inductive DEv where
  /-- the peer does anything (incl. `packetInput` of arbitrary bytes) -/
  | srv (op : SessOp)
  /-- the application / the scheduler on the dialled session: anything but `packetInput` -/
  | cli (op : SessOp)
  /-- a datagram from the remote: the `i`-th datagram the peer has emitted so far (any time, any
      number of times, any order); `addr` any source the read loop takes for the remote -/
  | peer (addr : Dial.Addr) (i : Nat) (now : U32)
  /-- ARBITRARY bytes from any source that is not the remote -/
  | other (addr : Dial.Addr) (data : Bytes) (now : U32)

/-- one iteration of the read loop: filter, then `packetInput` -/
def recvFrom (s : DSys) (addr : Dial.Addr) (data : Bytes) (now : U32) : DSys :=
  if (Dial.filter s.f addr).pass then { s with cli := sessStep s.cli (.input data now), f := (Dial.filter s.f addr).f }
  else { s with f := (Dial.filter s.f addr).f }

def dstep (r : Remote) (s : DSys) : DEv → DSys
  | .srv op => { s with srv := sessStep s.srv op }
  | .cli op => if isSessInput op then s else { s with cli := sessStep s.cli op }
  | .peer addr i now =>
    if r.is addr then
      match s.srv.wire[i]? with
      | some d => recvFrom s addr d now
      | none => s
    else s
  | .other addr data now => if r.is addr then s else recvFrom s addr data now

def drun (r : Remote) (s : DSys) (evs : List DEv) : DSys := evs.foldl (dstep r) s

theorem filter_latched (r : Remote) (hr : r.ok) (addr : Dial.Addr) :
    (Dial.filter r.filter addr).f = r.filter ∧ ((Dial.filter r.filter addr).pass = true ↔ r.is addr) := by
  cases r with
  | udp u => exact Dial.filter_latched _ addr (fun h => nomatch h)
  | str s => exact Dial.filter_latched _ addr (fun _ => hr)

theorem dstep_inv (r : Remote) (hr : r.ok) (a0 b0 : Sess) {s : DSys} (hf : s.f = r.filter) (h : DPeer a0 b0 s.srv s.cli)
    (e : DEv) : (dstep r s e).f = r.filter ∧ DPeer a0 b0 (dstep r s e).srv (dstep r s e).cli := by
  cases e with
  | srv op => exact ⟨hf, h.a op⟩
  | cli op =>
    cases hi : isSessInput op with
    | true => simp only [dstep, hi, if_true]; exact ⟨hf, h⟩
    | false => simp only [dstep, hi, Bool.false_eq_true, if_false]; exact ⟨hf, h.b op hi⟩
  | peer addr i now =>
    by_cases ha : r.is addr
    · simp only [dstep, ha, if_true]
      cases hd : s.srv.wire[i]? with
      | none => exact ⟨hf, h⟩
      | some d =>
        simp only []
        have hl := filter_latched r hr addr
        unfold recvFrom
        rw [hf, hl.1, if_pos (hl.2.mpr ha)]
        exact ⟨rfl, h.dlv i d now hd⟩
    · simp only [dstep, ha, if_false]; exact ⟨hf, h⟩
  | other addr data now =>
    by_cases ha : r.is addr
    · simp only [dstep, ha, if_true]; exact ⟨hf, h⟩
    · simp only [dstep, ha, if_false]
      have hl := filter_latched r hr addr
      have hp : (Dial.filter r.filter addr).pass = false := by
        cases hq : (Dial.filter r.filter addr).pass with
        | false => rfl
        | true => exact absurd (hl.2.mp hq) ha
      unfold recvFrom
      rw [hf, hl.1, hp]
      simp only [Bool.false_eq_true, if_false]
      exact ⟨trivial, h⟩

theorem drun_inv (r : Remote) (hr : r.ok) (a0 b0 : Sess) (evs : List DEv) (s : DSys) (hf : s.f = r.filter)
    (h : DPeer a0 b0 s.srv s.cli) :
    (drun r s evs).f = r.filter ∧ DPeer a0 b0 (drun r s evs).srv (drun r s evs).cli :=
  foldl_inv (P := fun s => s.f = r.filter ∧ DPeer a0 b0 s.srv s.cli)
    (fun _ e h => dstep_inv r hr a0 b0 h.1 h.2 e) evs s ⟨hf, h⟩

end KcpVerif.C11Iso
