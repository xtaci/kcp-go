/-
Receive side of C01 (DESIGN.md 7.1 item 3): the invariant `InvR` of the receive half of the KCP core
(`rcv_nxt`, `rcv_queue`, `rcv_buf`).

`G : U32 → Content` is the genuine content function; that it is a FUNCTION of the 32-bit sequence number is the range
hypothesis (spelt out in the header of `Props/C01`).
-/
import KcpVerif.Model.Kcp
import KcpVerif.Lemmas.KcpFrame
import KcpVerif.Lemmas.Fold

namespace KcpVerif.Recv
open KcpVerif.Gen KcpVerif.Kcp KcpVerif.Frame

/-- what the application cares about in a segment: the fragment countdown and the payload -/
abbrev Content := BitVec 8 × Bytes

def content (s : Seg) : Content := (s.frg, s.data)

/-- `[G sn0, G (sn0+1), …, G (sn0+n-1)]` -/
def gRange (G : U32 → Content) (sn0 : U32) (n : Nat) : List Content :=
  (List.range n).map (fun i => G (sn0 + BitVec.ofNat 32 i))

theorem gRange_succ (G : U32 → Content) (sn0 : U32) (n : Nat) :
    gRange G sn0 (n + 1) = gRange G sn0 n ++ [G (sn0 + BitVec.ofNat 32 n)] := by
  unfold gRange
  rw [List.range_succ, List.map_append]
  rfl

theorem gRange_length (G : U32 → Content) (sn0 : U32) (n : Nat) : (gRange G sn0 n).length = n := by
  unfold gRange; simp

theorem gRange_take (G : U32 → Content) (sn0 : U32) (n m : Nat) (h : m ≤ n) :
    (gRange G sn0 n).take m = gRange G sn0 m := by
  unfold gRange
  rw [← List.map_take, List.take_range, Nat.min_eq_left h]

theorem gRange_get (G : U32 → Content) (sn0 : U32) (n i : Nat) (hi : i < n) :
    (gRange G sn0 n)[i]? = some (G (sn0 + BitVec.ofNat 32 i)) := by
  unfold gRange
  rw [List.getElem?_map, List.getElem?_range hi]; rfl

/-- offset of a sequence number above `nxt` (meaningful when `0 ≤ itimediff sn nxt`) -/
def off (nxt sn : U32) : Nat := (sn - nxt).toNat

theorem itimediff_nonneg_iff (a b : U32) : 0 ≤ itimediff a b ↔ (a - b).toNat < 2 ^ 31 :=
  Serial.toInt_nonneg_iff (a - b)

/-- both stand for `nxt` plus their offset, and the offsets are less than 2^31 apart -/
theorem itimediff_pos_iff_off (nxt a b : U32) (ha : 0 ≤ itimediff a nxt) (hb : 0 ≤ itimediff b nxt) :
    0 < itimediff b a ↔ off nxt a < off nxt b := by
  rw [itimediff_nonneg_iff] at ha hb
  rw [Serial.itimediff_rep (Serial.rep_off nxt b) (Serial.rep_off nxt a) (by omega) (by omega)]
  unfold off
  omega

theorem off_eq_iff (nxt a b : U32) : off nxt a = off nxt b ↔ a = b :=
  ⟨fun h => Serial.Rep.inj (Serial.rep_off nxt a) (by rw [show (a - nxt).toNat = (b - nxt).toNat from h]; exact Serial.rep_off nxt b),
   fun h => by rw [h]⟩

theorem off_zero_iff (nxt a : U32) : off nxt a = 0 ↔ a = nxt := by
  have h := off_eq_iff nxt a nxt
  have e : off nxt nxt = 0 := by unfold off; rw [BitVec.sub_self]; rfl
  rw [e] at h
  exact h

theorem off_succ (nxt a : U32) (h : 0 < off nxt a) : off (nxt + 1) a = off nxt a - 1 := by
  unfold off at *
  refine Serial.off_of_rep ?_ (by omega)
  have h1 := Serial.rep_off nxt a
  unfold Serial.Rep at *
  rw [BitVec.toNat_add, show (1 : U32).toNat = 1 from rfl]
  omega

/-- every buffered segment is genuine and lies in the half-space at or above `nxt`;
the buffer is strictly sorted by `_itimediff` (so the sequence numbers are pairwise distinct
and the head is the minimum) -/
structure BufOk (G : U32 → Content) (nxt : U32) (buf : List Seg) : Prop where
  gen : ∀ s ∈ buf, content s = G s.sn
  ge  : ∀ s ∈ buf, 0 ≤ itimediff s.sn nxt
  srt : buf.Pairwise (fun a b => 0 < itimediff b.sn a.sn)

theorem BufOk.nil (G : U32 → Content) (nxt : U32) : BufOk G nxt [] :=
  ⟨by simp, by simp, List.Pairwise.nil⟩

theorem BufOk.tail {G : U32 → Content} {nxt : U32} {s : Seg} {rest : List Seg}
    (h : BufOk G nxt (s :: rest)) : BufOk G nxt rest :=
  ⟨fun x hx => h.gen x (List.mem_cons_of_mem _ hx), fun x hx => h.ge x (List.mem_cons_of_mem _ hx),
   (List.pairwise_cons.mp h.srt).2⟩

theorem BufOk.off_sorted {G : U32 → Content} {nxt : U32} {buf : List Seg} (h : BufOk G nxt buf) :
    buf.Pairwise (fun a b => off nxt a.sn < off nxt b.sn) :=
  h.srt.imp_of_mem fun ha hb hab => (itimediff_pos_iff_off nxt _ _ (h.ge _ ha) (h.ge _ hb)).mp hab

theorem BufOk.advance {G : U32 → Content} {nxt : U32} {s : Seg} {rest : List Seg}
    (h : BufOk G nxt (s :: rest)) (hs : s.sn = nxt) : BufOk G (nxt + 1) rest := by
  refine ⟨h.tail.gen, fun x hx => ?_, h.tail.srt⟩
  -- the others lie strictly above the head `nxt`: their offset is positive, and one less from `nxt + 1`
  have h1 : 0 < itimediff x.sn nxt := hs ▸ (List.pairwise_cons.mp h.srt).1 x hx
  have h0 := h.ge x (List.mem_cons_of_mem _ hx)
  have hpos := (itimediff_pos_iff_off nxt nxt x.sn (by rw [itimediff_nonneg_iff, BitVec.sub_self]; decide) h0).mp h1
  rw [(off_zero_iff nxt nxt).mpr rfl] at hpos
  rw [itimediff_nonneg_iff] at h0 ⊢
  show off (nxt + 1) x.sn < 2 ^ 31
  rw [off_succ nxt x.sn hpos]
  unfold off
  omega

theorem heapInsert_length (s : Seg) (l : List Seg) : (heapInsert s l).length = l.length + 1 :=
  Kcp.heapInsert_length s l

theorem BufOk.insert {G : U32 → Content} {nxt : U32} {buf : List Seg} (h : BufOk G nxt buf) (s : Seg)
    (hgen : content s = G s.sn) (hge : 0 ≤ itimediff s.sn nxt)
    (hnew : ∀ x ∈ buf, x.sn ≠ s.sn) : BufOk G nxt (heapInsert s buf) := by
  refine ⟨fun x hx => ?_, fun x hx => ?_, ?_⟩
  · rcases mem_heapInsert.mp hx with h1 | h1
    · rw [h1]; exact hgen
    · exact h.gen x h1
  · rcases mem_heapInsert.mp hx with h1 | h1
    · rw [h1]; exact hge
    · exact h.ge x h1
  · refine heapInsert_pairwise (lt := fun a b => 0 < itimediff b.sn a.sn) (fun _ _ c => c) (fun a ha c => ?_)
      (fun a ha b hb h1 h2 => ?_) h.srt
    · have h3 : ¬ off nxt s.sn < off nxt a.sn := fun hc => c ((itimediff_pos_iff_off nxt s.sn a.sn hge (h.ge a ha)).mpr hc)
      have h4 : off nxt a.sn ≠ off nxt s.sn := fun hc => hnew a ha ((off_eq_iff nxt a.sn s.sn).mp hc)
      exact (itimediff_pos_iff_off nxt a.sn s.sn (h.ge a ha) hge).mpr (by omega)
    · have := (itimediff_pos_iff_off nxt s.sn a.sn hge (h.ge a ha)).mp h1
      have := (itimediff_pos_iff_off nxt a.sn b.sn (h.ge a ha) (h.ge b hb)).mp h2
      exact (itimediff_pos_iff_off nxt s.sn b.sn hge (h.ge b hb)).mpr (by omega)

/-- `InvR G sn0 k dl n`: `n` segments have been moved to the delivery side so far; `dl` is the ghost
list of the contents of the segments already popped by `recv` -/
structure InvR (G : U32 → Content) (sn0 : U32) (k : Kcp) (dl : List Content) (n : Nat) : Prop where
  nxt : k.rcv_nxt = sn0 + BitVec.ofNat 32 n
  pre : dl ++ k.rcv_queue.map content = gRange G sn0 n
  buf : BufOk G k.rcv_nxt k.rcv_buf

theorem InvR.congr {G : U32 → Content} {sn0 : U32} {k k' : Kcp} {dl : List Content} {n : Nat}
    (h : InvR G sn0 k dl n) (h1 : k'.rcv_nxt = k.rcv_nxt) (h2 : k'.rcv_queue = k.rcv_queue)
    (h3 : k'.rcv_buf = k.rcv_buf) : InvR G sn0 k' dl n :=
  ⟨by rw [h1]; exact h.nxt, by rw [h2]; exact h.pre, by rw [h1, h3]; exact h.buf⟩

theorem InvR.same {G : U32 → Content} {sn0 : U32} {k k' : Kcp} {dl : List Content} {n : Nat}
    (h : InvR G sn0 k dl n) (hs : RcvSame k k') : InvR G sn0 k' dl n :=
  h.congr hs.rcv_nxt hs.rcv_queue hs.rcv_buf

theorem InvR.count {G : U32 → Content} {sn0 : U32} {k : Kcp} {dl : List Content} {n : Nat}
    (h : InvR G sn0 k dl n) : n = dl.length + k.rcv_queue.length := by
  have := congrArg List.length h.pre
  simp [gRange_length] at this
  omega

theorem InvR.dl_eq {G : U32 → Content} {sn0 : U32} {k : Kcp} {dl : List Content} {n : Nat}
    (h : InvR G sn0 k dl n) : dl = gRange G sn0 dl.length := by
  rw [← gRange_take G sn0 n _ (by have := h.count; omega), ← h.pre, List.take_left]

theorem InvR.init (G : U32 → Content) (conv : U32) : InvR G 0 (Kcp.new conv) [] 0 :=
  ⟨by simp [Kcp.new], by simp [Kcp.new, gRange], BufOk.nil _ _⟩

theorem moveLoop_inv (G : U32 → Content) (sn0 : U32) (wnd : Nat) :
    ∀ (buf q : List Seg) (nxt : U32) (dl : List Content) (n : Nat),
      nxt = sn0 + BitVec.ofNat 32 n → dl ++ q.map content = gRange G sn0 n → BufOk G nxt buf →
      ∃ n', (moveLoop wnd buf q nxt).nxt = sn0 + BitVec.ofNat 32 n' ∧
        dl ++ (moveLoop wnd buf q nxt).q.map content = gRange G sn0 n' ∧
        BufOk G (moveLoop wnd buf q nxt).nxt (moveLoop wnd buf q nxt).buf ∧
        (wnd ≤ (moveLoop wnd buf q nxt).q.length ∨
          ∀ s ∈ (moveLoop wnd buf q nxt).buf, s.sn ≠ (moveLoop wnd buf q nxt).nxt) := by
  intro buf q nxt dl n h1 h2 h3
  obtain ⟨n', r1, r2, r3⟩ := moveLoop_carry
    (I := fun b q nxt => ∃ n, nxt = sn0 + BitVec.ofNat 32 n ∧ dl ++ q.map content = gRange G sn0 n ∧ BufOk G nxt b) wnd
    (fun s rest q nxt ⟨n, h1, h2, h3⟩ hs _ => by
      refine ⟨n + 1, ?_, ?_, h3.advance hs⟩
      · rw [h1]; simp only [BitVec.ofNat_add, BitVec.add_assoc]; rfl
      · rw [gRange_succ, List.map_append, ← List.append_assoc, h2]
        have : content s = G (sn0 + BitVec.ofNat 32 n) := by rw [h3.gen s (List.mem_cons_self ..), hs, h1]
        simp [this])
    buf q nxt ⟨n, h1, h2, h3⟩
  refine ⟨n', r1, r2, r3, ?_⟩
  -- the head does not carry `nxt` unless the queue is full (`moveLoop_eq`); the others lie above the head
  obtain ⟨m, _, e, _, _, hstop⟩ := moveLoop_eq wnd buf q nxt
  rw [e] at r3 ⊢
  by_cases hw : wnd ≤ (q ++ buf.take m).length
  · exact Or.inl hw
  · right
    intro x hx hxe
    cases hb : buf.drop m with
    | nil => rw [hb] at hx; cases hx
    | cons s rest =>
      rw [hb] at hx r3
      rcases List.mem_cons.mp hx with rfl | h4
      · have := hstop x rest hb hxe
        rw [List.length_append, List.length_take] at hw
        omega
      · have hp := (List.pairwise_cons.mp r3.off_sorted).1 x h4
        rw [hxe, (off_zero_iff _ _).mpr rfl] at hp
        omega

theorem moveReady_inv {G : U32 → Content} {sn0 : U32} {k : Kcp} {dl : List Content} {n : Nat}
    (h : InvR G sn0 k dl n) :
    ∃ n', InvR G sn0 (moveReady k) dl n' ∧
      (k.rcv_wnd.toNat ≤ (moveReady k).rcv_queue.length ∨
        ∀ s ∈ (moveReady k).rcv_buf, s.sn ≠ (moveReady k).rcv_nxt) := by
  obtain ⟨n', r1, r2, r3, r4⟩ :=
    moveLoop_inv G sn0 k.rcv_wnd.toNat k.rcv_buf k.rcv_queue k.rcv_nxt dl n h.nxt h.pre h.buf
  exact ⟨n', ⟨r1, r2, r3⟩, r4⟩

theorem parseData_inv {G : U32 → Content} {sn0 : U32} {k : Kcp} {dl : List Content} {n : Nat}
    (h : InvR G sn0 k dl n) (s : Seg) (hgen : content s = G s.sn) :
    ∃ n', InvR G sn0 (parseData k s).k dl n' := by
  have moved {k1 : Kcp} (h1 : InvR G sn0 k1 dl n) : ∃ n', InvR G sn0 (moveReady k1) dl n' :=
    let ⟨n', hi, _⟩ := moveReady_inv h1; ⟨n', hi⟩
  refine parseData_cases (P := fun r => ∃ n', InvR G sn0 r.k dl n') k s (fun _ => ⟨n, h⟩) (fun _ _ => moved h)
    (fun _ _ _ => ⟨n, h⟩) (fun hwin hdup _ => moved ⟨h.nxt, h.pre, h.buf.insert s hgen ?_ fun x hx hxe => hdup ?_⟩)
  · have : ¬ itimediff s.sn k.rcv_nxt < 0 := fun hc => hwin (Or.inr hc)
    omega
  · rw [List.any_eq_true]
    exact ⟨x, hx, by simp [hxe]⟩

theorem popCount_le (q : List Seg) : popCount q ≤ q.length := by
  induction q with
  | nil => exact Nat.le_refl _
  | cons s rest ih => unfold popCount; split <;> simp <;> omega

theorem popCount_pos (q : List Seg) (h : q ≠ []) : 0 < popCount q := by
  cases q with
  | nil => exact absurd rfl h
  | cons s rest => unfold popCount; split <;> omega

theorem popCount_frg_ne (q : List Seg) (i : Nat) (hi : i + 1 < popCount q) :
    ∃ s, q[i]? = some s ∧ s.frg ≠ 0 := by
  induction q generalizing i with
  | nil => simp [popCount] at hi
  | cons s rest ih =>
    unfold popCount at hi
    split at hi
    · omega
    · rename_i hne
      cases i with
      | zero => exact ⟨s, rfl, hne⟩
      | succ j =>
        obtain ⟨x, hx, hx0⟩ := ih j (by omega)
        exact ⟨x, by simpa using hx, hx0⟩

theorem popCount_last (q : List Seg) (h : q ≠ []) :
    (∃ s, q[popCount q - 1]? = some s ∧ s.frg = 0) ∨
      (popCount q = q.length ∧ ∀ s ∈ q, s.frg ≠ 0) := by
  induction q with
  | nil => exact absurd rfl h
  | cons s rest ih =>
    unfold popCount
    split
    · rename_i h0; left; exact ⟨s, rfl, h0⟩
    · rename_i hne
      cases rest with
      | nil =>
        right
        refine ⟨rfl, ?_⟩
        intro x hx
        rw [List.mem_singleton.mp hx]; exact hne
      | cons t rest' =>
        rcases ih (by simp) with ⟨x, hx, hx0⟩ | ⟨hl, hall⟩
        · left
          refine ⟨x, ?_, hx0⟩
          have hp := popCount_pos (t :: rest') (by simp)
          have : 1 + popCount (t :: rest') - 1 = (popCount (t :: rest') - 1) + 1 := by omega
          rw [this]; simpa using hx
        · right
          refine ⟨by simp [hl]; omega, ?_⟩
          intro x hx
          rcases List.mem_cons.mp hx with h1 | h1
          · rw [h1]; exact hne
          · exact hall x h1

theorem peekSize_neg_of_nil (k : Kcp) (h : k.rcv_queue = []) : k.peekSize < 0 := by
  unfold peekSize; rw [h]; decide

theorem peekSize_eq (k : Kcp) (h : ¬ k.peekSize < 0) :
    k.peekSize = ((popMsg k.rcv_queue).data.length : Int) := by
  rw [Kcp.peekSize_eq k h, popMsg_length]

theorem recvK_inv {G : U32 → Content} {sn0 : U32} {k : Kcp} {dl : List Content} {n : Nat}
    (h : InvR G sn0 k dl n) :
    ∃ n', InvR G sn0 (recvK k) (dl ++ (k.rcv_queue.take (popCount k.rcv_queue)).map content) n' := by
  have h' : InvR G sn0 { k with rcv_queue := (popMsg k.rcv_queue).rest }
      (dl ++ (k.rcv_queue.take (popCount k.rcv_queue)).map content) n := by
    refine ⟨h.nxt, ?_, h.buf⟩
    show _ ++ (popMsg k.rcv_queue).rest.map content = _
    rw [popMsg_rest, List.append_assoc, ← List.map_append, List.take_append_drop]
    exact h.pre
  obtain ⟨n', hi, _⟩ := moveReady_inv h'
  refine ⟨n', ?_⟩
  unfold recvK
  simp only []
  split
  · exact hi.congr rfl rfl rfl
  · exact hi

theorem recv_inv {G : U32 → Content} {sn0 : U32} {k : Kcp} {dl : List Content} {n : Nat}
    (h : InvR G sn0 k dl n) (buflen : Nat) :
    ((recv k buflen).n < 0 ∧ (recv k buflen).k = k ∧ (recv k buflen).data = []) ∨
    (0 ≤ (recv k buflen).n ∧ k.rcv_queue ≠ [] ∧
      (recv k buflen).data = ((k.rcv_queue.take (popCount k.rcv_queue)).map (·.data)).flatten ∧
      (recv k buflen).n = (recv k buflen).data.length ∧ (recv k buflen).data.length ≤ buflen ∧
      ∃ n',
        InvR G sn0 (recv k buflen).k
          (dl ++ (k.rcv_queue.take (popCount k.rcv_queue)).map content) n') := by
  by_cases h1 : k.peekSize < 0
  · left; rw [recv_fail1 k buflen h1]; exact ⟨show (-1 : Int) < 0 by decide, rfl, rfl⟩
  · by_cases h2 : k.peekSize > (buflen : Int)
    · left; rw [recv_fail2 k buflen h1 h2]; exact ⟨show (-2 : Int) < 0 by decide, rfl, rfl⟩
    · right
      rw [recv_ok k buflen h1 h2]
      have hne : k.rcv_queue ≠ [] := fun hc => h1 (peekSize_neg_of_nil k hc)
      have hlen := peekSize_eq k h1
      refine ⟨Int.natCast_nonneg _, hne, popMsg_data _, rfl, ?_, recvK_inv h⟩
      show (popMsg k.rcv_queue).data.length ≤ buflen
      omega

/-- every PUSH frame that the parse loop of `Input` reaches in `data` (same framing, same early
exits: short data, foreign `conv`, bad length, unknown command) carries the genuine content of its
sequence number.  Nothing is required of ACK / WASK / WINS frames, of the other header fields of a
PUSH frame, or of anything behind an early exit. -/
def GenuineFrames (G : U32 → Content) (conv : U32) : Nat → Bytes → Prop
  | 0, _ => True
  | fuel + 1, data =>
    if data.length < IKCP_OVERHEAD then True else
    if (parseHdr data).conv ≠ conv then True else
    if (data.drop IKCP_OVERHEAD).length < (parseHdr data).len ∨ (parseHdr data).len > mtuLimit then True else
    if ¬ validCmd (parseHdr data).cmd then True else
    ((parseHdr data).cmd.toNat = IKCP_CMD_PUSH →
        content (pushSeg (parseHdr data) (data.drop IKCP_OVERHEAD)) = G (parseHdr data).sn) ∧
      GenuineFrames G conv fuel ((data.drop IKCP_OVERHEAD).drop (parseHdr data).len)

/-- a datagram whose PUSH segments are all genuine: the adversary may drop, duplicate, reorder,
delay and replay datagrams, and inject arbitrary ACK/WASK/WINS segments, but cannot forge payload -/
def GenuineIn (G : U32 → Content) (conv : U32) (d : Bytes) : Prop :=
  GenuineFrames G conv (d.length / IKCP_OVERHEAD + 1) d

instance decGenuineFrames (G : U32 → Content) (conv : U32) :
    ∀ (fuel : Nat) (data : Bytes), Decidable (GenuineFrames G conv fuel data)
  | 0, _ => isTrue trivial
  | fuel + 1, data => by
    unfold GenuineFrames
    have := decGenuineFrames G conv fuel
    infer_instance

instance (G : U32 → Content) (conv : U32) (d : Bytes) : Decidable (GenuineIn G conv d) := by
  unfold GenuineIn; infer_instance

theorem inBody_inv {G : U32 → Content} {sn0 : U32} {st : InLoop} {dl : List Content} {n : Nat}
    (h : InvR G sn0 st.k dl n) (regular : Bool) (data : Bytes)
    (hgen : (parseHdr data).cmd.toNat = IKCP_CMD_PUSH →
      content (pushSeg (parseHdr data) (data.drop IKCP_OVERHEAD)) = G (parseHdr data).sn) :
    ∃ n', InvR G sn0 (inBody regular data st).k dl n' := by
  show ∃ n', InvR G sn0 (Live.inStepAt regular data st).k dl n'
  unfold Live.inStepAt
  refine Live.inStep_cases (P := fun k => ∃ n', InvR G sn0 k dl n') (Q := fun k => InvR G sn0 k dl n)
    regular _ _ _ _ _ _ _ _ st ?_ (fun _ k hk => ?_) (fun hp k hk _ _ => parseData_inv (by exact hk.congr rfl rfl rfl) _ (hgen hp))
    (fun _ k hk _ _ => ⟨n, hk.congr rfl rfl rfl⟩) (fun _ k hk _ => ⟨n, hk⟩) (fun _ k hk => ⟨n, hk.congr rfl rfl rfl⟩)
    (fun _ _ _ k hk => ⟨n, hk⟩)
  · obtain ⟨sb, su, e⟩ := Live.inPre_frame regular (rd16 data 6) (rd32 data 16) st.k
    rw [e]
    exact h.congr rfl rfl rfl
  · obtain ⟨b, u, e⟩ := ackPath_shape k (rd32 data 12) (rd32 data 8)
    rw [e]
    exact ⟨n, hk.congr rfl rfl rfl⟩

theorem inputLoop_inv (G : U32 → Content) (sn0 : U32) (regular : Bool) (dl : List Content) :
    ∀ (fuel : Nat) (data : Bytes) (st : InLoop) (n : Nat),
      InvR G sn0 st.k dl n → GenuineFrames G st.k.conv fuel data →
      ∃ n', InvR G sn0 (inputLoop regular fuel data st).k dl n' := by
  intro fuel
  induction fuel with
  | zero => intro data st n h _; exact ⟨n, h⟩
  | succ fuel ih =>
    intro data st n h hg
    rw [inputLoop_parse]
    unfold GenuineFrames at hg
    -- the four refusals leave the state as it is; behind them the frame is the one `GenuineFrames` speaks of
    let P (r : InLoop) : Prop := ∃ n', InvR G sn0 r.k dl n'
    refine ite_cases (P := P) (fun _ => ⟨n, h⟩) fun c1 => ite_cases (P := P) (fun _ => ⟨n, h⟩) fun c2 =>
      ite_cases (P := P) (fun _ => ⟨n, h⟩) fun c3 => ite_cases (P := P) (fun _ => ⟨n, h⟩) fun c4 => ?_
    rw [if_neg c1, if_neg c2, if_neg c3, if_neg c4] at hg
    obtain ⟨n1, h2⟩ := inBody_inv h regular data hg.1
    refine ite_ind (P := P) ⟨n1, h2⟩ (ih _ _ n1 h2 ?_)
    rw [(TxSame.steps.body regular data st).conv]
    exact hg.2

theorem input_inv {G : U32 → Content} {sn0 : U32} {k : Kcp} {dl : List Content} {n : Nat}
    (h : InvR G sn0 k dl n) (data : Bytes) (regular ackNoDelay : Bool) (now : U32)
    (hg : GenuineIn G k.conv data) :
    ∃ n', InvR G sn0 (input k data regular ackNoDelay now).k dl n' := by
  refine input_ind (Q := fun r => ∃ n', InvR G sn0 r.k dl n') (S := fun st => ∃ n', InvR G sn0 st.k dl n')
    (inputLoop_inv G sn0 regular dl _ data { k := k } n h hg) ⟨n, h⟩ (fun _ _ _ hs => hs) ?_ ackNoDelay
  intro st nd ⟨n', hi⟩
  have h2 := hi.same (inputK1_same st regular now k.snd_una).1
  exact inputFin_ind (Q := fun r => ∃ n', InvR G sn0 r.k dl n') (fun _ => ⟨n', h2.same (flush_keep _ _ _).rcvSame⟩)
    ⟨n', h2⟩ _ _

/-- the fragment countdown of the first `n` genuine segments is well formed: never 255 (the
sender cuts a message into at most 255 fragments, numbered 254 … 0) and each non-final fragment is
followed by the fragment with the next lower number -/
def FrgOk (G : U32 → Content) (sn0 : U32) (n : Nat) : Prop :=
  ∀ i, i < n → (G (sn0 + BitVec.ofNat 32 i)).1 ≠ 255 ∧
    (i + 1 < n → (G (sn0 + BitVec.ofNat 32 i)).1 ≠ 0 →
      (G (sn0 + BitVec.ofNat 32 (i + 1))).1 = (G (sn0 + BitVec.ofNat 32 i)).1 - 1)

theorem popCount_countdown (q : List Seg) (s0 : Seg) (h0 : q[0]? = some s0)
    (hcd : ∀ i a b, q[i]? = some a → q[i + 1]? = some b → a.frg ≠ 0 → b.frg = a.frg - 1)
    (hlen : s0.frg.toNat + 1 ≤ q.length) :
    ∃ s, q[popCount q - 1]? = some s ∧ s.frg = 0 ∧ popCount q = s0.frg.toNat + 1 := by
  induction q generalizing s0 with
  | nil => simp at h0
  | cons a rest ih =>
    have ha : a = s0 := by simpa using h0
    subst ha
    unfold popCount
    split
    · rename_i hz; exact ⟨a, rfl, hz, by rw [hz]; rfl⟩
    · rename_i hnz
      have hfpos : 0 < a.frg.toNat := by
        have : a.frg.toNat ≠ 0 := fun hc => hnz (by bv_omega)
        omega
      cases rest with
      | nil => simp at hlen; omega
      | cons b rest' =>
        have hb : b.frg = a.frg - 1 := hcd 0 a b rfl rfl hnz
        have hbn : b.frg.toNat = a.frg.toNat - 1 := by rw [hb]; bv_omega
        obtain ⟨s, hs, hs0, hpc⟩ := ih b rfl
          (fun i x y hx hy hxn => hcd (i + 1) x y (by simpa using hx) (by simpa using hy) hxn)
          (by simp at hlen ⊢; omega)
        have hp := popCount_pos (b :: rest') (by simp)
        refine ⟨s, ?_, hs0, by omega⟩
        have : 1 + popCount (b :: rest') - 1 = (popCount (b :: rest') - 1) + 1 := by omega
        rw [this]; simpa using hs

theorem peekSize_len (k : Kcp) (s : Seg) (rest : List Seg) (hq : k.rcv_queue = s :: rest)
    (h : ¬ k.peekSize < 0) (hnz : s.frg ≠ 0) : ¬ k.rcv_queue.length < (s.frg + 1).toNat := by
  unfold peekSize at h
  rw [hq] at h
  simp only [] at h
  rw [if_neg hnz] at h
  intro hc
  rw [hq] at hc
  rw [if_pos hc] at h
  exact h (by decide)

theorem InvR.queue_get {G : U32 → Content} {sn0 : U32} {k : Kcp} {dl : List Content} {n : Nat}
    (h : InvR G sn0 k dl n) (i : Nat) (s : Seg) (hs : k.rcv_queue[i]? = some s) :
    content s = G (sn0 + BitVec.ofNat 32 (dl.length + i)) ∧ dl.length + i < n := by
  have hi : i < k.rcv_queue.length := lt_of_getElem? hs
  have hn := h.count
  have h1 : (dl ++ k.rcv_queue.map content)[dl.length + i]? = some (content s) := by
    rw [List.getElem?_append_right (by omega)]
    simp [hs]
  rw [h.pre, gRange_get G sn0 n _ (by omega)] at h1
  exact ⟨(Option.some.inj h1).symm, by omega⟩

theorem InvR.queue_frg {G : U32 → Content} {sn0 : U32} {k : Kcp} {dl : List Content} {n : Nat}
    (h : InvR G sn0 k dl n) {i : Nat} {s : Seg} (hs : k.rcv_queue[i]? = some s) :
    s.frg = (G (sn0 + BitVec.ofNat 32 (dl.length + i))).1 :=
  congrArg Prod.fst (h.queue_get i s hs).1

/-- a successful `Recv` returns exactly one message: `j = f + 1` segments, `f` the fragment number of the first -/
theorem recv_msg {G : U32 → Content} {sn0 : U32} {k : Kcp} {dl : List Content} {n : Nat}
    (h : InvR G sn0 k dl n) (hf : FrgOk G sn0 n) (buflen : Nat) (hok : 0 ≤ (recv k buflen).n) :
    ∃ j, 1 ≤ j ∧ dl.length + j ≤ n ∧ popCount k.rcv_queue = j ∧
      j = (G (sn0 + BitVec.ofNat 32 dl.length)).1.toNat + 1 ∧
      (recv k buflen).data = ((k.rcv_queue.take j).map (·.data)).flatten ∧
      (k.rcv_queue.take j).map content = (gRange G sn0 (dl.length + j)).drop dl.length ∧
      (∀ i, i + 1 < j → (G (sn0 + BitVec.ofNat 32 (dl.length + i))).1 ≠ 0) ∧
      (G (sn0 + BitVec.ofNat 32 (dl.length + j - 1))).1 = 0 := by
  rcases recv_inv h buflen with ⟨hneg, _, _⟩ | ⟨_, hne, hdata, _, _, _⟩
  · omega
  · have h1 : ¬ k.peekSize < 0 := by
      intro hc; rw [recv_fail1 k buflen hc] at hok
      exact absurd hok (show ¬ (0 : Int) ≤ -1 by decide)
    obtain ⟨s0, rest, hq⟩ := List.exists_cons_of_ne_nil hne
    have hs0 := h.queue_get 0 s0 (by rw [hq]; rfl)
    have hfrg0 : s0.frg = (G (sn0 + BitVec.ofNat 32 dl.length)).1 := h.queue_frg (i := 0) (by rw [hq]; rfl)
    -- the queue is a countdown (`FrgOk`), and `peekSize ≥ 0` says it holds the `frg + 1` segments of its first message
    -- (`peekSize_len`): so the merge loop pops exactly these (`popCount_countdown`)
    have hcd : ∀ i a b, k.rcv_queue[i]? = some a → k.rcv_queue[i + 1]? = some b → a.frg ≠ 0 →
        b.frg = a.frg - 1 := by
      intro i a b ha hb hnz
      have ga := h.queue_get i a ha
      have gb := h.queue_get (i + 1) b hb
      have fa := h.queue_frg ha
      have fb : b.frg = (G (sn0 + BitVec.ofNat 32 (dl.length + i + 1))).1 := by rw [h.queue_frg hb, Nat.add_assoc]
      rw [fa, fb]
      exact (hf (dl.length + i) ga.2).2 (by have := gb.2; omega) (by rw [← fa]; exact hnz)
    have hlen : s0.frg.toNat + 1 ≤ k.rcv_queue.length := by
      by_cases hz : s0.frg = 0
      · rw [hz, hq]; simp
      · have h255 : s0.frg ≠ 255 := by rw [hfrg0]; exact (hf dl.length (by have := hs0.2; omega)).1
        have := peekSize_len k s0 rest hq h1 hz
        have h2 : (s0.frg + 1).toNat = s0.frg.toNat + 1 := by
          have : s0.frg.toNat ≠ 255 := fun hc => h255 (by bv_omega)
          bv_omega
        omega
    obtain ⟨sl, hsl, hsl0, hpc⟩ := popCount_countdown k.rcv_queue s0 (by rw [hq]; rfl) hcd hlen
    have hple := popCount_le k.rcv_queue
    have hcnt := h.count
    refine ⟨popCount k.rcv_queue, by omega, by omega, rfl, by rw [hpc, hfrg0], ?_, ?_, ?_, ?_⟩
    · exact hdata
    · have e1 : (gRange G sn0 (dl.length + popCount k.rcv_queue)) =
          (gRange G sn0 n).take (dl.length + popCount k.rcv_queue) := (gRange_take G sn0 n _ (by omega)).symm
      rw [e1, ← h.pre, List.take_length_add_append, List.drop_left, List.map_take]
    · intro i hi
      obtain ⟨x, hx, hxn⟩ := popCount_frg_ne k.rcv_queue i hi
      rw [← h.queue_frg hx]; exact hxn
    · have e : dl.length + popCount k.rcv_queue - 1 = dl.length + (popCount k.rcv_queue - 1) := by omega
      rw [e, ← h.queue_frg hsl]; exact hsl0

end KcpVerif.Recv
