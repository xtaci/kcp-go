/-
`inputLoop` cut into header validation and the per-segment step `inStep`, which takes the header fields as
arguments, as the closed system needs it (at the front of the bytes it is `Kcp.inBody`); an induction principle
for the whole loop; the frame of one step and what it does to the send side.  Core Lean only.
-/
import KcpVerif.Lemmas.KcpLoops
import KcpVerif.Lemmas.KcpStages

namespace KcpVerif.Live
open KcpVerif.Gen KcpVerif.Kcp

/-- what one valid segment does to the loop state (`st2` of the model); `payload` is the
`length` bytes after the header -/
def inStep (regular : Bool) (conv : U32) (cmd frg : BitVec 8) (wnd : BitVec 16) (ts sn una : U32)
    (payload : Bytes) (st : InLoop) : InLoop :=
  let k1 := if regular then { st.k with rmt_wnd := wnd.setWidth 32 } else st.k
  let pu := parseUna k1 una
  let st1 := { st with k := shrinkBuf pu.1, flushSeg := st.flushSeg || decide (pu.2 > 0) }
  if cmd.toNat = IKCP_CMD_ACK then
    let k2 := shrinkBuf (parseAck st1.k sn)
    let pf := parseFastack k2 sn ts
    { st1 with k := pf.1, flushSeg := st1.flushSeg || pf.2, updRtt := true, latest := ts }
  else if cmd.toNat = IKCP_CMD_PUSH then
    if itimediff sn (st1.k.rcv_nxt + st1.k.rcv_wnd) < 0 then
      let k2 := { st1.k with acklist := st1.k.acklist ++ [⟨sn, ts⟩] }
      if itimediff sn k2.rcv_nxt ≥ 0 then
        let r := parseData k2 { conv := conv, cmd := cmd, frg := frg, wnd := wnd, ts := ts, sn := sn, una := una,
                                data := payload }
        { st1 with k := r.k, panic := r.panic }
      else { st1 with k := k2 }
    else st1
  else if cmd.toNat = IKCP_CMD_WASK then
    { st1 with k := { st1.k with probe := st1.k.probe ||| u32 IKCP_ASK_TELL } }
  else st1

def inStepAt (regular : Bool) (data : Bytes) (st : InLoop) : InLoop :=
  inStep regular (rd32 data 0) (BitVec.ofNat 8 (byteAt data 4)) (BitVec.ofNat 8 (byteAt data 5)) (rd16 data 6)
    (rd32 data 8) (rd32 data 12) (rd32 data 16) ((data.drop IKCP_OVERHEAD).take (rd32 data 20).toNat) st

def validCmd (c : BitVec 8) : Prop :=
  c.toNat = IKCP_CMD_PUSH ∨ c.toNat = IKCP_CMD_ACK ∨ c.toNat = IKCP_CMD_WASK ∨ c.toNat = IKCP_CMD_WINS

theorem inputLoop_succ (regular : Bool) (fuel : Nat) (data : Bytes) (st : InLoop) :
    inputLoop regular (fuel + 1) data st =
      if data.length < IKCP_OVERHEAD then st else
      if rd32 data 0 ≠ st.k.conv then { st with ret := -1 } else
      if (data.drop IKCP_OVERHEAD).length < (rd32 data 20).toNat ∨ (rd32 data 20).toNat > mtuLimit then { st with ret := -2 } else
      if (BitVec.ofNat 8 (byteAt data 4)).toNat ≠ IKCP_CMD_PUSH ∧ (BitVec.ofNat 8 (byteAt data 4)).toNat ≠ IKCP_CMD_ACK ∧
         (BitVec.ofNat 8 (byteAt data 4)).toNat ≠ IKCP_CMD_WASK ∧ (BitVec.ofNat 8 (byteAt data 4)).toNat ≠ IKCP_CMD_WINS then
        { st with ret := -3 } else
      if (inStepAt regular data st).panic then inStepAt regular data st else
      inputLoop regular fuel ((data.drop IKCP_OVERHEAD).drop (rd32 data 20).toNat) (inStepAt regular data st) := rfl

theorem inputLoop_induct (regular : Bool) (P : InLoop → Prop)
    (hret : ∀ st r, P st → P { st with ret := r })
    (hstep : ∀ conv cmd frg wnd ts sn una payload st, conv = st.k.conv → validCmd cmd → payload.length ≤ mtuLimit →
      P st → P (inStep regular conv cmd frg wnd ts sn una payload st))
    (fuel : Nat) (data : Bytes) (st : InLoop) (h : P st) : P (inputLoop regular fuel data st) := by
  induction fuel generalizing data st with
  | zero => exact h
  | succ n ih =>
    rw [inputLoop_succ]
    refine ite_ind (P := P) h (ite_cases (fun _ => hret _ _ h) fun hconv => ite_cases (fun _ => hret _ _ h) fun hlen =>
      ite_cases (fun _ => hret _ _ h) fun hcmd => ?_)
    have hv : validCmd (BitVec.ofNat 8 (byteAt data 4)) := by
      unfold validCmd
      omega
    have hl : ((data.drop IKCP_OVERHEAD).take (rd32 data 20).toNat).length ≤ mtuLimit := by
      rw [List.length_take]; omega
    have hs : P (inStepAt regular data st) :=
      hstep _ _ _ _ _ _ _ _ st (Classical.not_not.mp hconv) hv hl h
    exact ite_ind (P := P) hs (ih _ _ hs)

/-- the connection after the common prologue of a step: window learned, `una` processed -/
def inPre (regular : Bool) (wnd : BitVec 16) (una : U32) (k : Kcp) : Kcp :=
  shrinkBuf (parseUna (if regular then { k with rmt_wnd := wnd.setWidth 32 } else k) una).1

theorem inPre_eq (regular : Bool) (wnd : BitVec 16) (una : U32) (k : Kcp) :
    inPre regular wnd una k =
      { (if regular then { k with rmt_wnd := wnd.setWidth 32 } else k) with
        snd_buf := dropAcked (k.snd_buf.drop (unaCount una k.snd_buf)),
        snd_una := headSn k.snd_nxt (dropAcked (k.snd_buf.drop (unaCount una k.snd_buf))) } := by
  unfold inPre
  rw [shrinkUna_eq]
  cases regular <;> rfl

theorem inPre_frame (regular : Bool) (wnd : BitVec 16) (una : U32) (k : Kcp) :
    ∃ sb su, inPre regular wnd una k =
      { k with rmt_wnd := if regular then wnd.setWidth 32 else k.rmt_wnd, snd_buf := sb, snd_una := su } := by
  rw [inPre_eq]
  cases regular <;> exact ⟨_, _, rfl⟩

def pushSeg (conv : U32) (cmd frg : BitVec 8) (wnd : BitVec 16) (ts sn una : U32) (payload : Bytes) : Seg :=
  { conv := conv, cmd := cmd, frg := frg, wnd := wnd, ts := ts, sn := sn, una := una, data := payload }

/-- the count `parse_una` returns: a positive one asks for the closing flush of `Input` -/
def inCnt (regular : Bool) (wnd : BitVec 16) (una : U32) (k : Kcp) : Nat :=
  (parseUna (if regular then { k with rmt_wnd := wnd.setWidth 32 } else k) una).2

section
variable (regular : Bool) (conv : U32) (cmd frg : BitVec 8) (wnd : BitVec 16) (ts sn una : U32)
  (payload : Bytes) (st : InLoop)

theorem inStep_eq :
    inStep regular conv cmd frg wnd ts sn una payload st =
      if cmd.toNat = IKCP_CMD_ACK then
        { st with k := (parseFastack (shrinkBuf (parseAck (inPre regular wnd una st.k) sn)) sn ts).1,
                  flushSeg := (st.flushSeg || decide (inCnt regular wnd una st.k > 0)) ||
                    (parseFastack (shrinkBuf (parseAck (inPre regular wnd una st.k) sn)) sn ts).2,
                  updRtt := true, latest := ts }
      else if cmd.toNat = IKCP_CMD_PUSH then
        if itimediff sn ((inPre regular wnd una st.k).rcv_nxt + (inPre regular wnd una st.k).rcv_wnd) < 0 then
          if itimediff sn (inPre regular wnd una st.k).rcv_nxt ≥ 0 then
            { st with
              k := (parseData { inPre regular wnd una st.k with acklist := (inPre regular wnd una st.k).acklist ++ [⟨sn, ts⟩] }
                (pushSeg conv cmd frg wnd ts sn una payload)).k,
              flushSeg := st.flushSeg || decide (inCnt regular wnd una st.k > 0),
              panic := (parseData { inPre regular wnd una st.k with acklist := (inPre regular wnd una st.k).acklist ++ [⟨sn, ts⟩] }
                (pushSeg conv cmd frg wnd ts sn una payload)).panic }
          else { st with k := { inPre regular wnd una st.k with acklist := (inPre regular wnd una st.k).acklist ++ [⟨sn, ts⟩] },
                         flushSeg := st.flushSeg || decide (inCnt regular wnd una st.k > 0) }
        else { st with k := inPre regular wnd una st.k, flushSeg := st.flushSeg || decide (inCnt regular wnd una st.k > 0) }
      else if cmd.toNat = IKCP_CMD_WASK then
        { st with k := { inPre regular wnd una st.k with probe := (inPre regular wnd una st.k).probe ||| u32 IKCP_ASK_TELL },
                  flushSeg := st.flushSeg || decide (inCnt regular wnd una st.k > 0) }
      else { st with k := inPre regular wnd una st.k, flushSeg := st.flushSeg || decide (inCnt regular wnd una st.k > 0) } :=
  rfl

theorem inStep_k :
    (inStep regular conv cmd frg wnd ts sn una payload st).k =
      if cmd.toNat = IKCP_CMD_ACK then
        (parseFastack (shrinkBuf (parseAck (inPre regular wnd una st.k) sn)) sn ts).1
      else if cmd.toNat = IKCP_CMD_PUSH then
        if itimediff sn ((inPre regular wnd una st.k).rcv_nxt + (inPre regular wnd una st.k).rcv_wnd) < 0 then
          if itimediff sn (inPre regular wnd una st.k).rcv_nxt ≥ 0 then
            (parseData { inPre regular wnd una st.k with acklist := (inPre regular wnd una st.k).acklist ++ [⟨sn, ts⟩] }
              (pushSeg conv cmd frg wnd ts sn una payload)).k
          else { inPre regular wnd una st.k with acklist := (inPre regular wnd una st.k).acklist ++ [⟨sn, ts⟩] }
        else inPre regular wnd una st.k
      else if cmd.toNat = IKCP_CMD_WASK then
        { inPre regular wnd una st.k with probe := (inPre regular wnd una st.k).probe ||| u32 IKCP_ASK_TELL }
      else inPre regular wnd una st.k := by
  rw [inStep_eq]
  simp only [apply_ite InLoop.k]

/-- `Q` is what is known after the prologue, so that no branch has to mention `inPre` -/
theorem inStep_cases {P Q : Kcp → Prop} (hQ : Q (inPre regular wnd una st.k))
    (hack : cmd.toNat = IKCP_CMD_ACK → ∀ k, Q k → P (parseFastack (shrinkBuf (parseAck k sn)) sn ts).1)
    (hdata : cmd.toNat = IKCP_CMD_PUSH → ∀ k, Q k → itimediff sn (k.rcv_nxt + k.rcv_wnd) < 0 →
      itimediff sn k.rcv_nxt ≥ 0 →
      P (parseData { k with acklist := k.acklist ++ [⟨sn, ts⟩] } (pushSeg conv cmd frg wnd ts sn una payload)).k)
    (hstale : cmd.toNat = IKCP_CMD_PUSH → ∀ k, Q k → itimediff sn (k.rcv_nxt + k.rcv_wnd) < 0 →
      ¬ itimediff sn k.rcv_nxt ≥ 0 → P { k with acklist := k.acklist ++ [⟨sn, ts⟩] })
    (hrefused : cmd.toNat = IKCP_CMD_PUSH → ∀ k, Q k → ¬ itimediff sn (k.rcv_nxt + k.rcv_wnd) < 0 → P k)
    (hwask : cmd.toNat = IKCP_CMD_WASK → ∀ k, Q k → P { k with probe := k.probe ||| u32 IKCP_ASK_TELL })
    (hother : ¬ cmd.toNat = IKCP_CMD_ACK → ¬ cmd.toNat = IKCP_CMD_PUSH → ¬ cmd.toNat = IKCP_CMD_WASK →
      ∀ k, Q k → P k) :
    P (inStep regular conv cmd frg wnd ts sn una payload st).k := by
  rw [inStep_k]
  exact ite_cases (fun a => hack a _ hQ) fun a =>
    ite_cases (fun p => ite_cases (fun w => ite_cases (hdata p _ hQ w) (hstale p _ hQ w)) (hrefused p _ hQ)) fun p =>
      ite_cases (fun w => hwask w _ hQ) fun w => hother a p w _ hQ

theorem inStep_ind {P Q : Kcp → Prop} (hQ : Q (inPre regular wnd una st.k))
    (hack : ∀ k, Q k → P (parseFastack (shrinkBuf (parseAck k sn)) sn ts).1)
    (hdata : ∀ k, Q k → P (parseData { k with acklist := k.acklist ++ [⟨sn, ts⟩] } (pushSeg conv cmd frg wnd ts sn una payload)).k)
    (hpush : ∀ k, Q k → P { k with acklist := k.acklist ++ [⟨sn, ts⟩] })
    (hwask : ∀ k, Q k → P { k with probe := k.probe ||| u32 IKCP_ASK_TELL })
    (hpre : ∀ k, Q k → P k) :
    P (inStep regular conv cmd frg wnd ts sn una payload st).k :=
  inStep_cases regular conv cmd frg wnd ts sn una payload st hQ (fun _ => hack) (fun _ k q _ _ => hdata k q)
    (fun _ k q _ _ => hpush k q) (fun _ k q _ => hpre k q) (fun _ => hwask) (fun _ _ _ => hpre)

theorem _root_.KcpVerif.Kcp.LoopSteps.inStep {R : Kcp → Kcp → Prop} (h : Kcp.LoopSteps R) :
    R st.k (inStep regular conv cmd frg wnd ts sn una payload st).k := by
  have hQ : R st.k (inPre regular wnd una st.k) :=
    h.trans (ite_ind (P := R st.k) (h.rmtWnd _ _) (h.refl _)) (h.una _ _)
  exact inStep_ind (P := R st.k) (Q := R st.k) regular conv cmd frg wnd ts sn una payload st hQ
    (fun k hk => h.trans hk (h.ack k sn ts)) (fun k hk => h.trans hk (h.trans (h.acklist k _) (h.data _ _)))
    (fun k hk => h.trans hk (h.acklist k _)) (fun k hk => h.trans hk (h.probe k)) (fun _ hk => hk)

theorem inStepAt_eq_inBody (data : Bytes) : inStepAt regular data st = inBody regular data st := rfl

theorem inPre_eq_inSt1 : inPre regular wnd una st.k = (inSt1 regular wnd una st).k := rfl

/-- the fields a step can write after its prologue -/
def StepShape (k k' : Kcp) : Prop :=
  ∃ sb su al rb rq rn pr, k' = { k with snd_buf := sb, snd_una := su, acklist := al, rcv_buf := rb, rcv_queue := rq,
                                        rcv_nxt := rn, probe := pr }

theorem StepShape.set (k : Kcp) (al : List Ack) (pr : U32) : StepShape k { k with acklist := al, probe := pr } :=
  ⟨k.snd_buf, k.snd_una, al, k.rcv_buf, k.rcv_queue, k.rcv_nxt, pr, rfl⟩

theorem inStep_shape :
    StepShape (inPre regular wnd una st.k) (inStep regular conv cmd frg wnd ts sn una payload st).k := by
  refine inStep_ind (P := StepShape (inPre regular wnd una st.k)) (Q := fun k => k = inPre regular wnd una st.k)
    regular conv cmd frg wnd ts sn una payload st rfl ?_ ?_ ?_ ?_ ?_
  · intro k e
    obtain ⟨b, u, ha⟩ := ackPath_shape k sn ts
    rw [ha, e]; exact ⟨b, u, _, _, _, _, _, rfl⟩
  · intro k e
    obtain ⟨rq, rb, rn, hd⟩ := parseData_shape { k with acklist := k.acklist ++ [⟨sn, ts⟩] }
      (pushSeg conv cmd frg wnd ts sn una payload)
    rw [hd, e]; exact ⟨_, _, _, rb, rq, rn, _, rfl⟩
  · intro k e; rw [e]; exact StepShape.set _ _ _
  · intro k e; rw [e]; exact StepShape.set _ _ _
  · intro k e; rw [e]; exact ⟨_, _, _, _, _, _, _, rfl⟩

theorem inStep_frame :
    ∃ sb su al rb rq rn pr, (inStep regular conv cmd frg wnd ts sn una payload st).k =
      { st.k with rmt_wnd := if regular then wnd.setWidth 32 else st.k.rmt_wnd, snd_buf := sb, snd_una := su,
                  acklist := al, rcv_buf := rb, rcv_queue := rq, rcv_nxt := rn, probe := pr } := by
  obtain ⟨sb, su, hp⟩ := inPre_frame regular wnd una st.k
  obtain ⟨sb', su', al, rb, rq, rn, pr, h⟩ := inStep_shape regular conv cmd frg wnd ts sn una payload st
  exact ⟨sb', su', al, rb, rq, rn, pr, by rw [h, hp]⟩
end

/-- what `Input` can do to the send side: segments leave the buffer, those that stay are written in `acked`,
`fastack`, `data` only; the queue and `snd_nxt` are untouched -/
def SndMarked (k k' : Kcp) : Prop :=
  Marked k.snd_buf k'.snd_buf ∧ k'.snd_queue = k.snd_queue ∧ k'.snd_nxt = k.snd_nxt

theorem SndMarked.trans {a b c : Kcp} (h1 : SndMarked a b) (h2 : SndMarked b c) : SndMarked a c :=
  ⟨h1.1.trans h2.1, h2.2.1.trans h1.2.1, h2.2.2.trans h1.2.2⟩

theorem shrinkBuf_marked (k : Kcp) : SndMarked k (shrinkBuf k) := by
  rw [shrinkBuf_eq]; exact ⟨Marked.of_subset (dropAcked_subset _), rfl, rfl⟩

theorem shrinkUna_marked (k : Kcp) (una : U32) : SndMarked k (shrinkBuf (parseUna k una).1) :=
  SndMarked.trans (b := (parseUna k una).1) ⟨Marked.of_subset (fun _ hx => List.mem_of_mem_drop hx), rfl, rfl⟩
    (shrinkBuf_marked _)

theorem ackPath_marked (k : Kcp) (sn ts : U32) : SndMarked k (parseFastack (shrinkBuf (parseAck k sn)) sn ts).1 := by
  have h1 : SndMarked k (parseAck k sn) :=
    ite_ind (P := SndMarked k) ⟨Marked.refl _, rfl, rfl⟩ ⟨ackLoop_marked sn _, rfl, rfl⟩
  refine (h1.trans (shrinkBuf_marked _)).trans ?_
  exact ite_ind (P := fun r : Kcp × Bool => SndMarked (shrinkBuf (parseAck k sn)) r.1) ⟨Marked.refl _, rfl, rfl⟩
    ⟨fastLoop_marked sn ts _ _, rfl, rfl⟩

theorem SndMarked.loopSteps : Kcp.LoopSteps SndMarked where
  refl k := ⟨Marked.refl _, rfl, rfl⟩
  trans := SndMarked.trans
  rmtWnd k _ := ⟨Marked.refl _, rfl, rfl⟩
  una := shrinkUna_marked
  ack := ackPath_marked
  acklist k _ := ⟨Marked.refl _, rfl, rfl⟩
  data k s := by
    obtain ⟨q, b, n, e⟩ := parseData_shape k s
    rw [e]; exact ⟨Marked.refl _, rfl, rfl⟩
  probe k := ⟨Marked.refl _, rfl, rfl⟩

theorem inStep_marked (regular : Bool) (conv : U32) (cmd frg : BitVec 8) (wnd : BitVec 16) (ts sn una : U32)
    (payload : Bytes) (st : InLoop) : SndMarked st.k (inStep regular conv cmd frg wnd ts sn una payload st).k :=
  SndMarked.loopSteps.inStep regular conv cmd frg wnd ts sn una payload st

/-- the parse loop of `Input` from the initial loop state; the fuel is the number of headers the bytes can hold -/
def inSt (k : Kcp) (data : Bytes) (regular : Bool) : InLoop :=
  inputLoop regular (data.length / IKCP_OVERHEAD + 1) data { k := k }

/-- the connection after the RTT sample and the cwnd update, before the closing flush -/
def inK2 (k : Kcp) (data : Bytes) (regular : Bool) (now : U32) : Kcp :=
  cwndOnAck
    (if (inSt k data regular).updRtt ∧ regular ∧ itimediff now (inSt k data regular).latest ≥ 0
     then updateAck (inSt k data regular).k (now - (inSt k data regular).latest) else (inSt k data regular).k)
    k.snd_una

theorem inK2_eq_inputK1 (k : Kcp) (data : Bytes) (regular : Bool) (now : U32) :
    inK2 k data regular now = cwndOnAck (inputK1 (inSt k data regular) regular now) k.snd_una := rfl

theorem input_eq (k : Kcp) (data : Bytes) (regular ackNoDelay : Bool) (now : U32) :
    input k data regular ackNoDelay now =
      if data.length < IKCP_OVERHEAD then ⟨k, -1, [], false⟩ else
      if (inSt k data regular).panic then ⟨(inSt k data regular).k, 0, [], true⟩ else
      if (inSt k data regular).ret < 0 then ⟨(inSt k data regular).k, (inSt k data regular).ret, [], false⟩ else
      if (inSt k data regular).flushSeg then
        ⟨(flush (inK2 k data regular now) true now).k, 0, (flush (inK2 k data regular now) true now).outs,
          (flush (inK2 k data regular now) true now).panic⟩
      else if (inK2 k data regular now).acklist.length ≥ ((inK2 k data regular now).mtu / u32 IKCP_OVERHEAD).toNat then
        ⟨(flush (inK2 k data regular now) false now).k, 0, (flush (inK2 k data regular now) false now).outs,
          (flush (inK2 k data regular now) false now).panic⟩
      else if ackNoDelay ∧ (inK2 k data regular now).acklist.length > 0 then
        ⟨(flush (inK2 k data regular now) false now).k, 0, (flush (inK2 k data regular now) false now).outs,
          (flush (inK2 k data regular now) false now).panic⟩
      else ⟨inK2 k data regular now, 0, [], false⟩ := rfl

end KcpVerif.Live
