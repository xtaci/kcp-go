/-
Send-side accounting for C01 (DESIGN.md 7.1 item 1, second half), in both modes: the bytes `Send` has taken so far are
exactly the payload bytes of `L ++ snd_queue` (numbered segments followed by the queued ones), in order.  The tool is
`step_sender`: every step is an accepted `Send` or leaves `pend` and both accounts alone.
-/
import KcpVerif.Lemmas.C01Ops
import KcpVerif.Lemmas.C01Sys

namespace KcpVerif.C01
open KcpVerif.Gen KcpVerif.Kcp KcpVerif.Frame KcpVerif.Recv KcpVerif.Send KcpVerif.Wire


theorem flush_queue (k : Kcp) (full : Bool) (now : U32) :
    ∃ j, j ≤ k.snd_queue.length ∧ (flush k full now).k.snd_queue = k.snd_queue.drop j :=
  (TxSame.steps.flush k full now).queue

theorem input_queue (k : Kcp) (data : Bytes) (regular ackNoDelay : Bool) (now : U32) :
    ∃ j, j ≤ k.snd_queue.length ∧ (input k data regular ackNoDelay now).k.snd_queue = k.snd_queue.drop j :=
  (TxSame.steps.input k data regular ackNoDelay now).queue

theorem update_queue (k : Kcp) (now : U32) :
    ∃ j, j ≤ k.snd_queue.length ∧ (update k now).k.snd_queue = k.snd_queue.drop j :=
  (TxSame.steps.update k now).queue

theorem pending_eq (L : List Content) (k k' : Kcp) (j : Nat) (hj : j ≤ k.snd_queue.length)
    (h : k'.snd_queue = k.snd_queue.drop j) :
    (L ++ admitted k k') ++ k'.snd_queue.map content = L ++ k.snd_queue.map content := by
  rw [admitted_drop k k' j hj h, h, List.append_assoc, ← List.map_append, List.take_append_drop]

structure Cfg (k k' : Kcp) : Prop where
  mss    : k'.mss = k.mss
  stream : k'.stream = k.stream

theorem Cfg.trans {a b c : Kcp} (h1 : Cfg a b) (h2 : Cfg b c) : Cfg a c :=
  ⟨h2.mss.trans h1.mss, h2.stream.trans h1.stream⟩

theorem input_cfg (k : Kcp) (data : Bytes) (regular ackNoDelay : Bool) (now : U32) :
    Cfg k (input k data regular ackNoDelay now).k :=
  ⟨(TxSame.steps.input k data regular ackNoDelay now).mss, (TxSame.steps.input k data regular ackNoDelay now).stream⟩

theorem setMtu_stream (k : Kcp) (mtu : Int) : (setMtu k mtu).1.stream = k.stream := by
  obtain ⟨_, _, _, e⟩ := setMtu_shape k mtu
  rw [e]

theorem noDelay_cfg (k : Kcp) (a b c d : Int) : Cfg k (noDelay k a b c d) := by
  obtain ⟨_, _, _, _, _, e⟩ := noDelay_shape k a b c d
  rw [e]
  exact ⟨rfl, rfl⟩

theorem wndSize_cfg (k : Kcp) (a b : Int) : Cfg k (wndSize k a b) := by
  obtain ⟨_, _, e⟩ := wndSize_shape k a b
  rw [e]
  exact ⟨rfl, rfl⟩

def qbytes (q : List Seg) : Bytes := bytesOf (q.map content)

theorem qbytes_append (a b : List Seg) : qbytes (a ++ b) = qbytes a ++ qbytes b := by
  unfold qbytes; rw [List.map_append, bytesOf_append]

theorem qbytes_single (s : Seg) : qbytes [s] = s.data := by
  simp [qbytes, bytesOf, content]

theorem sendQ1_bytes (k : Kcp) (buffer : Bytes) :
    qbytes (sendQ1 k buffer) = qbytes k.snd_queue ++ buffer.take (sendExt k buffer) := by
  rcases sendQ1_shape k buffer with ⟨h0, e⟩ | ⟨ys, x, hys, _, e⟩
  · rw [e, h0]; simp
  · rw [e, hys, qbytes_append, qbytes_append, qbytes_single, qbytes_single, List.append_assoc]

theorem mkSegs_bytes (mss : Nat) (st : Bool) : ∀ (c : Nat) (buf : Bytes),
    qbytes (mkSegs mss st c buf) = buf.take (c * mss) := by
  intro c
  induction c with
  | zero => intro buf; simp [mkSegs, qbytes, bytesOf]
  | succ c ih =>
    intro buf
    unfold mkSegs
    have e : ∀ (s : Seg) (l : List Seg), qbytes (s :: l) = s.data ++ qbytes l := by
      intro s l; simp [qbytes, bytesOf, content]
    rw [e, ih]
    simp only []
    have : (c + 1) * mss = mss + c * mss := by rw [Nat.add_mul]; omega
    rw [this, List.take_add]

theorem sendNew_bytes (k : Kcp) (buffer : Bytes) (hm : 0 < k.mss.toNat) :
    qbytes (sendNew k buffer) = sendRest k buffer := by
  unfold sendNew
  rw [mkSegs_bytes]
  apply List.take_of_length_le
  generalize hr : (sendRest k buffer).length = len
  have hc : len ≤ sendCount k buffer * k.mss.toNat := by
    unfold sendCount
    rw [hr]
    split
    · omega
    · have h1 := Nat.div_add_mod (len + k.mss.toNat - 1) k.mss.toNat
      have h2 := Nat.mod_lt (len + k.mss.toNat - 1) hm
      rw [Nat.mul_comm] at h1
      generalize (len + k.mss.toNat - 1) / k.mss.toNat * k.mss.toNat = p at h1 ⊢
      omega
  split
  · rename_i h0; rw [h0] at hc; omega
  · exact hc

theorem send_bytes (k : Kcp) (buffer : Bytes) (hm : 0 < k.mss.toNat)
    (hp : (send k buffer).panic = false) :
    qbytes (send k buffer).k.snd_queue = qbytes k.snd_queue ++ sendTaken k buffer := by
  have hsplit : buffer.take (sendExt k buffer) ++ sendRest k buffer = buffer := List.take_append_drop _ _
  unfold sendTaken
  refine send_cases (P := fun r => r.panic = false →
      qbytes r.k.snd_queue = qbytes k.snd_queue ++ if r.ret = 0 then buffer else []) k buffer
    (fun r hr _ _ => by rw [if_neg hr, List.append_nil]) (fun _ _ _ hp => nomatch hp) (fun _ c2 _ _ => ?_) (fun _ _ _ _ => ?_) hp
  · rw [List.eq_nil_of_length_eq_zero c2, List.append_nil] at hsplit
    show qbytes (sendQ1 k buffer) = _
    rw [sendQ1_bytes, hsplit]
    rfl
  · show qbytes (sendQ1 k buffer ++ sendNew k buffer) = _
    rw [qbytes_append, sendQ1_bytes, sendNew_bytes k buffer hm, List.append_assoc, hsplit]
    rfl

theorem setMtu_mss (k : Kcp) (mtu : Int) (h : 0 < k.mss.toNat) : 0 < (setMtu k mtu).1.mss.toNat := by
  rcases setMtu_cases k mtu with ⟨_, e⟩ | ⟨ha, e⟩
  · rw [e]; exact h
  · rw [e]
    show 0 < (BitVec.ofInt 32 mtu - u32 IKCP_OVERHEAD).toNat
    have h1 := ha.1
    have h2 := ha.toNat
    rw [toNat_sub_overhead (x := BitVec.ofInt 32 mtu) (by omega)]
    omega

/-- the contents the sender still answers for: the numbered ones followed by the queued ones -/
def pend (s : GSt) : List Content := s.log ++ s.k.snd_queue.map content

theorem Setter.cfg {k k' : Kcp} (h : Setter k k') : k'.stream = k.stream ∧ (0 < k.mss.toNat → 0 < k'.mss.toNat) := by
  cases h with
  | setMtu m => exact ⟨setMtu_stream k m, setMtu_mss k m⟩
  | noDelay a b c d => exact ⟨(noDelay_cfg k a b c d).stream, fun h => by rw [(noDelay_cfg k a b c d).mss]; exact h⟩
  | wndSize a b => exact ⟨(wndSize_cfg k a b).stream, fun h => by rw [(wndSize_cfg k a b).mss]; exact h⟩

theorem Tx.txSame {k k' : Kcp} {op : Op} {outs : List Bytes} (h : Tx k op k' outs) : TxSame k k' := by
  cases h with
  | input d r a now _ => exact TxSame.steps.input k d r a now
  | flush full now _ => exact TxSame.steps.flush k full now
  | update now _ => exact TxSame.steps.update k now

/-- every step keeps the stream flag and a positive `mss`; and either it is an accepted `Send`, or it
leaves `pend` and the two accounts alone (admission only moves contents from the queue to the log) -/
theorem step_sender (s : GSt) (op : Op) :
    ((step s op).k.stream = s.k.stream ∧ (0 < s.k.mss.toNat → 0 < (step s op).k.mss.toNat)) ∧
    ((∃ buf, op = .send buf ∧ s.dead = false ∧ (send s.k buf).panic = false) ∨
     (pend (step s op) = pend s ∧ (step s op).accB = s.accB ∧ (step s op).accM = s.accM)) := by
  let P (s' : GSt) : Prop := (s'.k.stream = s.k.stream ∧ (0 < s.k.mss.toNat → 0 < s'.k.mss.toNat)) ∧
    ((∃ buf, op = .send buf ∧ s.dead = false ∧ (send s.k buf).panic = false) ∨
     (pend s' = pend s ∧ s'.accB = s.accB ∧ s'.accM = s.accM))
  have quiet (s' : GSt) (hs : s'.k.stream = s.k.stream) (hm : 0 < s.k.mss.toNat → 0 < s'.k.mss.toNat)
      (hp : pend s' = pend s) (hb : s'.accB = s.accB) (ha : s'.accM = s.accM) : P s' := ⟨⟨hs, hm⟩, Or.inr ⟨hp, hb, ha⟩⟩
  have sameq (s' : GSt) (hl : s'.log = s.log) (hq : s'.k.snd_queue = s.k.snd_queue) : pend s' = pend s := by
    unfold pend; rw [hl, hq]
  refine step_cases (P := P) s op (quiet s rfl id rfl rfl rfl) (fun _ => quiet _ rfl id rfl rfl rfl)
    (fun buf e hd hp => ⟨⟨by show (send s.k buf).k.stream = _; rw [send_k],
      by show _ → 0 < (send s.k buf).k.mss.toNat; rw [send_k]; exact id⟩, Or.inl ⟨buf, e, hd, hp⟩⟩)
    (fun m _ => quiet _ (recv_sndSame s.k m).stream (fun h => by rw [(recv_sndSame s.k m).mss]; exact h)
      (sameq _ rfl (recv_sndSame s.k m).snd_queue) rfl rfl)
    (fun k' outs htx => ?_) (fun k' hs => quiet _ hs.cfg.1 hs.cfg.2 (sameq _ rfl hs.sndQ.snd_queue) rfl rfl)
  obtain ⟨j, hj, hq⟩ := htx.txSame.queue
  exact quiet _ htx.txSame.stream (fun h => by rw [htx.txSame.mss]; exact h) (pending_eq s.log s.k k' j hj hq) rfl rfl

structure InvAcc (s : GSt) : Prop where
  mss : 0 < s.k.mss.toNat
  acc : s.accB = bytesOf (s.log ++ s.k.snd_queue.map content)

theorem step_invAcc {s : GSt} (h : InvAcc s) (op : Op) : InvAcc (step s op) := by
  obtain ⟨⟨_, hm⟩, hc⟩ := step_sender s op
  refine ⟨hm h.mss, ?_⟩
  rcases hc with ⟨buf, rfl, hd, hp⟩ | ⟨hp, ha, _⟩
  · rw [step_send s buf hd hp]
    show s.accB ++ sendTaken s.k buf = bytesOf (s.log ++ (send s.k buf).k.snd_queue.map content)
    have e : bytesOf ((send s.k buf).k.snd_queue.map content) = qbytes (send s.k buf).k.snd_queue := rfl
    rw [bytesOf_append, e, send_bytes s.k buf h.mss hp, h.acc, bytesOf_append, List.append_assoc]
    rfl
  · rw [ha]
    show s.accB = bytesOf (pend (step s op))
    rw [hp]
    exact h.acc

theorem run_invAcc (ops : List Op) : ∀ s : GSt, InvAcc s → InvAcc (run s ops) :=
  foldl_inv (fun _ op h => step_invAcc h op) ops

theorem fresh_invAcc (k : Kcp) (hf : Fresh k) (hm : 0 < k.mss.toNat) : InvAcc { k := k } :=
  ⟨hm, by simp [hf.sq, bytesOf]⟩

theorem srun_invAcc (ops : List SOp) : ∀ s : Sys, InvAcc s.A → InvAcc (srun s ops).A :=
  foldl_inv (P := fun s : Sys => InvAcc s.A)
    (fun s op h => by
      rcases sstep_A s op with e | ⟨o, e⟩
      · rw [e]; exact h
      · rw [e]; exact step_invAcc h o)
    ops

end KcpVerif.C01
