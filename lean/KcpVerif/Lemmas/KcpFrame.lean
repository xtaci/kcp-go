/-
The base of the C01 proofs: the header of the `Input` loop as one parsed record, the relations that say which fields an
operation leaves alone, and `Send` in named stages.  Of `flush` only phase 4 is staged here (`flushAdmit`); the rest is
used through `Live`, `Input` and `Update` through the shared body and principles of `KcpStages`/`KcpSteps`.
-/
import KcpVerif.Lemmas.KcpLiveFlush
import KcpVerif.Lemmas.KcpSteps

namespace KcpVerif.Frame
open KcpVerif.Gen KcpVerif.Kcp

/-- the effective window of phase 4 -/
def flushCwnd (k : Kcp) : U32 :=
  let cw0 := if k.snd_wnd ≤ k.rmt_wnd then k.snd_wnd else k.rmt_wnd
  if k.nocwnd = 0 then (if k.cwnd ≤ cw0 then k.cwnd else cw0) else cw0

def flushAdmit (k : Kcp) (now : U32) : AdmitRes :=
  admitSegs k.conv k.snd_una (flushCwnd k) now k.snd_queue k.snd_buf k.snd_nxt 0

/-- phase 4 of `flush` on a flush buffer (`flushB_k` spells the record out); not the event `Sys.Ev.flushB` -/
def flushB (f : Fl) (now : U32) : Fl :=
  let ad := flushAdmit f.k now
  { f with k := { f.k with snd_queue := ad.queue, snd_buf := ad.buf, snd_nxt := ad.nxt } }

/-- fields that no part of `flush` writes (the ones the C01 invariants read) -/
structure Keep (k k' : Kcp) : Prop where
  conv      : k'.conv = k.conv
  mtu       : k'.mtu = k.mtu
  mss       : k'.mss = k.mss
  stream    : k'.stream = k.stream
  bufLen    : k'.bufLen = k.bufLen
  rcv_wnd   : k'.rcv_wnd = k.rcv_wnd
  rcv_nxt   : k'.rcv_nxt = k.rcv_nxt
  rcv_queue : k'.rcv_queue = k.rcv_queue
  rcv_buf   : k'.rcv_buf = k.rcv_buf
  snd_una   : k'.snd_una = k.snd_una

theorem Keep.refl (k : Kcp) : Keep k k := ⟨rfl, rfl, rfl, rfl, rfl, rfl, rfl, rfl, rfl, rfl⟩

theorem Keep.trans {a b c : Kcp} (h1 : Keep a b) (h2 : Keep b c) : Keep a c :=
  ⟨h2.conv.trans h1.conv, h2.mtu.trans h1.mtu, h2.mss.trans h1.mss, h2.stream.trans h1.stream,
   h2.bufLen.trans h1.bufLen, h2.rcv_wnd.trans h1.rcv_wnd, h2.rcv_nxt.trans h1.rcv_nxt,
   h2.rcv_queue.trans h1.rcv_queue, h2.rcv_buf.trans h1.rcv_buf, h2.snd_una.trans h1.snd_una⟩

/-- `snd_nxt`, `snd_queue` and `snd_buf` agree (the fields phase 4 of `flush` writes) -/
structure KeepSnd (k k' : Kcp) : Prop where
  snd_nxt   : k'.snd_nxt = k.snd_nxt
  snd_queue : k'.snd_queue = k.snd_queue
  snd_buf   : k'.snd_buf = k.snd_buf

theorem flushB_k (f : Fl) (now : U32) :
    (flushB f now).k = { f.k with snd_queue := (flushAdmit f.k now).queue, snd_buf := (flushAdmit f.k now).buf,
                                  snd_nxt := (flushAdmit f.k now).nxt } := rfl

theorem flush_keep (k : Kcp) (full : Bool) (now : U32) : Keep k (flush k full now).k := by
  obtain ⟨_, _, _, _, _, _, e⟩ := Live.flush_frame k full now
  rw [e]
  exact ⟨rfl, rfl, rfl, rfl, rfl, rfl, rfl, rfl, rfl, rfl⟩

theorem update_keep (k : Kcp) (now : U32) : Keep k (update k now).k :=
  have tick (u t : U32) : Keep k { k with updated := u, ts_flush := t } := ⟨rfl, rfl, rfl, rfl, rfl, rfl, rfl, rfl, rfl, rfl⟩
  update_ind (Q := fun r => Keep k r.k) (fun u t => (tick u t).trans (flush_keep _ _ _)) tick

structure Hdr where
  conv : U32
  cmd  : BitVec 8
  frg  : BitVec 8
  wnd  : BitVec 16
  ts   : U32
  sn   : U32
  una  : U32
  len  : Nat

/-- the field reads at the top of the `Input` loop -/
def parseHdr (data : Bytes) : Hdr :=
  { conv := rd32 data 0, cmd := BitVec.ofNat 8 (byteAt data 4), frg := BitVec.ofNat 8 (byteAt data 5),
    wnd := rd16 data 6, ts := rd32 data 8, sn := rd32 data 12, una := rd32 data 16,
    len := (rd32 data 20).toNat }

def validCmd (cmd : BitVec 8) : Prop :=
  ¬ (cmd.toNat ≠ IKCP_CMD_PUSH ∧ cmd.toNat ≠ IKCP_CMD_ACK ∧ cmd.toNat ≠ IKCP_CMD_WASK ∧ cmd.toNat ≠ IKCP_CMD_WINS)

instance (cmd : BitVec 8) : Decidable (validCmd cmd) := by unfold validCmd; infer_instance

/-- the segment `Input` builds for a PUSH frame -/
def pushSeg (h : Hdr) (body : Bytes) : Seg :=
  { conv := h.conv, cmd := h.cmd, frg := h.frg, wnd := h.wnd, ts := h.ts, sn := h.sn, una := h.una,
    data := body.take h.len }

theorem inputLoop_zero (regular : Bool) (data : Bytes) (st : InLoop) : inputLoop regular 0 data st = st := rfl

theorem inputLoop_parse (regular : Bool) (fuel : Nat) (data : Bytes) (st : InLoop) :
    inputLoop regular (fuel + 1) data st =
      if data.length < IKCP_OVERHEAD then st else
      if (parseHdr data).conv ≠ st.k.conv then { st with ret := -1 } else
      if (data.drop IKCP_OVERHEAD).length < (parseHdr data).len ∨ (parseHdr data).len > mtuLimit then
        { st with ret := -2 } else
      if ¬ validCmd (parseHdr data).cmd then { st with ret := -3 } else
      if (inBody regular data st).panic then inBody regular data st
      else inputLoop regular fuel ((data.drop IKCP_OVERHEAD).drop (parseHdr data).len) (inBody regular data st) := by
  rw [Kcp.inputLoop_succ]
  simp only [validCmd, Decidable.not_not]
  rfl

structure RcvSame (k k' : Kcp) : Prop where
  conv      : k'.conv = k.conv
  rcv_nxt   : k'.rcv_nxt = k.rcv_nxt
  rcv_queue : k'.rcv_queue = k.rcv_queue
  rcv_buf   : k'.rcv_buf = k.rcv_buf

theorem RcvSame.refl (k : Kcp) : RcvSame k k := ⟨rfl, rfl, rfl, rfl⟩

theorem RcvSame.trans {a b c : Kcp} (h1 : RcvSame a b) (h2 : RcvSame b c) : RcvSame a c :=
  ⟨h2.conv.trans h1.conv, h2.rcv_nxt.trans h1.rcv_nxt, h2.rcv_queue.trans h1.rcv_queue,
   h2.rcv_buf.trans h1.rcv_buf⟩

theorem Keep.rcvSame {k k' : Kcp} (h : Keep k k') : RcvSame k k' := ⟨h.conv, h.rcv_nxt, h.rcv_queue, h.rcv_buf⟩

structure SndSame (k k' : Kcp) : Prop where
  conv      : k'.conv = k.conv
  mss       : k'.mss = k.mss
  stream    : k'.stream = k.stream
  snd_una   : k'.snd_una = k.snd_una
  snd_nxt   : k'.snd_nxt = k.snd_nxt
  snd_queue : k'.snd_queue = k.snd_queue
  snd_buf   : k'.snd_buf = k.snd_buf

theorem SndSame.refl (k : Kcp) : SndSame k k := ⟨rfl, rfl, rfl, rfl, rfl, rfl, rfl⟩

theorem SndSame.trans {a b c : Kcp} (h1 : SndSame a b) (h2 : SndSame b c) : SndSame a c :=
  ⟨h2.conv.trans h1.conv, h2.mss.trans h1.mss, h2.stream.trans h1.stream, h2.snd_una.trans h1.snd_una,
   h2.snd_nxt.trans h1.snd_nxt, h2.snd_queue.trans h1.snd_queue, h2.snd_buf.trans h1.snd_buf⟩

theorem moveReady_sndSame (k : Kcp) : SndSame k (moveReady k) := ⟨rfl, rfl, rfl, rfl, rfl, rfl, rfl⟩

theorem parseData_sndSame (k : Kcp) (s : Seg) : SndSame k (parseData k s).k := by
  obtain ⟨_, _, _, e⟩ := parseData_shape k s
  rw [e]
  exact ⟨rfl, rfl, rfl, rfl, rfl, rfl, rfl⟩

theorem updateAck_same (k : Kcp) (rtt : U32) : RcvSame k (updateAck k rtt) ∧ SndSame k (updateAck k rtt) := by
  obtain ⟨_, _, _, e⟩ := updateAck_shape k rtt
  rw [e]
  exact ⟨⟨rfl, rfl, rfl, rfl⟩, ⟨rfl, rfl, rfl, rfl, rfl, rfl, rfl⟩⟩

theorem cwndOnAck_same (k : Kcp) (old : U32) : RcvSame k (cwndOnAck k old) ∧ SndSame k (cwndOnAck k old) := by
  obtain ⟨_, _, e⟩ := cwndOnAck_shape k old
  rw [e]
  exact ⟨⟨rfl, rfl, rfl, rfl⟩, ⟨rfl, rfl, rfl, rfl, rfl, rfl, rfl⟩⟩

theorem inputK1_same (st : InLoop) (regular : Bool) (now u : U32) :
    RcvSame st.k (cwndOnAck (inputK1 st regular now) u) ∧ SndSame st.k (cwndOnAck (inputK1 st regular now) u) := by
  unfold inputK1
  refine ite_ind (P := fun x => RcvSame st.k (cwndOnAck x u) ∧ SndSame st.k (cwndOnAck x u)) ?_ (cwndOnAck_same _ _)
  exact ⟨(updateAck_same _ _).1.trans (cwndOnAck_same _ _).1, (updateAck_same _ _).2.trans (cwndOnAck_same _ _).2⟩

/-- the connection id, `mss` and the stream flag stay; the send queue loses a prefix (to the admission of a flush) -/
structure TxSame (k k' : Kcp) : Prop where
  conv   : k'.conv = k.conv
  mss    : k'.mss = k.mss
  stream : k'.stream = k.stream
  queue  : ∃ j, j ≤ k.snd_queue.length ∧ k'.snd_queue = k.snd_queue.drop j

theorem TxSame.of_eq {k k' : Kcp} (h1 : k'.conv = k.conv) (h2 : k'.mss = k.mss) (h3 : k'.stream = k.stream)
    (h4 : k'.snd_queue = k.snd_queue) : TxSame k k' := ⟨h1, h2, h3, 0, Nat.zero_le _, h4⟩

theorem TxSame.trans {a b c : Kcp} (h1 : TxSame a b) (h2 : TxSame b c) : TxSame a c := by
  obtain ⟨i, hi, ei⟩ := h1.queue
  obtain ⟨j, hj, ej⟩ := h2.queue
  rw [ei, List.length_drop] at hj
  exact ⟨h2.conv.trans h1.conv, h2.mss.trans h1.mss, h2.stream.trans h1.stream, i + j, by omega,
    by rw [ej, ei, List.drop_drop]⟩

theorem TxSame.of_loopShape {k k' : Kcp} (h : LoopShape k k') : TxSame k k' := by
  obtain ⟨_, _, _, _, _, _, _, _, e⟩ := h
  rw [e]
  exact .of_eq rfl rfl rfl rfl

theorem TxSame.steps : Steps TxSame where
  refl _ := .of_eq rfl rfl rfl rfl
  trans := TxSame.trans
  rmtWnd k w := .of_loopShape (LoopShape.loopSteps.rmtWnd k w)
  una k u := .of_loopShape (LoopShape.loopSteps.una k u)
  ack k sn ts := .of_loopShape (LoopShape.loopSteps.ack k sn ts)
  acklist k a := .of_loopShape (LoopShape.loopSteps.acklist k a)
  data k s := .of_loopShape (LoopShape.loopSteps.data k s)
  probe k := .of_loopShape (LoopShape.loopSteps.probe k)
  rtt k r := by
    obtain ⟨_, _, _, e⟩ := updateAck_shape k r
    rw [e]
    exact .of_eq rfl rfl rfl rfl
  cwnd k u := by
    obtain ⟨_, _, e⟩ := cwndOnAck_shape k u
    rw [e]
    exact .of_eq rfl rfl rfl rfl
  flush k full now := by
    obtain ⟨m, hm, eq, _⟩ := Live.flush_snd k full now
    exact ⟨(flush_keep k full now).conv, (flush_keep k full now).mss, (flush_keep k full now).stream, m, hm, eq⟩
  tick _ _ _ := .of_eq rfl rfl rfl rfl

theorem inputLoop_conv (regular : Bool) (fuel : Nat) (data : Bytes) (st : InLoop) :
    (inputLoop regular fuel data st).k.conv = st.k.conv :=
  (TxSame.steps.loop regular fuel data st).conv

theorem input_conv (k : Kcp) (data : Bytes) (regular ackNoDelay : Bool) (now : U32) :
    (input k data regular ackNoDelay now).k.conv = k.conv :=
  (TxSame.steps.input k data regular ackNoDelay now).conv

/-- the number of bytes `Send` appends to the last queued segment in stream mode -/
def sendExt (k : Kcp) (buffer : Bytes) : Nat :=
  if k.stream ≠ 0 then
    match k.snd_queue.getLast? with
    | some s => if s.data.length < k.mss.toNat then min buffer.length (k.mss.toNat - s.data.length) else 0
    | none => 0
  else 0

def sendPanic1 (k : Kcp) (buffer : Bytes) : Bool :=
  match k.snd_queue.getLast? with
  | some s => decide (sendExt k buffer > 0 ∧ s.data.length + sendExt k buffer > mtuLimit)
  | none => false

def sendQ1 (k : Kcp) (buffer : Bytes) : List Seg :=
  if sendExt k buffer > 0 then
    match k.snd_queue.getLast? with
    | some s => setLast k.snd_queue { s with data := s.data ++ buffer.take (sendExt k buffer) }
    | none => k.snd_queue
  else k.snd_queue

/-- the stream-mode append writes the payload of the last queued segment and nothing else -/
theorem sendQ1_shape (k : Kcp) (buffer : Bytes) :
    (sendExt k buffer = 0 ∧ sendQ1 k buffer = k.snd_queue) ∨
    ∃ ys x, k.snd_queue = ys ++ [x] ∧ k.snd_queue.getLast? = some x ∧
      sendQ1 k buffer = ys ++ [{ x with data := x.data ++ buffer.take (sendExt k buffer) }] := by
  unfold sendQ1
  by_cases hext : sendExt k buffer > 0
  · rw [if_pos hext]
    cases hl : k.snd_queue.getLast? with
    | none => unfold sendExt at hext; rw [hl] at hext; simp at hext
    | some x =>
      obtain ⟨ys, hys⟩ := List.getLast?_eq_some_iff.mp hl
      exact Or.inr ⟨ys, x, hys, rfl, by rw [hys]; simp [setLast]⟩
  · rw [if_neg hext]
    exact Or.inl ⟨by omega, rfl⟩

def sendRest (k : Kcp) (buffer : Bytes) : Bytes := buffer.drop (sendExt k buffer)

def sendCount (k : Kcp) (buffer : Bytes) : Nat :=
  if (sendRest k buffer).length ≤ k.mss.toNat then 1
  else ((sendRest k buffer).length + k.mss.toNat - 1) / k.mss.toNat

def sendNew (k : Kcp) (buffer : Bytes) : List Seg :=
  mkSegs k.mss.toNat (k.stream ≠ 0) (if sendCount k buffer = 0 then 1 else sendCount k buffer) (sendRest k buffer)

theorem sendExt_msg (k : Kcp) (buf : Bytes) (hs : k.stream = 0) : sendExt k buf = 0 := by
  unfold sendExt; simp [hs]

theorem sendQ1_msg (k : Kcp) (buf : Bytes) (hs : k.stream = 0) : sendQ1 k buf = k.snd_queue := by
  unfold sendQ1; rw [sendExt_msg k buf hs]; simp

theorem sendRest_msg (k : Kcp) (buf : Bytes) (hs : k.stream = 0) : sendRest k buf = buf := by
  unfold sendRest; rw [sendExt_msg k buf hs]; rfl

theorem send_eq (k : Kcp) (buffer : Bytes) :
    send k buffer =
      if buffer.length = 0 then ⟨k, -1, false⟩ else
      if sendCount k buffer > 255 then ⟨k, -2, false⟩ else
      if sendPanic1 k buffer then ⟨k, 0, true⟩ else
      if k.stream ≠ 0 ∧ (sendRest k buffer).length = 0 then ⟨{ k with snd_queue := sendQ1 k buffer }, 0, false⟩ else
      if min (sendRest k buffer).length k.mss.toNat > mtuLimit then
        ⟨{ k with snd_queue := sendQ1 k buffer }, 0, true⟩ else
      ⟨{ k with snd_queue := sendQ1 k buffer ++ sendNew k buffer }, 0, false⟩ := rfl

/-- the ways out of `Send`: refused (−1 empty buffer, −2 more than 255 fragments), panicked, everything appended to the
last queued segment (stream mode), new segments queued -/
theorem send_cases {P : SendRes → Prop} (k : Kcp) (buffer : Bytes)
    (refused : ∀ r : Int, r ≠ 0 → buffer.length = 0 ∨ sendCount k buffer > 255 → P ⟨k, r, false⟩)
    (panic : ∀ q, q = k.snd_queue ∨ q = sendQ1 k buffer →
      sendPanic1 k buffer = true ∨ min (sendRest k buffer).length k.mss.toNat > mtuLimit →
      P ⟨{ k with snd_queue := q }, 0, true⟩)
    (fill : k.stream ≠ 0 → (sendRest k buffer).length = 0 → sendPanic1 k buffer = false →
      P ⟨{ k with snd_queue := sendQ1 k buffer }, 0, false⟩)
    (cut : ¬ sendCount k buffer > 255 → sendPanic1 k buffer = false →
      ¬ min (sendRest k buffer).length k.mss.toNat > mtuLimit →
      P ⟨{ k with snd_queue := sendQ1 k buffer ++ sendNew k buffer }, 0, false⟩) : P (send k buffer) := by
  rw [send_eq]
  refine ite_cases (fun h0 => refused _ (by decide) (Or.inl h0)) fun _ => ?_
  refine ite_cases (fun hc => refused _ (by decide) (Or.inr hc)) fun hc => ?_
  refine ite_cases (fun hp => panic _ (Or.inl rfl) (Or.inl hp)) fun hp => ?_
  have hp' : sendPanic1 k buffer = false := by simpa using hp
  exact ite_cases (fun hs => fill hs.1 hs.2 hp') fun _ => ite_cases (fun hm => panic _ (Or.inr rfl) (Or.inr hm)) fun hm => cut hc hp' hm

theorem send_k (k : Kcp) (buffer : Bytes) : (send k buffer).k = { k with snd_queue := (send k buffer).k.snd_queue } := by
  obtain ⟨q, e⟩ := send_shape k buffer
  rw [e]

end KcpVerif.Frame
