import KcpVerif.Model.Cfb
/-! what `xorB`, `splice` and `iter` do on lists, as far as the CFB files need it; `splice_splice` is the
fact that turns the block loop's consecutive writes into one write (`CfbSem`). -/
namespace KcpVerif.Cfb

@[simp] theorem length_xorB (x y : Bytes) : (xorB x y).length = min x.length y.length := by
  simp [xorB]

theorem xorB_nil_left (y : Bytes) : xorB [] y = [] := by simp [xorB]

theorem xorB_cancel : ∀ (a k : Bytes), a.length ≤ k.length → xorB (xorB a k) k = a
  | [], _, _ => by simp [xorB]
  | _ :: _, [], h => by simp at h
  | x :: a, y :: k, h => by
    have ih := xorB_cancel a k (by simpa using h)
    simp only [xorB, List.zipWith_cons_cons] at ih ⊢
    rw [ih, UInt8.xor_assoc, UInt8.xor_self, UInt8.xor_zero]

theorem xorB_take_left (x y : Bytes) (n : Nat) (h : y.length ≤ n) : xorB (x.take n) y = xorB x y := by
  induction x generalizing y n with
  | nil => simp
  | cons a x ih =>
    cases y with
    | nil => simp [xorB]
    | cons b y =>
      cases n with
      | zero => simp at h
      | succ n =>
        simp only [xorB, List.take_succ_cons, List.zipWith_cons_cons, List.cons.injEq, true_and]
        exact ih y n (by simpa using h)

theorem xorB_append (a b k : Bytes) :
    xorB (a ++ b) k = xorB a (k.take a.length) ++ xorB b (k.drop a.length) := by
  induction a generalizing k with
  | nil => simp [xorB]
  | cons x a ih =>
    cases k with
    | nil => simp [xorB]
    | cons y k => simp only [xorB] at ih ⊢; simp [ih]

theorem length_splice (buf : Bytes) (off : Nat) (bs : Bytes) (h : off + bs.length ≤ buf.length) :
    (splice buf off bs).length = buf.length := by
  simp only [splice, List.length_append, List.length_take, List.length_drop]; omega

theorem splice_nil (buf : Bytes) (off : Nat) : splice buf off [] = buf := by
  simp [splice]

theorem take_splice (buf : Bytes) (off : Nat) (bs : Bytes) (h : off ≤ buf.length) :
    (splice buf off bs).take (off + bs.length) = buf.take off ++ bs := by
  have h1 : (buf.take off ++ bs).length = off + bs.length := by simp; omega
  rw [splice, List.take_left' h1]

theorem drop_splice (buf : Bytes) (off : Nat) (bs : Bytes) (h : off ≤ buf.length) :
    (splice buf off bs).drop (off + bs.length) = buf.drop (off + bs.length) := by
  have h1 : (buf.take off ++ bs).length = off + bs.length := by simp; omega
  rw [splice, List.drop_left' h1]

theorem drop_splice_ge (buf : Bytes) (off : Nat) (bs : Bytes) (k : Nat) (h : off ≤ buf.length)
    (hk : off + bs.length ≤ k) : (splice buf off bs).drop k = buf.drop k := by
  have : k = (off + bs.length) + (k - (off + bs.length)) := by omega
  rw [this, ← List.drop_drop, drop_splice buf off bs h, List.drop_drop]

theorem splice_splice (buf : Bytes) (off : Nat) (x y : Bytes) (h : off ≤ buf.length) :
    splice (splice buf off x) (off + x.length) y = splice buf off (x ++ y) := by
  have e : splice (splice buf off x) (off + x.length) y = (splice buf off x).take (off + x.length)
      ++ y ++ (splice buf off x).drop (off + x.length + y.length) := rfl
  rw [e, take_splice buf off x h, drop_splice_ge buf off x _ h (Nat.le_add_right _ _)]
  simp only [splice, List.length_append, List.append_assoc, Nat.add_assoc]

theorem take_splice_le (buf : Bytes) (off : Nat) (bs : Bytes) (k : Nat) (h : off ≤ buf.length)
    (hk : k ≤ off) : (splice buf off bs).take k = buf.take k := by
  simp only [splice, List.append_assoc]
  rw [List.take_append_of_le_length (by simp; omega), List.take_take]
  congr 1; omega

theorem drop_take_splice (buf : Bytes) (off : Nat) (bs : Bytes) (h : off ≤ buf.length) :
    ((splice buf off bs).drop off).take bs.length = bs := by
  have h1 : (buf.take off).length = off := by simp; omega
  simp only [splice, List.append_assoc]
  rw [List.drop_left' h1, List.take_left' rfl]

theorem splice_eq_of_split (pre mid post new : Bytes) (h : new.length = mid.length) :
    splice (pre ++ mid ++ post) pre.length new = pre ++ new ++ post := by
  simp [splice, h]

theorem write0_dst (m : Bufs) (x : Bytes) : (m.write 0 x).dst = x ++ m.dst.drop x.length := by
  simp [Bufs.write, splice]

theorem take_write0 (m : Bufs) (x : Bytes) : (m.write 0 x).dst.take x.length = x := by
  rw [write0_dst, List.take_left' rfl]

theorem iter_add {α : Type} (f : α → α) (a b : Nat) (x : α) :
    iter f (a + b) x = iter f b (iter f a x) := by
  induction a generalizing x with
  | zero => simp [iter]
  | succ a ih => rw [Nat.succ_add]; simp only [iter]; exact ih (f x)

theorem iter_mul {α : Type} (f : α → α) (k n : Nat) (x : α) :
    iter (iter f k) n x = iter f (k * n) x := by
  induction n generalizing x with
  | zero => simp [iter]
  | succ n ih =>
    have e : k * (n + 1) = k + k * n := by rw [Nat.mul_succ, Nat.add_comm]
    rw [e, iter_add f k (k * n)]; simp only [iter]; exact ih _

end KcpVerif.Cfb
