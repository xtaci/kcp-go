/-
The per-segment retransmission timer as an inductive invariant over all operations:
every segment of `snd_buf` that has been sent has `resendts = ts + rto`.  Core Lean only.
-/
import KcpVerif.Lemmas.KcpLiveFlush
import KcpVerif.Lemmas.KcpLiveOps

namespace KcpVerif.Live
open KcpVerif.Kcp

def SegTimer (s : Seg) : Prop := s.xmit ≠ 0 → s.resendts = s.ts + s.rto

def TimerInv (k : Kcp) : Prop := (∀ s ∈ k.snd_buf, SegTimer s) ∧ (∀ s ∈ k.snd_queue, s.xmit = 0)

theorem segAfter_timer (now resent : U32) (wnd : BitVec 16) (una : U32) (newSegs : Nat) (rx_rto nodelay : U32) (s : Seg)
    (h : SegTimer s) : SegTimer (segAfter now resent wnd una newSegs rx_rto nodelay s) := by
  by_cases hn : s.acked = true ∨ cause now resent newSegs s = .none
  · rw [segAfter_none _ _ _ _ _ _ _ _ hn]; exact h
  · have ha : s.acked = false := by
      cases hs : s.acked with
      | false => rfl
      | true => exact absurd (Or.inl hs) hn
    have hc : cause now resent newSegs s ≠ .none := fun c => hn (Or.inr c)
    rw [segAfter_sent _ _ _ _ _ _ _ _ ha hc]
    intro _
    show (retimed now rx_rto nodelay (cause now resent newSegs s) s).resendts =
      now + (retimed now rx_rto nodelay (cause now resent newSegs s) s).rto
    exact retimed_resendts _ _ _ _ _ hc

theorem TimerInv.marked {a b : Kcp} (hm : SndMarked a b) (h : TimerInv a) : TimerInv b := by
  refine ⟨fun s' hs' => ?_, by rw [hm.2.1]; exact h.2⟩
  obtain ⟨s, hs, _, _, _, rfl, _⟩ := hm.1 s' hs'
  exact h.1 s hs

/-- admission brings never-sent segments, for which `SegTimer` says nothing; phase 5 re-arms what it sends -/
theorem flush_timer (k : Kcp) (full : Bool) (now : U32) (h : TimerInv k) : TimerInv (flush k full now).k := by
  obtain ⟨m, _, hq, hb, _, _⟩ := flush_snd k full now
  unfold TimerInv
  rw [hq, hb]
  refine ⟨fun s hs => ?_, fun s hs => h.2 s (List.mem_of_mem_drop hs)⟩
  obtain ⟨s0, hs0, rfl⟩ := List.mem_map.mp hs
  have h0 : SegTimer s0 := by
    rcases List.mem_append.mp hs0 with hm | hm
    · exact h.1 s0 hm
    · obtain ⟨q0, hq0, n, rfl⟩ := mem_stampSegs hm
      exact fun hx => absurd (h.2 q0 (List.mem_of_mem_take hq0)) hx
  exact ite_ind (P := SegTimer) (segAfter_timer _ _ _ _ _ _ _ _ h0) h0

theorem send_timer (k : Kcp) (b : Bytes) (h : TimerInv k) : TimerInv (send k b).k := by
  have hq := send_queue_forall (fun s => s.xmit = 0) k b h.2 (fun _ _ => rfl) (fun _ _ hs => hs)
  obtain ⟨q, e⟩ := send_shape k b
  rw [e] at hq ⊢
  exact ⟨h.1, hq⟩

theorem timer_steps : Kcp.Steps (fun a b => TimerInv a → TimerInv b) :=
  keeps_steps flush_timer (huna := fun k una => TimerInv.marked (shrinkUna_marked k una))
    (hack := fun k sn ts => TimerInv.marked (ackPath_marked k sn ts))

theorem step_timer (k : Kcp) (op : Op) (h : TimerInv k) : TimerInv (step k op) :=
  inv_step (ok := fun _ _ => True) timer_steps k op h trivial (hsend := fun k b _ => send_timer k b)

theorem run_timer (k : Kcp) (ops : List Op) (h : TimerInv k) : TimerInv (run k ops) :=
  inv_run step_timer k ops h

theorem new_timer (conv : U32) : TimerInv (Kcp.new conv) :=
  ⟨fun s hs => by simp [Kcp.new] at hs, fun s hs => by simp [Kcp.new] at hs⟩

/-- the clock values of a segment's timer as integers: `ts` stands for `T`, `now` for `T + d` with `d < 2^31` the
time since the last transmission, `resendts` for `T + rto` -/
theorem timer_reps (s : Seg) (now : U32) (ht : s.resendts = s.ts + s.rto) (hn : itimediff now s.ts ≥ 0) :
    Serial.Rep now (s.ts.toNat + (now - s.ts).toNat) ∧ Serial.Rep s.resendts (s.ts.toNat + s.rto.toNat) ∧
    itimediff now s.ts = (now - s.ts).toNat ∧ (now - s.ts).toNat < 2 ^ 31 := by
  obtain ⟨h1, h2⟩ := Serial.toInt_nonneg (now - s.ts) hn
  exact ⟨Serial.rep_off s.ts now, by rw [ht]; exact (Serial.Rep.self s.ts).add (Serial.Rep.self s.rto), h1, h2⟩

theorem timer_remaining (s : Seg) (now : U32) (ht : s.resendts = s.ts + s.rto) (hr : s.rto.toNat < 2 ^ 31)
    (hn : itimediff now s.ts ≥ 0) :
    itimediff s.resendts now = (s.rto.toNat : Int) - itimediff now s.ts ∧ itimediff s.resendts now ≤ s.rto.toNat := by
  obtain ⟨hnow, hre, e, hd⟩ := timer_reps s now ht hn
  rw [Serial.itimediff_rep hre hnow (by omega) (by omega), e]
  omega

theorem timer_antisymm (s : Seg) (now : U32) (ht : s.resendts = s.ts + s.rto) (hr : s.rto.toNat < 2 ^ 31)
    (hn : itimediff now s.ts ≥ 0) : itimediff now s.resendts = -(itimediff s.resendts now) := by
  obtain ⟨hnow, hre, _, hd⟩ := timer_reps s now ht hn
  rw [Serial.itimediff_rep hre hnow (by omega) (by omega), Serial.itimediff_rep hnow hre (by omega) (by omega)]
  omega

end KcpVerif.Live
