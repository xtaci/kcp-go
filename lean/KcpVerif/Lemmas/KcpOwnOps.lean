/-
C15 (ownership, protocol core): `Input` and `Update` as compositions — loop body, scalar updates, `flush` —
so that a property which survives those three survives them; erasure and the ownership invariant
`OwnInvF` that way.  Core Lean only.
-/
import KcpVerif.Lemmas.KcpOwnSync

namespace KcpVerif.Own
open KcpVerif.Gen KcpVerif.Kcp

/-- `Kcp.inputTail` on the instrumented state: `st` is where the parse loop ended, `sq` the send queue -/
def inputTailO (una0 : U32) (sq : List SegO) (st : InLoopO) (regular ackNoDelay : Bool) (now : U32) : InResO :=
  let o1 : KcpO := { k := st.m.k, sq := sq, sb := st.sb, rb := st.rb, rq := st.rq, gh := st.gh }
  if st.m.panic then ⟨o1, 0, [], true⟩ else
  if st.m.ret < 0 then ⟨o1, st.m.ret, [], false⟩ else
  let k2 := cwndOnAck (inputK1 st.m regular now) una0
  let o2 : KcpO := { o1 with k := k2 }
  if st.m.flushSeg then inResOfFlush (flushO o2 true now)
  else if k2.acklist.length ≥ (k2.mtu / u32 IKCP_OVERHEAD).toNat then inResOfFlush (flushO o2 false now)
  else if ackNoDelay ∧ k2.acklist.length > 0 then inResOfFlush (flushO o2 false now)
  else ⟨o2, 0, [], false⟩

theorem inputO_eq (o : KcpO) (data : Bytes) (regular ackNoDelay : Bool) (now : U32) :
    inputO o data regular ackNoDelay now =
      if data.length < IKCP_OVERHEAD then ⟨o, -1, [], false⟩ else
      inputTailO o.k.snd_una o.sq (inputLoopO regular (data.length / IKCP_OVERHEAD + 1) data
        { m := { k := o.k }, sb := o.sb, rb := o.rb, rq := o.rq, gh := o.gh }) regular ackNoDelay now := rfl

def InResO.er (r : InResO) : InRes := ⟨r.o.k, r.ret, r.outs, r.panic⟩

theorem inResOfFlush_o (r : FlushResO) : (inResOfFlush r).o = r.o := rfl

theorem inResOfFlush_er (o : KcpO) (full : Bool) (now : U32) :
    (inResOfFlush (flushO o full now)).er =
      ⟨(o.k.flush full now).k, 0, (o.k.flush full now).outs, (o.k.flush full now).panic⟩ := rfl

theorem inputTailO_er (una0 : U32) (sq : List SegO) (st : InLoopO) (regular ackNoDelay : Bool) (now : U32) :
    (inputTailO una0 sq st regular ackNoDelay now).er = inputTail una0 st.m regular ackNoDelay now := by
  unfold inputTailO inputTail inputFin
  simp only [apply_ite InResO.er, inResOfFlush_er]
  rfl

theorem inputO_er (o : KcpO) (data : Bytes) (regular ackNoDelay : Bool) (now : U32) :
    (inputO o data regular ackNoDelay now).er = o.k.input data regular ackNoDelay now := by
  rw [Kcp.input_eq, inputO_eq]
  split
  · rfl
  · rw [inputTailO_er, inputLoopO_m]

theorem inputO_k (o : KcpO) (data : Bytes) (regular ackNoDelay : Bool) (now : U32) :
    (inputO o data regular ackNoDelay now).o.k = (o.k.input data regular ackNoDelay now).k :=
  congrArg InRes.k (inputO_er o data regular ackNoDelay now)

theorem inputO_obs (o : KcpO) (data : Bytes) (regular ackNoDelay : Bool) (now : U32) :
    (inputO o data regular ackNoDelay now).ret = (o.k.input data regular ackNoDelay now).ret ∧
    (inputO o data regular ackNoDelay now).outs = (o.k.input data regular ackNoDelay now).outs ∧
    (inputO o data regular ackNoDelay now).panic = (o.k.input data regular ackNoDelay now).panic :=
  ⟨congrArg InRes.ret (inputO_er o data regular ackNoDelay now),
   congrArg InRes.outs (inputO_er o data regular ackNoDelay now),
   congrArg InRes.panic (inputO_er o data regular ackNoDelay now)⟩

theorem updateO_k (o : KcpO) (now : U32) : (updateO o now).o.k = (o.k.update now).k := by
  rw [Kcp.update_eq]
  unfold updateO
  by_cases c : updGo o.k now
  · rw [if_pos c, if_pos c]; exact flushO_k _ _ _
  · rw [if_neg c, if_neg c]

theorem inputTailO_preserves {I : KcpO → Prop}
    (hk : ∀ (o : KcpO) (k' : Kcp), SameQ k' o.k → I o → I { o with k := k' })
    (hf : ∀ (o : KcpO) (full : Bool) (now : U32), I o → I (flushO o full now).o)
    (una0 : U32) (sq : List SegO) (st : InLoopO) (regular ackNoDelay : Bool) (now : U32)
    (h1 : I { k := st.m.k, sq := sq, sb := st.sb, rb := st.rb, rq := st.rq, gh := st.gh }) :
    I (inputTailO una0 sq st regular ackNoDelay now).o := by
  have h2 := hk _ _ (inputK2_sameQ st.m regular now una0) h1
  have h3 : ∀ full, I (inResOfFlush (flushO
      { k := cwndOnAck (inputK1 st.m regular now) una0, sq := sq, sb := st.sb, rb := st.rb, rq := st.rq, gh := st.gh }
      full now)).o := by
    intro full
    rw [inResOfFlush_o]
    exact hf _ _ _ h2
  unfold inputTailO
  refine ite_cases (P := fun r : InResO => I r.o) (fun _ => h1) (fun _ => ?_)
  refine ite_cases (P := fun r : InResO => I r.o) (fun _ => h1) (fun _ => ?_)
  refine ite_cases (P := fun r : InResO => I r.o) (fun _ => h3 true) (fun _ => ?_)
  refine ite_cases (P := fun r : InResO => I r.o) (fun _ => h3 false) (fun _ => ?_)
  exact ite_cases (P := fun r : InResO => I r.o) (fun _ => h3 false) (fun _ => h2)

theorem inputO_preserves {I : KcpO → Prop}
    (hk : ∀ (o : KcpO) (k' : Kcp), SameQ k' o.k → I o → I { o with k := k' })
    (hf : ∀ (o : KcpO) (full : Bool) (now : U32), I o → I (flushO o full now).o)
    (hbody : ∀ (regular : Bool) (sq : List SegO) (data : Bytes) (st : InLoopO), (rd32 data 20).toNat ≤ mtuLimit →
      I (st.toO sq) → I ((inBodyO regular data st).toO sq))
    {o : KcpO} (data : Bytes) (regular ackNoDelay : Bool) (now : U32) (h : I o) :
    I (inputO o data regular ackNoDelay now).o := by
  rw [inputO_eq]
  split
  · exact h
  · exact inputTailO_preserves hk hf _ _ _ _ _ _
      (inputLoopO_preserves regular o.sq (hbody regular o.sq) _ data
        { m := { k := o.k }, sb := o.sb, rb := o.rb, rq := o.rq, gh := o.gh } h)

theorem updateO_preserves {I : KcpO → Prop}
    (hk : ∀ (o : KcpO) (k' : Kcp), SameQ k' o.k → I o → I { o with k := k' })
    (hf : ∀ (o : KcpO) (full : Bool) (now : U32), I o → I (flushO o full now).o)
    {o : KcpO} (now : U32) (h : I o) : I (updateO o now).o := by
  unfold updateO
  split
  · exact hf _ _ _ (hk o _ ⟨(updK2_sameQ o.k now).sq, (updK2_sameQ o.k now).sb, (updK2_sameQ o.k now).rb,
      (updK2_sameQ o.k now).rq⟩ h)
  · exact hk o _ (updK2_sameQ o.k now) h

theorem inputO_sync {o : KcpO} (h : Sync o) (data : Bytes) (regular ackNoDelay : Bool) (now : U32) :
    Sync (inputO o data regular ackNoDelay now).o :=
  inputO_preserves (I := Sync) (fun _ _ e h => h.setK e) (fun _ _ _ h => flushO_sync h _ _)
    (fun regular _ data _ _ h => inBodyO_sync regular data h) data regular ackNoDelay now h

theorem updateO_sync {o : KcpO} (h : Sync o) (now : U32) : Sync (updateO o now).o :=
  updateO_preserves (I := Sync) (fun _ _ e h => h.setK e) (fun _ _ _ h => flushO_sync h _ _) now h

def held (o : KcpO) (id : Nat) : Nat := cnt id o.sq + cnt id o.sb + cnt id o.rb + cnt id o.rq

/-- **The ownership invariant**, with a frame: `F id` counts the holders of buffer `id` outside this
core (other cores, FEC decoders, callers that share the pool).  `w`: the log so far is accepted by the
sanitizer, and every buffer it considers owned is held at exactly one position, of this core or
outside, or was dropped next to a panic; no other buffer, in particular no recycled one, is held. -/
structure OwnInvF (F : Nat → Nat) (o : KcpO) : Prop where
  sync : Sync o
  w    : W o.gh (fun id => held o id + F id)

abbrev OwnInv (o : KcpO) : Prop := OwnInvF (fun _ => 0) o

theorem OwnInv.new (conv : U32) : OwnInv (KcpO.new conv) :=
  ⟨Sync.new conv, W.init.congr (fun _ => rfl)⟩

theorem OwnInvF.setK {F : Nat → Nat} {o : KcpO} (h : OwnInvF F o) {k' : Kcp} (e : SameQ k' o.k) :
    OwnInvF F { o with k := k' } :=
  ⟨h.sync.setK e, h.w⟩

theorem recvO_inv {F : Nat → Nat} {o : KcpO} (h : OwnInvF F o) (n : Nat) : OwnInvF F (recvO o n).o := by
  refine ⟨recvO_sync h.sync n, recvO_cases (P := fun o' => W o'.gh (fun id => held o' id + F id)) o n
    (fun _ => h.w) (fun _ _ => ?_)⟩
  have h2 := popMsgO_W o.rq o.gh (fun id => cnt id o.sq + cnt id o.sb + cnt id o.rb + F id)
    (h.w.congr (fun id => by unfold held; omega))
  refine h2.congr (fun id => ?_)
  have := moveLoopO_cnt id o.k.rcv_wnd.toNat o.rb (popMsgO o.rq o.gh).rest o.k.rcv_nxt
  unfold held
  simp only []
  omega

theorem sendO_inv {F : Nat → Nat} {o : KcpO} (h : OwnInvF F o) (b : Bytes) : OwnInvF F (sendO o b).o := by
  refine ⟨sendO_sync h.sync b, ?_⟩
  have h1 := sendApp_W b (sendExt o.k b) (fun id => cnt id o.sb + cnt id o.rb + cnt id o.rq + F id)
    (h.w.congr (fun id => by unfold held; omega))
  refine sendO_cases (P := fun o' => W o'.gh (fun id => held o' id + F id)) o b rfl rfl
    (fun _ => h.w) (fun _ => ?_) (fun _ _ => ?_) (fun n _ => ?_)
  · exact h1.congr (fun id => by unfold held; simp only []; omega)
  · exact h1.getLost.congr (fun id => by unfold held; simp only []; omega)
  · exact (mkSegsO_W _ _ n _ _ _ h1).congr (fun id => by unfold held; simp only [cnt_append]; omega)

theorem flushO_inv {F : Nat → Nat} {o : KcpO} (h : OwnInvF F o) (full : Bool) (now : U32) :
    OwnInvF F (flushO o full now).o := by
  refine ⟨flushO_sync h.sync full now, ?_⟩
  have l1 := length_eq_of_map_eq (flushO_acked h.sync full now).1
  have l2 := length_eq_of_map_eq (flushO_acked h.sync full now).2
  have hc : ∀ id, cnt id (reattach (flushAd o.k now).buf (o.sb ++ o.sq.take (flushAd o.k now).count)) +
      (cnt id (o.sq.drop (flushAd o.k now).count) + cnt id o.rb + cnt id o.rq + F id) = held o id + F id := by
    intro id
    rw [cnt_reattach id _ _ l1, cnt_append]
    have := cnt_take_drop id o.sq (flushAd o.k now).count
    unfold held; omega
  have h0 : W o.gh (fun id => cnt id (reattach (flushAd o.k now).buf (o.sb ++ o.sq.take (flushAd o.k now).count)) +
      (cnt id (o.sq.drop (flushAd o.k now).count) + cnt id o.rb + cnt id o.rq + F id)) := h.w.congr hc
  unfold flushO
  simp only []
  split
  · exact (useSent_W _ _ _ _ _ _ h0).congr
      (fun id => by unfold held; simp only []; rw [cnt_reattach id _ _ l2]; omega)
  · exact h0.congr (fun id => by unfold held; simp only []; rw [cnt_reattach id _ _ l2]; omega)

-- from here on the two stages are used through their lemmas only; opaque, they are not unfolded when two
-- loop states that contain them are compared
attribute [local irreducible] unaShrinkO ackShrinkO

theorem held_toO (st : InLoopO) (sq : List SegO) (id : Nat) :
    held (st.toO sq) id = cnt id sq + cnt id st.sb + cnt id st.rb + cnt id st.rq := rfl

theorem inBodyO_inv (regular : Bool) (data : Bytes) {st : InLoopO} {sq : List SegO} {F : Nat → Nat}
    (h : OwnInvF F (st.toO sq)) : OwnInvF F ((inBodyO regular data st).toO sq) := by
  refine ⟨inBodyO_sync regular data h.sync, ?_⟩
  have hu := unaShrinkO_W (rd32 data 16) st.sb st.gh (fun id => cnt id sq + cnt id st.rb + cnt id st.rq + F id)
    (h.w.congr (fun id => by rw [held_toO]; omega))
  refine inBodyO_cases (P := fun st' => W st'.gh (fun id => held (st'.toO sq) id + F id))
    regular data st rfl rfl (fun hb => ?_) (fun seg _ _ => ?_) (fun _ => ?_)
  · have hl := length_eq_of_map_eq (inAck_acked (inSt1 regular (rd16 data 6) (rd32 data 16) st.m) (rd32 data 12)
      (rd32 data 8) _ (unaShrinkO_er regular (rd16 data 6) (rd32 data 16) h.sync.sb))
    refine (ackShrinkO_W _ _ _ _ hu).congr (fun id => ?_)
    rw [held_toO]
    simp only []
    rw [cnt_reattach id _ _ (by rw [hb]; exact hl)]
    omega
  · exact (parseDataO_W _ seg st.rb st.rq _
      (fun id => cnt id sq + cnt id (unaShrinkO (rd32 data 16) st.sb st.gh).l + F id)
      (hu.congr (fun id => by omega))).congr (fun id => by rw [held_toO]; simp only []; omega)
  · exact hu.congr (fun id => by rw [held_toO]; simp only []; omega)

end KcpVerif.Own
