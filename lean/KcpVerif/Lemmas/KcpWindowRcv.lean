/-
Receive side of C04: reading a 32-bit difference as `int32`, window membership (`InWin`), the receive-window
invariant (`WinOK`) with the pigeonhole bound, and what insertion and the move loop do to it.
Core Lean only.
-/
import KcpVerif.Lemmas.KcpLoops
import KcpVerif.Lemmas.Serial
import KcpVerif.Lemmas.Fold
namespace KcpVerif.Kcp

/-- `sn` lies in the receive window `[nxt, nxt + wnd)` (wrap-around order) -/
def InWin (nxt wnd sn : U32) : Prop := 0 ≤ itimediff sn nxt ∧ itimediff sn nxt < (wnd.toNat : Int)

instance (nxt wnd sn : U32) : Decidable (InWin nxt wnd sn) := by unfold InWin; exact inferInstance

theorem inWin_iff (nxt wnd sn : U32) (hw : wnd.toNat < 2^31) :
    InWin nxt wnd sn ↔ (sn - nxt).toNat < wnd.toNat := by
  unfold InWin itimediff
  generalize sn - nxt = d
  constructor
  · intro h
    have hd := (Serial.toInt_nonneg_iff d).1 h.1
    rw [Serial.toInt_of_small d hd] at h
    omega
  · intro h
    rw [Serial.toInt_of_small d (by omega)]
    omega

/-- the acceptance test of `parse_data` (and of `Input` before it) is exactly window membership -/
theorem accept_inWin (nxt wnd sn : U32) (hw : wnd.toNat < 2^31)
    (h : ¬ (itimediff sn (nxt + wnd) ≥ 0 ∨ itimediff sn nxt < 0)) : InWin nxt wnd sn := by
  unfold InWin
  unfold itimediff at *
  rw [← BitVec.sub_sub] at h
  generalize sn - nxt = d at h ⊢
  have hd : d.toNat < 2^31 := (Serial.toInt_nonneg_iff d).1 (by omega)
  rw [Serial.toInt_sub_small d wnd hd hw, Serial.toInt_of_small d hd] at h
  rw [Serial.toInt_of_small d hd]
  omega

theorem InWin.slide {nxt wnd sn : U32} (hw : wnd.toNat < 2^31) (h : InWin nxt wnd sn) (hne : sn ≠ nxt) :
    InWin (nxt + 1) wnd sn := by
  rw [inWin_iff _ _ _ hw] at h ⊢
  have h0 : (sn - nxt).toNat ≠ 0 := by
    intro h0
    apply hne
    bv_omega
  rw [← BitVec.sub_sub]
  generalize sn - nxt = d at h h0 ⊢
  rw [BitVec.toNat_sub_of_le (show (1 : U32) ≤ d from Nat.pos_of_ne_zero h0)]
  omega

/-- the receive-window invariant on `(rcv_nxt, rcv_wnd, rcv_buf)` -/
structure WinOK (nxt wnd : U32) (buf : List Seg) : Prop where
  small : wnd.toNat < 2^31
  inwin : ∀ s ∈ buf, InWin nxt wnd s.sn
  distinct : buf.Pairwise (fun a b => a.sn ≠ b.sn)

/-- pigeonhole: distinct sequence numbers inside a window of `wnd` consecutive values -/
theorem WinOK.length_le {nxt wnd : U32} {buf : List Seg} (h : WinOK nxt wnd buf) :
    buf.length ≤ wnd.toNat :=
  length_le_of_keys buf (fun s => (s.sn - nxt).toNat) wnd.toNat
    (fun s hs => (inWin_iff nxt wnd s.sn h.small).1 (h.inwin s hs))
    (h.distinct.imp fun hab heq => hab (by bv_omega))

theorem WinOK.insert {nxt wnd : U32} {buf : List Seg} (h : WinOK nxt wnd buf) (s : Seg)
    (hin : InWin nxt wnd s.sn) (hnew : buf.any (fun x => x.sn = s.sn) = false) :
    WinOK nxt wnd (heapInsert s buf) := by
  have hp := heapInsert_perm s buf
  refine ⟨h.small, ?_, ?_⟩
  · intro x hx
    rcases List.mem_cons.1 (hp.mem_iff.1 hx) with rfl | hx
    · exact hin
    · exact h.inwin x hx
  · rw [hp.pairwise_iff (fun hxy => Ne.symm hxy)]
    refine List.Pairwise.cons ?_ h.distinct
    intro x hx heq
    have : buf.any (fun x => x.sn = s.sn) = true := by
      rw [List.any_eq_true]; exact ⟨x, hx, by simpa using heq.symm⟩
    rw [hnew] at this; cases this

theorem moveLoop_ok (w : Nat) (wnd : U32) (buf q : List Seg) (nxt : U32) (h : WinOK nxt wnd buf) :
    WinOK (moveLoop w buf q nxt).nxt wnd (moveLoop w buf q nxt).buf :=
  moveLoop_carry (I := fun b _ n => WinOK n wnd b) w
    (fun _ _ _ _ h hs _ =>
      have hd := List.pairwise_cons.1 h.distinct
      ⟨h.small, fun x hx => (h.inwin x (List.mem_cons_of_mem _ hx)).slide h.small fun e => hd.1 x hx (hs.trans e.symm),
        hd.2⟩)
    buf q nxt h

end KcpVerif.Kcp
