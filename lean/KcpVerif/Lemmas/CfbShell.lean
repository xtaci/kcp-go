import KcpVerif.Lemmas.CfbList
/-! the salsa20 / xor / none shells as functions on the packet, and the generic round-trip
argument shared with CFB -/
namespace KcpVerif.Cfb

/-- `Decrypt(Encrypt(x)) = x` for one pair of calls.  `a1`/`a2`: the encrypting resp. the
decrypting call is made in place (`dst` is the same memory as `src`); an out-of-place call
writes into `d1` resp. `d2` (arbitrary contents, at least as long as the packet).  `none` is a
panic of the code. -/
def RoundTripAt (enc dec : Bytes → Bytes → Bool → Option Bufs) (x d1 d2 : Bytes) (a1 a2 : Bool) : Prop :=
  ∃ m1, enc x (if a1 then x else d1) a1 = some m1 ∧
  ∃ m2, dec (m1.dst.take x.length) (if a2 then m1.dst.take x.length else d2) a2 = some m2 ∧
    m2.dst.take x.length = x

theorem RoundTripAt.of_spec {enc dec : Bytes → Bytes → Bool → Option Bufs} {F G : Bytes → Bytes}
    {x d1 d2 : Bytes} {a1 a2 : Bool}
    (henc : ∀ d a, x.length ≤ d.length → (a = true → d = x) →
      ∃ m, enc x d a = some m ∧ m.dst.take x.length = F x)
    (hdec : ∀ d a, (F x).length ≤ d.length → (a = true → d = F x) →
      ∃ m, dec (F x) d a = some m ∧ m.dst.take (F x).length = G (F x))
    (hlen : (F x).length = x.length) (hGF : G (F x) = x)
    (h1 : x.length ≤ d1.length) (h2 : x.length ≤ d2.length) :
    RoundTripAt enc dec x d1 d2 a1 a2 := by
  obtain ⟨m1, e1, t1⟩ := henc (if a1 then x else d1) a1
    (by cases a1; exact h1; exact Nat.le_refl _) (fun h => by rw [if_pos h])
  refine ⟨m1, e1, ?_⟩
  rw [t1]
  obtain ⟨m2, e2, t2⟩ := hdec (if a2 then F x else d2) a2
    (by cases a2; exact hlen ▸ h2; exact Nat.le_refl _) (fun h => by rw [if_pos h])
  refine ⟨m2, e2, ?_⟩
  rw [← hlen, t2, hGF]

theorem none_spec (src dst : Bytes) (alias : Bool)
    (hal : alias = true → dst = src) : (noneCrypt src dst alias).dst.take src.length = src := by
  unfold noneCrypt
  by_cases h0 : src.length = 0
  · have : src = [] := List.eq_nil_of_length_eq_zero h0
    simp [this]
  · cases alias
    · simp only [h0, if_false, Bool.false_eq_true]
      exact take_write0 _ src
    · simp [h0, hal rfl]

theorem xor_spec (tbl src dst : Bytes) (alias : Bool)
    (ht : src.length ≤ tbl.length) :
    (xorCrypt tbl src dst alias).dst.take src.length = xorB src tbl := by
  unfold xorCrypt
  by_cases h0 : src.length = 0
  · have : src = [] := List.eq_nil_of_length_eq_zero h0
    simp [this, xorB_nil_left]
  · simp only [h0, if_false]
    have hx : (xorB src tbl).length = src.length := by rw [length_xorB]; omega
    rw [← hx, take_write0]

def salsaLong (ks : Bytes → Nat → UInt8) (x : Bytes) : Bytes :=
  x.take 8 ++ xorB (x.drop 8) (keystream ks (x.take 8) (x.length - 8))

@[simp] theorem length_keystream (ks : Bytes → Nat → UInt8) (nonce : Bytes) (n : Nat) :
    (keystream ks nonce n).length = n := by simp [keystream]

theorem length_salsaLong (ks : Bytes → Nat → UInt8) (x : Bytes) (h : 8 ≤ x.length) :
    (salsaLong ks x).length = x.length := by
  simp only [salsaLong, List.length_append, List.length_take, length_xorB, List.length_drop,
    length_keystream]; omega

theorem salsaLong_involutive (ks : Bytes → Nat → UInt8) (x : Bytes) (h : 8 ≤ x.length) :
    salsaLong ks (salsaLong ks x) = x := by
  have h8 : (x.take 8).length = 8 := by rw [List.length_take]; omega
  have hl := length_salsaLong ks x h
  have e1 : (salsaLong ks x).take 8 = x.take 8 := by
    rw [salsaLong, List.take_left' h8]
  have e2 : (salsaLong ks x).drop 8 = xorB (x.drop 8) (keystream ks (x.take 8) (x.length - 8)) := by
    rw [salsaLong, List.drop_left' h8]
  rw [salsaLong, e1, e2, hl, xorB_cancel _ _ (by simp), List.take_append_drop]

/-- what the salsa20 shell computes on a packet -/
def salsaF (ks : Bytes → Nat → UInt8) (x : Bytes) : Bytes :=
  if x.length < 8 then x else salsaLong ks x

theorem length_salsaF (ks : Bytes → Nat → UInt8) (x : Bytes) : (salsaF ks x).length = x.length := by
  by_cases h : x.length < 8
  · rw [salsaF, if_pos h]
  · rw [salsaF, if_neg h, length_salsaLong ks x (Nat.le_of_not_lt h)]

theorem salsaF_involutive (ks : Bytes → Nat → UInt8) (x : Bytes) : salsaF ks (salsaF ks x) = x := by
  by_cases h : x.length < 8
  · rw [salsaF, salsaF, if_pos h, if_pos h]
  · have h8 : 8 ≤ x.length := Nat.le_of_not_lt h
    rw [salsaF, salsaF, if_neg h, if_neg (by rw [length_salsaLong ks x h8]; exact h)]
    exact salsaLong_involutive ks x h8

theorem salsa_body_spec (ks : Bytes → Nat → UInt8) (src dst : Bytes) (alias : Bool)
    (h8 : 8 ≤ src.length) (hlen : src.length ≤ dst.length) (hal : alias = true → dst = src) :
    let m : Bufs := { src := src, dst := dst, alias := alias }
    let m1 := m.write 8 (xorB (src.drop 8) (keystream ks (src.take 8) (src.length - 8)))
    (if alias then m1 else m1.write 0 (m1.src.take 8)).dst.take src.length = salsaLong ks src := by
  intro m m1
  have hX : (xorB (src.drop 8) (keystream ks (src.take 8) (src.length - 8))).length
      = src.length - 8 := by simp
  have hN : (src.take 8).length = 8 := by rw [List.length_take]; omega
  have hd8 : (dst.take 8).length = 8 := by rw [List.length_take]; omega
  have hm1 : m1.dst = dst.take 8 ++ xorB (src.drop 8) (keystream ks (src.take 8) (src.length - 8))
      ++ dst.drop src.length := by
    show splice dst 8 _ = _
    rw [splice, hX]
    have : 8 + (src.length - 8) = src.length := by omega
    rw [this]
  have hfin : ∀ rest : Bytes, (src.take 8 ++ xorB (src.drop 8) (keystream ks (src.take 8) (src.length - 8))
      ++ rest).take src.length = salsaLong ks src := by
    intro rest
    rw [List.take_left' (by rw [List.length_append, hN, hX]; omega)]
    rfl
  cases alias
  · have hs : m1.src = src := rfl
    simp only [Bool.false_eq_true, if_false]
    rw [write0_dst, hs, hN, hm1, List.append_assoc, List.drop_left' hd8, ← List.append_assoc]
    exact hfin _
  · have := hal rfl
    subst this
    simp only [if_true]
    rw [hm1]
    exact hfin _

theorem aeadSeal_fits (sealF : Bytes → Bytes → Bytes) (overhead cap : Nat) (dst nonce pt : Bytes)
    (h : dst.length + pt.length + overhead ≤ cap) :
    aeadSeal sealF overhead cap dst nonce pt = some (dst ++ sealF nonce pt) := by
  rw [aeadSeal, if_neg (by omega)]

end KcpVerif.Cfb
