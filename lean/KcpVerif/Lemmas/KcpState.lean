/-
The dead-link flag `state` is written (phase 5) but never read: every operation maps connections
that differ only in `state` to results that differ only in `state`.  `KSE`, `FSE`, … ("state-equal")
are that relation on connections, flush buffers, loop states and results.  Core Lean only.
-/
import KcpVerif.Lemmas.KcpLiveFlush
import KcpVerif.Lemmas.KcpSteps
import KcpVerif.Lemmas.Fold

namespace KcpVerif.Live
open KcpVerif.Gen KcpVerif.Kcp

def KSE (a b : Kcp) : Prop := ∃ v, a = { b with state := v }

theorem KSE.refl (a : Kcp) : KSE a a := ⟨a.state, rfl⟩

theorem KSE.read {α : Type} {a b : Kcp} (h : KSE a b) (F : Kcp → α)
    (hF : ∀ k v, F { k with state := v } = F k := by intro _ _; rfl) : F a = F b := by
  obtain ⟨v, rfl⟩ := h; exact hF b v

theorem KSE.map {a b : Kcp} (h : KSE a b) (F : Kcp → Kcp)
    (hF : ∀ k v, F { k with state := v } = { F k with state := v } := by intro _ _; rfl) : KSE (F a) (F b) := by
  obtain ⟨v, rfl⟩ := h; exact ⟨v, hF b v⟩

/-- one link of a chain `let k := if c k then U k else k; …`: a guarded update that reads `state`
neither in its guard nor in what it writes -/
theorem KSE.guardOn {a b : Kcp} (h : KSE a b) (c : Kcp → Prop) [DecidablePred c] (U : Kcp → Kcp)
    (hc : ∀ k v, c { k with state := v } ↔ c k := by intro _ _; rfl)
    (hU : ∀ k v, U { k with state := v } = { U k with state := v } := by intro _ _; rfl) :
    KSE (if c a then U a else a) (if c b then U b else b) :=
  ite_rel' KSE (by obtain ⟨v, rfl⟩ := h; exact (hc b v).symm) (h.map U hU) h

theorem KSE.guard {a b : Kcp} (h : KSE a b) (c : Prop) [Decidable c] (U : Kcp → Kcp)
    (hU : ∀ k v, U { k with state := v } = { U k with state := v } := by intro _ _; rfl) :
    KSE (if c then U a else a) (if c then U b else b) :=
  ite_rel' KSE Iff.rfl (h.map U hU) h

theorem KSE.fields {a b : Kcp} (h : KSE a b) :
    a.conv = b.conv ∧ a.rx_rto = b.rx_rto ∧ a.nodelay = b.nodelay ∧ a.dead_link = b.dead_link ∧
    a.rcv_nxt = b.rcv_nxt ∧ a.interval = b.interval ∧ a.snd_buf = b.snd_buf ∧ a.fastresend = b.fastresend ∧
    a.probe = b.probe ∧ a.acklist = b.acklist := by
  obtain ⟨v, rfl⟩ := h; exact ⟨rfl, rfl, rfl, rfl, rfl, rfl, rfl, rfl, rfl, rfl⟩

structure FSE (f g : Fl) : Prop where
  k : KSE f.k g.k
  cur : f.cur = g.cur
  outs : f.outs = g.outs
  panic : f.panic = g.panic

theorem FSE.setK {f g : Fl} (h : FSE f g) {a b : Kcp} (hk : KSE a b) : FSE { f with k := a } { g with k := b } :=
  ⟨hk, h.cur, h.outs, h.panic⟩

theorem makeSpace_se {f g : Fl} (h : FSE f g) (n : Nat) : FSE (f.makeSpace n) (g.makeSpace n) :=
  ite_rel' FSE (by rw [h.cur, h.k.read Kcp.mtu]) ⟨h.k, rfl, by rw [h.outs, h.cur], h.panic⟩ h

theorem putHdr_se {f g : Fl} (h : FSE f g) (b : Bytes) : FSE (f.putHdr b) (g.putHdr b) :=
  ite_rel' FSE (by rw [h.cur, h.k.read Kcp.bufLen]) ⟨h.k, h.cur, h.outs, rfl⟩ ⟨h.k, by rw [h.cur], h.outs, h.panic⟩

theorem putData_se {f g : Fl} (h : FSE f g) (b : Bytes) : FSE (f.putData b) (g.putData b) :=
  ite_rel' FSE (by rw [h.cur, h.k.read Kcp.bufLen]) ⟨h.k, h.cur, h.outs, rfl⟩ ⟨h.k, by rw [h.cur], h.outs, h.panic⟩

theorem emit_se {f g : Fl} (h : FSE f g) (s : Seg) : FSE (emit f s) (emit g s) := by
  have h1 := putData_se (putHdr_se (makeSpace_se h (IKCP_OVERHEAD + s.data.length))
    (encodeHdr s.conv s.cmd s.frg s.wnd s.ts s.sn s.una s.data.length)) s.data
  obtain ⟨v, hv⟩ := h1.k
  exact ite_rel' FSE (by rw [h1.k.read Kcp.dead_link]) ⟨⟨0xFFFFFFFF#32, by rw [hv]⟩, h1.cur, h1.outs, h1.panic⟩ h1

structure XSE (x y : XmitSt) : Prop where
  f : FSE x.f y.f
  done : x.done = y.done
  change : x.change = y.change
  lost : x.lost = y.lost
  next : x.next = y.next

theorem xmitOne_se (now resent : U32) (wnd : BitVec 16) (una : U32) (newSegs : Nat) {x y : XmitSt} (h : XSE x y)
    (s : Seg) : XSE (xmitOne now resent wnd una newSegs x s) (xmitOne now resent wnd una newSegs y s) := by
  rw [xmitOne_eq, xmitOne_eq, h.f.k.read Kcp.rx_rto, h.f.k.read Kcp.nodelay, h.done, h.change, h.lost, h.next]
  exact ite_rel' XSE Iff.rfl ⟨h.f, rfl, rfl, rfl, rfl⟩ ⟨ite_rel' FSE Iff.rfl h.f (emit_se h.f _), rfl, rfl, rfl, rfl⟩

structure ASE (x y : AckSt) : Prop where
  f : FSE x.f y.f
  sc : x.sc = y.sc

theorem ackStep_se (wnd : BitVec 16) (una : U32) (total : Nat) (a : Ack) (i : Nat) {x y : AckSt} (h : ASE x y) :
    ASE (ackStep wnd una total a i x) (ackStep wnd una total a i y) := by
  unfold ackStep
  rw [h.f.k.read Kcp.rcv_nxt, h.f.k.read Kcp.conv, h.sc]
  exact ite_rel' ASE Iff.rfl ⟨putHdr_se (makeSpace_se h.f _) _, rfl⟩ ⟨makeSpace_se h.f _, rfl⟩

theorem ackFlush_se (wnd : BitVec 16) (una : U32) (total : Nat) (l : List Ack) (i : Nat) {x y : AckSt} (h : ASE x y) :
    ASE (ackFlush wnd una total l i x) (ackFlush wnd una total l i y) := by
  induction l generalizing i x y with
  | nil => exact h
  | cons a rest ih => rw [ackFlush_cons, ackFlush_cons]; exact ih (i + 1) (ackStep_se wnd una total a i h)

theorem probePhase_se {a b : Kcp} (h : KSE a b) (now : U32) : KSE (probePhase a now) (probePhase b now) := by
  obtain ⟨v, rfl⟩ := h
  -- closed: arm, fire or wait; open: clear
  exact ite_rel' KSE Iff.rfl (ite_rel' KSE Iff.rfl ⟨v, rfl⟩ (ite_rel' KSE Iff.rfl ⟨v, rfl⟩ ⟨v, rfl⟩)) ⟨v, rfl⟩

theorem phase6_se {a b : Kcp} (h : KSE a b) (cwnd resent : U32) (change lost : Nat) :
    KSE (phase6 a cwnd resent change lost) (phase6 b cwnd resent change lost) :=
  ite_rel' KSE (by rw [h.read Kcp.nocwnd])
    (((h.guard (change > 0)
      (fun k =>
        let ss := if (k.snd_nxt - k.snd_una) / 2 ≥ u32 IKCP_THRESH_MIN then (k.snd_nxt - k.snd_una) / 2 else u32 IKCP_THRESH_MIN
        { k with ssthresh := ss, cwnd := ss + resent, incr := (ss + resent) * k.mss })).guard (lost > 0)
      (fun k => { k with ssthresh := (if cwnd / 2 ≥ u32 IKCP_THRESH_MIN then cwnd / 2 else u32 IKCP_THRESH_MIN),
                         cwnd := 1, incr := k.mss })).guardOn
      (fun k => k.cwnd < 1) (fun k => { k with cwnd := 1, incr := k.mss }))
    h

theorem flAck_se {a b : Kcp} (h : KSE a b) : ASE (flAck a) (flAck b) := by
  unfold flAck
  rw [h.read wndUnused, h.read Kcp.rcv_nxt, h.read Kcp.acklist]
  exact ackFlush_se _ _ _ _ _ ⟨⟨h, rfl, rfl, rfl⟩, rfl⟩

theorem flF2_se {a b : Kcp} (h : KSE a b) (now : U32) : FSE (flF2 a now) (flF2 b now) :=
  (flAck_se h).f.setK (probePhase_se ((flAck_se h).f.k.map (fun k => { k with acklist := [] })) now)

theorem probeHdr_se {f g : Fl} (h : FSE f g) (bit : U32) (hdr : Bytes) :
    FSE (if f.k.probe &&& bit ≠ 0 then (f.makeSpace IKCP_OVERHEAD).putHdr hdr else f)
      (if g.k.probe &&& bit ≠ 0 then (g.makeSpace IKCP_OVERHEAD).putHdr hdr else g) :=
  ite_rel' FSE (by rw [h.k.read Kcp.probe]) (putHdr_se (makeSpace_se h _) _) h

theorem flF3a_se {a b : Kcp} (h : KSE a b) (now : U32) : FSE (flF3a a now) (flF3a b now) := by
  unfold flF3a
  rw [(flF2_se h now).k.read Kcp.conv, h.read wndUnused, h.read Kcp.rcv_nxt, (flAck_se h).sc]
  exact probeHdr_se (flF2_se h now) _ _

theorem flF3b_se {a b : Kcp} (h : KSE a b) (now : U32) : FSE (flF3b a now) (flF3b b now) := by
  unfold flF3b
  rw [(flF3a_se h now).k.read Kcp.conv, h.read wndUnused, h.read Kcp.rcv_nxt, (flAck_se h).sc]
  exact probeHdr_se (flF3a_se h now) _ _

theorem flF3_se {a b : Kcp} (h : KSE a b) (now : U32) : FSE (flF3 a now) (flF3 b now) :=
  (flF3b_se h now).setK ((flF3b_se h now).k.map (fun k => { k with probe := 0 }))

theorem flAd_se {a b : Kcp} (h : KSE a b) (now : U32) : flAd a now = flAd b now := by
  have h3 := (flF3_se h now).k
  unfold flAd
  rw [h3.read Kcp.conv, h3.read effWnd, h3.read Kcp.snd_una, h3.read Kcp.snd_queue, h3.read Kcp.snd_nxt,
    h3.read Kcp.snd_buf]

theorem flF4_se {a b : Kcp} (h : KSE a b) (now : U32) : FSE (flF4 a now) (flF4 b now) := by
  unfold flF4
  rw [flAd_se h now]
  exact (flF3_se h now).setK ((flF3_se h now).k.map
    (fun k => { k with snd_queue := (flAd b now).queue, snd_buf := (flAd b now).buf, snd_nxt := (flAd b now).nxt }))

theorem flX_se {a b : Kcp} (h : KSE a b) (full : Bool) (now : U32) : XSE (flX a full now) (flX b full now) := by
  have h4 := flF4_se h now
  unfold flX
  rw [h4.k.read resentOf, h.read wndUnused, h.read Kcp.rcv_nxt, flAd_se h now, h4.k.read Kcp.snd_buf,
    h4.k.read Kcp.interval]
  exact ite_rel' XSE Iff.rfl (foldl_rel (R := XSE) _ (fun _ _ s _ hx => xmitOne_se _ _ _ _ _ hx s) _ _ ⟨h4, rfl, rfl, rfl, rfl⟩) ⟨h4, rfl, rfl, rfl, rfl⟩

theorem flF5_se {a b : Kcp} (h : KSE a b) (full : Bool) (now : U32) : FSE (flF5 a full now) (flF5 b full now) := by
  have hx := flX_se h full now
  unfold flF5
  rw [hx.done]
  exact hx.f.setK (hx.f.k.map (fun k => { k with snd_buf := (flX b full now).done }))

theorem flush_se {a b : Kcp} (h : KSE a b) (full : Bool) (now : U32) :
    KSE (flush a full now).k (flush b full now).k ∧ (flush a full now).outs = (flush b full now).outs ∧
    (flush a full now).interval = (flush b full now).interval ∧ (flush a full now).panic = (flush b full now).panic := by
  have h5 := flF5_se h full now
  have hx := flX_se h full now
  rw [flush_eq, flush_eq]
  simp only []
  rw [hx.change, hx.lost, hx.next, (flF3_se h now).k.read effWnd, (flF4_se h now).k.read resentOf,
    h5.cur, h5.outs, h5.panic]
  exact ⟨phase6_se h5.k _ _ _ _, rfl, rfl, rfl⟩

theorem shrinkBuf_se {a b : Kcp} (h : KSE a b) : KSE (shrinkBuf a) (shrinkBuf b) := by
  obtain ⟨v, rfl⟩ := h
  rw [shrinkBuf_eq, shrinkBuf_eq]
  exact ⟨v, rfl⟩

theorem inPre_se {a b : Kcp} (h : KSE a b) (regular : Bool) (wnd : BitVec 16) (una : U32) :
    KSE (inPre regular wnd una a) (inPre regular wnd una b) ∧ inCnt regular wnd una a = inCnt regular wnd una b := by
  obtain ⟨w, e⟩ := h.guard (regular = true) (fun k => { k with rmt_wnd := wnd.setWidth 32 })
  unfold inPre inCnt
  rw [e]
  exact ⟨shrinkBuf_se ⟨w, rfl⟩, rfl⟩

theorem ackPath_se {a b : Kcp} (h : KSE a b) (sn ts : U32) :
    KSE (parseFastack (shrinkBuf (parseAck a sn)) sn ts).1 (parseFastack (shrinkBuf (parseAck b sn)) sn ts).1 ∧
    (parseFastack (shrinkBuf (parseAck a sn)) sn ts).2 = (parseFastack (shrinkBuf (parseAck b sn)) sn ts).2 := by
  have h1 : KSE (parseAck a sn) (parseAck b sn) := by
    obtain ⟨v, rfl⟩ := h
    exact ite_rel' KSE Iff.rfl ⟨v, rfl⟩ ⟨v, rfl⟩
  obtain ⟨v, e⟩ := shrinkBuf_se h1
  rw [e]
  exact ite_rel' (fun x y : Kcp × Bool => KSE x.1 y.1 ∧ x.2 = y.2) Iff.rfl ⟨⟨v, rfl⟩, rfl⟩ ⟨⟨v, rfl⟩, rfl⟩

def DataSE (x y : DataRes) : Prop := KSE x.k y.k ∧ x.rep = y.rep ∧ x.panic = y.panic

theorem parseData_se {a b : Kcp} (h : KSE a b) (s : Seg) : DataSE (parseData a s) (parseData b s) := by
  obtain ⟨v, rfl⟩ := h
  -- outside the window; a repeat; a payload beyond the buffer; stored
  exact ite_rel' DataSE Iff.rfl ⟨⟨v, rfl⟩, rfl, rfl⟩
    (ite_rel' DataSE Iff.rfl ⟨⟨v, rfl⟩, rfl, rfl⟩ (ite_rel' DataSE Iff.rfl ⟨⟨v, rfl⟩, rfl, rfl⟩ ⟨⟨v, rfl⟩, rfl, rfl⟩))

structure LSE (x y : InLoop) : Prop where
  k : KSE x.k y.k
  latest : x.latest = y.latest
  updRtt : x.updRtt = y.updRtt
  flushSeg : x.flushSeg = y.flushSeg
  ret : x.ret = y.ret
  panic : x.panic = y.panic

theorem inStep_se (regular : Bool) (conv : U32) (cmd frg : BitVec 8) (wnd : BitVec 16) (ts sn una : U32)
    (payload : Bytes) {x y : InLoop} (h : LSE x y) :
    LSE (inStep regular conv cmd frg wnd ts sn una payload x) (inStep regular conv cmd frg wnd ts sn una payload y) := by
  have hp := inPre_se h.k regular wnd una
  have hf := ackPath_se hp.1 sn ts
  have hal := hp.1.map (fun k => { k with acklist := k.acklist ++ [⟨sn, ts⟩] })
  have hd := parseData_se hal (pushSeg conv cmd frg wnd ts sn una payload)
  have hfl : (x.flushSeg || decide (inCnt regular wnd una x.k > 0)) = (y.flushSeg || decide (inCnt regular wnd una y.k > 0)) := by
    rw [h.flushSeg, hp.2]
  have same : ∀ {k k' : Kcp}, KSE k k' → LSE { x with k := k, flushSeg := x.flushSeg || decide (inCnt regular wnd una x.k > 0) }
      { y with k := k', flushSeg := y.flushSeg || decide (inCnt regular wnd una y.k > 0) } :=
    fun hk => ⟨hk, h.latest, h.updRtt, hfl, h.ret, h.panic⟩
  rw [inStep_eq, inStep_eq]
  -- same branch on both sides: the guards read `cmd`, or `rcv_nxt`/`rcv_wnd` after the prologue
  refine ite_rel' LSE Iff.rfl ?ack (ite_rel' LSE Iff.rfl ?push ?other)
  case ack => exact ⟨hf.1, rfl, rfl, by rw [hfl, hf.2], h.ret, h.panic⟩
  case push =>
    refine ite_rel' LSE (by rw [hp.1.read Kcp.rcv_nxt, hp.1.read Kcp.rcv_wnd])
      (ite_rel' LSE (by rw [hp.1.read Kcp.rcv_nxt]) ?data ?stale) ?refused
    case data => exact ⟨hd.1, h.latest, h.updRtt, hfl, h.ret, hd.2.2⟩
    case stale => exact same hal
    case refused => exact same hp.1
  case other =>
    exact ite_rel' LSE Iff.rfl (same (hp.1.map (fun k => { k with probe := k.probe ||| u32 IKCP_ASK_TELL }))) (same hp.1)

theorem inputLoop_se (regular : Bool) (fuel : Nat) (data : Bytes) {x y : InLoop} (h : LSE x y) :
    LSE (inputLoop regular fuel data x) (inputLoop regular fuel data y) := by
  induction fuel generalizing data x y with
  | zero => exact h
  | succ n ih =>
    have hs : LSE (inStepAt regular data x) (inStepAt regular data y) := inStep_se _ _ _ _ _ _ _ _ _ h
    have hr : ∀ r, LSE { x with ret := r } { y with ret := r } := fun r =>
      ⟨h.k, h.latest, h.updRtt, h.flushSeg, rfl, h.panic⟩
    rw [inputLoop_succ, inputLoop_succ]
    exact ite_rel' LSE Iff.rfl h
      (ite_rel' LSE (by rw [h.k.read Kcp.conv]) (hr _)
        (ite_rel' LSE Iff.rfl (hr _) (ite_rel' LSE Iff.rfl (hr _) (ite_rel' LSE (by rw [hs.panic]) hs (ih _ hs)))))

theorem updateAck_se {a b : Kcp} (h : KSE a b) (rtt : U32) : KSE (updateAck a rtt) (updateAck b rtt) := by
  have h1 : KSE (smoothRtt a rtt) (smoothRtt b rtt) := by
    obtain ⟨v, rfl⟩ := h
    exact ite_rel' KSE Iff.rfl ⟨v, rfl⟩ ⟨v, rfl⟩
  obtain ⟨v, e⟩ := h1
  unfold updateAck
  exact ⟨v, by rw [e]⟩

theorem cwndOnAck_se {a b : Kcp} (h : KSE a b) (old : U32) : KSE (cwndOnAck a old) (cwndOnAck b old) := by
  obtain ⟨v, rfl⟩ := h
  refine ite_rel' KSE Iff.rfl (KSE.guardOn ?_ (fun k => k.cwnd > k.rmt_wnd)
    (fun k => { k with cwnd := k.rmt_wnd, incr := k.rmt_wnd * b.mss })) ⟨v, rfl⟩
  exact ite_rel' KSE Iff.rfl ⟨v, rfl⟩ (ite_rel' KSE Iff.rfl ⟨v, rfl⟩ ⟨v, rfl⟩)

theorem inSt_se {a b : Kcp} (h : KSE a b) (data : Bytes) (regular : Bool) :
    LSE (inSt a data regular) (inSt b data regular) :=
  inputLoop_se regular _ data ⟨h, rfl, rfl, rfl, rfl, rfl⟩

theorem inK2_se {a b : Kcp} (h : KSE a b) (data : Bytes) (regular : Bool) (now : U32) :
    KSE (inK2 a data regular now) (inK2 b data regular now) := by
  have hs := inSt_se h data regular
  unfold inK2
  rw [hs.updRtt, hs.latest, h.read Kcp.snd_una]
  exact cwndOnAck_se (ite_rel' KSE Iff.rfl (updateAck_se hs.k _) hs.k) _

def InSE (x y : InRes) : Prop := KSE x.k y.k ∧ x.ret = y.ret ∧ x.outs = y.outs ∧ x.panic = y.panic

theorem input_se {a b : Kcp} (h : KSE a b) (data : Bytes) (regular ackNoDelay : Bool) (now : U32) :
    InSE (input a data regular ackNoDelay now) (input b data regular ackNoDelay now) := by
  have hs := inSt_se h data regular
  have h2 := inK2_se h data regular now
  have hfl : ∀ full, InSE ⟨(flush (inK2 a data regular now) full now).k, 0, (flush (inK2 a data regular now) full now).outs,
        (flush (inK2 a data regular now) full now).panic⟩
      ⟨(flush (inK2 b data regular now) full now).k, 0, (flush (inK2 b data regular now) full now).outs,
        (flush (inK2 b data regular now) full now).panic⟩ :=
    fun full => ⟨(flush_se h2 full now).1, rfl, (flush_se h2 full now).2.1, (flush_se h2 full now).2.2.2⟩
  rw [input_eq, input_eq]
  -- every exit is decided by the bytes, by the loop state (`hs`) or by `acklist`/`mtu` of `inK2` (`h2`)
  refine ite_rel' InSE Iff.rfl ?short (ite_rel' InSE (by rw [hs.panic]) ?panic (ite_rel' InSE (by rw [hs.ret]) ?refused
    (ite_rel' InSE (by rw [hs.flushSeg]) ?full (ite_rel' InSE (by rw [h2.read Kcp.acklist, h2.read Kcp.mtu]) ?acksFull
      (ite_rel' InSE (by rw [h2.read Kcp.acklist]) ?noDelay ?quiet)))))
  case short => exact ⟨h, rfl, rfl, rfl⟩
  case panic => exact ⟨hs.k, rfl, rfl, rfl⟩
  case refused => exact ⟨hs.k, hs.ret, rfl, rfl⟩
  case full => exact hfl true
  case acksFull => exact hfl false
  case noDelay => exact hfl false
  case quiet => exact ⟨h2, rfl, rfl, rfl⟩

def RecvSE (x y : RecvRes) : Prop := KSE x.k y.k ∧ x.n = y.n ∧ x.data = y.data

theorem recv_se {a b : Kcp} (h : KSE a b) (n : Nat) : RecvSE (recv a n) (recv b n) := by
  obtain ⟨v, rfl⟩ := h
  refine ite_rel' RecvSE Iff.rfl ?empty (ite_rel' RecvSE Iff.rfl ?small ?deliver)
  case empty => exact ⟨⟨v, rfl⟩, rfl, rfl⟩
  case small => exact ⟨⟨v, rfl⟩, rfl, rfl⟩
  case deliver => exact ⟨ite_rel' KSE Iff.rfl ⟨v, rfl⟩ ⟨v, rfl⟩, rfl, rfl⟩

def SendSE (x y : SendRes) : Prop := KSE x.k y.k ∧ x.ret = y.ret ∧ x.panic = y.panic

theorem send_se {a b : Kcp} (h : KSE a b) (buf : Bytes) : SendSE (send a buf) (send b buf) := by
  obtain ⟨v, rfl⟩ := h
  unfold send
  simp only []
  refine ite_rel' SendSE Iff.rfl ⟨⟨v, rfl⟩, rfl, rfl⟩ ?_
  refine ite_rel' SendSE Iff.rfl ⟨⟨v, rfl⟩, rfl, rfl⟩ ?_
  refine ite_rel' SendSE Iff.rfl ⟨⟨v, rfl⟩, rfl, rfl⟩ ?_
  refine ite_rel' SendSE Iff.rfl ⟨⟨v, rfl⟩, rfl, rfl⟩ ?_
  refine ite_rel' SendSE Iff.rfl ⟨⟨v, rfl⟩, rfl, rfl⟩ ?_
  exact ⟨⟨v, rfl⟩, rfl, rfl⟩

theorem updK2_se {a b : Kcp} (h : KSE a b) (now : U32) :
    KSE (updK2 a now) (updK2 b now) ∧ (updGo a now ↔ updGo b now) := by
  have h1 : KSE (if a.updated = 0 then { a with updated := 1, ts_flush := now } else a)
      (if b.updated = 0 then { b with updated := 1, ts_flush := now } else b) :=
    h.guardOn (fun k => k.updated = 0) (fun k => { k with updated := 1, ts_flush := now })
  have ht := h1.read Kcp.ts_flush
  unfold updK2 updGo
  simp only []
  rw [ht]
  exact ⟨h1.guard _ (fun k => { k with ts_flush := now }), Iff.rfl⟩

theorem update_se {a b : Kcp} (h : KSE a b) (now : U32) :
    KSE (update a now).k (update b now).k ∧ (update a now).outs = (update b now).outs ∧
    (update a now).interval = (update b now).interval ∧ (update a now).panic = (update b now).panic := by
  obtain ⟨h2, hg⟩ := updK2_se h now
  rw [Kcp.update_eq, Kcp.update_eq, h2.read (updTf · now)]
  exact ite_rel' (fun x y : FlushRes => KSE x.k y.k ∧ x.outs = y.outs ∧ x.interval = y.interval ∧ x.panic = y.panic) hg.symm
    (flush_se (h2.map (fun k => { k with ts_flush := updTf (updK2 b now) now })) true now) ⟨h2, rfl, rfl, rfl⟩

def MtuSE (x y : Kcp × Int) : Prop := KSE x.1 y.1 ∧ x.2 = y.2

/-- the remaining operations: pure readers and setters -/
theorem misc_se {a b : Kcp} (h : KSE a b) :
    peekSize a = peekSize b ∧ waitSnd a = waitSnd b ∧ (∀ now, check a now = check b now) ∧
    (∀ m, KSE (setMtu a m).1 (setMtu b m).1 ∧ (setMtu a m).2 = (setMtu b m).2) ∧
    (∀ s r, KSE (wndSize a s r) (wndSize b s r)) ∧
    (∀ nd iv rs nc, KSE (noDelay a nd iv rs nc) (noDelay b nd iv rs nc)) := by
  refine ⟨h.read peekSize, h.read waitSnd, fun now => h.read (check · now), ?_, fun s r => ?_, fun nd iv rs nc => ?_⟩
  · obtain ⟨v, rfl⟩ := h
    intro m
    -- four refusals, then the write; the tests read `m` and the data lengths of the send side
    refine ite_rel' MtuSE Iff.rfl ?r1 (ite_rel' MtuSE Iff.rfl ?r2 (ite_rel' MtuSE Iff.rfl ?r3
      (ite_rel' MtuSE Iff.rfl ?r4 ?set)))
    case r1 => exact ⟨⟨v, rfl⟩, rfl⟩
    case r2 => exact ⟨⟨v, rfl⟩, rfl⟩
    case r3 => exact ⟨⟨v, rfl⟩, rfl⟩
    case r4 => exact ⟨⟨v, rfl⟩, rfl⟩
    case set => exact ⟨⟨v, rfl⟩, rfl⟩
  · exact (h.guard (s > 0) (fun k => { k with snd_wnd := BitVec.ofInt 32 s })).guard (r > 0)
      (fun k => { k with rcv_wnd := BitVec.ofInt 32 r })
  · exact (((h.guard (nd ≥ 0)
        (fun k => { k with nodelay := BitVec.ofInt 32 nd,
                           rx_minrto := if nd ≠ 0 then u32 IKCP_RTO_NDL else u32 IKCP_RTO_MIN })).guard (iv ≥ 0)
        (fun k => { k with interval := BitVec.ofInt 32 (if iv > 5000 then 5000 else if iv < 10 then 10 else iv) })).guard
        (rs ≥ 0) (fun k => { k with fastresend := BitVec.ofInt 32 rs })).guard (nc ≥ 0)
        (fun k => { k with nocwnd := BitVec.ofInt 32 nc })

end KcpVerif.Live
