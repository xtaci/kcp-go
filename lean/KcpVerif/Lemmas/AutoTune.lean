/-
The period detector of `Model/AutoTune` (kcp-go `autotune.go`) on an in-order run of genuine samples: the scan
as an equation (sound, and complete under exact window-length conditions), the ring as a sliding window, and
that two different ratios disagree within `2 * (d + p)` consecutive ids.  Core Lean only.
-/
import KcpVerif.Model.AutoTune
import KcpVerif.Lemmas.Serial
import KcpVerif.Lemmas.Fold

namespace KcpVerif.Lemmas.AutoTune
open KcpVerif.AutoTune KcpVerif.Gen

/-- type bit (data = `true`) of id `k` under sender ratio d/p -/
def label (d p k : Nat) : Bool := decide (k % (d + p) < d)

def pulseAt (d p k : Nat) : Pulse := { bit := label d p k, seq := BitVec.ofNat 32 k }

/-- the in-order run of `len` genuine samples with ids `s, s+1, …` (naturals: no 2^32 wrap) -/
def run (d p : Nat) : Nat → Nat → List Pulse
  | _, 0 => []
  | s, len + 1 => { bit := label d p s, seq := BitVec.ofNat 32 s } :: run d p (s + 1) len

/-! ## A run is already sorted -/

theorem run_succ (d p s len : Nat) :
    run d p s (len + 1) = pulseAt d p s :: run d p (s + 1) len := rfl

theorem run_eq_map (d p : Nat) : ∀ (len s : Nat), run d p s len = (List.range' s len).map (pulseAt d p)
  | 0, _ => rfl
  | len + 1, s => by rw [run_succ, run_eq_map d p len, List.range'_succ, List.map_cons]

theorem length_run (d p s len : Nat) : (run d p s len).length = len := by
  rw [run_eq_map, List.length_map, List.length_range']

theorem mem_run {d p s len : Nat} {x : Pulse} (h : x ∈ run d p s len) :
    ∃ j, j < len ∧ x = pulseAt d p (s + j) := by
  rw [run_eq_map, List.mem_map] at h
  obtain ⟨k, hk, rfl⟩ := h
  rw [List.mem_range'_1] at hk
  exact ⟨k - s, by omega, by rw [show s + (k - s) = k by omega]⟩

theorem pulseLe_of_close (a j : Nat) (hj : j < 2 ^ 31) (x y : Bool) :
    pulseLe ⟨x, BitVec.ofNat 32 a⟩ ⟨y, BitVec.ofNat 32 (a + j)⟩ = true := by
  unfold pulseLe itimediff
  rw [Serial.toInt_sub_rep (Serial.Rep.ofNat (a + j)) (Serial.Rep.ofNat a) (by omega) (by omega),
    Bool.not_eq_true', decide_eq_false_iff_not]
  omega

/-- a sample sorts before every sample of a run that starts at or after its id and ends less than `2^31`
    ids later -/
theorem pulseLe_run {d p s len a : Nat} (x : Bool) (ha : a ≤ s) (hclose : s + len ≤ a + 2 ^ 31) :
    ∀ c ∈ run d p s len, pulseLe ⟨x, BitVec.ofNat 32 a⟩ c = true := by
  intro c hc
  obtain ⟨j, hj, rfl⟩ := mem_run hc
  have := pulseLe_of_close a (s + j - a) (by omega) x (label d p (s + j))
  rwa [show a + (s + j - a) = s + j by omega] at this

theorem pairwise_run {d p s len : Nat} (hl : len ≤ 2 ^ 31) :
    (run d p s len).Pairwise (fun a b => pulseLe a b = true) := by
  induction len generalizing s with
  | zero => exact List.Pairwise.nil
  | succ len ih =>
    rw [run_succ]
    exact List.Pairwise.cons (pulseLe_run _ (Nat.le_succ s) (by omega)) (ih (by omega))

theorem sort_run {d p s len : Nat} (hl : len ≤ 2 ^ 31) :
    sortPulses (run d p s len) = run d p s len :=
  List.mergeSort_of_pairwise (pairwise_run hl)

example : sortPulses (run 3 2 7 20) = run 3 2 7 20 := sort_run (by decide)

/-- the bound is attained: the window spans half the id space (and ends at the last id, `2^32 - 1`) -/
example : sortPulses (run 3 2 (2 ^ 31) (2 ^ 31)) = run 3 2 (2 ^ 31) (2 ^ 31) :=
  sort_run (by decide)

/-- residue (mod `d + p`) of the ids at which a pulse of `want` starts -/
def phase (d : Nat) (want : Bool) : Nat := if want then 0 else d

/-- the test made by `scanEdge want` between ids `b` and `b + 1` -/
def isEdge (d p : Nat) (want : Bool) (b : Nat) : Bool :=
  (label d p b != want) && (label d p (b + 1) == want)

theorem align_mod (w : Nat) {n : Nat} (hn : 0 < n) : (w + (n - 1 - w % n)) % n = n - 1 := by
  have hr := Nat.mod_lt w hn
  rw [Serial.add_mod_cases w _ n hn (by omega)]
  split <;> omega

theorem isEdge_iff {d p : Nat} (hd : 0 < d) (hp : 0 < p) (want : Bool) (b : Nat) :
    isEdge d p want b = true ↔ (b + 1) % (d + p) = phase d want := by
  have h2 := Nat.mod_lt b (show 0 < d + p by omega)
  simp only [isEdge, label, phase, Serial.add_mod_cases b 1 (d + p) (by omega) (by omega)]
  generalize b % (d + p) = r at *
  cases want
  · simp only [Bool.bne_false, beq_false, Bool.and_eq_true, decide_eq_true_eq,
      Bool.not_eq_eq_eq_not, Bool.not_true, decide_eq_false_iff_not, Nat.not_lt,
      Bool.false_eq_true, ↓reduceIte]
    split <;> omega
  · simp only [Bool.bne_true, beq_true, Bool.and_eq_true, Bool.not_eq_eq_eq_not, Bool.not_true,
      decide_eq_false_iff_not, Nat.not_lt, decide_eq_true_eq, ↓reduceIte]
    split <;> omega

theorem isEdge_false_iff {d p : Nat} (hd : 0 < d) (hp : 0 < p) (want : Bool) (b : Nat) :
    isEdge d p want b = false ↔ (b + 1) % (d + p) ≠ phase d want := by
  simp only [ne_eq, ← isEdge_iff hd hp want b, Bool.not_eq_true]

theorem ofNat_succ (b : Nat) : BitVec.ofNat 32 b + 1 = BitVec.ofNat 32 (b + 1) := by
  rw [BitVec.ofNat_add]; rfl

theorem scan_run_cons (d p : Nat) (want : Bool) (b idx m : Nat) :
    scanEdge want (pulseAt d p b) idx (run d p (b + 1) (m + 1)) =
      if isEdge d p want b = true then some (idx, pulseAt d p (b + 1), run d p (b + 2) m)
      else scanEdge want (pulseAt d p (b + 1)) (idx + 1) (run d p (b + 2) m) := by
  simp only [run_succ, scanEdge, pulseAt, ofNat_succ, beq_self_eq_true, if_true, isEdge,
    show b + 1 + 1 = b + 2 from rfl]
  rfl

theorem scan_run (d p : Nat) (want : Bool) :
    ∀ (t b idx m : Nat), (∀ i, i < t → isEdge d p want (b + i) = false) →
      isEdge d p want (b + t) = true →
      scanEdge want (pulseAt d p b) idx (run d p (b + 1) m) =
        if t < m then some (idx + t, pulseAt d p (b + t + 1), run d p (b + t + 2) (m - t - 1))
        else none := by
  intro t
  induction t with
  | zero =>
    intro b idx m _ he
    cases m with
    | zero => rfl
    | succ m =>
      rw [scan_run_cons, if_pos (show isEdge d p want b = true from he), if_pos (Nat.succ_pos m)]; rfl
  | succ t ih =>
    intro b idx m hne he
    cases m with
    | zero => rfl
    | succ m =>
      have h0 : isEdge d p want b = false := hne 0 (Nat.succ_pos t)
      rw [scan_run_cons, if_neg (by rw [h0]; exact Bool.false_ne_true), ih (b + 1) (idx + 1) m
        (fun i hi => by rw [Nat.add_right_comm b 1 i]; exact hne (i + 1) (Nat.succ_lt_succ hi))
        (by rw [Nat.add_right_comm b 1 t]; exact he)]
      by_cases hm : t < m
      · rw [if_pos hm, if_pos (Nat.succ_lt_succ hm), Nat.add_right_comm b 1 t,
          Nat.add_right_comm idx 1 t, Nat.add_assoc idx, Nat.add_assoc b t 1, Nat.succ_sub_succ]
      · rw [if_neg hm, if_neg (fun h' => hm (Nat.lt_of_succ_lt_succ h'))]

/-- length of a pulse of `want` -/
def width (d p : Nat) (want : Bool) : Nat := if want then d else p

/-- from the start of a pulse of `want`, the next pulse of `!want` starts exactly `width d p want` ids later -/
theorem hit {d p k : Nat} (hd : 0 < d) (hp : 0 < p) (want : Bool)
    (hk : k % (d + p) = phase d want) (i : Nat) (h1 : 1 ≤ i) (hi : i ≤ width d p want) :
    (k + i) % (d + p) = phase d (!want) ↔ i = width d p want := by
  cases want
  · simp only [phase, width, Bool.false_eq_true, if_false, Bool.not_false, if_true] at *
    rw [Serial.add_mod_cases k i (d + p) (by omega) (by omega), hk]; split <;> omega
  · simp only [phase, width, Bool.false_eq_true, if_false, Bool.not_true, if_true] at *
    rw [Serial.add_mod_cases k i (d + p) (by omega) (by omega), hk]; split <;> omega

theorem width_pos {d p : Nat} (hd : 0 < d) (hp : 0 < p) (want : Bool) : 1 ≤ width d p want := by
  cases want
  · simp only [width, Bool.false_eq_true, if_false]; omega
  · simp only [width, if_true]; omega

theorem width_of_edges {d p : Nat} (hd : 0 < d) (hp : 0 < p) (want : Bool) (k t2 : Nat)
    (he1 : isEdge d p want k = true)
    (hne2 : ∀ i, i < t2 → isEdge d p (!want) (k + 1 + i) = false)
    (he2 : isEdge d p (!want) (k + 1 + t2) = true) : t2 + 1 = width d p want := by
  rw [isEdge_iff hd hp] at he1 he2
  have hne2' : ∀ i, i < t2 → (k + 1 + i + 1) % (d + p) ≠ phase d (!want) :=
    fun i hi => (isEdge_false_iff hd hp _ _).1 (hne2 i hi)
  have hw := width_pos hd hp want
  have H := hit hd hp want he1
  rcases Nat.lt_or_ge (width d p want) (t2 + 1) with hlt | hge
  · exfalso
    have := hne2' (width d p want - 1) (by omega)
    rw [show k + 1 + (width d p want - 1) + 1 = k + 1 + width d p want by omega] at this
    exact this ((H _ hw (Nat.le_refl _)).2 rfl)
  · exact (H (t2 + 1) (by omega) hge).1 he2

theorem first_hit {s t n ph : Nat} (hn : 0 < n) (hph : ph < n) (ht : t < n)
    (h : s % n + t + 1 = ph ∨ s % n + t + 1 = ph + n) :
    (∀ i, i < t → (s + i + 1) % n ≠ ph) ∧ (s + t + 1) % n = ph := by
  have hr := Nat.mod_lt s hn
  constructor
  · intro i hi
    rw [Nat.add_assoc, Serial.add_mod_cases s (i + 1) n hn (by omega)]
    split <;> omega
  · rw [Nat.add_assoc, Serial.add_mod_cases s (t + 1) n hn (by omega)]
    split <;> omega

/-- `s + t + 1` is the first id after `s` at which a pulse of `want` starts (`h`: fixed by the residue of `s`) -/
theorem period_run_eq {d p : Nat} (hd : 0 < d) (hp : 0 < p) (want : Bool) (s len : Nat) {t : Nat}
    (ht : t < d + p)
    (h : s % (d + p) + t + 1 = phase d want ∨ s % (d + p) + t + 1 = phase d want + (d + p)) :
    periodOfSorted want (run d p s len) =
      if t + width d p want + 1 < len then (width d p want : Int) else -1 := by
  have hph : phase d want < d + p := by unfold phase; split <;> omega
  obtain ⟨hne, he⟩ := first_hit (by omega) hph ht h
  have hw := width_pos hd hp want
  have H := hit hd hp want he
  cases len with
  | zero => rfl
  | succ len =>
    rw [run_succ]
    simp only [periodOfSorted]
    rw [scan_run d p want t s 1 len (fun i hi => (isEdge_false_iff hd hp _ _).2 (hne i hi))
      ((isEdge_iff hd hp _ _).2 he)]
    by_cases h1 : t < len
    · rw [if_pos h1]
      simp only
      -- the pulse starts at id `s + t + 1`; its last id is the first edge to `!want` from there on
      rw [scan_run d p (!want) (width d p want - 1) (s + t + 1) (1 + t + 1) (len - t - 1)
        (fun i hi => (isEdge_false_iff hd hp _ _).2 (by
          rw [Nat.add_assoc (s + t + 1) i 1, ne_eq, H (i + 1) (by omega) (by omega)]; omega))
        ((isEdge_iff hd hp _ _).2 (by
          rw [Nat.add_assoc (s + t + 1) _ 1, H _ (by omega) (by omega)]; omega))]
      by_cases h3 : width d p want - 1 < len - t - 1
      · rw [if_pos h3, if_pos (by omega)]; simp only; omega
      · rw [if_neg h3, if_neg (by omega)]
    · rw [if_neg h1, if_neg (by omega)]

theorem exists_gap {n ph : Nat} (hph : ph < n) (s : Nat) :
    ∃ t, t < n ∧ (s % n + t + 1 = ph ∨ s % n + t + 1 = ph + n) := by
  have hr := Nat.mod_lt s (show 0 < n by omega)
  rcases Nat.lt_or_ge (s % n) ph with h | h
  · exact ⟨ph - s % n - 1, by omega, Or.inl (by omega)⟩
  · exact ⟨ph + n - s % n - 1, by omega, Or.inr (by omega)⟩

theorem period_run_sound {d p : Nat} (hd : 0 < d) (hp : 0 < p) (want : Bool) (s len : Nat) :
    periodOfSorted want (run d p s len) = -1 ∨
    periodOfSorted want (run d p s len) = (width d p want : Int) := by
  obtain ⟨t, ht, h⟩ := exists_gap (show phase d want < d + p by unfold phase; split <;> omega) s
  rw [period_run_eq hd hp want s len ht h]
  split
  · exact Or.inr rfl
  · exact Or.inl rfl

theorem period_run_iff {d p : Nat} (hd : 0 < d) (hp : 0 < p) (want : Bool) (s len : Nat) {t : Nat}
    (ht : t < d + p)
    (h : s % (d + p) + t + 1 = phase d want ∨ s % (d + p) + t + 1 = phase d want + (d + p)) :
    periodOfSorted want (run d p s len) = (width d p want : Int) ↔ t + width d p want + 1 < len := by
  rw [period_run_eq hd hp want s len ht h]
  have hw := width_pos hd hp want
  split
  · next hc => exact ⟨fun _ => hc, fun _ => rfl⟩
  · next hc => exact ⟨fun e => by omega, fun hc' => absurd hc' hc⟩

/-- the data period is found iff the first group start strictly after `s`, the `d` data ids from
    there and the parity id after them are inside the window -/
theorem period_run_true_iff {d p : Nat} (hd : 0 < d) (hp : 0 < p) (s len : Nat) :
    periodOfSorted true (run d p s len) = (d : Int) ↔
      (s + ((d + p) - s % (d + p))) + d < s + len := by
  have hr := Nat.mod_lt s (show 0 < d + p by omega)
  refine (period_run_iff hd hp true s len (t := (d + p) - s % (d + p) - 1) (by omega)
    (Or.inr (show _ = 0 + (d + p) by omega))).trans ?_
  simp only [width, if_true]
  omega

/-- the parity period is found iff the first id `k' > s` with `k' % (d + p) = d`, the `p` parity
    ids from there and the data id after them are inside the window -/
theorem period_run_false_iff {d p : Nat} (hd : 0 < d) (hp : 0 < p) (s len : Nat) :
    periodOfSorted false (run d p s len) = (p : Int) ↔
      (if s % (d + p) < d then s + (d - s % (d + p)) else s + ((d + p) - s % (d + p)) + d) + p
        < s + len := by
  have hr := Nat.mod_lt s (show 0 < d + p by omega)
  by_cases hc : s % (d + p) < d
  · rw [if_pos hc]
    refine (period_run_iff hd hp false s len (t := d - s % (d + p) - 1) (by omega)
      (Or.inl (show _ = d by omega))).trans ?_
    simp only [width, Bool.false_eq_true, if_false]
    omega
  · rw [if_neg hc]
    refine (period_run_iff hd hp false s len (t := (d + p) - s % (d + p) + d - 1) (by omega)
      (Or.inr (show _ = d + (d + p) by omega))).trans ?_
    simp only [width, Bool.false_eq_true, if_false]
    omega

theorem period_run_true_short {d p : Nat} (hd : 0 < d) (hp : 0 < p) (s len : Nat)
    (h : ¬ (s + ((d + p) - s % (d + p))) + d < s + len) :
    periodOfSorted true (run d p s len) = -1 :=
  (period_run_sound hd hp true s len).resolve_right
    (fun h' => h ((period_run_true_iff hd hp s len).1 h'))

theorem period_run_false_short {d p : Nat} (hd : 0 < d) (hp : 0 < p) (s len : Nat)
    (h : ¬ (if s % (d + p) < d then s + (d - s % (d + p)) else s + ((d + p) - s % (d + p)) + d) + p
          < s + len) :
    periodOfSorted false (run d p s len) = -1 :=
  (period_run_sound hd hp false s len).resolve_right
    (fun h' => h ((period_run_false_iff hd hp s len).1 h'))

example : periodOfSorted true (run 3 2 7 20) = 3 := by decide
example : periodOfSorted false (run 3 2 7 20) = 2 := by decide
example : periodOfSorted true (run 3 2 7 20) = 3 :=
  (period_run_true_iff (by decide) (by decide) 7 20).2 (by decide)
example : periodOfSorted false (run 3 2 7 20) = 2 :=
  (period_run_false_iff (by decide) (by decide) 7 20).2 (by decide)

/-- the length conditions are tight: one sample less and the right edge is outside the window -/
example : (7 + ((3 + 2) - 7 % (3 + 2))) + 3 = 7 + 6 ∧ periodOfSorted true (run 3 2 7 6) = -1 ∧
    periodOfSorted true (run 3 2 7 7) = 3 := by decide
example : (if 7 % (3 + 2) < 3 then 7 + (3 - 7 % (3 + 2)) else 7 + ((3 + 2) - 7 % (3 + 2)) + 3) + 2
      = 7 + 3 ∧ periodOfSorted false (run 3 2 7 3) = -1 ∧
    periodOfSorted false (run 3 2 7 4) = 2 := by decide
example : (if 9 % (3 + 2) < 3 then 9 + (3 - 9 % (3 + 2)) else 9 + ((3 + 2) - 9 % (3 + 2)) + 3) + 2
      = 9 + 6 ∧ periodOfSorted false (run 3 2 9 6) = -1 ∧
    periodOfSorted false (run 3 2 9 7) = 2 := by decide

theorem findPeriod_run {d p s : Nat} {t : Tune} (hc : 3 ≤ t.count)
    (hw : t.window = run d p s t.count) (hl : t.count ≤ 2 ^ 31)
    (bit : Bool) : t.findPeriod bit = periodOfSorted bit (run d p s t.count) := by
  simp only [Tune.findPeriod, if_neg (show ¬ t.count < 3 by omega), hw, sort_run hl]

theorem findPeriod_true_complete {d p s : Nat} {t : Tune} (hd : 0 < d) (hp : 0 < p)
    (hc : 3 ≤ t.count) (hw : t.window = run d p s t.count) (h : s + t.count ≤ 2 ^ 32)
    (hl : t.count ≤ 2 ^ 31)
    (hlen : (s + ((d + p) - s % (d + p))) + d < s + t.count) :
    t.findPeriod true = (d : Int) := by
  rw [findPeriod_run hc hw hl]; exact (period_run_true_iff hd hp s t.count).2 hlen

theorem findPeriod_false_complete {d p s : Nat} {t : Tune} (hd : 0 < d) (hp : 0 < p)
    (hc : 3 ≤ t.count) (hw : t.window = run d p s t.count) (h : s + t.count ≤ 2 ^ 32)
    (hl : t.count ≤ 2 ^ 31)
    (hlen : (if s % (d + p) < d then s + (d - s % (d + p))
              else s + ((d + p) - s % (d + p)) + d) + p < s + t.count) :
    t.findPeriod false = (p : Int) := by
  rw [findPeriod_run hc hw hl]; exact (period_run_false_iff hd hp s t.count).2 hlen

def feed (t : Tune) (l : List Pulse) : Tune := l.foldl (fun t x => t.sample x.bit x.seq) t

example : (feed Tune.init (run 3 2 7 20)).count = 20 ∧
    (feed Tune.init (run 3 2 7 20)).window = run 3 2 7 20 := by decide +kernel
example : (feed Tune.init (run 3 2 7 20)).findPeriod true = 3 :=
  findPeriod_true_complete (d := 3) (p := 2) (s := 7) (by decide) (by decide) (by decide +kernel)
    (by decide +kernel) (by decide +kernel) (by decide +kernel) (by decide +kernel)
example : (feed Tune.init (run 3 2 7 20)).findPeriod false = 2 :=
  findPeriod_false_complete (d := 3) (p := 2) (s := 7) (by decide) (by decide) (by decide +kernel)
    (by decide +kernel) (by decide +kernel) (by decide +kernel) (by decide +kernel)

/-! ## The ring is a sliding window -/

/-- the invariant of the `autoTune` ring (implicit in autotune.go) -/
def _root_.KcpVerif.AutoTune.Tune.WF (t : Tune) : Prop :=
  t.pulses.length = maxAutoTuneSamples ∧ t.head < maxAutoTuneSamples ∧
  t.tail < maxAutoTuneSamples ∧ t.count ≤ maxAutoTuneSamples ∧
  t.tail = (t.head + t.count) % maxAutoTuneSamples

theorem maxAutoTuneSamples_pos : 0 < maxAutoTuneSamples := by decide

theorem maxAutoTuneSamples_eq : maxAutoTuneSamples = 258 := by decide

theorem _root_.KcpVerif.AutoTune.Tune.WF.count_le {t : Tune} (h : t.WF) : t.count ≤ maxAutoTuneSamples :=
  h.2.2.2.1

theorem wf_init : Tune.init.WF := by
  have hM := maxAutoTuneSamples_pos
  refine ⟨?_, hM, hM, Nat.zero_le _, ?_⟩
  · simp only [Tune.init, List.length_replicate]
  · simp only [Tune.init, Nat.add_zero, Nat.zero_mod]

theorem wf_sample {t : Tune} (b : Bool) (q : BitVec 32) (h : t.WF) : (t.sample b q).WF := by
  have hM := maxAutoTuneSamples_pos
  obtain ⟨hlen, hhead, htail, hcount, heq⟩ := h
  simp only [Tune.sample]
  split
  · next hc =>
    refine ⟨?_, hhead, Nat.mod_lt _ hM, hc, ?_⟩
    · simp only [List.length_set, hlen]
    · simp only [heq, Nat.mod_add_mod, Nat.add_assoc]
  · next hc =>
    have hcM : t.count = maxAutoTuneSamples := by omega
    refine ⟨?_, Nat.mod_lt _ hM, Nat.mod_lt _ hM, hcount, ?_⟩
    · simp only [List.length_set, hlen]
    · simp only [heq, hcM, Nat.add_mod_right, Nat.mod_mod, Nat.mod_add_mod]

theorem window_length (t : Tune) : t.window.length = t.count := by
  simp only [Tune.window, List.length_map, List.length_range]

theorem slot_ne {h a b : Nat} (hb : b ≤ maxAutoTuneSamples) (hab : a < b)
    (hturn : ¬ (a = 0 ∧ b = maxAutoTuneSamples)) :
    (h + a) % maxAutoTuneSamples ≠ (h + b) % maxAutoTuneSamples := by
  have hM := maxAutoTuneSamples_pos
  have hr := Nat.mod_lt h hM
  rw [Serial.add_mod_cases _ _ _ hM (by omega), Serial.add_mod_cases _ _ _ hM hb]
  split <;> split <;> omega

theorem window_sample {t : Tune} (b : Bool) (q : BitVec 32) (h : t.WF) :
    (t.sample b q).window =
      ((t.window ++ [({ bit := b, seq := q } : Pulse)]).drop
        (if t.count < maxAutoTuneSamples then 0 else 1)) := by
  have hM := maxAutoTuneSamples_pos
  obtain ⟨hlen, hhead, htail, hcount, heq⟩ := h
  generalize hδ : (if t.count < maxAutoTuneSamples then 0 else 1) = δ
  have hs : t.sample b q =
      { pulses := t.pulses.set t.tail { bit := b, seq := q }, head := (t.head + δ) % maxAutoTuneSamples,
        tail := (t.tail + 1) % maxAutoTuneSamples, count := t.count + 1 - δ } := by
    rw [← hδ, Tune.sample]
    split
    · simp only [Nat.add_zero, Nat.mod_eq_of_lt hhead, Nat.sub_zero]
    · simp only [Nat.add_sub_cancel]
  have hδ' : (t.count < maxAutoTuneSamples ∧ δ = 0) ∨ (t.count = maxAutoTuneSamples ∧ δ = 1) := by
    rw [← hδ]; split <;> omega
  have hwl := window_length t
  rw [hs]
  -- with `δ` entries dropped, entry `i` of the new window sits `i + δ` slots after the old `head`: the old
  -- entry `i + δ`, or, in slot `tail` (`count` slots after `head`), the new sample
  apply List.ext_getElem
  · rw [List.length_drop, List.length_append, hwl]
    simp only [Tune.window, List.length_map, List.length_range, List.length_singleton]
  · intro i h1 _
    simp only [Tune.window, List.length_map, List.length_range] at h1
    rw [List.getElem_drop]
    by_cases hi : δ + i < t.count
    · rw [List.getElem_append_left (by rw [hwl]; exact hi)]
      simp only [Tune.window, List.getElem_map, List.getElem_range, List.getD_eq_getElem?_getD,
        Nat.mod_add_mod, Nat.add_assoc t.head δ i]
      rw [List.getElem?_set_ne (by rw [heq]; exact (slot_ne hcount hi (by omega)).symm)]
    · rw [List.getElem_append_right (by rw [hwl]; omega)]
      simp only [Tune.window, List.getElem_map, List.getElem_range, List.getD_eq_getElem?_getD,
        Nat.mod_add_mod, Nat.add_assoc t.head δ i, List.getElem_singleton]
      rw [show δ + i = t.count by omega, ← heq, List.getElem?_set_self (by omega)]
      rfl

example : (Tune.init.sample true 5#32).window = [{ bit := true, seq := 5#32 }] := by
  rw [window_sample true 5#32 wf_init]; decide +kernel

theorem feed_append (t : Tune) (l : List Pulse) (x : Pulse) :
    feed t (l ++ [x]) = (feed t l).sample x.bit x.seq := by
  simp only [feed, List.foldl_append, List.foldl_cons, List.foldl_nil]

theorem run_succ_right (d p len s : Nat) :
    run d p s (len + 1) = run d p s len ++ [pulseAt d p (s + len)] := by
  rw [run_eq_map, List.range'_1_concat, List.map_append, ← run_eq_map]; rfl

theorem run_append (d p s a b : Nat) : run d p s (a + b) = run d p s a ++ run d p (s + a) b := by
  rw [run_eq_map, ← List.range'_append_1, List.map_append, ← run_eq_map, ← run_eq_map]

theorem feed_feed_run (d p s L : Nat) (t : Tune) (j : Nat) :
    feed (feed t (run d p s L)) (run d p (s + L) j) = feed t (run d p s (L + j)) := by
  rw [run_append, feed, feed, feed, List.foldl_append]

theorem wf_feed {t : Tune} (l : List Pulse) (h : t.WF) : (feed t l).WF :=
  foldl_inv (P := Tune.WF) (fun _ x ha => wf_sample x.bit x.seq ha) l t h

theorem count_sample (t : Tune) (b : Bool) (q : BitVec 32) :
    (t.sample b q).count = if t.count < maxAutoTuneSamples then t.count + 1 else t.count := by
  simp only [Tune.sample]; split <;> rfl

theorem feed_window {t : Tune} (h : t.WF) (l : List Pulse) :
    (feed t l).count = min (t.count + l.length) maxAutoTuneSamples ∧
    (feed t l).window = (t.window ++ l).drop (t.count + l.length - maxAutoTuneSamples) := by
  induction l generalizing t with
  | nil =>
    have hcount := h.count_le
    rw [List.length_nil, Nat.add_zero, List.append_nil, Nat.sub_eq_zero_of_le hcount, List.drop_zero]
    exact ⟨(Nat.min_eq_left hcount).symm, rfl⟩
  | cons x l ih =>
    obtain ⟨ihc, ihw⟩ := ih (wf_sample x.bit x.seq h)
    have hcount := h.count_le
    show (feed (t.sample x.bit x.seq) l).count = _ ∧ (feed (t.sample x.bit x.seq) l).window = _
    rw [ihc, ihw, count_sample, window_sample x.bit x.seq h, List.length_cons]
    by_cases hlt : t.count < maxAutoTuneSamples
    · have e : t.count + 1 + l.length = t.count + (l.length + 1) := by omega
      rw [if_pos hlt, if_pos hlt, List.drop_zero, List.append_assoc, List.singleton_append, e]
      exact ⟨rfl, rfl⟩
    · -- the ring is full: the oldest sample goes
      have hM : t.count = maxAutoTuneSamples := by omega
      have h1 : 1 ≤ (t.window ++ [x]).length := by
        rw [List.length_append, List.length_singleton]; omega
      rw [if_neg hlt, if_neg hlt, ← List.drop_append_of_le_length h1, List.drop_drop,
        List.append_assoc, List.singleton_append, hM]
      exact ⟨(Nat.min_eq_right (Nat.le_add_right _ _)).trans (Nat.min_eq_right (Nat.le_add_right _ _)).symm,
        congrArg (fun k => (t.window ++ x :: l).drop k) (by omega)⟩

theorem run_drop (d p k s len : Nat) : (run d p s len).drop k = run d p (s + k) (len - k) := by
  rw [run_eq_map, ← List.map_drop, List.drop_range', Nat.mul_one, ← run_eq_map]

theorem feed_init_window (l : List Pulse) (hl : l.length ≤ maxAutoTuneSamples) :
    (feed Tune.init l).count = l.length ∧ (feed Tune.init l).window = l := by
  obtain ⟨hc, hw⟩ := feed_window wf_init l
  have h0 : Tune.init.count = 0 := rfl
  rw [h0, Nat.zero_add] at hc hw
  refine ⟨hc.trans (Nat.min_eq_left hl), ?_⟩
  rw [hw, Nat.sub_eq_zero_of_le hl]
  rfl

theorem feed_run (d p s len : Nat) :
    (feed Tune.init (run d p s len)).count = min len maxAutoTuneSamples ∧
    (feed Tune.init (run d p s len)).window =
      run d p (s + (len - maxAutoTuneSamples)) (min len maxAutoTuneSamples) := by
  obtain ⟨hc, hw⟩ := feed_window wf_init (run d p s len)
  have h0 : Tune.init.count = 0 := rfl
  rw [h0, length_run, Nat.zero_add] at hc hw
  refine ⟨hc, ?_⟩
  rw [hw, show Tune.init.window = [] from rfl, List.nil_append, run_drop,
    show len - (len - maxAutoTuneSamples) = min len maxAutoTuneSamples by omega]

theorem findPeriod_feed_run (d p s len : Nat) (bit : Bool) (h3 : 3 ≤ len)
    (h : s + len ≤ 2 ^ 32) :
    (feed Tune.init (run d p s len)).findPeriod bit =
      periodOfSorted bit
        (run d p (s + (len - maxAutoTuneSamples)) (min len maxAutoTuneSamples)) := by
  obtain ⟨hc, hw⟩ := feed_run d p s len
  have hM : 3 ≤ maxAutoTuneSamples ∧ maxAutoTuneSamples ≤ 2 ^ 31 := by decide
  rw [← hc] at hw
  rw [findPeriod_run (by omega) hw (by omega), hc]

/-- 300 samples into the 258-slot ring: the oldest 42 have been overwritten -/
example : (feed Tune.init (run 3 2 0 300)).window = run 3 2 42 258 := (feed_run 3 2 0 300).2

example : (feed Tune.init (run 3 2 7 1000)).findPeriod true = 3 := by
  rw [findPeriod_feed_run 3 2 7 1000 true (by decide) (by decide)]
  exact (period_run_true_iff (by decide) (by decide) _ _).2 (by decide)

theorem run_congr {d p d' p' : Nat} (len s : Nat)
    (h : ∀ k, s ≤ k → k < s + len → label d p k = label d' p' k) :
    run d p s len = run d' p' s len := by
  rw [run_eq_map, run_eq_map]
  refine List.map_congr_left fun k hk => ?_
  rw [List.mem_range'_1] at hk
  rw [pulseAt, pulseAt, h k hk.1 hk.2]

theorem agree_ratio {d p d' p' : Nat} (hd : 0 < d) (hp : 0 < p) (hd' : 0 < d') (hp' : 0 < p') (s : Nat)
    (hall : ∀ k, s ≤ k → k < s + 2 * (d + p) → label d p k = label d' p' k) : d' = d ∧ p' = p := by
  -- Run the period detector on the `2 (d + p)` ids: under d/p it finds both widths (the window is long
  -- enough whatever its start), the two labellings give the same run, and under d'/p' the detector can only
  -- return `-1` or the widths d', p'.
  have hrun := run_congr _ _ hall
  have hr := Nat.mod_lt s (show 0 < d + p by omega)
  have ht := (period_run_true_iff hd hp s (2 * (d + p))).2 (by omega)
  have hf := (period_run_false_iff hd hp s (2 * (d + p))).2 (by split <;> omega)
  rw [hrun] at ht hf
  have st : _ ∨ periodOfSorted true (run d' p' s (2 * (d + p))) = (d' : Int) :=
    period_run_sound hd' hp' true s (2 * (d + p))
  have sf : _ ∨ periodOfSorted false (run d' p' s (2 * (d + p))) = (p' : Int) :=
    period_run_sound hd' hp' false s (2 * (d + p))
  rw [ht] at st
  rw [hf] at sf
  exact ⟨by omega, by omega⟩

theorem mismatch_detect {d p d' p' : Nat} (hd : 0 < d) (hp : 0 < p) (hd' : 0 < d') (hp' : 0 < p')
    (hne : (d', p') ≠ (d, p)) (s : Nat) :
    ∃ k, s ≤ k ∧ k < s + 2 * (d + p) ∧ label d p k ≠ label d' p' k := by
  apply Classical.byContradiction
  intro hno
  obtain ⟨hdd, hpp⟩ := agree_ratio hd hp hd' hp' s fun k h1 h2 =>
    Classical.byContradiction fun h => hno ⟨k, h1, h2, h⟩
  exact hne (by rw [hdd, hpp])

example : ∃ k, 7 ≤ k ∧ k < 7 + 2 * (3 + 2) ∧ label 3 2 k ≠ label 4 1 k :=
  mismatch_detect (by decide) (by decide) (by decide) (by decide) (by decide) 7

end KcpVerif.Lemmas.AutoTune
