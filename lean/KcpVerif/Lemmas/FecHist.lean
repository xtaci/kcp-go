/-
C07 over whole histories: `newestShardId` is a pure function of the shard ids received (`curAfter`:
anchored at the first packet placed while no shard set exists, then moved to an id iff it is ahead in
the signed comparison), and `HInv` — `Steady`, `SetsGenuine`, every set alive, the set of `newest`
present — is kept by `decode` of any genuine packet of the decoder's ratio.
-/
import KcpVerif.Lemmas.FecDec

namespace KcpVerif.Lemmas.FecHist
open KcpVerif.Fec KcpVerif.Lemmas.FecSpec KcpVerif.Lemmas.FecDec

def curAfter (n : Nat) (cur : Option (BitVec 32)) (sids : List (BitVec 32)) : Option (BitVec 32) :=
  sids.foldl (fun c s => some (nextNewest n c s)) cur

theorem curAfter_append (n : Nat) (cur : Option (BitVec 32)) (a b : List (BitVec 32)) :
    curAfter n cur (a ++ b) = curAfter n (curAfter n cur a) b := by
  unfold curAfter; rw [List.foldl_append]

structure HInv (C : CodecNew) (grp : Family) (dec : Decoder) : Prop where
  steady : Steady C dec
  genuine : SetsGenuine C grp dec
  alive : ∀ s ∈ dec.sets, alive dec.n dec.newest s.id = true
  /-- the set of `newestShardId` is never discarded -/
  anchor : dec.sets ≠ [] → ∃ s ∈ dec.sets, s.id = dec.newest

theorem hinv_new {C : CodecNew} (grp : Family) (d p : Nat) (dec : Decoder)
    (h : Decoder.new C d p = some dec) :
    HInv C grp dec ∧ dec.d = d ∧ dec.p = p ∧ dec = Example.fresh C d p := by
  obtain ⟨hS, hI, hd, hp⟩ := new_steady (C := C) grp d p dec h
  rw [((Decoder.new_eq C d p dec).1 h).2] at hS hI ⊢
  exact ⟨⟨hS, hI, fun s hs => (nomatch hs), fun h' => absurd rfl h'⟩, rfl, rfl, rfl⟩

theorem HInv.of_held {C : CodecNew} {grp : Family} {dec : Decoder} (hI : HInv C grp dec)
    {g : BitVec 32} (h : held g dec ≠ []) :
    FecHist.alive dec.n dec.newest g = true ∧ horizonOf dec = some dec.newest := by
  rcases held_cases g dec with ⟨_, e⟩ | ⟨s, hs, hid, _⟩
  · exact absurd e h
  · exact ⟨hid ▸ hI.alive s hs, horizonOf_of_held h⟩

section Step
variable {C : CodecNew} {G : Group}

theorem anchor_after (n : Nat) (dec1 : Decoder) (sid : BitVec 32) (X : List Bytes)
    (hanchor : dec1.sets ≠ [] → ∃ s ∈ dec1.sets, s.id = dec1.newest) :
    ∃ s ∈ discard n (nextNewest n (horizonOf dec1) sid) (store ⟨sid, X⟩ dec1.sets),
      s.id = nextNewest n (horizonOf dec1) sid := by
  have hself : ∃ s ∈ discard n sid (store ⟨sid, X⟩ dec1.sets), s.id = sid :=
    ⟨⟨sid, X⟩, (mem_discard_iff _ _ _ _).2 ⟨mem_store_self _ _, alive_self _ _⟩, rfl⟩
  unfold horizonOf nextNewest
  cases he : dec1.sets.isEmpty with
  | true => simpa using hself
  | false =>
    simp only [Bool.false_eq_true, if_false]
    split
    · exact hself
    · have hne : dec1.sets ≠ [] := by
        intro h; rw [h] at he; simp at he
      obtain ⟨s, hs, hid⟩ := hanchor hne
      by_cases hsid : s.id = sid
      · refine ⟨⟨sid, X⟩, (mem_discard_iff _ _ _ _).2 ⟨mem_store_self _ _, ?_⟩, ?_⟩
        · show alive n dec1.newest sid = true
          rw [← hsid, hid]; exact alive_self _ _
        · show sid = dec1.newest
          rw [← hsid, hid]
      · refine ⟨s, (mem_discard_iff _ _ _ _).2 ⟨mem_store_of_mem _ _ hsid _ hs, ?_⟩, hid⟩
        rw [hid]; exact alive_self _ _

theorem hinv_decode (grp : Family) (dec : Decoder) (hI : HInv C grp dec) (hG : G.WF)
    (hgrp : grp (G.base / u32 G.n) = some G) (hd : G.d = dec.d) (hp : G.p = dec.p)
    (j : Nat) (hj : j < G.n) :
    HInv C grp (dec.decode C (G.packet C j)).st ∧
    horizonOf (dec.decode C (G.packet C j)).st
      = some (nextNewest G.n (horizonOf dec) (G.base / u32 G.n)) := by
  have hM := hI.steady.matches (G := G) hd hp
  have hS' := decode_steady hG dec hI.steady hd hp j hj
  have hG' := decode_preserves grp dec hI.steady hI.genuine hG hgrp hd hp j hj
  obtain ⟨got, ⟨_, hb, _⟩, hset⟩ := held_genuine grp dec hI.genuine hG hgrp
  have hst := decode_genuine hG dec hM got hb hset j hj
  by_cases hmem : j ∈ got
  · -- a duplicate: the set of this group exists, so its id is not ahead of `newest`
    obtain ⟨hal, hhor⟩ := hI.of_held (g := G.base / u32 G.n)
      (by rw [hset]; exact fun h => List.not_mem_nil (List.map_eq_nil_iff.1 h ▸ hmem))
    rw [hM.n] at hal
    have hst' : (dec.decode C (G.packet C j)).st = sampled dec (G.packet C j) := by
      rw [hst, if_pos hmem]
    rw [hst', hhor, nextNewest_of_alive _ _ _ hal]
    exact ⟨⟨⟨hI.steady.tune, hI.steady.n_eq, hI.steady.paws, hI.steady.codec⟩,
      ⟨hI.genuine.genuine, hI.genuine.distinct⟩, hI.alive, hI.anchor⟩, hhor⟩
  · -- the state is read through its fields: comparing whole states would unfold `decode`
    have hsets : (dec.decode C (G.packet C j)).st.sets
        = discard G.n (nextNewest G.n (horizonOf dec) (G.base / u32 G.n))
            (store ⟨G.base / u32 G.n,
              if got.length + 1 ≥ G.d then [] else (got ++ [j]).map (G.packet C)⟩ dec.sets) := by
      rw [hst, if_neg hmem]
    have hnw : (dec.decode C (G.packet C j)).st.newest
        = nextNewest G.n (horizonOf dec) (G.base / u32 G.n) := by
      rw [hst, if_neg hmem]
    have hn' : (dec.decode C (G.packet C j)).st.n = G.n :=
      (decode_fields hG dec hI.steady hd hp j hj).2.2.1.trans hM.n
    have hanc := anchor_after G.n dec (G.base / u32 G.n)
      (if got.length + 1 ≥ G.d then [] else (got ++ [j]).map (G.packet C)) hI.anchor
    rw [← hsets, ← hnw] at hanc
    refine ⟨⟨hS', hG', fun s hs => ?_, fun _ => hanc⟩, ?_⟩
    · rw [hsets] at hs
      rw [hn', hnw]
      exact ((mem_discard_iff _ _ _ _).1 hs).2
    · obtain ⟨s, hs, _⟩ := hanc
      rw [← hnw]
      exact horizonOf_of_mem hs

/-- `hinv_decode` and `decode_fields` for a packet given as `GenuinePkt` -/
theorem hinv_step (grp : Family) (dec : Decoder) (hI : HInv C grp dec) (q : Bytes)
    (hq : GenuinePkt C grp dec.d dec.p q) :
    HInv C grp (dec.decode C q).st ∧ (dec.decode C q).st.d = dec.d ∧
    (dec.decode C q).st.p = dec.p ∧ (dec.decode C q).st.n = dec.n ∧
    horizonOf (dec.decode C q).st = some (nextNewest dec.n (horizonOf dec) (sidOf dec.n q)) := by
  obtain ⟨G', j', hgrp', hG', hd', hp', hj', rfl⟩ := hq
  have hst := decode_fields hG' dec hI.steady hd' hp' j' hj'
  obtain ⟨hI', hhor⟩ := hinv_decode grp dec hI hG' hgrp' hd' hp' j' hj'
  have hn : G'.n = dec.n := (hI.steady.matches (G := G') hd' hp').n.symm
  refine ⟨hI', hst.1, hst.2.1, hst.2.2.1, ?_⟩
  rw [← hn, sidOf_packet hG' j' hj']
  exact hhor

end Step

end KcpVerif.Lemmas.FecHist
