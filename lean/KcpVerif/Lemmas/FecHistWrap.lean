/-
C07 over whole histories: the window ACROSS the id wrap.  The ids `L−2, L−1, 0, 1` (`L = paws / n`, the
number of shard ids) sit at positions `0, 1, 2, 3`.  Seen across the wrap an age is larger by the gap
`2^32 − paws ∈ [1, n]`, so only THREE consecutive groups are guaranteed to stay, one fewer than
elsewhere (`wrapCoord`: the coordinates of `L−2` and `1` are `3n + gap` apart; `wrap_sharp`).
-/
import KcpVerif.Lemmas.FecHistHorizon

namespace KcpVerif.Lemmas.FecHist
open KcpVerif.Fec KcpVerif.Gen KcpVerif.AutoTune KcpVerif.Lemmas.FecDec

/-- the number `L` of shard ids: ids are `0 … L − 1` -/
def idCount (n : Nat) : Nat := (pawsOf n).toNat / n

/-- the four ids `L−2, L−1, 0, 1` around the wrap -/
def In4 (n : Nat) (x : BitVec 32) : Prop :=
  x.toNat + 2 = idCount n ∨ x.toNat + 1 = idCount n ∨ x.toNat = 0 ∨ x.toNat = 1

/-- … at positions 0, 1, 2, 3 -/
def wrapPos (n : Nat) (x : BitVec 32) : Nat :=
  if x.toNat + 2 = idCount n then 0 else if x.toNat + 1 = idCount n then 1
  else if x.toNat = 0 then 2 else 3

theorem idCount_mul (n : Nat) : idCount n * n = (pawsOf n).toNat := by
  unfold idCount
  exact Nat.div_mul_cancel (Nat.dvd_of_mod_eq_zero (paws_multiple n))

theorem idCount_large {n : Nat} (hn0 : 0 < n) (hn : n ≤ 256) : 4 ≤ idCount n := by
  have h1 := paws_large hn0 hn
  unfold idCount
  rw [Nat.le_div_iff_mul_le hn0]
  omega

theorem in4_cases {n : Nat} (hn0 : 0 < n) (hn : n ≤ 256) (x : BitVec 32) (hx : In4 n x) :
    (wrapPos n x = 0 ∧ x.toNat * n + 2 * n = (pawsOf n).toNat) ∨
    (wrapPos n x = 1 ∧ x.toNat * n + n = (pawsOf n).toNat) ∨
    (wrapPos n x = 2 ∧ x.toNat * n = 0) ∨
    (wrapPos n x = 3 ∧ x.toNat * n = n) := by
  have hL := idCount_large hn0 hn
  have hm := idCount_mul n
  unfold wrapPos
  rcases hx with h | h | h | h
  · left
    refine ⟨by rw [if_pos h], ?_⟩
    rw [← hm, ← h, Nat.add_mul]
  · right; left
    refine ⟨by rw [if_neg (by omega), if_pos h], ?_⟩
    rw [← hm, ← h, Nat.add_mul, Nat.one_mul]
  · right; right; left
    refine ⟨by rw [if_neg (by omega), if_neg (by omega), if_pos h], ?_⟩
    rw [h, Nat.zero_mul]
  · right; right; right
    refine ⟨by rw [if_neg (by omega), if_neg (by omega), if_neg (by omega)], ?_⟩
    rw [h, Nat.one_mul]

/-- signed coordinate of an id near the wrap: the product `id·n`, less 2^32 for the two ids before
    the wrap (whose products are just below `paws`) -/
def wrapCoord (n : Nat) (x : BitVec 32) : Int :=
  ((x.toNat * n : Nat) : Int) - (if wrapPos n x < 2 then 2 ^ 32 else 0)

/-- the coordinates of the four ids are `−2n−gap, −n−gap, 0, n` with `gap = 2^32 − paws ∈ [1, n]` -/
theorem wrapCoord_cases {n : Nat} (hn0 : 0 < n) (hn : n ≤ 256) (x : BitVec 32) (hx : In4 n x) :
    (wrapPos n x = 0 ∧ wrapCoord n x = ((pawsOf n).toNat : Int) - 2 * n - 2 ^ 32) ∨
    (wrapPos n x = 1 ∧ wrapCoord n x = ((pawsOf n).toNat : Int) - n - 2 ^ 32) ∨
    (wrapPos n x = 2 ∧ wrapCoord n x = 0) ∨
    (wrapPos n x = 3 ∧ wrapCoord n x = n) := by
  have c := in4_cases hn0 hn x hx
  unfold wrapCoord
  generalize x.toNat * n = X at c ⊢
  rcases c with ⟨p, h⟩ | ⟨p, h⟩ | ⟨p, h⟩ | ⟨p, h⟩
  · exact Or.inl ⟨p, by rw [p, if_pos (by decide)]; omega⟩
  · exact Or.inr (Or.inl ⟨p, by rw [p, if_pos (by decide)]; omega⟩)
  · exact Or.inr (Or.inr (Or.inl ⟨p, by rw [p, if_neg (by decide)]; omega⟩))
  · exact Or.inr (Or.inr (Or.inr ⟨p, by rw [p, if_neg (by decide)]; omega⟩))

theorem wrapCoord_bounds {n : Nat} (hn0 : 0 < n) (hn : n ≤ 256) (x : BitVec 32) (hx : In4 n x) :
    wrapCoord n x ≤ n ∧ (wrapPos n x ≤ 2 → wrapCoord n x ≤ 0) ∧
    ((pawsOf n).toNat : Int) - 2 * n - 2 ^ 32 ≤ wrapCoord n x ∧
    (1 ≤ wrapPos n x → ((pawsOf n).toNat : Int) - n - 2 ^ 32 ≤ wrapCoord n x) := by
  have hP := paws_lt n
  rcases wrapCoord_cases hn0 hn x hx with h | h | h | h <;> omega

theorem wrap_diff {n : Nat} (hn0 : 0 < n) (hn : n ≤ 256) (x y : BitVec 32) (hx : In4 n x)
    (hy : In4 n y) : itimediff (x * u32 n) (y * u32 n) = wrapCoord n x - wrapCoord n y := by
  have hgap := paws_gap hn0
  -- the product stands for its coordinate: itself, or itself less 2^32 before the wrap
  have rep : ∀ v, In4 n v → Serial.Rep (v * u32 n) (wrapCoord n v) := by
    intro v hv
    have hvn : v.toNat * n < 2 ^ 32 := by
      have hP := paws_lt n
      rcases in4_cases hn0 hn v hv with h | h | h | h <;> omega
    unfold wrapCoord
    split
    · exact rep_wrap (rep_mul hn v hvn)
    · rw [Int.sub_zero]; exact rep_mul hn v hvn
  obtain ⟨bx1, _, bx2, _⟩ := wrapCoord_bounds hn0 hn x hx
  obtain ⟨by1, _, by2, _⟩ := wrapCoord_bounds hn0 hn y hy
  exact itimediff_coord (rep x hx) (rep y hy) (by omega) (by omega)

/-- away from the wrap 3 behind is alive (`alive_of_le`); the only proof that needs the exact value
    of `maxShardSets` -/
theorem wrap_sharp {n : Nat} (hn0 : 0 < n) (hn : n ≤ 256) (x y : BitVec 32) (hx : x.toNat = 1)
    (hy : y.toNat + 2 = idCount n) : alive n x y = false := by
  have hP := paws_lt n
  have hL := idCount_large hn0 hn
  have hx4 : In4 n x := Or.inr (Or.inr (Or.inr hx))
  have hy4 : In4 n y := Or.inl hy
  have px : wrapPos n x = 3 := by
    unfold wrapPos; rw [if_neg (by omega), if_neg (by omega), if_neg (by omega)]
  have py : wrapPos n y = 0 := by unfold wrapPos; rw [if_pos hy]
  have cx := wrapCoord_cases hn0 hn x hx4
  have cy := wrapCoord_cases hn0 hn y hy4
  have : ¬ (wrapCoord n x - wrapCoord n y ≤ ((maxShardSets * n : Nat) : Int)) := by
    have hms : maxShardSets * n = 3 * n := rfl
    omega
  unfold alive age
  rw [wrap_diff hn0 hn x y hx4 hy4, decide_eq_false this, Bool.and_false]

/-- three consecutive ids around the wrap: positions `s0 … s0 + 2` of `L−2, L−1, 0, 1` -/
def InWrap (n s0 : Nat) (x : BitVec 32) : Prop :=
  In4 n x ∧ s0 ≤ wrapPos n x ∧ wrapPos n x ≤ s0 + 2

theorem within_wrap {n : Nat} (hn0 : 0 < n) (hn : n ≤ 256) (s0 : Nat) (g : BitVec 32)
    (hg : InWrap n s0 g) (hist : List Bytes) (hwin : ∀ q ∈ hist, InWrap n s0 (sidOf n q)) :
    within n g none false hist = true := by
  refine within_coord (InWrap n s0) (wrapCoord n) (fun x y hx hy => wrap_diff hn0 hn x y hx.1 hy.1) ?_
    g hg hist none false hwin (fun c h => by cases h) (fun h => by cases h)
  intro x y hx hy
  have hgap := paws_gap hn0
  have hms : maxShardSets * n = 3 * n := rfl
  obtain ⟨_, hx1, hx2⟩ := hx
  obtain ⟨_, hy1, hy2⟩ := hy
  -- from position 0 the top is at most 0; otherwise the bottom is at least `−n − gap`
  obtain ⟨bx1, bx2, _, _⟩ := wrapCoord_bounds hn0 hn x ‹_›
  obtain ⟨_, _, by1, by2⟩ := wrapCoord_bounds hn0 hn y ‹_›
  omega

end KcpVerif.Lemmas.FecHist
