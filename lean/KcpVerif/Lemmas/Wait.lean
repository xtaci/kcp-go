import KcpVerif.Model.Wait
import KcpVerif.Lemmas.Fold
/-! The steps of the Wait LTS as relations (`TStep` for one caller, exact; `GStep` for the system) and the
invariants of the reachable states that Props/C13 rests on.  `GStep` is not exact: an environment event is known
only through `EnvRel`, so that an invariant is proved once for all of them.  A per-caller invariant is lifted to the
reachable states by `reach_forall_ths` (any caller) or `reach_forall_single` (the only caller of a kind); the
termination measure of the maximal-progress phases is at the end. -/
namespace KcpVerif.Wait

theorem Reach.induct {cfg : Cfg} {s0 : State} (P : State → Prop) (h0 : P s0)
    (hs : ∀ s l s', Reach cfg s0 s → P s → Wait.step cfg s l = some s' → P s') :
    ∀ {s}, Reach cfg s0 s → P s := by
  intro s h
  induction h with
  | init => exact h0
  | step l hr hst ih => exact hs _ l _ hr ih hst

/-! ## what a caller of kind `k` waits on -/

def Sh.cell (sh : Sh) : Kind → Option Time
  | .read => sh.rd | .write => sh.wd | .accept => sh.ld
/-- its wake-up token (Accept: a session in the backlog) -/
def Sh.tok (sh : Sh) : Kind → Bool
  | .read => sh.rtok | .write => sh.wtok | .accept => decide (0 < sh.backlog)
def Sh.takeTok (sh : Sh) : Kind → Sh
  | .read => { sh with rtok := false } | .write => { sh with wtok := false }
  | .accept => { sh with backlog := sh.backlog - 1 }
def Sh.err (sh : Sh) : Kind → Bool
  | .read => sh.rerr | .write => sh.werr | .accept => sh.lerr
/-- `State.closedFor` on the shared state -/
def Sh.dead (sh : Sh) : Kind → Bool
  | .accept => sh.ldie | _ => sh.die
def Sh.ready (sh : Sh) : Kind → Prop
  | .read => 0 < sh.readable | .write => sh.inflight < sh.wnd | .accept => 0 < sh.backlog
/-- the control point after RESET_TIMER -/
def Kind.top : Kind → Pc
  | .write => .pre | _ => .check

theorem Kind.top_ne_sel (k : Kind) : k.top ≠ .sel := by cases k <;> nofun
theorem Kind.top_ne_reset (k : Kind) : k.top ≠ .reset := by cases k <;> nofun

theorem Sh.takeTok_now (sh : Sh) (k : Kind) : (sh.takeTok k).now = sh.now := by cases k <;> rfl

/-- The rows of `tstep`, exactly (`tstep_inv`, `TStep.tstep_eq`); the rows that Read and Write share are
stated once, for the kind `k` of the caller. -/
inductive TStep (cfg : Cfg) (sh : Sh) (t : Thread) : Choice → TRes → Prop
  | load {k : Kind} (hk : t.kind = k) (hna : k ≠ .accept) (hp : t.pc = .reset) :
      TStep cfg sh t .go ⟨sh, { t.loadDeadline cfg (sh.cell k) with pc := k.top }⟩
  | poll (hk : t.kind = .write) (hp : t.pc = .pre) (he : sh.werr = false) (hd : sh.die = false) :
      TStep cfg sh t .go ⟨sh, { t with pc := .check }⟩
  | readOk {x : RdRes} (hk : t.kind = .read) (hp : t.pc = .check) (hx : take sh.left sh.queue t.bsz = some x) :
      TStep cfg sh t .go
        ⟨{ sh with left := x.left, queue := x.queue, rtok := sh.rtok || (cfg.chain && more x.left x.queue) },
          t.finish .ok sh.now x.n⟩
  | writeOk (hk : t.kind = .write) (hp : t.pc = .check) (hroom : sh.inflight < sh.wnd) :
      TStep cfg sh t .go ⟨{ sh with inflight := sh.inflight + 1 }, t.finish .ok sh.now⟩
  | blockR (hk : t.kind = .read) (hp : t.pc = .check) (hx : take sh.left sh.queue t.bsz = none) :
      TStep cfg sh t .go ⟨sh, { t with pc := .sel }⟩
  | blockW (hk : t.kind = .write) (hp : t.pc = .check) (hroom : ¬ sh.inflight < sh.wnd) :
      TStep cfg sh t .go ⟨sh, { t with pc := .sel }⟩
  | stop (hna : t.kind ≠ .accept) (hp : t.pc = .woken) (hc : t.created = true) :
      TStep cfg sh t .go ⟨sh, { t.stopDrain cfg with pc := .reset }⟩
  | again {k : Kind} (hk : t.kind = k) (hna : k ≠ .accept) (hp : t.pc = .woken) (hc : ¬ t.created = true) :
      TStep cfg sh t .go ⟨sh, { t with pc := if cfg.rearm then .reset else k.top }⟩
  | acceptSome {d : Time} (hk : t.kind = .accept) (hp : t.pc = .reset) (hd : sh.ld = some d) :
      TStep cfg sh t .go
        ⟨sh, { t with seen := some d, created := true, armed := some d, buf := false, c := true, pc := .sel }⟩
  | acceptNone (hk : t.kind = .accept) (hp : t.pc = .reset) (hd : sh.ld = none) :
      TStep cfg sh t .go ⟨sh, { t with seen := none, c := false, pc := .sel }⟩
  | tok {k : Kind} (hk : t.kind = k) (hna : k ≠ .accept) (hp : t.pc = .sel) (ht : sh.tok k = true) :
      TStep cfg sh t .tok ⟨sh.takeTok k, { t with pc := .woken }⟩
  | acceptOk (hk : t.kind = .accept) (hp : t.pc = .sel) (hb : 0 < sh.backlog) :
      TStep cfg sh t .tok ⟨sh.takeTok .accept, t.finish .ok sh.now⟩
  | timeout (hp : t.pc = .sel) (hc : t.c = true) (hb : t.buf = true) :
      TStep cfg sh t .timeout ⟨sh, t.finish .timeout sh.now⟩
  | err {k : Kind} (hk : t.kind = k) (hp : t.pc = .sel ∨ (k = .write ∧ t.pc = .pre)) (he : sh.err k = true) :
      TStep cfg sh t .err ⟨sh, t.finish .sockerr sh.now⟩
  | die {k : Kind} (hk : t.kind = k) (hp : t.pc = .sel ∨ (k = .write ∧ t.pc = .pre)) (hd : sh.dead k = true) :
      TStep cfg sh t .die ⟨sh, t.finish .closed sh.now⟩

theorem tstep_inv {cfg : Cfg} {sh : Sh} {t : Thread} {ch : Choice} {r : TRes}
    (h : tstep cfg sh t ch = some r) : TStep cfg sh t ch r := by
  unfold tstep at h
  split at h
  · next hk =>
    unfold tstepRead at h
    split at h
    · next hp => cases h; exact .load hk (by decide) hp
    · next hp =>
      split at h <;> cases h
      · next x hx => exact .readOk hk hp hx
      · next hx => exact .blockR hk hp hx
    · next hp => split at h <;> cases h; next ht => exact .tok hk (by decide) hp ht
    · next hp =>
      split at h <;> cases h
      next hg => rw [Bool.and_eq_true] at hg; exact .timeout hp hg.1 hg.2
    · next hp => split at h <;> cases h; next he => exact .err hk (Or.inl hp) he
    · next hp => split at h <;> cases h; next hd => exact .die hk (Or.inl hp) hd
    · next hp =>
      split at h <;> cases h
      · next hc => exact .stop (by rw [hk]; decide) hp hc
      · next hc => exact .again hk (by decide) hp hc
    · contradiction
  · next hk =>
    unfold tstepWrite at h
    split at h
    · next hp => cases h; exact .load hk (by decide) hp
    · next hp => split at h <;> cases h; next he => exact .err hk (Or.inr ⟨rfl, hp⟩) he
    · next hp => split at h <;> cases h; next hd => exact .die hk (Or.inr ⟨rfl, hp⟩) hd
    · next hp =>
      split at h <;> cases h
      next hg =>
      rw [Bool.or_eq_true, not_or, Bool.not_eq_true, Bool.not_eq_true] at hg
      exact .poll hk hp hg.1 hg.2
    · next hp =>
      split at h <;> cases h
      · next hroom => exact .writeOk hk hp hroom
      · next hroom => exact .blockW hk hp hroom
    · next hp => split at h <;> cases h; next ht => exact .tok hk (by decide) hp ht
    · next hp =>
      split at h <;> cases h
      next hg => rw [Bool.and_eq_true] at hg; exact .timeout hp hg.1 hg.2
    · next hp => split at h <;> cases h; next he => exact .err hk (Or.inl hp) he
    · next hp => split at h <;> cases h; next hd => exact .die hk (Or.inl hp) hd
    · next hp =>
      split at h <;> cases h
      · next hc => exact .stop (by rw [hk]; decide) hp hc
      · next hc => exact .again hk (by decide) hp hc
    · contradiction
  · next hk =>
    unfold tstepAccept at h
    split at h
    · next hp =>
      split at h <;> cases h
      · next d hd => exact .acceptSome hk hp hd
      · next hd => exact .acceptNone hk hp hd
    · next hp => split at h <;> cases h; next hb => exact .acceptOk hk hp hb
    · next hp =>
      split at h <;> cases h
      next hg => rw [Bool.and_eq_true] at hg; exact .timeout hp hg.1 hg.2
    · next hp => split at h <;> cases h; next he => exact .err hk (Or.inl hp) he
    · next hp => split at h <;> cases h; next hd => exact .die hk (Or.inl hp) hd
    · contradiction

theorem TStep.tstep_eq {cfg : Cfg} {sh : Sh} {t : Thread} {ch : Choice} {r : TRes}
    (h : TStep cfg sh t ch r) : tstep cfg sh t ch = some r := by
  cases h
  case load k hk hna hp => cases k <;> simp [tstep, tstepRead, tstepWrite, hk, hp, Sh.cell, Kind.top] at hna ⊢
  case poll hk hp he hd => simp [tstep, tstepWrite, hk, hp, he, hd]
  case readOk x hk hp hx => simp [tstep, tstepRead, hk, hp, hx]
  case writeOk hk hp hroom => simp [tstep, tstepWrite, hk, hp, hroom]
  case blockR hk hp hx => simp [tstep, tstepRead, hk, hp, hx]
  case blockW hk hp hroom => simp [tstep, tstepWrite, hk, hp, hroom]
  case stop hna hp hc => cases hk : t.kind <;> simp [tstep, tstepRead, tstepWrite, hk, hp, hc] at hna ⊢
  case again k hk hna hp hc => cases k <;> simp [tstep, tstepRead, tstepWrite, hk, hp, hc, Kind.top] at hna ⊢
  case acceptSome d hk hp hd => simp [tstep, tstepAccept, hk, hp, hd]
  case acceptNone hk hp hd => simp [tstep, tstepAccept, hk, hp, hd]
  case tok k hk hna hp ht => cases k <;> simp [tstep, tstepRead, tstepWrite, hk, hp, Sh.tok, Sh.takeTok] at hna ht ⊢ <;> exact ht
  case acceptOk hk hp hb => simp [tstep, tstepAccept, hk, hp, hb, Sh.takeTok]
  case timeout hp hc hb => cases hk : t.kind <;> simp [tstep, tstepRead, tstepWrite, tstepAccept, hk, hp, hc, hb]
  case err k hk hp he =>
    rcases hp with hp | ⟨rfl, hp⟩
    · cases k <;> simp [tstep, tstepRead, tstepWrite, tstepAccept, hk, hp, Sh.err] at he ⊢ <;> exact he
    · simp [tstep, tstepWrite, hk, hp, Sh.err] at he ⊢; exact he
  case die k hk hp hd =>
    rcases hp with hp | ⟨rfl, hp⟩
    · cases k <;> simp [tstep, tstepRead, tstepWrite, tstepAccept, hk, hp, Sh.dead] at hd ⊢ <;> exact hd
    · simp [tstep, tstepWrite, hk, hp, Sh.dead] at hd ⊢; exact hd

/-- explode a hypothesis `tstep cfg sh t ch = some r` into its cases -/
macro "tstep_cases " h:ident : tactic => `(tactic|
  (simp only [tstep, tstepRead, tstepWrite, tstepAccept] at $h:ident
   repeat' split at $h:ident
   all_goals first
     | contradiction
     | (cases $h:ident)))

@[simp] theorem loadDeadline_kind (cfg : Cfg) (t : Thread) (cell : Option Time) :
    (t.loadDeadline cfg cell).kind = t.kind := by
  unfold Thread.loadDeadline; repeat' split
  all_goals rfl

@[simp] theorem loadDeadline_pc (cfg : Cfg) (t : Thread) (cell : Option Time) :
    (t.loadDeadline cfg cell).pc = t.pc := by
  unfold Thread.loadDeadline; repeat' split
  all_goals rfl

@[simp] theorem loadDeadline_seen (cfg : Cfg) (t : Thread) (cell : Option Time) :
    (t.loadDeadline cfg cell).seen = cell := by
  unfold Thread.loadDeadline; repeat' split
  all_goals rfl

theorem tstep_kind {cfg : Cfg} {sh : Sh} {t : Thread} {ch : Choice} {r : TRes}
    (h : tstep cfg sh t ch = some r) : r.t.kind = t.kind := by
  cases tstep_inv h
  case load => exact loadDeadline_kind cfg t _
  all_goals rfl

theorem tstep_now {cfg : Cfg} {sh : Sh} {t : Thread} {ch : Choice} {r : TRes}
    (h : tstep cfg sh t ch = some r) : r.sh.now = sh.now := by
  cases tstep_inv h
  case tok => exact sh.takeTok_now _
  all_goals rfl

/-- What the environment can do to the shared state: time does not go back, and for each thing a
blocked caller waits on (read deadline, write deadline, window, readable data) either it is
unchanged and no wake-up token is taken away, or a token is issued (for window and data: whenever
there is room, resp. data). -/
structure EnvRel (a b : Sh) : Prop where
  now : a.now ≤ b.now
  rd : (b.rd = a.rd ∧ (a.rtok = true → b.rtok = true)) ∨ b.rtok = true
  wd : (b.wd = a.wd ∧ (a.wtok = true → b.wtok = true)) ∨ b.wtok = true
  room : (b.inflight = a.inflight ∧ b.wnd = a.wnd ∧ (a.wtok = true → b.wtok = true)) ∨
    (b.inflight < b.wnd → b.wtok = true)
  data : (b.readable = a.readable ∧ (a.rtok = true → b.rtok = true)) ∨ (0 < b.readable → b.rtok = true)

theorem EnvRel.refl (a : Sh) : EnvRel a a :=
  ⟨Nat.le_refl _, Or.inl ⟨rfl, id⟩, Or.inl ⟨rfl, id⟩, Or.inl ⟨rfl, rfl, id⟩, Or.inl ⟨rfl, id⟩⟩

theorem EnvRel.cell {a b : Sh} (h : EnvRel a b) {k : Kind} (hna : k ≠ .accept) :
    (b.cell k = a.cell k ∧ (a.tok k = true → b.tok k = true)) ∨ b.tok k = true := by
  cases k
  · exact h.rd
  · exact h.wd
  · exact absurd rfl hna

theorem EnvRel.ready {a b : Sh} (h : EnvRel a b) {k : Kind} (hna : k ≠ .accept) :
    (b.ready k → a.ready k ∧ (a.tok k = true → b.tok k = true)) ∨ (b.ready k → b.tok k = true) := by
  cases k
  · rcases h.data with ⟨h1, h2⟩ | h1
    · exact Or.inl fun hb => ⟨show 0 < a.readable from h1 ▸ hb, h2⟩
    · exact Or.inr h1
  · rcases h.room with ⟨h1, h2, h3⟩ | h1
    · exact Or.inl fun hb => ⟨show a.inflight < a.wnd from h1 ▸ h2 ▸ hb, h3⟩
    · exact Or.inr h1
  · exact absurd rfl hna

/-- thread steps and timer expiries: what happens between two environment events / ticks -/
def Label.isProgress : Label → Bool
  | .thr _ _ => true
  | .fire _ => true
  | _ => false

inductive GStep (cfg : Cfg) (s : State) : Label → State → Prop
  | thr {i : Nat} {ch : Choice} {t : Thread} {r : TRes} (hi : s.ths[i]? = some t)
      (hr : tstep cfg s.sh t ch = some r) : GStep cfg s (.thr i ch) { sh := r.sh, ths := s.ths.set i r.t }
  | fire {i : Nat} {t t' : Thread} (hi : s.ths[i]? = some t) (hf : t.fire s.sh.now = some t') :
      GStep cfg s (.fire i) { s with ths := s.ths.set i t' }
  | call {i b : Nat} {t : Thread} (hi : s.ths[i]? = some t) (hp : t.pc = .idle) :
      GStep cfg s (.call i b) { s with ths := s.ths.set i (Thread.fresh t.kind (s.closedFor t.kind) b) }
  | collect {i : Nat} {t : Thread} (hi : s.ths[i]? = some t) (hp : t.pc = .done) :
      GStep cfg s (.collect i) { s with ths := s.ths.set i { t with pc := .idle } }
  | env {l : Label} {sh' : Sh} (hl : l.isProgress = false) (he : EnvRel s.sh sh') :
      GStep cfg s l { s with sh := sh' }

theorem step_inv {cfg : Cfg} {s s' : State} {l : Label} (hs : step cfg s l = some s') : GStep cfg s l s' := by
  cases l <;> simp only [step] at hs
  case thr i ch =>
    split at hs <;> try contradiction
    next t hi =>
    split at hs <;> cases hs
    next r hr => exact .thr hi hr
  case fire i =>
    split at hs <;> try contradiction
    next t hi =>
    split at hs <;> cases hs
    next t1 hf => exact .fire hi hf
  case call i b =>
    split at hs <;> try contradiction
    next t hi =>
    split at hs <;> cases hs
    next hp => exact .call hi hp
  case collect i =>
    split at hs <;> try contradiction
    next t hi =>
    split at hs <;> cases hs
    next hp => exact .collect hi hp
  -- the environment.  `EnvRel` is given by its fields `now`, `rd`, `wd`, `room`, `data`, in this order; `Or.inl`: the thing is
  -- unchanged and no token is lost, `Or.inr`: a token is issued
  case tick t1 =>
    split at hs <;> cases hs
    next hc =>
    simp only [Bool.and_eq_true, decide_eq_true_eq] at hc
    exact .env rfl ⟨Nat.le_of_lt hc.1.1, Or.inl ⟨rfl, id⟩, Or.inl ⟨rfl, id⟩, Or.inl ⟨rfl, rfl, id⟩, Or.inl ⟨rfl, id⟩⟩
  case arrive ms =>
    cases hs
    refine .env rfl ⟨Nat.le_refl _, Or.inl ⟨rfl, fun h => by simp [h]⟩,
      Or.inl ⟨rfl, fun h => by simp [h]⟩, Or.inl ⟨rfl, rfl, fun h => by simp [h]⟩, ?_⟩
    by_cases hq : s.sh.queue ++ ms = []
    · have hq' := List.append_eq_nil_iff.mp hq
      exact Or.inl ⟨by simp [Sh.readable, hq'.2], fun h => by simp [h]⟩
    · refine Or.inr (fun _ => ?_)
      cases hc : (s.sh.queue ++ ms) with
      | nil => exact absurd hc hq
      | cons a l => simp
  case opn j =>
    cases hs
    exact .env rfl ⟨Nat.le_refl _, Or.inl ⟨rfl, fun h => by simp [h]⟩, Or.inl ⟨rfl, fun h => by simp [h]⟩,
      Or.inr (fun h => by simp [h]), Or.inl ⟨rfl, fun h => by simp [h]⟩⟩
  case pump =>
    split at hs <;> cases hs
    · exact .env rfl (EnvRel.refl _)
    · exact .env rfl ⟨Nat.le_refl _, Or.inl ⟨rfl, id⟩, Or.inl ⟨rfl, fun h => by simp [h]⟩,
        Or.inl ⟨rfl, rfl, fun h => by simp [h]⟩, Or.inl ⟨rfl, id⟩⟩
  case setRD d =>
    cases hs
    exact .env rfl ⟨Nat.le_refl _, Or.inr rfl, Or.inl ⟨rfl, id⟩, Or.inl ⟨rfl, rfl, id⟩, Or.inr fun _ => rfl⟩
  case setWD d =>
    cases hs
    exact .env rfl ⟨Nat.le_refl _, Or.inl ⟨rfl, id⟩, Or.inr rfl, Or.inr fun _ => rfl, Or.inl ⟨rfl, id⟩⟩
  case setD d =>
    cases hs
    exact .env rfl ⟨Nat.le_refl _, Or.inr rfl, Or.inr rfl, Or.inr fun _ => rfl, Or.inr fun _ => rfl⟩
  -- the remaining labels change a field that `EnvRel` does not read
  all_goals
    cases hs
    exact .env rfl ⟨Nat.le_refl _, Or.inl ⟨rfl, id⟩, Or.inl ⟨rfl, id⟩, Or.inl ⟨rfl, rfl, id⟩, Or.inl ⟨rfl, id⟩⟩

theorem fire_same {now : Time} {t t' : Thread} (h : t.fire now = some t') :
    t'.kind = t.kind ∧ t'.pc = t.pc ∧ t'.seen = t.seen ∧ t'.c = t.c := by
  unfold Thread.fire at h
  split at h
  · split at h
    · cases h; exact ⟨rfl, rfl, rfl, rfl⟩
    · contradiction
  · contradiction

theorem take_none {l : Nat} {q : List Nat} {b : Nat} (h : take l q b = none) : l = 0 ∧ q = [] := by
  unfold take at h
  split at h
  · contradiction
  · split at h
    · split at h <;> contradiction
    · exact ⟨by omega, rfl⟩

theorem take_some_pos {l : Nat} {q : List Nat} {b : Nat} {r : RdRes} (h : take l q b = some r) :
    0 < l + q.length := by
  unfold take at h
  split at h
  · omega
  · split at h
    · simp only [List.length_cons]; omega
    · contradiction

theorem more_of_pos {l : Nat} {q : List Nat} (h : 0 < l + q.length) : more l q = true := by
  unfold more
  cases q with
  | nil => simp at h; simp [h]
  | cons m q => simp

theorem pos_of_more {l : Nat} {q : List Nat} (h : more l q = true) : 0 < l + q.length := by
  unfold more at h
  cases q with
  | nil => simp at h; simp [h]
  | cons m q => simp only [List.length_cons]; omega

theorem take_conserves {l : Nat} {q : List Nat} {b : Nat} {r : RdRes} (h : take l q b = some r) :
    r.n + r.left + r.queue.sum = l + q.sum ∧ r.n ≤ b := by
  unfold take at h
  split at h
  · cases h; simp only; omega
  · split at h
    · split at h
      · cases h; simp only [List.sum_cons]; omega
      · cases h; simp only [List.sum_cons]; omega
    · contradiction

/-- the caller is between RESET_TIMER and the `select` (its `c` and timer reflect `seen`) -/
def Thread.waiting (t : Thread) : Prop := t.pc = .pre ∨ t.pc = .check ∨ t.pc = .sel

/-- coherence of a caller's timer, its case channel `c` and the deadline value it loaded -/
structure TimerInv (now : Time) (t : Thread) : Prop where
  armed_buf : ∀ w, t.armed = some w → t.buf = false
  fresh : t.created = false → t.armed = none ∧ t.buf = false ∧ t.c = false
  at_reset : t.pc = .reset → t.armed = none ∧ t.buf = false
  no_deadline : t.waiting → t.seen = none → t.c = false ∧ t.armed = none ∧ t.buf = false
  deadline : t.waiting → ∀ d, t.seen = some d →
    t.c = true ∧ ((t.armed = some d ∧ t.buf = false) ∨ (t.armed = none ∧ t.buf = true ∧ d ≤ now))

theorem TimerInv.mono {n n' : Time} {t : Thread} (h : TimerInv n t) (hn : n ≤ n') : TimerInv n' t := by
  refine ⟨h.armed_buf, h.fresh, h.at_reset, h.no_deadline, ?_⟩
  intro hw d hd
  have := h.deadline hw d hd
  refine ⟨this.1, ?_⟩
  rcases this.2 with h1 | ⟨h1, h2, h3⟩
  · exact Or.inl h1
  · exact Or.inr ⟨h1, h2, Nat.le_trans h3 hn⟩

theorem TimerInv.finish {now : Time} {t : Thread} (h : TimerInv now t) (r : Ret) (n : Time) (g : Nat) :
    TimerInv now (t.finish r n g) :=
  -- the timer is stopped and drained; `c` is untouched by the return
  ⟨fun _ _ => rfl, fun hc => ⟨rfl, rfl, (h.fresh hc).2.2⟩, nofun, nofun, nofun⟩

theorem TimerInv.call {now : Time} (k : Kind) (b : Bool) (n : Nat) :
    TimerInv now (Thread.fresh k b n) :=
  ⟨nofun, fun _ => ⟨rfl, rfl, rfl⟩, fun _ => ⟨rfl, rfl⟩, nofun, nofun⟩

theorem TimerInv.load {now : Time} {cfg : Cfg} {t : Thread} (hc : cfg.repoint = true)
    (h : TimerInv now t) (hpc : t.pc = .reset) (cell : Option Time) (pc' : Pc) (hp : pc' ≠ .reset) :
    TimerInv now { t.loadDeadline cfg cell with pc := pc' } := by
  have hr := h.at_reset hpc
  cases cell with
  | none =>
    by_cases hcr : t.created = true
    · refine ⟨?_, ?_, ?_, ?_, ?_⟩ <;> simp [Thread.loadDeadline, Thread.waiting, hcr, hr.2]
    · have hf := h.fresh (by simpa using hcr)
      refine ⟨?_, ?_, ?_, ?_, ?_⟩ <;> simp [Thread.loadDeadline, Thread.waiting, hcr, hr.1, hr.2, hf.2.2]
  | some d =>
    by_cases hcr : t.created = true
    -- `Reset` of an existing timer: `deadline` wants `c = true`, which is `repoint` (absent: D7)
    · refine ⟨?_, ?_, ?_, ?_, ?_⟩ <;> simp [Thread.loadDeadline, Thread.waiting, hcr, hr.2, hc, hp]
    · refine ⟨?_, ?_, ?_, ?_, ?_⟩ <;> simp [Thread.loadDeadline, Thread.waiting, hcr, hp]

/-- a move of the control point alone -/
theorem TimerInv.pc {now : Time} {t : Thread} (h : TimerInv now t) (pc' : Pc)
    (hr : pc' = .reset → t.armed = none ∧ t.buf = false)
    (hw : pc' = .pre ∨ pc' = .check ∨ pc' = .sel → t.waiting) : TimerInv now { t with pc := pc' } :=
  ⟨h.armed_buf, h.fresh, hr, fun w => h.no_deadline (hw w), fun w => h.deadline (hw w)⟩

theorem TimerInv.stopDrain {now : Time} {cfg : Cfg} {t : Thread} (h : TimerInv now t) :
    TimerInv now { t.stopDrain cfg with pc := .reset } := by
  have hb : (cfg.async && t.armed.isSome && t.buf) = false := by
    cases ha : t.armed with
    | none => simp
    | some w => simp [h.armed_buf w ha]
  -- nothing armed, nothing buffered; `c` is untouched by Stop and drain
  exact ⟨nofun, fun hc => ⟨rfl, hb, (h.fresh hc).2.2⟩, fun _ => ⟨rfl, hb⟩, nofun, nofun⟩

theorem TimerInv.rearm' {now : Time} {cfg : Cfg} {t : Thread} (h : TimerInv now t) (hr : cfg.rearm = true)
    (hc : ¬ t.created = true) (x : Pc) : TimerInv now { t with pc := if cfg.rearm = true then .reset else x } := by
  simp only [hr, if_true]
  have hf := h.fresh (by simpa using hc)
  exact h.pc _ (fun _ => ⟨hf.1, hf.2.1⟩) nofun

theorem TimerInv.fire {now : Time} {t t' : Thread} (h : TimerInv now t) (hf : t.fire now = some t') :
    TimerInv now t' := by
  unfold Thread.fire at hf
  split at hf
  · rename_i w hw
    split at hf
    · rename_i hle
      cases hf
      have hcr : t.created = true := by
        cases hc : t.created with
        | true => rfl
        | false => have := (h.fresh hc).1; simp [hw] at this
      refine ⟨?_, ?_, ?_, ?_, ?_⟩
      · simp
      · simp [hcr]
      · intro hp; have := (h.at_reset hp).1; simp [hw] at this
      · intro hwt hs; have := (h.no_deadline hwt hs).2.1; simp [hw] at this
      · intro hwt d hs
        have := h.deadline hwt d hs
        refine ⟨this.1, Or.inr ⟨rfl, rfl, ?_⟩⟩
        rcases this.2 with ⟨h1, _⟩ | ⟨h1, _⟩
        · simp [hw] at h1; rw [← h1]; exact hle
        · simp [hw] at h1
    · contradiction
  · contradiction

theorem TimerInv.acceptEntry {now : Time} {t : Thread} (d : Time) :
    TimerInv now { t with seen := some d, created := true, armed := some d, buf := false, c := true, pc := .sel } :=
  ⟨fun _ _ => rfl, nofun, nofun, fun _ => nofun, fun _ _ hd => ⟨rfl, Or.inl ⟨hd, rfl⟩⟩⟩

theorem TimerInv.acceptNone {now : Time} {t : Thread} (h : TimerInv now t) (hpc : t.pc = .reset) :
    TimerInv now { t with seen := none, c := false, pc := .sel } :=
  have hr := h.at_reset hpc
  ⟨h.armed_buf, fun _ => ⟨hr.1, hr.2, rfl⟩, nofun, fun _ _ => ⟨rfl, hr.1, hr.2⟩, fun _ _ => nofun⟩

theorem tstep_timerInv {cfg : Cfg} {sh : Sh} {t : Thread} {ch : Choice} {r : TRes}
    (hc : cfg.repoint = true) (hr : cfg.rearm = true) (h : TimerInv sh.now t)
    (hs : tstep cfg sh t ch = some r) : TimerInv sh.now r.t := by
  cases tstep_inv hs with
  | load _ _ hp => exact h.load hc hp _ _ (Kind.top_ne_reset _)
  | readOk | writeOk | acceptOk | timeout | err | die => exact h.finish _ _ _
  | blockR _ hp | blockW _ hp => exact h.pc _ nofun fun _ => Or.inr (Or.inl hp)
  | poll _ hp => exact h.pc _ nofun fun _ => Or.inl hp
  | tok => exact h.pc _ nofun nofun
  | stop => exact h.stopDrain
  | again _ _ _ hcr => exact h.rearm' hr hcr _
  | acceptSome => exact TimerInv.acceptEntry _
  | acceptNone _ hp => exact h.acceptNone hp

/-! ## lifting a per-caller invariant to all reachable states -/

theorem init_ths {kinds : List Kind} {wnd infl : Nat} {t : Thread} (ht : t ∈ (init kinds wnd infl).ths) :
    ∃ k, t = { kind := k } := by
  simp only [init, List.mem_map] at ht
  obtain ⟨k, _, rfl⟩ := ht
  exact ⟨k, rfl⟩

theorem reach_forall_ths {cfg : Cfg} (Q : Time → Thread → Prop)
    (mono : ∀ {n n' : Time} {t : Thread}, n ≤ n' → Q n t → Q n' t)
    (hT : ∀ {sh : Sh} {t : Thread} {ch : Choice} {r : TRes}, Q sh.now t → tstep cfg sh t ch = some r → Q sh.now r.t)
    (hF : ∀ {now : Time} {t t' : Thread}, Q now t → t.fire now = some t' → Q now t')
    (hcall : ∀ (now : Time) (k : Kind) (b : Bool) (n : Nat), Q now (Thread.fresh k b n))
    (hidle : ∀ {now : Time} {t : Thread}, Q now t → Q now { t with pc := .idle })
    (hinit : ∀ k, Q 0 { kind := k })
    {kinds : List Kind} {wnd infl : Nat} {s : State} (h : Reach cfg (init kinds wnd infl) s) :
    ∀ t ∈ s.ths, Q s.sh.now t := by
  refine Reach.induct (P := fun s => ∀ t ∈ s.ths, Q s.sh.now t) ?_ ?_ h
  · intro t ht
    obtain ⟨k, rfl⟩ := init_ths ht
    exact hinit k
  intro s l s' _ h hs
  cases step_inv hs with
  | @thr i ch t r hi hr =>
    show ∀ t' ∈ s.ths.set i r.t, Q r.sh.now t'
    rw [tstep_now hr]
    exact forall_mem_set h (hT (h t (List.mem_of_getElem? hi)) hr)
  | fire hi hf => exact forall_mem_set h (hF (h _ (List.mem_of_getElem? hi)) hf)
  | call => exact forall_mem_set h (hcall _ _ _ _)
  | collect hi => exact forall_mem_set h (hidle (h _ (List.mem_of_getElem? hi)))
  | env _ he => exact fun t ht => mono he.now (h t ht)

theorem reach_timerInv {cfg : Cfg} {kinds : List Kind} {wnd infl : Nat} {s : State}
    (hc : cfg.repoint = true) (hr : cfg.rearm = true) (h : Reach cfg (init kinds wnd infl) s) :
    ∀ t ∈ s.ths, TimerInv s.sh.now t :=
  reach_forall_ths (fun n t => TimerInv n t) (fun hn h => h.mono hn)
    (fun h hs => tstep_timerInv hc hr h hs) (fun h hf => h.fire hf)
    (fun _ k b n => TimerInv.call k b n) (fun h => h.pc _ nofun nofun)
    (fun _ => ⟨nofun, fun _ => ⟨rfl, rfl, rfl⟩, fun _ => ⟨rfl, rfl⟩, nofun, nofun⟩) h

theorem not_canStep_of_quiescent {cfg : Cfg} {s : State} {t : Thread} (hq : quiescent cfg s = true)
    (ht : t ∈ s.ths) : t.canStep cfg s.sh = false := by
  simp only [quiescent, List.all_eq_true] at hq
  simpa using hq t ht

theorem not_quiescent_of_canStep {cfg : Cfg} {s : State} {t : Thread} (ht : t ∈ s.ths)
    (h : t.canStep cfg s.sh = true) : quiescent cfg s = false :=
  Bool.eq_false_iff.mpr fun hq => by rw [not_canStep_of_quiescent hq ht] at h; cases h

theorem tick_none_of_canStep {cfg : Cfg} {s : State} {t : Thread} (ht : t ∈ s.ths)
    (h : t.canStep cfg s.sh = true) (t' : Time) : step cfg s (.tick t') = none := by
  simp [step, not_quiescent_of_canStep ht h]

theorem canStep_of_choice {cfg : Cfg} {sh : Sh} {t : Thread} (ch : Choice)
    (h : (tstep cfg sh t ch).isSome = true) : t.canStep cfg sh = true := by
  simp only [Thread.canStep, Bool.or_eq_true, List.any_eq_true]
  left
  exact ⟨ch, by cases ch <;> simp [allChoices], h⟩

theorem canStep_of_fire {cfg : Cfg} {sh : Sh} {t : Thread}
    (h : (t.fire sh.now).isSome = true) : t.canStep cfg sh = true := by
  simp [Thread.canStep, h]

theorem tick_iff {cfg : Cfg} {s s' : State} {t' : Time} :
    step cfg s (.tick t') = some s' ↔
      s.sh.now < t' ∧ quiescent cfg s = true ∧ (∀ t ∈ s.ths, ∀ w, t.armed = some w → t' ≤ w) ∧
        s' = { s with sh := { s.sh with now := t' } } := by
  have harm : s.ths.all (Thread.armedGe t') = true ↔ ∀ t ∈ s.ths, ∀ w, t.armed = some w → t' ≤ w := by
    simp only [List.all_eq_true]
    refine forall_congr' fun t => forall_congr' fun _ => ?_
    cases ha : t.armed <;> simp [Thread.armedGe, ha]
  simp only [step, Bool.and_eq_true, decide_eq_true_eq, harm]
  constructor
  · intro h
    split at h
    · next hc => exact ⟨hc.1.1, hc.1.2, hc.2, by cases h; rfl⟩
    · cases h
  · rintro ⟨h1, h2, h3, rfl⟩
    rw [if_pos ⟨⟨h1, h2⟩, h3⟩]

/-! ## data never left unclaimed (chain wake) -/

/-- a reader that will test `readable` before it can block -/
def Thread.aboutToCheck (t : Thread) : Prop :=
  t.kind = .read ∧ (t.pc = .reset ∨ t.pc = .check ∨ t.pc = .woken)

theorem tstep_data {cfg : Cfg} {sh : Sh} {t : Thread} {ch : Choice} {r : TRes}
    (hchain : cfg.chain = true) (hs : tstep cfg sh t ch = some r) (hpos : 0 < r.sh.readable) :
    0 < sh.readable ∧ ((sh.rtok = true ∨ t.aboutToCheck) → (r.sh.rtok = true ∨ r.t.aboutToCheck)) := by
  replace hs := tstep_inv hs
  cases hs
  case readOk hx => exact ⟨take_some_pos hx, fun _ => Or.inl (by simp [hchain, more_of_pos hpos])⟩
  case blockR hx =>
    have := take_none hx
    simp [Sh.readable, this.1, this.2] at hpos
  -- a woken reader goes back to RESET_TIMER or to the test
  case again hk _ _ _ =>
    exact ⟨hpos, Or.imp_right fun h0 => ⟨h0.1, by subst hk; simp only [h0.1]; cases cfg.rearm <;> simp [Kind.top]⟩⟩
  -- a reader that takes the token is then about to check; a writer's token is another one
  case tok k hk _ _ _ => cases k <;> exact ⟨hpos, by simp_all [Thread.aboutToCheck, Sh.tok, Sh.takeTok]⟩
  -- a reader at RESET_TIMER goes on to the test
  case load k hk _ _ => cases k <;> exact ⟨hpos, by simp_all [Thread.aboutToCheck, Kind.top]⟩
  -- a caller that returns from a `select` was not about to check
  case err hp _ | die hp _ =>
    refine ⟨hpos, Or.imp_right fun h0 => ?_⟩
    rcases hp with hp | ⟨_, hp⟩ <;> simp [Thread.aboutToCheck, hp] at h0
  -- the other rows leave `rtok` alone; their caller is no reader, was at `sel`, or stays about to check (`stop`)
  all_goals refine ⟨hpos, ?_⟩
  all_goals simp_all [Thread.aboutToCheck, Thread.finish, Thread.stopDrain, Sh.takeTok]

/-- readable data ⇒ a wake-up token is pending or some reader is about to test for data -/
def DataInv (s : State) : Prop :=
  0 < s.sh.readable → s.sh.rtok = true ∨ ∃ (j : Nat) (t : Thread), s.ths[j]? = some t ∧ t.aboutToCheck

theorem step_dataInv {cfg : Cfg} {s s' : State} {l : Label} (hchain : cfg.chain = true)
    (h : DataInv s) (hs : step cfg s l = some s') : DataInv s' := by
  -- caller `i` is replaced by `t'` and the shared state by `sh'`
  have set : ∀ {i : Nat} {t t' : Thread} {sh' : Sh}, s.ths[i]? = some t →
      (0 < sh'.readable → 0 < s.sh.readable ∧
        ((s.sh.rtok = true ∨ t.aboutToCheck) → (sh'.rtok = true ∨ t'.aboutToCheck))) →
      DataInv { sh := sh', ths := s.ths.set i t' } := by
    intro i t t' sh' hi hd hpos
    obtain ⟨hpos', hd⟩ := hd hpos
    have hnew : (sh'.rtok = true ∨ t'.aboutToCheck) →
        sh'.rtok = true ∨ ∃ (j : Nat) (t : Thread), (s.ths.set i t')[j]? = some t ∧ t.aboutToCheck :=
      Or.imp_right fun h1 => ⟨i, t', by simp [lt_of_getElem? hi], h1⟩
    rcases h hpos' with h1 | ⟨j, t0, hj, h0⟩
    · exact hnew (hd (Or.inl h1))
    · by_cases hij : i = j
      · subst hij
        rw [hi] at hj
        cases hj
        exact hnew (hd (Or.inr h0))
      · exact Or.inr ⟨j, t0, by simp [hij, hj], h0⟩
  cases step_inv hs with
  | thr hi hr => exact set hi (tstep_data hchain hr)
  | fire hi hf =>
    have hs := fire_same hf
    exact set hi fun hpos => ⟨hpos, Or.imp_right fun h0 => ⟨hs.1 ▸ h0.1, hs.2.1 ▸ h0.2⟩⟩
  | call hi hp => exact set hi fun hpos => ⟨hpos, Or.imp_right fun h0 => by simp [Thread.aboutToCheck, hp] at h0⟩
  | collect hi hp => exact set hi fun hpos => ⟨hpos, Or.imp_right fun h0 => by simp [Thread.aboutToCheck, hp] at h0⟩
  | env _ he =>
    intro hpos
    rcases he.data with ⟨h1, h2⟩ | h1
    · rcases h (by rw [← h1]; exact hpos) with h3 | h3
      · exact Or.inl (h2 h3)
      · exact Or.inr h3
    · exact Or.inl (h1 hpos)

theorem reach_dataInv {cfg : Cfg} {kinds : List Kind} {wnd infl : Nat} {s : State}
    (hchain : cfg.chain = true) (h : Reach cfg (init kinds wnd infl) s) : DataInv s := by
  refine Reach.induct (P := DataInv) ?_ ?_ h
  · unfold DataInv; intro hpos; simp [init, Sh.readable] at hpos
  · intro s l s' _ ih hs; exact step_dataInv hchain ih hs

theorem step_kinds {cfg : Cfg} {s s' : State} {l : Label} (hs : step cfg s l = some s') :
    s'.ths.map (·.kind) = s.ths.map (·.kind) := by
  have key : ∀ (i : Nat) (t t' : Thread), s.ths[i]? = some t → t'.kind = t.kind →
      (s.ths.set i t').map (·.kind) = s.ths.map (·.kind) := by
    intro i t t' hi hk
    obtain ⟨hlt, rfl⟩ := List.getElem?_eq_some_iff.mp hi
    have hlt' : i < (s.ths.map Thread.kind).length := by rw [List.length_map]; exact hlt
    rw [List.map_set, hk, ← List.getElem_map Thread.kind (h := hlt')]
    exact List.set_getElem_self hlt'
  cases step_inv hs with
  | thr hi hr => exact key _ _ _ hi (tstep_kind hr)
  | fire hi hf => exact key _ _ _ hi (fire_same hf).1
  | call hi => exact key _ _ _ hi rfl
  | collect hi => exact key _ _ _ hi rfl
  | env => rfl

theorem reach_kinds {cfg : Cfg} {kinds : List Kind} {wnd infl : Nat} {s : State}
    (h : Reach cfg (init kinds wnd infl) s) : s.ths.map (·.kind) = kinds := by
  refine Reach.induct (P := fun s => s.ths.map (·.kind) = kinds) ?_ ?_ h
  · simp [init, Function.comp_def]
  · intro s l s' _ ih hs; rw [step_kinds hs]; exact ih

/-- at most one caller slot of kind `k` -/
def SingleK (k : Kind) (ks : List Kind) : Prop :=
  ∀ i j : Nat, ks[i]? = some k → ks[j]? = some k → i = j

theorem SingleK.cons_self {k : Kind} {ks : List Kind} (h : k ∉ ks) : SingleK k (k :: ks) := by
  intro i j hi hj
  cases i with
  | zero =>
    cases j with
    | zero => rfl
    | succ j => exact absurd (List.mem_of_getElem? (List.getElem?_cons_succ ▸ hj)) h
  | succ i => exact absurd (List.mem_of_getElem? (List.getElem?_cons_succ ▸ hi)) h

theorem SingleK.cons_ne {k k' : Kind} {ks : List Kind} (hne : k' ≠ k) (h : SingleK k ks) : SingleK k (k' :: ks) := by
  intro i j hi hj
  cases i with
  | zero => exact absurd (Option.some.inj (List.getElem?_cons_zero ▸ hi)) hne
  | succ i =>
    cases j with
    | zero => exact absurd (Option.some.inj (List.getElem?_cons_zero ▸ hj)) hne
    | succ j => exact congrArg _ (h i j (List.getElem?_cons_succ ▸ hi) (List.getElem?_cons_succ ▸ hj))

theorem single_of_kinds {k : Kind} {s : State} (h : SingleK k (s.ths.map (·.kind)))
    {i j : Nat} {ti tj : Thread} (hi : s.ths[i]? = some ti) (hj : s.ths[j]? = some tj)
    (hki : ti.kind = k) (hkj : tj.kind = k) : i = j := by
  apply h i j
  · simp [hi, hki]
  · simp [hj, hkj]

/-! ## lifting an invariant about the only caller of kind `k` -/

theorem reach_forall_single {cfg : Cfg} (k : Kind) (Q : Sh → Thread → Prop)
    (hself : ∀ {sh : Sh} {t : Thread} {ch : Choice} {r : TRes},
      t.kind = k → Q sh t → tstep cfg sh t ch = some r → Q r.sh r.t)
    (hother : ∀ {sh : Sh} {t t0 : Thread} {ch : Choice} {r : TRes},
      t.kind ≠ k → tstep cfg sh t ch = some r → Q sh t0 → Q r.sh t0)
    (hloc : ∀ {sh : Sh} {t t' : Thread}, t'.pc = t.pc → t'.seen = t.seen → Q sh t → Q sh t')
    (hstart : ∀ (sh : Sh) {t : Thread}, t.pc = .reset ∨ t.pc = .idle → Q sh t)
    (henv : ∀ {a b : Sh} {t : Thread}, EnvRel a b → Q a t → Q b t)
    {kinds : List Kind} {wnd infl : Nat} (hsingle : SingleK k kinds) {s : State}
    (hreach : Reach cfg (init kinds wnd infl) s) :
    ∀ (i : Nat) (t : Thread), s.ths[i]? = some t → t.kind = k → Q s.sh t := by
  refine Reach.induct (P := fun s => ∀ (i : Nat) (t : Thread), s.ths[i]? = some t → t.kind = k → Q s.sh t)
    ?_ ?_ hreach
  · intro i t hi _
    obtain ⟨k', rfl⟩ := init_ths (List.mem_of_getElem? hi)
    exact hstart _ (Or.inr rfl)
  intro s l s' hr h hs j t0 hj hk
  have hsingle : SingleK k (s.ths.map (·.kind)) := by rw [reach_kinds hr]; exact hsingle
  cases step_inv hs with
  | thr hi hr =>
    rcases getElem?_set_some hj with ⟨rfl, rfl⟩ | ⟨hij, hj'⟩
    · have hk' := (tstep_kind hr).symm.trans hk
      exact hself hk' (h _ _ hi hk') hr
    · exact hother (fun hkt => hij (single_of_kinds hsingle hi hj' hkt hk)) hr (h j t0 hj' hk)
  | fire hi hf =>
    rcases getElem?_set_some hj with ⟨rfl, rfl⟩ | ⟨_, hj'⟩
    · have hs := fire_same hf
      exact hloc hs.2.1 hs.2.2.1 (h _ _ hi (hs.1.symm.trans hk))
    · exact h j t0 hj' hk
  | call hi =>
    rcases getElem?_set_some hj with ⟨rfl, rfl⟩ | ⟨_, hj'⟩
    · exact hstart _ (Or.inl rfl)
    · exact h j t0 hj' hk
  | collect hi =>
    rcases getElem?_set_some hj with ⟨rfl, rfl⟩ | ⟨_, hj'⟩
    · exact hstart _ (Or.inr rfl)
    · exact h j t0 hj' hk
  | env _ he => exact henv he (h j t0 hj hk)

/-! ## the only caller of kind `k`: deadline coherence and no lost wake-up -/

def Coh (k : Kind) (sh : Sh) (t : Thread) : Prop := t.waiting → sh.cell k = t.seen ∨ sh.tok k = true
def Ready (k : Kind) (sh : Sh) (t : Thread) : Prop := t.pc = .sel → sh.ready k → sh.tok k = true

theorem TStep.frame {cfg : Cfg} {sh : Sh} {t : Thread} {ch : Choice} {r : TRes} {k : Kind}
    (hs : TStep cfg sh t ch r) (hk : t.kind ≠ k) (hna : k ≠ .accept) :
    r.sh.cell k = sh.cell k ∧ r.sh.tok k = sh.tok k ∧ r.sh.ready k = sh.ready k := by
  cases k
  case accept => exact absurd rfl hna
  -- `readOk`, `writeOk`, `tok` write fields of their own kind only, and that kind is not `k` (`hk`)
  all_goals
    cases hs
    case readOk hk' _ _ => first | exact absurd hk' hk | exact ⟨rfl, rfl, rfl⟩
    case writeOk hk' _ _ => first | exact absurd hk' hk | exact ⟨rfl, rfl, rfl⟩
    case tok k' hk' _ _ _ => cases k' <;> first | exact absurd hk' hk | exact ⟨rfl, rfl, rfl⟩
    all_goals exact ⟨rfl, rfl, rfl⟩

theorem TStep.coh {cfg : Cfg} {sh : Sh} {t : Thread} {ch : Choice} {r : TRes} {k : Kind} (hr : cfg.rearm = true)
    (hs : TStep cfg sh t ch r) (hk : t.kind = k) (hna : k ≠ .accept) (h : Coh k sh t) : Coh k r.sh r.t := by
  unfold Coh at *
  cases hs
  case load hk' _ _ => exact fun _ => Or.inl ((hk'.symm.trans hk) ▸ (loadDeadline_seen cfg t _).symm)
  case poll _ hp _ _ => exact fun _ => h (Or.inl hp)
  case blockR _ hp _ => exact fun _ => h (Or.inr (Or.inl hp))
  case blockW _ hp _ => exact fun _ => h (Or.inr (Or.inl hp))
  case again =>
    -- the woken caller goes back to RESET_TIMER; without `rearm` it would go on with a stale `seen`
    rw [if_pos hr]
    exact fun hw => by simp [Thread.waiting] at hw
  case acceptSome hk' _ _ => exact absurd (hk.symm.trans hk') hna
  case acceptNone hk' _ _ => exact absurd (hk.symm.trans hk') hna
  all_goals exact fun hw => by simp [Thread.waiting, Thread.finish] at hw

/-- a caller enters its `select` only after it has found nothing to read, resp. no room to write -/
theorem TStep.ready {cfg : Cfg} {sh : Sh} {t : Thread} {ch : Choice} {r : TRes} {k : Kind}
    (hs : TStep cfg sh t ch r) (hk : t.kind = k) (hna : k ≠ .accept) : Ready k r.sh r.t := by
  intro hp hrd
  cases hs
  case blockR hk' _ hx =>
    subst hk; rw [hk'] at hrd
    have := take_none hx
    simp [Sh.ready, Sh.readable, this.1, this.2] at hrd
  case blockW hk' _ hroom => subst hk; rw [hk'] at hrd; exact absurd hrd hroom
  case acceptSome hk' _ _ => exact absurd (hk.symm.trans hk') hna
  case acceptNone hk' _ _ => exact absurd (hk.symm.trans hk') hna
  case again =>
    split at hp
    · cases hp
    · exact absurd hp (Kind.top_ne_sel _)
  case load => exact absurd hp (Kind.top_ne_sel _)
  all_goals cases hp

theorem reach_coh {cfg : Cfg} {kinds : List Kind} {wnd infl : Nat} {s : State} {k : Kind} (hr : cfg.rearm = true)
    (hna : k ≠ .accept) (hsingle : SingleK k kinds) (h : Reach cfg (init kinds wnd infl) s) :
    ∀ (i : Nat) (t : Thread), s.ths[i]? = some t → t.kind = k → Coh k s.sh t := by
  refine reach_forall_single k (Coh k) (fun hk h hs => (tstep_inv hs).coh hr hk hna h) ?_ ?_ ?_ ?_ hsingle h
  · intro sh t t0 ch r hk hs h hw
    have hf := (tstep_inv hs).frame hk hna
    rw [hf.1, hf.2.1]; exact h hw
  · intro sh t t' hp hs h hw
    unfold Thread.waiting at hw
    rw [hp] at hw
    rw [hs]; exact h hw
  · intro sh t hp hw
    rcases hp with hp | hp <;> simp [Thread.waiting, hp] at hw
  · intro a b t hrel h hw
    rcases hrel.cell hna with ⟨h1, h2⟩ | h1
    · exact (h hw).imp (fun h3 => h1.trans h3) h2
    · exact Or.inr h1

theorem reach_ready {cfg : Cfg} {kinds : List Kind} {wnd infl : Nat} {s : State} {k : Kind}
    (hna : k ≠ .accept) (hsingle : SingleK k kinds) (h : Reach cfg (init kinds wnd infl) s) :
    ∀ (i : Nat) (t : Thread), s.ths[i]? = some t → t.kind = k → Ready k s.sh t := by
  refine reach_forall_single k (Ready k) (fun hk _ hs => (tstep_inv hs).ready hk hna) ?_ ?_ ?_ ?_ hsingle h
  · intro sh t t0 ch r hk hs h hp
    have hf := (tstep_inv hs).frame hk hna
    rw [hf.2.1, hf.2.2]; exact h hp
  · intro sh t t' hp _ h hp'
    exact h (hp.symm.trans hp')
  · intro sh t hp hp'
    rcases hp with hp | hp <;> rw [hp] at hp' <;> cases hp'
  · intro a b t hrel h hp hrd
    rcases hrel.ready hna with h1 | h1
    · exact (h1 hrd).2 (h hp (h1 hrd).1)
    · exact h1 hrd

/-- control points that exist for the kind of caller (`pre` is Write's poll; Accept has a single `select`) -/
def PcOK (t : Thread) : Prop :=
  (t.kind = .read → t.pc ≠ .pre) ∧ (t.kind = .accept → t.pc ≠ .pre ∧ t.pc ≠ .check ∧ t.pc ≠ .woken)

theorem PcOK.of_pc {t : Thread} (h : t.pc ≠ .pre ∧ t.pc ≠ .check ∧ t.pc ≠ .woken) : PcOK t :=
  ⟨fun _ => h.1, fun _ => h⟩

theorem TStep.pcOK {cfg : Cfg} {sh : Sh} {t : Thread} {ch : Choice} {r : TRes}
    (hs : TStep cfg sh t ch r) : PcOK r.t := by
  cases hs
  case load k hk hna _ =>
    refine ⟨fun hr => ?_, fun ha => absurd (hk.symm.trans ((loadDeadline_kind cfg t _).symm.trans ha)) hna⟩
    have e : k = .read := hk.symm.trans ((loadDeadline_kind cfg t _).symm.trans hr)
    rw [e]; nofun
  case again k hk hna _ _ =>
    refine ⟨fun hr => ?_, fun ha => absurd (hk.symm.trans ha) hna⟩
    have e : k = .read := hk.symm.trans hr
    rw [e]; split <;> nofun
  case poll hk _ _ _ => exact ⟨fun hr => absurd (hk.symm.trans hr) nofun, fun ha => absurd (hk.symm.trans ha) nofun⟩
  case tok hk hna _ _ => exact ⟨fun _ => nofun, fun ha => absurd (hk.symm.trans ha) hna⟩
  all_goals exact .of_pc ⟨nofun, nofun, nofun⟩

theorem reach_pcOK {cfg : Cfg} {kinds : List Kind} {wnd infl : Nat} {s : State}
    (h : Reach cfg (init kinds wnd infl) s) : ∀ t ∈ s.ths, PcOK t :=
  reach_forall_ths (fun _ t => PcOK t) (fun _ h => h) (fun _ hs => (tstep_inv hs).pcOK)
    (fun h hf => by
      have := fire_same hf
      unfold PcOK at *; rw [this.1, this.2.1]; exact h)
    (fun _ k b n => .of_pc ⟨nofun, nofun, nofun⟩) (fun _ => .of_pc ⟨nofun, nofun, nofun⟩)
    (fun _ => .of_pc ⟨nofun, nofun, nofun⟩) h

theorem TStep.canStep {cfg : Cfg} {sh : Sh} {t : Thread} {ch : Choice} {r : TRes}
    (h : TStep cfg sh t ch r) : t.canStep cfg sh = true :=
  canStep_of_choice ch (by rw [h.tstep_eq]; rfl)

/-- the exits of a `select` -/
theorem canStep_sel {cfg : Cfg} {sh : Sh} {t : Thread} (hp : t.pc = .sel) :
    t.canStep cfg sh = true ↔
      sh.tok t.kind = true ∨ (t.c = true ∧ t.buf = true) ∨ sh.err t.kind = true ∨ sh.dead t.kind = true ∨
        ∃ w, t.armed = some w ∧ w ≤ sh.now := by
  constructor
  · intro h
    simp only [Thread.canStep, Bool.or_eq_true, List.any_eq_true, Option.isSome_iff_exists] at h
    rcases h with ⟨ch, _, r, hr⟩ | ⟨t', hf⟩
    · cases tstep_inv hr with
      | tok hk _ _ ht => exact Or.inl (hk ▸ ht)
      | acceptOk hk _ hb => exact Or.inl (by rw [hk]; exact decide_eq_true hb)
      | timeout _ hc hb => exact Or.inr (Or.inl ⟨hc, hb⟩)
      | err hk _ he => exact Or.inr (Or.inr (Or.inl (hk ▸ he)))
      | die hk _ hd => exact Or.inr (Or.inr (Or.inr (Or.inl (hk ▸ hd))))
      | _ => rw [hp] at *; contradiction
    · refine Or.inr (Or.inr (Or.inr (Or.inr ?_)))
      unfold Thread.fire at hf
      split at hf
      · next w hw =>
        split at hf
        · next hle => exact ⟨w, hw, hle⟩
        · cases hf
      · cases hf
  · rintro (h | h | h | h | ⟨w, hw, hle⟩)
    · by_cases ha : t.kind = .accept
      · exact (TStep.acceptOk ha hp (by simpa [Sh.tok, ha] using h)).canStep
      · exact (TStep.tok rfl ha hp h).canStep
    · exact (TStep.timeout hp h.1 h.2).canStep
    · exact (TStep.err rfl (Or.inl hp) h).canStep
    · exact (TStep.die rfl (Or.inl hp) h).canStep
    · exact canStep_of_fire (by simp [Thread.fire, hw, hle])

theorem canStep_active {cfg : Cfg} {sh : Sh} {t : Thread} (hok : PcOK t)
    (hp : t.pc = .reset ∨ t.pc = .pre ∨ t.pc = .check ∨ t.pc = .woken) : t.canStep cfg sh = true := by
  by_cases ha : t.kind = .accept
  · have := hok.2 ha
    rcases hp with hp | hp | hp | hp
    · cases hd : sh.ld
      · exact (TStep.acceptNone ha hp hd).canStep
      · exact (TStep.acceptSome ha hp hd).canStep
    · exact absurd hp this.1
    · exact absurd hp this.2.1
    · exact absurd hp this.2.2
  rcases hp with hp | hp | hp | hp
  · exact (TStep.load rfl ha hp).canStep
  · -- only Write has the poll
    have hk : t.kind = .write := by
      cases hk : t.kind
      · exact absurd hp (hok.1 hk)
      · rfl
      · exact absurd hk ha
    cases he : sh.werr
    · cases hd : sh.die
      · exact (TStep.poll hk hp he hd).canStep
      · exact (TStep.die hk (Or.inr ⟨rfl, hp⟩) hd).canStep
    · exact (TStep.err hk (Or.inr ⟨rfl, hp⟩) he).canStep
  · cases hk : t.kind
    · cases hx : take sh.left sh.queue t.bsz
      · exact (TStep.blockR hk hp hx).canStep
      · exact (TStep.readOk hk hp hx).canStep
    · by_cases hroom : sh.inflight < sh.wnd
      · exact (TStep.writeOk hk hp hroom).canStep
      · exact (TStep.blockW hk hp hroom).canStep
    · exact absurd hk ha
  · by_cases hc : t.created = true
    · exact (TStep.stop ha hp hc).canStep
    · exact (TStep.again rfl ha hp hc).canStep

theorem canStep_aboutToCheck {cfg : Cfg} {sh : Sh} {t : Thread} (h : t.aboutToCheck) : t.canStep cfg sh = true :=
  canStep_active
    ⟨fun _ hp => (by rcases h.2 with e | e | e <;> rw [e] at hp <;> cases hp), fun hk => absurd (h.1.symm.trans hk) nofun⟩
    (h.2.imp_right Or.inr)

theorem canStep_deadline_passed {cfg : Cfg} {sh : Sh} {t : Thread} {d : Time} (hinv : TimerInv sh.now t)
    (hp : t.pc = .sel) (hs : t.seen = some d) (hd : d ≤ sh.now) : t.canStep cfg sh = true := by
  have := hinv.deadline (Or.inr (Or.inr hp)) d hs
  rcases this.2 with ⟨ha, _⟩ | ⟨_, hb, _⟩
  · exact (canStep_sel hp).mpr (Or.inr (Or.inr (Or.inr (Or.inr ⟨d, ha, hd⟩))))
  · exact (canStep_sel hp).mpr (Or.inr (Or.inl ⟨this.1, hb⟩))

theorem tick_le_loaded {cfg : Cfg} {s s' : State} {t : Thread} {d t' : Time} (hinv : TimerInv s.sh.now t)
    (ht : t ∈ s.ths) (hp : t.pc = .sel) (hs : t.seen = some d) (h : step cfg s (.tick t') = some s') : t' ≤ d := by
  have hts := tick_iff.mp h
  have hdl := hinv.deadline (Or.inr (Or.inr hp)) d hs
  rcases hdl.2 with ⟨ha, _⟩ | ⟨_, hb, _⟩
  · exact hts.2.2.1 t ht d ha
  · -- the expiry is buffered: the timeout case is ready, which a tick excludes
    have := (canStep_sel (cfg := cfg) (sh := s.sh) hp).mpr (Or.inr (Or.inl ⟨hdl.1, hb⟩))
    rw [not_canStep_of_quiescent hts.2.1 ht] at this
    cases this

theorem quiescent_pcs {cfg : Cfg} {s : State} (hq : quiescent cfg s = true) {t : Thread} (ht : t ∈ s.ths)
    (hok : PcOK t) : t.pc = .idle ∨ t.pc = .done ∨ t.pc = .sel := by
  have h := mt (canStep_active (cfg := cfg) (sh := s.sh) hok) (by rw [not_canStep_of_quiescent hq ht]; nofun)
  cases hp : t.pc
  case idle => exact Or.inl rfl
  case done => exact Or.inr (Or.inl rfl)
  case sel => exact Or.inr (Or.inr rfl)
  all_goals exact absurd (by simp [hp]) h

/-! ## termination of the maximal-progress phases (thread steps and timer expiries only) -/

def armedBit (o : Option Time) : Nat := if o.isSome then 1 else 0

theorem armedBit_le (o : Option Time) : armedBit o ≤ 1 := by unfold armedBit; split <;> omega

def Thread.rank (t : Thread) : Nat :=
  (match t.pc with
    | .woken => 10 | .reset => 8 | .pre => 6 | .check => 4 | .sel => 2 | .idle => 0 | .done => 0) + armedBit t.armed

def Thread.act (t : Thread) : Nat := if t.pc = .idle ∨ t.pc = .done then 0 else 1

def Sh.toks (sh : Sh) : Nat := (if sh.rtok = true then 1 else 0) + (if sh.wtok = true then 1 else 0)

theorem armedBit_none : armedBit none = 0 := rfl

theorem toks_orR (sh : Sh) (l : Nat) (q : List Nat) (b : Bool) :
    ({ sh with left := l, queue := q, rtok := sh.rtok || b } : Sh).toks ≤ sh.toks + 1 := by
  unfold Sh.toks
  cases sh.rtok <;> cases b <;> simp <;> omega

theorem toks_takeR {sh : Sh} (h : sh.rtok = true) : ({ sh with rtok := false } : Sh).toks + 1 = sh.toks := by
  simp [Sh.toks, h]
  omega

theorem toks_takeW {sh : Sh} (h : sh.wtok = true) : ({ sh with wtok := false } : Sh).toks + 1 = sh.toks := by
  simp [Sh.toks, h]

theorem toks_takeTok {sh : Sh} {k : Kind} (hna : k ≠ .accept) (h : sh.tok k = true) :
    (sh.takeTok k).toks + 1 = sh.toks := by
  cases k
  · exact toks_takeR h
  · exact toks_takeW h
  · exact absurd rfl hna

/-- every step of a caller decreases `27·active + 9·tokens + rank`: a return decreases `active` (and
issues at most one chain token), taking a token decreases `tokens` (and raises the rank by 8), every
other step lowers the rank -/
theorem tstep_measure {cfg : Cfg} {sh : Sh} {t : Thread} {ch : Choice} {r : TRes}
    (hs : tstep cfg sh t ch = some r) :
    27 * r.t.act + 9 * r.sh.toks + r.t.rank < 27 * t.act + 9 * sh.toks + t.rank := by
  have h1 := armedBit_le t.armed
  replace hs := tstep_inv hs
  cases hs
  case load k _ hna hp =>
    have h2 := armedBit_le (t.loadDeadline cfg (sh.cell k)).armed
    cases k <;> simp [Thread.rank, Thread.act, hp, Kind.top] at hna ⊢ <;> omega
  case readOk x _ hp _ =>
    have := toks_orR sh x.left x.queue (cfg.chain && more x.left x.queue)
    simp [Thread.rank, Thread.act, Thread.finish, hp, armedBit_none]
    omega
  case writeOk _ hp _ =>
    simp [Thread.rank, Thread.act, Thread.finish, Sh.toks, hp, armedBit_none]
    omega
  case acceptOk _ hp _ =>
    have e : (sh.takeTok .accept).toks = sh.toks := rfl
    simp [Thread.rank, Thread.act, Thread.finish, hp, armedBit_none, e]
    omega
  case blockR _ hp _ | blockW _ hp _ => simp [Thread.rank, Thread.act, hp]
  case poll _ hp _ _ | acceptNone _ hp _ => simp [Thread.rank, Thread.act, hp]
  case tok k _ hna hp htok =>
    have := toks_takeTok hna htok
    simp [Thread.rank, Thread.act, hp]
    omega
  case stop hp _ =>
    simp [Thread.rank, Thread.act, Thread.stopDrain, hp, armedBit_none]
    omega
  case again k _ hna hp _ => cases k <;> split <;> simp [Thread.rank, Thread.act, hp, Kind.top] at hna ⊢
  case acceptSome _ hp _ =>
    simp [Thread.rank, Thread.act, hp, armedBit]
    omega
  case timeout hp _ _ =>
    simp [Thread.rank, Thread.act, Thread.finish, hp, armedBit_none]
    omega
  case err hp _ | die hp _ =>
    rcases hp with hp | ⟨_, hp⟩ <;> simp [Thread.rank, Thread.act, Thread.finish, hp, armedBit_none] <;> omega

def Thread.weight (t : Thread) : Nat := 27 * t.act + t.rank

def measure (s : State) : Nat := (s.ths.map Thread.weight).sum + 9 * s.sh.toks

theorem fire_weight {now : Time} {t t' : Thread} (h : t.fire now = some t') : t'.weight < t.weight := by
  unfold Thread.fire at h
  split at h
  · rename_i w hw
    split at h
    · cases h
      simp [Thread.weight, Thread.rank, Thread.act, armedBit, hw]
    · contradiction
  · contradiction

theorem step_measure {cfg : Cfg} {s s' : State} {l : Label} (hl : l.isProgress = true)
    (hs : step cfg s l = some s') : measure s' < measure s := by
  cases step_inv hs with
  | @thr i ch t r hi hr =>
    have h1 := sum_map_set Thread.weight (b := r.t) hi
    have h2 := tstep_measure hr
    simp only [measure, Thread.weight] at *
    omega
  | @fire i t t' hi hf =>
    have h1 := sum_map_set Thread.weight (b := t') hi
    have h2 := fire_weight hf
    simp only [measure] at *
    omega
  | call => cases hl
  | collect => cases hl
  | env hl' => rw [hl] at hl'; cases hl'

theorem run_cons_eq_some {cfg : Cfg} {s s' : State} {l : Label} {ls : List Label} :
    run cfg s (l :: ls) = some s' ↔ ∃ s1, step cfg s l = some s1 ∧ run cfg s1 ls = some s' := by
  simp only [run]
  cases step cfg s l <;> simp

theorem Reach.run {cfg : Cfg} {s0 s s' : State} (h : Reach cfg s0 s) (ls : List Label)
    (hr : Wait.run cfg s ls = some s') : Reach cfg s0 s' := by
  induction ls generalizing s with
  | nil => exact Option.some.inj hr ▸ h
  | cons l ls ih =>
    obtain ⟨s1, h1, hr⟩ := run_cons_eq_some.mp hr
    exact ih (h.step l h1) hr

theorem run_measure {cfg : Cfg} {s s' : State} (ls : List Label) (hall : ∀ l ∈ ls, l.isProgress = true)
    (hr : run cfg s ls = some s') : ls.length + measure s' ≤ measure s := by
  induction ls generalizing s with
  | nil => simp [run] at hr; subst hr; simp
  | cons l ls ih =>
    obtain ⟨s1, h1, hr⟩ := run_cons_eq_some.mp hr
    have hm := step_measure (hall l (by simp)) h1
    have := ih (fun l' hl' => hall l' (by simp [hl'])) hr
    simp only [List.length_cons]; omega

end KcpVerif.Wait
