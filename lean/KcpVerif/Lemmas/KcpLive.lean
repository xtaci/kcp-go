/-
Lemmas for the no-wedge invariants of C02 and C03: the ack list only grows, the live head of `snd_buf` (`HeadLive`), the
move loop at its fixpoint (`MoveFix`), the receive-side store.  Core Lean only.
-/
import KcpVerif.Lemmas.KcpLiveFlush
import KcpVerif.Lemmas.KcpSteps

namespace KcpVerif.Live
open KcpVerif.Gen KcpVerif.Kcp

section
variable (regular : Bool) (conv : U32) (cmd frg : BitVec 8) (wnd : BitVec 16) (ts sn una : U32)
  (payload : Bytes) (st : InLoop)

theorem inPre_rcv (k : Kcp) :
    (inPre regular wnd una k).rcv_nxt = k.rcv_nxt ∧ (inPre regular wnd una k).rcv_wnd = k.rcv_wnd ∧
    (inPre regular wnd una k).acklist = k.acklist ∧ (inPre regular wnd una k).probe = k.probe ∧
    (inPre regular wnd una k).rcv_buf = k.rcv_buf ∧ (inPre regular wnd una k).rcv_queue = k.rcv_queue := by
  obtain ⟨sb, su, h⟩ := inPre_frame regular wnd una k
  rw [h]; exact ⟨rfl, rfl, rfl, rfl, rfl, rfl⟩

theorem inStep_push_acklist (hc : cmd.toNat = IKCP_CMD_PUSH)
    (hw : itimediff sn (st.k.rcv_nxt + st.k.rcv_wnd) < 0) :
    (inStep regular conv cmd frg wnd ts sn una payload st).k.acklist = st.k.acklist ++ [⟨sn, ts⟩] := by
  have hp := inPre_rcv regular wnd una st.k
  have hne : ¬ cmd.toNat = IKCP_CMD_ACK := by rw [hc]; decide
  rw [inStep_k, if_neg hne, if_pos hc, hp.1, hp.2.1, if_pos hw]
  split
  · obtain ⟨rq, rb, rn, h⟩ := parseData_shape
      { inPre regular wnd una st.k with acklist := (inPre regular wnd una st.k).acklist ++ [⟨sn, ts⟩] }
      (pushSeg conv cmd frg wnd ts sn una payload)
    rw [h]; simp only [hp.2.2.1]
  · simp only [hp.2.2.1]

theorem inStep_push_refused (hc : cmd.toNat = IKCP_CMD_PUSH)
    (hw : ¬ itimediff sn (st.k.rcv_nxt + st.k.rcv_wnd) < 0) :
    (inStep regular conv cmd frg wnd ts sn una payload st).k = inPre regular wnd una st.k := by
  have hp := inPre_rcv regular wnd una st.k
  have hne : ¬ cmd.toNat = IKCP_CMD_ACK := by rw [hc]; decide
  rw [inStep_k, if_neg hne, if_pos hc, hp.1, hp.2.1, if_neg hw]

end

theorem acklist_steps : Kcp.LoopSteps (fun a b => ∃ t, b.acklist = a.acklist ++ t) :=
  .of_shapes (fun _ => ⟨[], (List.append_nil _).symm⟩)
    (fun ⟨t, ht⟩ ⟨u, hu⟩ => ⟨t ++ u, by rw [hu, ht, List.append_assoc]⟩)
    (fun _ _ => ⟨[], (List.append_nil _).symm⟩) (fun _ _ _ => ⟨[], (List.append_nil _).symm⟩) (fun _ a => ⟨[a], rfl⟩)
    (fun _ _ _ _ => ⟨[], (List.append_nil _).symm⟩) (fun _ => ⟨[], (List.append_nil _).symm⟩)

theorem inStep_acklist_mono (regular : Bool) (conv : U32) (cmd frg : BitVec 8) (wnd : BitVec 16) (ts sn una : U32)
    (payload : Bytes) (st : InLoop) :
    ∃ t, (inStep regular conv cmd frg wnd ts sn una payload st).k.acklist = st.k.acklist ++ t :=
  acklist_steps.inStep regular conv cmd frg wnd ts sn una payload st

theorem inputLoop_acklist_mono (regular : Bool) (fuel : Nat) (data : Bytes) (st : InLoop) :
    ∃ t, (inputLoop regular fuel data st).k.acklist = st.k.acklist ++ t :=
  acklist_steps.loop regular fuel data st

/-- the head of `snd_buf`, if any, is a live (not individually acknowledged) segment and `snd_una`
is its `sn`; with an empty buffer `snd_una = snd_nxt` -/
def HeadLive (k : Kcp) : Prop :=
  match k.snd_buf with
  | s :: _ => s.acked = false ∧ k.snd_una = s.sn
  | [] => k.snd_una = k.snd_nxt

theorem shrinkBuf_headLive (k : Kcp) : HeadLive (shrinkBuf k) := by
  unfold HeadLive
  rw [shrinkBuf_eq]
  simp only []
  cases h : dropAcked k.snd_buf with
  | nil => rfl
  | cons s rest => exact ⟨dropAcked_head _ _ _ h, rfl⟩

theorem fastLoop_head (sn ts fr : U32) (s : Seg) (rest : List Seg) :
    ∃ s' rest', (fastLoop sn ts fr (s :: rest)).buf = s' :: rest' ∧ s'.sn = s.sn ∧ s'.acked = s.acked := by
  have h := fastLoop_pointwise sn ts fr (s :: rest)
  cases hb : (fastLoop sn ts fr (s :: rest)).buf with
  | nil => rw [hb] at h; exact h.elim
  | cons s' rest' =>
    rw [hb] at h
    exact ⟨s', rest', rfl, by rcases h.1 with rfl | rfl <;> exact ⟨rfl, rfl⟩⟩

theorem parseFastack_headLive (k : Kcp) (sn ts : U32) (h : HeadLive k) : HeadLive (parseFastack k sn ts).1 := by
  unfold parseFastack
  split
  · exact h
  · unfold HeadLive at h ⊢
    simp only []
    cases hb : k.snd_buf with
    | nil => rw [hb] at h; unfold fastLoop; exact h
    | cons s rest =>
      rw [hb] at h
      simp only [] at h
      obtain ⟨s', rest', e, e1, e2⟩ := fastLoop_head sn ts k.fastresend s rest
      rw [e]
      simp only []
      rw [e1, e2]; exact h

theorem HeadLive.of_same {a b : Kcp} (h1 : a.snd_buf = b.snd_buf) (h2 : a.snd_una = b.snd_una)
    (h3 : a.snd_nxt = b.snd_nxt) (hb : HeadLive b) : HeadLive a := by
  unfold HeadLive at hb ⊢; rw [h1, h2, h3]; exact hb

theorem inPre_headLive (regular : Bool) (wnd : BitVec 16) (una : U32) (k : Kcp) : HeadLive (inPre regular wnd una k) := by
  unfold inPre; exact shrinkBuf_headLive _

theorem ackPath_headLive (k : Kcp) (sn ts : U32) : HeadLive (parseFastack (shrinkBuf (parseAck k sn)) sn ts).1 :=
  parseFastack_headLive _ sn ts (shrinkBuf_headLive _)

theorem headLive_steps : Kcp.LoopSteps (fun a b => HeadLive a → HeadLive b) where
  refl _ h := h
  trans f g h := g (f h)
  rmtWnd _ _ h := h
  una _ _ _ := shrinkBuf_headLive _
  ack k sn ts _ := ackPath_headLive k sn ts
  acklist _ _ h := h
  data k s h := by
    obtain ⟨q, b, n, e⟩ := parseData_shape k s
    rw [e]; exact h
  probe _ h := h

/-- no hypothesis on the state before: the prologue of a step already ends in `shrink_buf` -/
theorem inStep_headLive (regular : Bool) (conv : U32) (cmd frg : BitVec 8) (wnd : BitVec 16) (ts sn una : U32)
    (payload : Bytes) (st : InLoop) : HeadLive (inStep regular conv cmd frg wnd ts sn una payload st).k :=
  inStep_ind (P := HeadLive) (Q := HeadLive) regular conv cmd frg wnd ts sn una payload st
    (inPre_headLive regular wnd una st.k) (fun k => headLive_steps.ack k sn ts) (fun _ h => headLive_steps.data _ _ h)
    (fun _ h => h) (fun _ h => h) (fun _ h => h)

theorem inputLoop_headLive (regular : Bool) (fuel : Nat) (data : Bytes) (st : InLoop) (h : HeadLive st.k) :
    HeadLive (inputLoop regular fuel data st).k :=
  headLive_steps.loop regular fuel data st h

theorem parseAck_head_leaves (k : Kcp) (s : Seg) (rest : List Seg) (hb : k.snd_buf = s :: rest)
    (h1 : itimediff s.sn k.snd_una ≥ 0) (h2 : itimediff s.sn k.snd_nxt < 0) :
    (shrinkBuf (parseAck k s.sn)).snd_buf = dropAcked rest := by
  rw [shrinkBuf_eq]
  unfold parseAck
  rw [if_neg (by omega)]
  simp only [hb]
  unfold ackLoop
  rw [if_pos rfl]
  simp only [dropAcked, ↓reduceIte]

theorem moveLoop_fix (wnd : Nat) (buf q : List Seg) (nxt : U32) :
    ∀ s rest, (moveLoop wnd buf q nxt).buf = s :: rest → s.sn = (moveLoop wnd buf q nxt).nxt →
      (moveLoop wnd buf q nxt).q.length ≥ wnd := by
  obtain ⟨n, hn, e, _, _, hstop⟩ := moveLoop_eq wnd buf q nxt
  rw [e]
  intro s rest hb hs
  have := hstop s rest hb hs
  simp only [List.length_append, List.length_take, Nat.min_eq_left hn]
  omega

/-- the head of `rcv_buf` is not deliverable: it is not the next expected segment, or the delivery
queue is full -/
def MoveFix (k : Kcp) : Prop :=
  ∀ s rest, k.rcv_buf = s :: rest → s.sn = k.rcv_nxt → k.rcv_queue.length ≥ k.rcv_wnd.toNat

theorem moveReady_fix (k : Kcp) : MoveFix (moveReady k) := by
  unfold MoveFix moveReady
  exact moveLoop_fix k.rcv_wnd.toNat k.rcv_buf k.rcv_queue k.rcv_nxt

theorem parseData_fix (k : Kcp) (s : Seg) (h : MoveFix k) : MoveFix (parseData k s).k :=
  parseData_cases (P := fun r => MoveFix r.k) k s (fun _ => h) (fun _ _ => moveReady_fix _) (fun _ _ _ => h)
    (fun _ _ _ => moveReady_fix _)

theorem recv_fix (k : Kcp) (buflen : Nat) (h : MoveFix k) : MoveFix (recv k buflen).k := by
  rcases recv_cases k buflen with e | ⟨pr, _, e⟩
  · rw [e]; exact h
  · rw [e]; exact moveReady_fix { k with rcv_queue := (popMsg k.rcv_queue).rest }

theorem recv_ok_fix (k : Kcp) (buflen : Nat) (h : (recv k buflen).n ≥ 0) : MoveFix (recv k buflen).k := by
  rw [recv_of_nonneg k buflen h]
  exact ite_ind (P := MoveFix) (moveReady_fix { k with rcv_queue := (popMsg k.rcv_queue).rest }) (moveReady_fix _)

theorem parseData_store (k : Kcp) (s : Seg)
    (h1 : itimediff s.sn (k.rcv_nxt + k.rcv_wnd) < 0) (h2 : itimediff s.sn k.rcv_nxt ≥ 0)
    (h3 : k.rcv_buf.any (fun x => x.sn = s.sn) = false) (h4 : s.data.length ≤ mtuLimit) :
    (parseData k s).panic = false ∧ (parseData k s).rep = false ∧
    (parseData k s).k.rcv_queue ++ (parseData k s).k.rcv_buf = k.rcv_queue ++ heapInsert s k.rcv_buf := by
  unfold parseData
  rw [if_neg (by omega), h3]
  simp only [Bool.false_eq_true, ↓reduceIte]
  rw [if_neg (by omega)]
  refine ⟨rfl, rfl, ?_⟩
  unfold moveReady
  exact moveLoop_concat _ _ _ _

theorem parseData_dup (k : Kcp) (s : Seg)
    (h1 : itimediff s.sn (k.rcv_nxt + k.rcv_wnd) < 0) (h2 : itimediff s.sn k.rcv_nxt ≥ 0)
    (h3 : k.rcv_buf.any (fun x => x.sn = s.sn) = true) :
    (parseData k s).panic = false ∧ (parseData k s).rep = true ∧
    (parseData k s).k.rcv_queue ++ (parseData k s).k.rcv_buf = k.rcv_queue ++ k.rcv_buf := by
  unfold parseData
  rw [if_neg (by omega), h3]
  simp only [↓reduceIte]
  refine ⟨trivial, trivial, ?_⟩
  unfold moveReady
  exact moveLoop_concat _ _ _ _

end KcpVerif.Live
