/-
Send side of C04: the send-window invariant (`SndOK`): `snd_buf` lists the consecutive sequence numbers `snd_una … snd_nxt-1`.
Core Lean only.
-/
import KcpVerif.Lemmas.KcpOps
import KcpVerif.Lemmas.KcpWindowRcv
namespace KcpVerif.Kcp

/-- `l` lists the consecutive sequence numbers `a, a+1, …` -/
def Consec : U32 → List Seg → Prop
  | _, [] => True
  | a, s :: r => s.sn = a ∧ Consec (a + 1) r

theorem Consec.congr {l l' : List Seg} (h : l'.map (·.sn) = l.map (·.sn)) (a : U32) :
    Consec a l → Consec a l' := by
  induction l generalizing l' a with
  | nil => cases l' with
    | nil => exact id
    | cons x t => simp at h
  | cons s r ih => cases l' with
    | nil => simp at h
    | cons x t =>
      simp only [List.map_cons, List.cons.injEq] at h
      intro hc
      exact ⟨h.1.trans hc.1, ih h.2 _ hc.2⟩

theorem add_ofNat_succ (a : U32) (n : Nat) : a + BitVec.ofNat 32 (n + 1) = a + 1 + BitVec.ofNat 32 n := by
  rw [Nat.add_comm, BitVec.ofNat_add, BitVec.add_assoc]
  rfl

theorem Consec.append (a : U32) (l : List Seg) (s : Seg) :
    Consec a l → s.sn = a + BitVec.ofNat 32 l.length → Consec a (l ++ [s]) := by
  induction l generalizing a with
  | nil => intro _ h; exact ⟨by simpa using h, trivial⟩
  | cons x r ih =>
    intro hc h
    refine ⟨hc.1, ih (a + 1) hc.2 ?_⟩
    rw [h, List.length_cons, add_ofNat_succ]

theorem Consec.drop (a : U32) (l : List Seg) (c : Nat) :
    Consec a l → Consec (a + BitVec.ofNat 32 c) (l.drop c) := by
  induction c generalizing a l with
  | zero => intro h; simpa using h
  | succ c ih =>
    cases l with
    | nil => intro _; trivial
    | cons x r =>
      intro h
      rw [List.drop_succ_cons, add_ofNat_succ]
      exact ih (a + 1) r h.2

/-- the send-window invariant on `(snd_una, snd_nxt, snd_wnd, snd_buf)` -/
structure SndOK (una nxt wnd : U32) (buf : List Seg) : Prop where
  small : wnd.toNat < 2^31
  consec : Consec una buf
  nxt_eq : nxt = una + BitVec.ofNat 32 buf.length
  len_le : buf.length ≤ wnd.toNat

theorem SndOK.inflight {una nxt wnd : U32} {buf : List Seg} (h : SndOK una nxt wnd buf) :
    (nxt - una).toNat = buf.length := by
  rw [h.nxt_eq, BitVec.add_comm, BitVec.add_sub_cancel, BitVec.toNat_ofNat]
  exact Nat.mod_eq_of_lt (Nat.lt_of_le_of_lt h.len_le (Nat.lt_trans h.small (by decide)))

theorem SndOK.push {una nxt wnd : U32} {buf : List Seg} (h : SndOK una nxt wnd buf) (s : Seg) (hs : s.sn = nxt)
    (hlt : buf.length < wnd.toNat) : SndOK una (nxt + 1) wnd (buf ++ [s]) := by
  refine ⟨h.small, Consec.append _ _ _ h.consec (hs.trans h.nxt_eq), ?_, ?_⟩
  · rw [h.nxt_eq, List.length_append, List.length_singleton, add_ofNat_succ, BitVec.add_assoc, BitVec.add_assoc,
      BitVec.add_comm 1]
  · rw [List.length_append, List.length_singleton]
    exact hlt

theorem SndOK.congr_sns {una nxt wnd : U32} {buf buf' : List Seg} (h : SndOK una nxt wnd buf)
    (e : buf'.map (·.sn) = buf.map (·.sn)) : SndOK una nxt wnd buf' := by
  have hl : buf'.length = buf.length := by
    have := congrArg List.length e; simpa using this
  exact ⟨h.small, Consec.congr e _ h.consec, by rw [hl]; exact h.nxt_eq, by rw [hl]; exact h.len_le⟩

/-- dropping ANY number of head segments and re-establishing `snd_una` from the new head keeps the
send invariant (`parse_una` with a forged `una`, and the acknowledged heads popped by `shrink_buf`) -/
theorem SndOK.dropHead {una nxt wnd : U32} {buf : List Seg} (h : SndOK una nxt wnd buf) (c : Nat)
    (hc : c ≤ buf.length) : SndOK (headSn nxt (buf.drop c)) nxt wnd (buf.drop c) := by
  have hd := Consec.drop _ _ c h.consec
  have hlen : (buf.drop c).length = buf.length - c := List.length_drop
  cases heq : buf.drop c with
  | cons s t =>
    rw [heq] at hd hlen
    refine ⟨h.small, ?_, ?_, ?_⟩
    · show Consec s.sn (s :: t); rw [hd.1]; exact hd
    · show nxt = s.sn + _
      rw [hd.1, h.nxt_eq, hlen, BitVec.add_assoc, ← BitVec.ofNat_add, Nat.add_sub_cancel' hc]
    · have := h.len_le
      rw [hlen]; omega
  | nil =>
    refine ⟨h.small, trivial, ?_, Nat.zero_le _⟩
    show nxt = nxt + BitVec.ofNat 32 0
    exact (BitVec.add_zero nxt).symm

theorem shrinkBuf_drop (k : Kcp) :
    shrinkBuf k = { k with snd_buf := k.snd_buf.drop (ackedCount k.snd_buf),
                           snd_una := headSn k.snd_nxt (k.snd_buf.drop (ackedCount k.snd_buf)) } := by
  rw [shrinkBuf_eq, dropAcked_eq_drop]

theorem SndOK.shrink {k : Kcp} (h : SndOK k.snd_una k.snd_nxt k.snd_wnd k.snd_buf) :
    SndOK (shrinkBuf k).snd_una (shrinkBuf k).snd_nxt (shrinkBuf k).snd_wnd (shrinkBuf k).snd_buf := by
  rw [shrinkBuf_drop]
  exact h.dropHead _ (ackedCount_le _)

/-- what `parse_una` then `shrink_buf` pop off the head: the segments below `una`, then the acknowledged ones -/
def unaDrop (una : U32) (l : List Seg) : Nat := unaCount una l + ackedCount (l.drop (unaCount una l))

theorem unaDrop_le (una : U32) (l : List Seg) : unaDrop una l ≤ l.length := by
  unfold unaDrop
  have h1 := unaCount_le una l
  have h2 := ackedCount_le (l.drop (unaCount una l))
  rw [List.length_drop] at h2
  omega

/-- `parse_una` then `shrink_buf`, for ANY (forged) `una`: a prefix of the buffer goes, nothing else -/
theorem shrinkUna_drop (k : Kcp) (una : U32) :
    shrinkBuf (parseUna k una).1 =
      { k with snd_buf := k.snd_buf.drop (unaDrop una k.snd_buf),
               snd_una := headSn k.snd_nxt (k.snd_buf.drop (unaDrop una k.snd_buf)) } := by
  rw [shrinkUna_eq, dropAcked_eq_drop, List.drop_drop]
  rfl

theorem SndOK.una {k : Kcp} (h : SndOK k.snd_una k.snd_nxt k.snd_wnd k.snd_buf) (una : U32) :
    SndOK (shrinkBuf (parseUna k una).1).snd_una (shrinkBuf (parseUna k una).1).snd_nxt
      (shrinkBuf (parseUna k una).1).snd_wnd (shrinkBuf (parseUna k una).1).snd_buf := by
  rw [shrinkUna_drop]
  exact h.dropHead _ (unaDrop_le _ _)

/-- the admission test of phase 4, read as an unsigned comparison of the in-flight count -/
theorem admit_guard {una nxt wnd cwnd : U32} {buf : List Seg} (h : SndOK una nxt wnd buf)
    (hcw : cwnd.toNat ≤ wnd.toNat) :
    ¬ (itimediff nxt (una + cwnd) ≥ 0) ↔ buf.length < cwnd.toNat := by
  have hd := h.inflight
  have h1 := h.small
  have h3 := h.len_le
  unfold itimediff
  rw [← BitVec.sub_sub, Serial.toInt_sub_small _ _ (by omega) (by omega), hd]
  omega

theorem admit_guard_bv {una nxt wnd cwnd : U32} {buf : List Seg} (h : SndOK una nxt wnd buf)
    (hcw : cwnd.toNat ≤ wnd.toNat) : ¬ (itimediff nxt (una + cwnd) ≥ 0) ↔ (nxt - una) < cwnd := by
  rw [admit_guard h hcw, BitVec.lt_def, h.inflight]

theorem admitSegs_ok (conv una cwnd now wnd : U32) (hcw : cwnd.toNat ≤ wnd.toNat)
    (q buf : List Seg) (nxt : U32) (c : Nat) (h : SndOK una nxt wnd buf) :
    SndOK una (admitSegs conv una cwnd now q buf nxt c).nxt wnd (admitSegs conv una cwnd now q buf nxt c).buf :=
  admitSegs_carry (I := fun b n => SndOK una n wnd b) conv una cwnd now
    (fun _ _ _ hb hg => hb.push _ rfl (Nat.lt_of_lt_of_le ((admit_guard hb hcw).1 hg) hcw)) q buf nxt c h

end KcpVerif.Kcp
