/-
The sanitizer of `Model/Pool` by itself; `Own.replay` is its state after a log, through which the ownership
proofs extend an accepted log at the end.  Core Lean only.
-/
import KcpVerif.Model.Pool

namespace KcpVerif.Pool

theorem mem_remove (l : List Nat) (a b : Nat) : a ∈ remove l b ↔ a ∈ l ∧ a ≠ b := by
  simp [remove]

theorem sanitizeFrom_cons_ok (s : St) (e : Ev) (l : List Ev) :
    sanitizeFrom s (e :: l) = .ok ↔ (step s e).v = .ok ∧ sanitizeFrom (step s e).st l = .ok := by
  by_cases hv : (step s e).v = .ok
  · simp only [sanitizeFrom, hv, if_true, true_and]
  · simp only [sanitizeFrom, hv, if_false, false_and]

end KcpVerif.Pool

namespace KcpVerif.Own
open KcpVerif.Pool

/-- the sanitizer state after a log (findings included, as `Pool.step` continues past them) -/
def replay (s : St) : List Ev → St
  | [] => s
  | e :: l => replay (step s e).st l

theorem replay_append (s : St) (l l' : List Ev) : replay s (l ++ l') = replay (replay s l) l' := by
  induction l generalizing s with
  | nil => rfl
  | cons e l ih => exact ih _

theorem sanitizeFrom_append (s : St) (l l' : List Ev) :
    sanitizeFrom s (l ++ l') = .ok ↔ sanitizeFrom s l = .ok ∧ sanitizeFrom (replay s l) l' = .ok := by
  induction l generalizing s with
  | nil => simp [sanitizeFrom, replay]
  | cons e l ih =>
    rw [List.cons_append, sanitizeFrom_cons_ok, sanitizeFrom_cons_ok, ih, and_assoc]
    rfl

theorem sanitize_snoc (l : List Ev) (e : Ev) :
    sanitize (l ++ [e]) = .ok ↔ sanitize l = .ok ∧ (step (replay St.init l) e).v = .ok := by
  unfold sanitize
  rw [sanitizeFrom_append, sanitizeFrom_cons_ok]
  exact and_congr_right fun _ => and_iff_left rfl

theorem replay_snoc (l : List Ev) (e : Ev) :
    replay St.init (l ++ [e]) = (step (replay St.init l) e).st := by
  rw [replay_append]; rfl

end KcpVerif.Own
