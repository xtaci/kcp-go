/-
The state-changing operations of the core as a type (`Op`), one step and a run of them, and one preservation
theorem for invariants over them: an invariant names the operations that write what it reads, the rest is
checked on the shapes of the operations.  Core Lean only.
-/
import KcpVerif.Lemmas.KcpSteps
import KcpVerif.Lemmas.Fold

namespace KcpVerif.Live
open KcpVerif.Gen KcpVerif.Kcp

/-- `PeekSize`, `Check` and `WaitSnd` only read and are left out -/
inductive Op where
  | send (buffer : Bytes)
  | recv (buflen : Nat)
  | input (data : Bytes) (regular ackNoDelay : Bool) (now : U32)
  | flush (full : Bool) (now : U32)
  | update (now : U32)
  | setMtu (mtu : Int)
  | noDelay (nodelay interval resend nc : Int)
  | wndSize (snd rcv : Int)

/-- the connection after an operation (outputs and return values dropped) -/
def step (k : Kcp) : Op → Kcp
  | .send b => (send k b).k
  | .recv n => (recv k n).k
  | .input d r a now => (input k d r a now).k
  | .flush full now => (flush k full now).k
  | .update now => (update k now).k
  | .setMtu m => (setMtu k m).1
  | .noDelay nd iv rs nc => noDelay k nd iv rs nc
  | .wndSize s r => wndSize k s r

def run (k : Kcp) (ops : List Op) : Kcp := ops.foldl step k

/-- likewise for `Send`, `Recv` and the setters; `ok` is the side condition an invariant puts on the operations -/
theorem inv_step {P : Kcp → Prop} {ok : Kcp → Op → Prop} (hs : Kcp.Steps (fun a b => P a → P b))
    (k : Kcp) (op : Op) (h : P k) (hok : ok k op)
    (hsend : ∀ k b, ok k (.send b) → P k → P (send k b).k := by
      intro k b _ h; obtain ⟨q, e⟩ := send_shape k b; rw [e]; exact h)
    (hrecv : ∀ k n, ok k (.recv n) → P k → P (recv k n).k := by
      intro k n _ h; obtain ⟨q, b, x, p, e⟩ := recv_shape k n; rw [e]; exact h)
    (hmtu : ∀ k m, ok k (.setMtu m) → P k → P (setMtu k m).1 := by
      intro k m _ h; obtain ⟨a, b, c, e⟩ := setMtu_shape k m; rw [e]; exact h)
    (hnd : ∀ k nd iv rs nc, ok k (.noDelay nd iv rs nc) → P k → P (noDelay k nd iv rs nc) := by
      intro k nd iv rs nc _ h; obtain ⟨a, b, c, d, e', e⟩ := noDelay_shape k nd iv rs nc; rw [e]; exact h)
    (hwnd : ∀ k s r, ok k (.wndSize s r) → P k → P (wndSize k s r) := by
      intro k s r _ h; obtain ⟨sw, rw', e⟩ := wndSize_shape k s r; rw [e]; exact h) :
    P (step k op) := by
  cases op with
  | send b => exact hsend k b hok h
  | recv n => exact hrecv k n hok h
  | input d r a now => exact hs.input k d r a now h
  | flush full now => exact hs.flush k full now h
  | update now => exact hs.update k now h
  | setMtu m => exact hmtu k m hok h
  | noDelay nd iv rs nc => exact hnd k nd iv rs nc hok h
  | wndSize s r => exact hwnd k s r hok h

theorem noDelay_rto (k : Kcp) (nd iv rs nc : Int) :
    (noDelay k nd iv rs nc).rx_rto = k.rx_rto ∧
    (noDelay k nd iv rs nc).rx_minrto =
      if nd ≥ 0 then (if nd ≠ 0 then u32 IKCP_RTO_NDL else u32 IKCP_RTO_MIN) else k.rx_minrto := by
  unfold noDelay
  simp only [apply_ite Kcp.rx_rto, apply_ite Kcp.rx_minrto, ite_self, and_self]

/-- C18: the retransmission timeout stays between the configured minimum and `IKCP_RTO_MAX` -/
def RtoInv (k : Kcp) : Prop := k.rx_minrto ≤ k.rx_rto ∧ k.rx_rto ≤ u32 IKCP_RTO_MAX

instance (k : Kcp) : Decidable (RtoInv k) := by unfold RtoInv; infer_instance

/-- the only restriction on an operation: `NoDelay` must not raise `rx_minrto` above the current
`rx_rto` (it writes `rx_minrto := 30` for `nodelay ≠ 0`, `100` for `nodelay = 0`, nothing for
`nodelay < 0`) -/
def rtoOk (k : Kcp) : Op → Prop
  | .noDelay nd _ _ _ => nd < 0 ∨ (if nd ≠ 0 then u32 IKCP_RTO_NDL else u32 IKCP_RTO_MIN) ≤ k.rx_rto
  | _ => True

instance (k : Kcp) (op : Op) : Decidable (rtoOk k op) := by
  cases op <;> unfold rtoOk <;> infer_instance

def runOk (k : Kcp) : List Op → Prop
  | [] => True
  | op :: rest => rtoOk k op ∧ runOk (step k op) rest

instance : (k : Kcp) → (ops : List Op) → Decidable (runOk k ops)
  | _, [] => by unfold runOk; infer_instance
  | k, op :: rest => by
    unfold runOk
    have := instDecidableRunOk (step k op) rest
    infer_instance

theorem run_cons (k : Kcp) (op : Op) (rest : List Op) : run k (op :: rest) = run (step k op) rest := rfl

theorem inv_run {P : Kcp → Prop} (hstep : ∀ k op, P k → P (step k op)) (k : Kcp) (ops : List Op) (h : P k) :
    P (run k ops) :=
  foldl_inv hstep ops k h

theorem run_append (k : Kcp) (ops : List Op) (op : Op) : run k (ops ++ [op]) = step (run k ops) op := by
  unfold run; rw [List.foldl_append]; rfl

end KcpVerif.Live
