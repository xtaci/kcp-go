/-
Message grouping for C01 (message-mode composition): a list of segment contents `(frg, data)` is cut
into messages at every `frg = 0` — exactly what the merge loop of `Recv` (`popMsg`) does on the
reader's side and what `Send` produces on the writer's side (`mkSegs`: countdown `c-1 … 0`); `OneMsg` is what
both sides produce.
-/
import KcpVerif.Lemmas.KcpFrg

namespace KcpVerif.C01
open KcpVerif.Kcp KcpVerif.Recv KcpVerif.Wire

/-- cut a list of contents into messages: a message ends at (and includes) every `frg = 0`;
`acc` are the bytes of the message being assembled; an unfinished tail is not a message -/
def grpAux : Bytes → List Content → List Bytes
  | _, [] => []
  | acc, c :: rest => if c.1 = 0 then (acc ++ c.2) :: grpAux [] rest else grpAux (acc ++ c.2) rest

theorem grpAux_nil (acc : Bytes) : grpAux acc [] = [] := rfl

theorem grpAux_zero (acc : Bytes) (c : Content) (rest : List Content) (h : c.1 = 0) :
    grpAux acc (c :: rest) = (acc ++ c.2) :: grpAux [] rest := by
  show (if c.1 = 0 then _ else _) = _
  rw [if_pos h]

theorem grpAux_ne (acc : Bytes) (c : Content) (rest : List Content) (h : c.1 ≠ 0) :
    grpAux acc (c :: rest) = grpAux (acc ++ c.2) rest := by
  show (if c.1 = 0 then _ else _) = _
  rw [if_neg h]

def grp (l : List Content) : List Bytes := grpAux [] l

def Closed (l : List Content) : Prop := ∀ x, l.getLast? = some x → x.1 = 0

theorem Closed.nil : Closed [] := by intro x h; simp at h

theorem closed_of_whole {L Q : List Content} (h : ∀ f ∈ (L ++ Q).map (·.1), f = 0) : Closed L :=
  fun x hx => h x.1 (List.mem_map.mpr ⟨x, List.mem_append_left _ (List.mem_of_getLast? hx), rfl⟩)

theorem Closed.tail {c : Content} {l : List Content} (h : Closed (c :: l)) : Closed l := by
  intro x hx
  cases l with
  | nil => simp at hx
  | cons d l' => exact h x (by simpa [List.getLast?_cons_cons] using hx)

theorem Closed.append_right {a b : List Content} (hb : Closed b) (hne : b ≠ []) : Closed (a ++ b) := by
  intro x hx
  have : (a ++ b).getLast? = b.getLast? := by
    rw [List.getLast?_append]
    cases hl : b.getLast? with
    | none => exact absurd (List.getLast?_eq_none_iff.mp hl) hne
    | some y => rfl
  rw [this] at hx
  exact hb x hx

theorem Closed.append {a b : List Content} (ha : Closed a) (hb : Closed b) : Closed (a ++ b) := by
  by_cases hne : b = []
  · subst hne; simpa using ha
  · exact hb.append_right hne

theorem grpAux_append : ∀ (X Y : List Content) (acc : Bytes), Closed X → (X = [] → acc = []) →
    grpAux acc (X ++ Y) = grpAux acc X ++ grpAux [] Y := by
  intro X
  induction X with
  | nil => intro Y acc _ h; rw [h rfl]; rfl
  | cons c X' ih =>
    intro Y acc hc _
    show grpAux acc (c :: (X' ++ Y)) = _
    by_cases h0 : c.1 = 0
    · rw [grpAux_zero _ _ _ h0, grpAux_zero _ _ _ h0, ih Y [] hc.tail (fun _ => rfl)]; rfl
    · rw [grpAux_ne _ _ _ h0, grpAux_ne _ _ _ h0]
      apply ih Y _ hc.tail
      intro hX
      subst hX
      exact absurd (hc c rfl) h0

theorem grp_append (X Y : List Content) (h : Closed X) : grp (X ++ Y) = grp X ++ grp Y :=
  grpAux_append X Y [] h (fun _ => rfl)

theorem grpAux_take_prefix : ∀ (X : List Content) (acc : Bytes) (n : Nat), grpAux acc (X.take n) <+: grpAux acc X := by
  intro X
  induction X with
  | nil => intro acc n; simp
  | cons c X' ih =>
    intro acc n
    cases n with
    | zero => simp [grpAux]
    | succ n =>
      rw [List.take_succ_cons]
      by_cases h0 : c.1 = 0
      · rw [grpAux_zero _ _ _ h0, grpAux_zero _ _ _ h0]
        exact List.prefix_cons_inj _ |>.mpr (ih [] n)
      · rw [grpAux_ne _ _ _ h0, grpAux_ne _ _ _ h0]
        exact ih _ n

theorem grp_take_prefix (X : List Content) (n : Nat) : grp (X.take n) <+: grp X := grpAux_take_prefix X [] n

theorem grp_prefix_append (X Y : List Content) : grp X <+: grp (X ++ Y) := by
  have := grp_take_prefix (X ++ Y) X.length
  rwa [List.take_left] at this

theorem grpAux_flatten_prefix : ∀ (X : List Content) (acc : Bytes), (grpAux acc X).flatten <+: acc ++ bytesOf X := by
  intro X
  induction X with
  | nil => intro acc; simp [grpAux]
  | cons c X' ih =>
    intro acc
    have e : acc ++ bytesOf (c :: X') = (acc ++ c.2) ++ bytesOf X' := by simp [bytesOf]
    by_cases h0 : c.1 = 0
    · rw [grpAux_zero _ _ _ h0, List.flatten_cons, e]
      have := ih []
      simp only [List.nil_append] at this
      exact (List.prefix_append_right_inj _).mpr this
    · rw [grpAux_ne _ _ _ h0, e]
      exact ih _

theorem grp_flatten_prefix (X : List Content) : (grp X).flatten <+: bytesOf X := by
  have := grpAux_flatten_prefix X []
  unfold grp
  simpa using this

theorem grpAux_flatten_closed : ∀ (X : List Content) (acc : Bytes), Closed X → (X = [] → acc = []) →
    (grpAux acc X).flatten = acc ++ bytesOf X := by
  intro X
  induction X with
  | nil => intro acc _ h; rw [h rfl]; rfl
  | cons c X' ih =>
    intro acc hc _
    have e : acc ++ bytesOf (c :: X') = (acc ++ c.2) ++ bytesOf X' := by simp [bytesOf]
    by_cases h0 : c.1 = 0
    · rw [grpAux_zero _ _ _ h0, List.flatten_cons, e, ih [] hc.tail (fun _ => rfl)]; simp
    · rw [grpAux_ne _ _ _ h0, e]
      apply ih _ hc.tail
      intro hX
      subst hX
      exact absurd (hc c rfl) h0

theorem grp_flatten_closed (X : List Content) (h : Closed X) : (grp X).flatten = bytesOf X := by
  have := grpAux_flatten_closed X [] h (fun _ => rfl)
  unfold grp
  simpa using this

/-- one message: fragments with non-zero numbers followed by a final one -/
def OneMsg : List Content → Prop
  | [] => False
  | [z] => z.1 = 0
  | c :: d :: rest => c.1 ≠ 0 ∧ OneMsg (d :: rest)

theorem OneMsg.grp : ∀ {l : List Content}, OneMsg l → ∀ acc, grpAux acc l = [acc ++ bytesOf l] ∧ Closed l ∧ l ≠ []
  | [z], h, acc => ⟨by rw [grpAux_zero _ _ _ h, grpAux_nil]; simp [bytesOf], fun y hy => by
      have : z = y := by simpa using hy
      rw [← this]; exact h, by simp⟩
  | c :: d :: rest, h, acc => by
    obtain ⟨g, hcl, hne⟩ := OneMsg.grp h.2 (acc ++ c.2)
    refine ⟨by rw [grpAux_ne _ _ _ h.1, g]; simp [bytesOf], ?_, by simp⟩
    exact Closed.append_right (a := [c]) hcl hne

theorem oneMsg_snoc (z : Content) (hz : z.1 = 0) : ∀ pre : List Content, (∀ c ∈ pre, c.1 ≠ 0) → OneMsg (pre ++ [z])
  | [], _ => hz
  | [c], hc => ⟨hc c (List.mem_singleton.mpr rfl), hz⟩
  | c :: d :: r, hc => ⟨hc c (List.mem_cons_self ..), oneMsg_snoc z hz (d :: r) fun x hx => hc x (List.mem_cons_of_mem _ hx)⟩

theorem grpAux_run : ∀ (pre : List Content) (z : Content) (acc : Bytes), (∀ c ∈ pre, c.1 ≠ 0) → z.1 = 0 →
    grpAux acc (pre ++ [z]) = [acc ++ bytesOf (pre ++ [z])] :=
  fun pre z acc hne hz => ((oneMsg_snoc z hz pre hne).grp acc).1

theorem oneMsg_cd : ∀ (c : Nat) (l : List Content), c < 255 → l.map (·.1) = cd (c + 1) → OneMsg l := by
  intro c
  induction c with
  | zero =>
    intro l _ hl
    cases l with
    | nil => simp [cd] at hl
    | cons x rest =>
      cases rest with
      | cons y r => simp [cd] at hl
      | nil => exact (by simpa [cd] using hl : x.1 = 0)
  | succ c ih =>
    intro l hc hl
    cases l with
    | nil => simp [cd] at hl
    | cons x rest =>
      have h1 : x.1 = BitVec.ofNat 8 (c + 1) := by have := congrArg List.head? hl; simpa [cd] using this
      have h2 : rest.map (·.1) = cd (c + 1) := by have := congrArg List.tail hl; simpa [cd] using this
      have hx : x.1 ≠ 0 := by
        rw [h1]; intro h
        have := congrArg BitVec.toNat h
        simp at this; omega
      have hr := ih rest (by omega) h2
      cases rest with
      | nil => exact hr.elim
      | cons y r => exact ⟨hx, hr⟩

theorem oneMsg_pop : ∀ (q : List Seg), (∃ s ∈ q, s.frg = 0) → OneMsg ((q.take (popCount q)).map content) := by
  intro q
  induction q with
  | nil => intro ⟨s, hs, _⟩; cases hs
  | cons a rest ih =>
    intro ⟨s, hs, hs0⟩
    unfold popCount
    by_cases h0 : a.frg = 0
    · rw [if_pos h0]; exact h0
    · rw [if_neg h0]
      have hex : ∃ s ∈ rest, s.frg = 0 := by
        rcases List.mem_cons.mp hs with h1 | h1
        · rw [h1] at hs0; exact absurd hs0 h0
        · exact ⟨s, h1, hs0⟩
      have hr := ih hex
      have e : (a :: rest).take (1 + popCount rest) = a :: rest.take (popCount rest) := by rw [Nat.add_comm]; rfl
      rw [e, List.map_cons]
      cases hm : (rest.take (popCount rest)).map content with
      | nil => rw [hm] at hr; exact hr.elim
      | cons d r => rw [hm] at hr; exact ⟨h0, hr⟩

end KcpVerif.C01
