/-
C07 over whole histories: the ghost `track` alone, no decoder.  `within` is the explicit, decidable
"within the horizon" condition on a history — from the first packet of the group on, after every
packet the group is `alive` w.r.t. the `newestShardId` the history produces — and under it, below `d`
distinct packets, the ghost is the list `gIdx` of the distinct packets of the group (`track_within`).
`within_coord`: shard ids with an integer coordinate that the signed comparison respects, no two
coordinates more than the horizon apart, keep every group within the horizon.
-/
import KcpVerif.Lemmas.FecHistTrack

namespace KcpVerif.Lemmas.FecHist
open KcpVerif.Fec KcpVerif.Gen KcpVerif.AutoTune KcpVerif.Lemmas.FecDec

/-- the indices of the distinct packets of group `g` in a history, in order of first arrival -/
def gIdx (n : Nat) (g : BitVec 32) : List Nat → List Bytes → List Nat
  | got, [] => got
  | got, q :: rest =>
    if sidOf n q = g ∧ posOf n q ∉ got then gIdx n g (got ++ [posOf n q]) rest
    else gIdx n g got rest

/-- `seen`: a packet of group `g` has arrived; from then on the group must stay alive -/
def within (n : Nat) (g : BitVec 32) : Option (BitVec 32) → Bool → List Bytes → Bool
  | _, _, [] => true
  | cur, seen, q :: rest =>
    (!(seen || sidOf n q == g) || alive n (nextNewest n cur (sidOf n q)) g) &&
      within n g (some (nextNewest n cur (sidOf n q))) (seen || sidOf n q == g) rest

/-- `newestShardId` after a non-empty list of shard ids -/
def newestAfter (n : Nat) (cur : Option (BitVec 32)) (sids : List (BitVec 32)) : BitVec 32 :=
  (curAfter n cur sids).getD 0

theorem curAfter_cons (n : Nat) (cur : Option (BitVec 32)) (s : BitVec 32) (l : List (BitVec 32)) :
    curAfter n cur (s :: l) = curAfter n (some (nextNewest n cur s)) l := rfl

theorem within_iff (n : Nat) (g : BitVec 32) (hist : List Bytes) :
    ∀ (cur : Option (BitVec 32)) (seen : Bool),
    within n g cur seen hist = true ↔
      ∀ k, k < hist.length → (seen = true ∨ ∃ q ∈ hist.take (k + 1), sidOf n q = g) →
        alive n (newestAfter n cur ((hist.take (k + 1)).map (sidOf n))) g = true := by
  induction hist with
  | nil => intro cur seen; simp [within]
  | cons q rest ih =>
    intro cur seen
    simp only [within, Bool.and_eq_true, Bool.or_eq_true, Bool.not_eq_true', beq_iff_eq, ih]
    constructor
    · rintro ⟨h0, hrest⟩ k hk hs
      cases k with
      | zero =>
        simp only [Nat.zero_add, List.take_succ_cons, List.take_zero, List.map_cons, List.map_nil,
          newestAfter, curAfter_cons] at hs ⊢
        have : seen = true ∨ sidOf n q = g := by
          rcases hs with h | ⟨q', hq', h⟩
          · exact Or.inl h
          · simp only [List.mem_singleton] at hq'; subst hq'; exact Or.inr h
        rcases h0 with h0 | h0
        · rcases this with h | h
          · rw [h] at h0; simp at h0
          · rw [h] at h0; simp at h0
        · exact h0
      | succ k =>
        simp only [List.take_succ_cons, List.map_cons, newestAfter, curAfter_cons]
        apply hrest k (by simpa using hk)
        rcases hs with h | ⟨q', hq', h⟩
        · exact Or.inl (Or.inl h)
        · simp only [List.take_succ_cons, List.mem_cons] at hq'
          rcases hq' with rfl | hq'
          · exact Or.inl (Or.inr h)
          · exact Or.inr ⟨q', hq', h⟩
    · intro h
      constructor
      · by_cases hs : seen = true ∨ sidOf n q = g
        · right
          have := h 0 (by simp) (by
            rcases hs with h | h
            · exact Or.inl h
            · exact Or.inr ⟨q, by simp, h⟩)
          simpa [newestAfter, curAfter_cons, curAfter] using this
        · left
          have h1 : seen = false := by
            cases seen with
            | true => exact absurd (Or.inl rfl) hs
            | false => rfl
          have h2 : ¬ sidOf n q = g := fun h => hs (Or.inr h)
          simp [h1, h2]
      · intro k hk hs
        have := h (k + 1) (by simpa using hk) (by
          rcases hs with (h | h) | ⟨q', hq', h⟩
          · exact Or.inl h
          · exact Or.inr ⟨q, by simp, h⟩
          · exact Or.inr ⟨q', by simp [hq'], h⟩)
        simpa only [List.take_succ_cons, List.map_cons, newestAfter, curAfter_cons] using this

theorem gIdx_length_ge (n : Nat) (g : BitVec 32) (hist : List Bytes) :
    ∀ (got : List Nat), got.length ≤ (gIdx n g got hist).length := by
  induction hist with
  | nil => intro got; exact Nat.le_refl _
  | cons q rest ih =>
    intro got
    simp only [gIdx]
    split
    · have := ih (got ++ [posOf n q])
      simp only [List.length_append, List.length_singleton] at this
      omega
    · exact ih got

theorem gIdx_append (n : Nat) (g : BitVec 32) (a b : List Bytes) :
    ∀ (got : List Nat), gIdx n g got (a ++ b) = gIdx n g (gIdx n g got a) b := by
  induction a with
  | nil => intro got; rfl
  | cons q rest ih =>
    intro got
    simp only [List.cons_append, gIdx]
    split <;> exact ih _

theorem track_within (n d : Nat) (g : BitVec 32) (hist : List Bytes) :
    ∀ (cur : Option (BitVec 32)) (seen : Bool) (got : List Nat),
      within n g cur seen hist = true → (got ≠ [] → seen = true) →
      (gIdx n g got hist).length < d → track n d g cur got hist = gIdx n g got hist := by
  induction hist with
  | nil => intro _ _ _ _ _ _; rfl
  | cons q rest ih =>
    intro cur seen got hw hseen hlen
    simp only [within, Bool.and_eq_true, Bool.or_eq_true, Bool.not_eq_true'] at hw
    obtain ⟨h0, hrest⟩ := hw
    simp only [track, gIdx] at hlen ⊢
    by_cases hg : sidOf n q = g
    · have hal : alive n (nextNewest n cur (sidOf n q)) g = true := by
        rcases h0 with h0 | h0
        · simp [hg] at h0
        · exact h0
      have hs' : (seen || sidOf n q == g) = true := by simp [hg]
      rw [hs'] at hrest
      by_cases hmem : posOf n q ∈ got
      · have hstep : trackStep n d g cur got q = got := by
          unfold trackStep; rw [if_pos hg, if_pos hmem]
        rw [hstep]
        rw [if_neg (fun h => h.2 hmem)] at hlen ⊢
        exact ih _ _ _ hrest (fun _ => rfl) hlen
      · rw [if_pos ⟨hg, hmem⟩] at hlen ⊢
        have hge := gIdx_length_ge n g rest (got ++ [posOf n q])
        simp only [List.length_append, List.length_singleton] at hge
        have hstep : trackStep n d g cur got q = got ++ [posOf n q] := by
          unfold trackStep
          rw [if_pos hg, if_neg hmem, hal, if_pos rfl, if_neg (by omega)]
        rw [hstep]
        exact ih _ _ _ hrest (fun _ => rfl) hlen
    · have hs' : (seen || sidOf n q == g) = seen := by simp [hg]
      rw [hs'] at hrest
      rw [if_neg (fun h => hg h.1)] at hlen ⊢
      have hstep : trackStep n d g cur got q = got := by
        unfold trackStep
        rw [if_neg hg]
        cases hgot : got with
        | nil => simp
        | cons a l =>
          have hsn := hseen (by rw [hgot]; simp)
          rcases h0 with h0 | h0
          · rw [hsn] at h0; simp at h0
          · rw [h0, if_pos rfl]
      rw [hstep]
      exact ih _ _ _ hrest hseen hlen

theorem within_append (n : Nat) (g : BitVec 32) (a b : List Bytes) :
    ∀ (cur : Option (BitVec 32)) (seen : Bool),
      within n g cur seen (a ++ b) = true → within n g cur seen a = true := by
  induction a with
  | nil => intro _ _ _; rfl
  | cons q rest ih =>
    intro cur seen h
    simp only [List.cons_append, within, Bool.and_eq_true] at h ⊢
    exact ⟨h.1, ih _ _ h.2⟩

theorem track_absent (n d : Nat) (g : BitVec 32) (hist : List Bytes) :
    ∀ (cur : Option (BitVec 32)), (∀ q ∈ hist, sidOf n q ≠ g) → track n d g cur [] hist = [] := by
  induction hist with
  | nil => intro _ _; rfl
  | cons q rest ih =>
    intro cur h
    have hq := h q (List.mem_cons_self ..)
    have hstep : trackStep n d g cur [] q = [] := by
      unfold trackStep; rw [if_neg hq]; simp
    simp only [track, hstep]
    exact ih _ (fun q hq => h q (List.mem_cons_of_mem _ hq))

theorem trackStep_length_le (n d : Nat) (g : BitVec 32) (cur : Option (BitVec 32)) (got : List Nat)
    (q : Bytes) :
    (trackStep n d g cur got q).length ≤ got.length + (if sidOf n q = g then 1 else 0) := by
  unfold trackStep
  split
  · split
    · omega
    · split
      · split
        · simp
        · simp
      · simp
  · split <;> simp

theorem track_length_le (n d : Nat) (g : BitVec 32) (hist : List Bytes) :
    ∀ (cur : Option (BitVec 32)) (got : List Nat),
      (track n d g cur got hist).length
        ≤ got.length + (hist.filter (fun q => sidOf n q == g)).length := by
  induction hist with
  | nil => intro _ _; simp [track]
  | cons q rest ih =>
    intro cur got
    have h1 := trackStep_length_le n d g cur got q
    have h2 := ih (some (nextNewest n cur (sidOf n q))) (trackStep n d g cur got q)
    simp only [track, List.filter_cons]
    by_cases hg : sidOf n q = g
    · simp only [hg, beq_self_eq_true, if_true, List.length_cons] at h1 ⊢
      rw [hg] at h2
      omega
    · have : (sidOf n q == g) = false := by simpa using hg
      simp only [this, Bool.false_eq_true, if_false, hg] at h1 ⊢
      omega

theorem trackStep_completes (n d : Nat) (g : BitVec 32) (cur : Option (BitVec 32)) (got : List Nat)
    (q : Bytes) (hg : sidOf n q = g) (hnot : posOf n q ∉ got) (hfull : got.length + 1 ≥ d) :
    trackStep n d g cur got q = [] := by
  unfold trackStep
  rw [if_pos hg, if_neg hnot, if_pos hfull]
  simp

/-- `W`: the shard ids of the history; `z`: an integer coordinate on `W` that the signed comparison
    of the products `id·n` respects, no two coordinates more than the horizon apart -/
theorem within_coord {n : Nat} (W : BitVec 32 → Prop) (z : BitVec 32 → Int)
    (hz : ∀ x y, W x → W y → itimediff (x * u32 n) (y * u32 n) = z x - z y)
    (hspan : ∀ x y, W x → W y → z x - z y ≤ ((maxShardSets * n : Nat) : Int))
    (g : BitVec 32) (hg : W g) (hist : List Bytes) :
    ∀ (cur : Option (BitVec 32)) (seen : Bool),
      (∀ q ∈ hist, W (sidOf n q)) → (∀ c, cur = some c → W c) →
      (seen = true → ∃ c, cur = some c ∧ z g ≤ z c) →
      within n g cur seen hist = true := by
  induction hist with
  | nil => intro _ _ _ _ _; rfl
  | cons q rest ih =>
    intro cur seen hwin hcur hseen
    have hq := hwin q (List.mem_cons_self ..)
    -- the new horizon: in `W`, not below the old one nor below this packet
    have hnw : W (nextNewest n cur (sidOf n q)) ∧
        z (sidOf n q) ≤ z (nextNewest n cur (sidOf n q)) ∧
        (∀ c, cur = some c → z c ≤ z (nextNewest n cur (sidOf n q))) := by
      cases hc : cur with
      | none => exact ⟨hq, Int.le_refl _, fun c h => by cases h⟩
      | some c =>
        have hcw := hcur c hc
        show W (if itimediff (sidOf n q * u32 n) (c * u32 n) > 0 then _ else _) ∧
          z _ ≤ z (if itimediff (sidOf n q * u32 n) (c * u32 n) > 0 then _ else _) ∧
          ∀ c', some c = some c' →
            z c' ≤ z (if itimediff (sidOf n q * u32 n) (c * u32 n) > 0 then _ else _)
        rw [hz _ _ hq hcw]
        split
        · exact ⟨hq, Int.le_refl _, fun c' h => by cases h; omega⟩
        · exact ⟨hcw, by omega, fun c' h => by cases h; exact Int.le_refl _⟩
    obtain ⟨hw1, hw2, hw3⟩ := hnw
    have hseen' : (seen || sidOf n q == g) = true →
        z g ≤ z (nextNewest n cur (sidOf n q)) := by
      intro h
      simp only [Bool.or_eq_true, beq_iff_eq] at h
      rcases h with h | h
      · obtain ⟨c, hc, hle⟩ := hseen h
        exact Int.le_trans hle (hw3 c hc)
      · rw [← h]; exact hw2
    simp only [within, Bool.and_eq_true, Bool.or_eq_true, Bool.not_eq_true']
    constructor
    · cases hs : (seen || sidOf n q == g) with
      | false => exact Or.inl rfl
      | true =>
        right
        have hle := hseen' hs
        unfold alive age
        rw [hz _ _ hw1 hg, Bool.and_eq_true, decide_eq_true_eq, decide_eq_true_eq]
        exact ⟨by omega, hspan _ _ hw1 hg⟩
    · apply ih _ _ (fun q hq => hwin q (List.mem_cons_of_mem _ hq))
      · intro c h; cases h; exact hw1
      · intro h; exact ⟨_, rfl, hseen' h⟩

theorem age_of_le {n : Nat} (hn : n ≤ 256) (x y : BitVec 32) (hx : x.toNat * n < 2 ^ 32)
    (hyx : y.toNat ≤ x.toNat) (hsmall : x.toNat * n - y.toNat * n < 2 ^ 31) :
    age n x y = ((x.toNat * n - y.toNat * n : Nat) : Int) := by
  have hle := Nat.mul_le_mul_right n hyx
  have hy : y.toNat * n < 2 ^ 32 := Nat.lt_of_le_of_lt hle hx
  unfold age
  rw [itimediff_coord (rep_mul hn x hx) (rep_mul hn y hy) (by omega) (by omega)]
  omega

theorem alive_of_le {n : Nat} (hn : n ≤ 256) (x y : BitVec 32) (hx : x.toNat * n < 2 ^ 32)
    (hyx : y.toNat ≤ x.toNat) (hclose : x.toNat ≤ y.toNat + maxShardSets) :
    alive n x y = true := by
  have h2 := Nat.mul_le_mul_right n hclose
  rw [Nat.add_mul] at h2
  have hms : maxShardSets * n ≤ 3 * 256 := Nat.mul_le_mul_left 3 hn
  unfold alive
  rw [age_of_le hn x y hx hyx (by omega), Bool.and_eq_true, decide_eq_true_eq, decide_eq_true_eq]
  exact ⟨Int.natCast_nonneg _, Int.ofNat_le.2 (by omega)⟩

theorem alive_far {n : Nat} (hn0 : 0 < n) (hn : n ≤ 256) (x y : BitVec 32) (hx : x.toNat * n < 2 ^ 32)
    (hfar : y.toNat + maxShardSets < x.toNat) (hsmall : x.toNat * n - y.toNat * n < 2 ^ 31) :
    alive n x y = false := by
  have h3 := Nat.mul_le_mul_right n (Nat.succ_le_of_lt hfar)
  rw [Nat.succ_mul, Nat.add_mul] at h3
  unfold alive
  rw [age_of_le hn x y hx (by omega) hsmall]
  have : ¬ (((x.toNat * n - y.toNat * n : Nat) : Int) ≤ ((maxShardSets * n : Nat) : Int)) := by
    intro h
    have := Int.ofNat_le.1 h
    omega
  rw [decide_eq_false this, Bool.and_false]

/-- the window of shard ids `b … b + maxShardSets` -/
def InWin (b : Nat) (x : BitVec 32) : Prop := b ≤ x.toNat ∧ x.toNat ≤ b + maxShardSets

/-- the coordinate is the product `id·n` itself -/
theorem within_window {n : Nat} (hn : n ≤ 256) (b : Nat) (hb : (b + maxShardSets) * n < 2 ^ 32)
    (g : BitVec 32) (hg : InWin b g) (hist : List Bytes) (hwin : ∀ q ∈ hist, InWin b (sidOf n q)) :
    within n g none false hist = true := by
  have hms : maxShardSets * n ≤ 3 * 256 := Nat.mul_le_mul_left 3 hn
  -- two products of the window: neither wraps, and they are at most `maxShardSets·n` apart
  have hprod : ∀ x y, InWin b x → InWin b y →
      x.toNat * n < 2 ^ 32 ∧ x.toNat * n ≤ y.toNat * n + maxShardSets * n := by
    intro x y hx hy
    refine ⟨Nat.lt_of_le_of_lt (Nat.mul_le_mul_right n hx.2) hb, ?_⟩
    rw [← Nat.add_mul]
    exact Nat.mul_le_mul_right n (by have := hx.2; have := hy.1; omega)
  refine within_coord (InWin b) (fun x => ((x.toNat * n : Nat) : Int)) ?_ ?_ g hg hist none false
    hwin (fun c h => by cases h) (fun h => by cases h)
  · intro x y hx hy
    obtain ⟨hxn, hxy⟩ := hprod x y hx hy
    obtain ⟨hyn, hyx⟩ := hprod y x hy hx
    exact itimediff_coord (rep_mul hn x hxn) (rep_mul hn y hyn) (by omega) (by omega)
  · intro x y hx hy
    have := (hprod x y hx hy).2
    omega

end KcpVerif.Lemmas.FecHist
