/-
C05 (protocol core): the parse loop of `Input` never panics, preserves `InvK`, has a return code
that is a function of the bytes and the conversation id only, and appends at most one ack-list
entry per PUSH header it walks over.
-/
import KcpVerif.Lemmas.KcpFlush
import KcpVerif.Lemmas.KcpInput
import KcpVerif.Lemmas.KcpStages

namespace KcpVerif.Total
open KcpVerif.Gen KcpVerif.Kcp KcpVerif.Lemmas.KcpFlush

theorem moveReady_pres (k : Kcp) : PresN 0 k (moveReady k) := by
  unfold moveReady
  exact PresN.of_rcv rfl fun hb hq => moveLoop_forall _ _ hb hq

theorem parseData_pres (k : Kcp) (s : Seg) (hs : s.data.length ≤ mtuLimit) :
    (parseData k s).panic = false ∧ PresN 0 k (parseData k s).k := by
  have h1 : PresN 0 k { k with rcv_buf := heapInsert s k.rcv_buf } :=
    PresN.of_rcv rfl fun hb hq => ⟨fun x hx => (mem_heapInsert.1 hx).elim (fun e => e ▸ hs) (hb x), hq⟩
  exact parseData_cases (P := fun r => r.panic = false ∧ PresN 0 k r.k) k s (fun _ => ⟨rfl, PresN.refl k⟩)
    (fun _ _ => ⟨rfl, moveReady_pres k⟩) (fun _ _ hbig => absurd hs (Nat.not_le_of_gt hbig))
    (fun _ _ _ => ⟨rfl, h1.trans (moveReady_pres _)⟩)

theorem inStep_ok (regular : Bool) (conv : U32) (cmd frg : BitVec 8) (wnd : BitVec 16) (ts sn una : U32)
    (payload : Bytes) (st : InLoop) (hp : payload.length ≤ mtuLimit) (hst : st.panic = false) :
    (Live.inStep regular conv cmd frg wnd ts sn una payload st).panic = false ∧
    (Live.inStep regular conv cmd frg wnd ts sn una payload st).ret = st.ret ∧
    PresN (if cmd.toNat = IKCP_CMD_PUSH then 1 else 0) st.k
      (Live.inStep regular conv cmd frg wnd ts sn una payload st).k := by
  have hpre : PresN 0 st.k (Live.inPre regular wnd una st.k) := by
    obtain ⟨sb, su, e⟩ := Live.inPre_frame regular wnd una st.k
    refine PresN.of_marked (by rw [e]) ?_
    cases regular <;> exact (Live.shrinkUna_marked _ una).1
  generalize hn : (if cmd.toNat = IKCP_CMD_PUSH then 1 else 0) = n
  have h1 : cmd.toNat = IKCP_CMD_PUSH → 1 ≤ n := fun hc => by rw [← hn, if_pos hc]; exact Nat.le_refl _
  let Q (r : InLoop) : Prop := r.panic = false ∧ r.ret = st.ret ∧ PresN n st.k r.k
  show Q _
  rw [Live.inStep_eq]
  generalize Live.inPre regular wnd una st.k = k2 at hpre
  have hack : PresN 0 k2 (parseFastack (shrinkBuf (parseAck k2 sn)) sn ts).1 := by
    obtain ⟨b, u, e⟩ := ackPath_shape k2 sn ts
    exact PresN.of_marked (by rw [e]) (Live.ackPath_marked k2 sn ts).1
  have hpush : PresN 1 st.k { k2 with acklist := k2.acklist ++ [⟨sn, ts⟩] } :=
    hpre.trans (b := 1) ⟨rfl, rfl, rfl, rfl, fun _ _ hq hb => ⟨hq, hb⟩, fun hb hq => ⟨hb, hq⟩, by simp⟩
  have hdata := parseData_pres { k2 with acklist := k2.acklist ++ [⟨sn, ts⟩] }
    (Live.pushSeg conv cmd frg wnd ts sn una payload) hp
  have hwask : PresN 0 k2 { k2 with probe := k2.probe ||| u32 IKCP_ASK_TELL } := PresN.of_eq rfl
  refine ite_ind ?ack (ite_cases (fun hc => ite_ind (ite_ind ?data ?stale) ?refused) fun _ => ite_ind ?wask ?other)
  case ack => exact ⟨hst, rfl, (hpre.trans hack).mono (Nat.zero_le _)⟩
  case data => exact ⟨hdata.1, rfl, (hpush.trans hdata.2).mono (h1 hc)⟩
  case stale => exact ⟨hst, rfl, hpush.mono (h1 hc)⟩
  case refused => exact ⟨hst, rfl, hpre.mono (Nat.zero_le _)⟩
  case wask => exact ⟨hst, rfl, (hpre.trans hwask).mono (Nat.zero_le _)⟩
  case other => exact ⟨hst, rfl, hpre.mono (Nat.zero_le _)⟩

def badCmd (data : Bytes) : Prop :=
  (BitVec.ofNat 8 (byteAt data 4)).toNat ≠ IKCP_CMD_PUSH ∧ (BitVec.ofNat 8 (byteAt data 4)).toNat ≠ IKCP_CMD_ACK ∧
  (BitVec.ofNat 8 (byteAt data 4)).toNat ≠ IKCP_CMD_WASK ∧ (BitVec.ofNat 8 (byteAt data 4)).toNat ≠ IKCP_CMD_WINS

instance (data : Bytes) : Decidable (badCmd data) := by unfold badCmd; infer_instance

def badLen (data : Bytes) : Prop :=
  (data.drop IKCP_OVERHEAD).length < (rd32 data 20).toNat ∨ (rd32 data 20).toNat > mtuLimit

instance (data : Bytes) : Decidable (badLen data) := by unfold badLen; infer_instance

def nextSeg (data : Bytes) : Bytes := (data.drop IKCP_OVERHEAD).drop (rd32 data 20).toNat

theorem inputLoop_step (regular : Bool) (fuel : Nat) (data : Bytes) (st : InLoop) :
    inputLoop regular (fuel + 1) data st =
      if data.length < IKCP_OVERHEAD then st else
      if rd32 data 0 ≠ st.k.conv then { st with ret := -1 } else
      if badLen data then { st with ret := -2 } else
      if badCmd data then { st with ret := -3 } else
      if (Live.inStepAt regular data st).panic then Live.inStepAt regular data st
      else inputLoop regular fuel (nextSeg data) (Live.inStepAt regular data st) := rfl

/-- the return code of the parse loop, a function of the bytes and the conversation id only: `0` when fewer than 24
bytes remain, `−1` foreign conversation id, `−2` truncated or oversize payload, `−3` unknown command -/
def retSpec (conv : U32) : Nat → Bytes → Int
  | 0, _ => 0
  | fuel + 1, data =>
    if data.length < IKCP_OVERHEAD then 0 else
    if rd32 data 0 ≠ conv then -1 else
    if badLen data then -2 else
    if badCmd data then -3 else
    retSpec conv fuel (nextSeg data)

/-- the number of PUSH headers among the segments the loop walks over -/
def pushSpec (conv : U32) : Nat → Bytes → Nat
  | 0, _ => 0
  | fuel + 1, data =>
    if data.length < IKCP_OVERHEAD then 0 else
    if rd32 data 0 ≠ conv then 0 else
    if badLen data then 0 else
    if badCmd data then 0 else
    (if (BitVec.ofNat 8 (byteAt data 4)).toNat = IKCP_CMD_PUSH then 1 else 0) + pushSpec conv fuel (nextSeg data)

theorem inputLoop_ok (regular : Bool) (fuel : Nat) (data : Bytes) (st : InLoop)
    (hst : st.panic = false) (h0 : st.ret = 0) :
    (inputLoop regular fuel data st).panic = false ∧
    (inputLoop regular fuel data st).ret = retSpec st.k.conv fuel data ∧
    PresN (pushSpec st.k.conv fuel data) st.k (inputLoop regular fuel data st).k := by
  induction fuel generalizing data st with
  | zero => exact ⟨hst, h0, PresN.refl _⟩
  | succ fuel ih =>
    rw [inputLoop_step]
    unfold retSpec pushSpec
    by_cases h1 : data.length < IKCP_OVERHEAD
    · rw [if_pos h1, if_pos h1, if_pos h1]; exact ⟨hst, h0, PresN.refl _⟩
    · rw [if_neg h1, if_neg h1, if_neg h1]
      by_cases h2 : rd32 data 0 ≠ st.k.conv
      · rw [if_pos h2, if_pos h2, if_pos h2]; exact ⟨hst, rfl, PresN.refl _⟩
      · rw [if_neg h2, if_neg h2, if_neg h2]
        by_cases h3 : badLen data
        · rw [if_pos h3, if_pos h3, if_pos h3]; exact ⟨hst, rfl, PresN.refl _⟩
        · rw [if_neg h3, if_neg h3, if_neg h3]
          by_cases h4 : badCmd data
          · rw [if_pos h4, if_pos h4, if_pos h4]; exact ⟨hst, rfl, PresN.refl _⟩
          · rw [if_neg h4, if_neg h4, if_neg h4]
            have hp : ((data.drop IKCP_OVERHEAD).take (rd32 data 20).toNat).length ≤ mtuLimit := by
              unfold badLen at h3
              rw [List.length_take]; omega
            have hs : (Live.inStepAt regular data st).panic = false ∧ (Live.inStepAt regular data st).ret = st.ret ∧
                PresN _ st.k (Live.inStepAt regular data st).k := inStep_ok regular _ _ _ _ _ _ _ _ st hp hst
            generalize Live.inStepAt regular data st = st2 at hs
            rw [if_neg (by rw [hs.1]; decide)]
            have hi := ih (nextSeg data) st2 hs.1 (hs.2.1.trans h0)
            rw [hs.2.2.conv] at hi
            exact ⟨hi.1, hi.2.1, hs.2.2.trans hi.2.2⟩

theorem nextSeg_fuel {d : Bytes} {f : Nat} (hlen : ¬ d.length < IKCP_OVERHEAD) (h : d.length / IKCP_OVERHEAD < f + 1) :
    (nextSeg d).length / IKCP_OVERHEAD < f := by
  have hl : (nextSeg d).length ≤ d.length - IKCP_OVERHEAD := by
    unfold nextSeg; simp only [List.length_drop]; omega
  have : (nextSeg d).length / IKCP_OVERHEAD ≤ (d.length - IKCP_OVERHEAD) / IKCP_OVERHEAD :=
    Nat.div_le_div_right hl
  unfold IKCP_OVERHEAD at *
  omega

theorem pushSpec_le (conv : U32) (fuel : Nat) (data : Bytes) : pushSpec conv fuel data ≤ data.length / IKCP_OVERHEAD := by
  induction fuel generalizing data with
  | zero => exact Nat.zero_le _
  | succ fuel ih =>
    let P (n : Nat) : Prop := n ≤ data.length / IKCP_OVERHEAD
    show P (pushSpec conv (fuel + 1) data)
    unfold pushSpec
    refine ite_cases (fun _ => Nat.zero_le _) fun h1 => ite_ind (Nat.zero_le _) (ite_ind (Nat.zero_le _)
      (ite_ind (Nat.zero_le _) ?_))
    have := ih (nextSeg data)
    have := nextSeg_fuel h1 (Nat.lt_succ_self _)
    show _ ≤ _
    split <;> omega

theorem updateAck_pres (k : Kcp) (rtt : U32) : PresN 0 k (updateAck k rtt) := by
  obtain ⟨_, _, _, e⟩ := updateAck_shape k rtt
  rw [e]
  exact PresN.of_eq rfl

theorem cwndOnAck_pres (k : Kcp) (old : U32) : PresN 0 k (cwndOnAck k old) := by
  obtain ⟨_, _, e⟩ := cwndOnAck_shape k old
  rw [e]
  exact PresN.of_eq rfl

theorem recv_pres (k : Kcp) (buflen : Nat) : PresN 0 k (recv k buflen).k := by
  rcases recv_cases k buflen with e | ⟨pr, _, e⟩
  · rw [e]; exact PresN.refl k
  · have h1 : PresN 0 k { k with rcv_queue := (popMsg k.rcv_queue).rest } :=
      PresN.of_rcv rfl fun hb hq => ⟨hb, hq.subset fun _ => popMsg_rest_mem⟩
    have h2 := h1.trans (moveReady_pres _)
    rw [e]
    generalize moveReady { k with rcv_queue := (popMsg k.rcv_queue).rest } = k1 at h2
    have h3 : PresN 0 k1 { k1 with probe := pr } := PresN.of_eq rfl
    exact h2.trans h3

theorem noDelay_pres (k : Kcp) (a b c d : Int) : PresN 0 k (noDelay k a b c d) := by
  obtain ⟨_, _, _, _, _, e⟩ := noDelay_shape k a b c d
  rw [e]
  exact PresN.of_eq rfl

theorem wndSize_pres (k : Kcp) (s r : Int) : PresN 0 k (wndSize k s r) := by
  obtain ⟨_, _, e⟩ := wndSize_shape k s r
  rw [e]
  exact PresN.of_eq rfl

theorem retSpec_cases (conv : U32) (fuel : Nat) (d : Bytes) :
    retSpec conv fuel d = 0 ∨ retSpec conv fuel d = -1 ∨ retSpec conv fuel d = -2 ∨ retSpec conv fuel d = -3 := by
  induction fuel generalizing d with
  | zero => exact Or.inl rfl
  | succ fuel ih =>
    let P (r : Int) : Prop := r = 0 ∨ r = -1 ∨ r = -2 ∨ r = -3
    show P (retSpec conv (fuel + 1) d)
    unfold retSpec
    exact ite_ind (.inl rfl) (ite_ind (.inr (.inl rfl)) (ite_ind (.inr (.inr (.inl rfl)))
      (ite_ind (.inr (.inr (.inr rfl))) (ih _))))

def inputRet (conv : U32) (d : Bytes) : Int :=
  if d.length < IKCP_OVERHEAD then -1 else retSpec conv (d.length / IKCP_OVERHEAD + 1) d

/-- `Input` in ANY state: `k2` is the state after the parse loop, `update_ack` and the cwnd update; `Input` returns it
as it is (then the ack list is below the flush threshold if the code is 0) or flushes it -/
theorem input_res (k : Kcp) (d : Bytes) (regular ackNoDelay : Bool) (now : U32) :
    ∃ k2, PresN (pushSpec k.conv (d.length / IKCP_OVERHEAD + 1) d) k k2 ∧
      ((input k d regular ackNoDelay now = ⟨k2, inputRet k.conv d, [], false⟩ ∧
          (inputRet k.conv d = 0 → k2.acklist.length < (k2.mtu / u32 IKCP_OVERHEAD).toNat)) ∨
       (inputRet k.conv d = 0 ∧ ∃ full, input k d regular ackNoDelay now =
          ⟨(flush k2 full now).k, 0, (flush k2 full now).outs, (flush k2 full now).panic⟩)) := by
  have hl := inputLoop_ok regular (d.length / IKCP_OVERHEAD + 1) d { k := k } rfl rfl
  unfold inputRet
  by_cases hshort : d.length < IKCP_OVERHEAD
  · rw [Kcp.input_eq, if_pos hshort, if_pos hshort]
    exact ⟨k, (PresN.refl k).mono (Nat.zero_le _), Or.inl ⟨rfl, fun h0 => absurd h0 (by decide)⟩⟩
  · rw [if_neg hshort, ← hl.2.1]
    generalize hst : inputLoop regular (d.length / IKCP_OVERHEAD + 1) d { k := k } = st at hl
    simp only [] at hl
    let Q (r : InRes) : Prop := ∃ k2, PresN (pushSpec k.conv (d.length / IKCP_OVERHEAD + 1) d) k k2 ∧
      ((r = ⟨k2, st.ret, [], false⟩ ∧ (st.ret = 0 → k2.acklist.length < (k2.mtu / u32 IKCP_OVERHEAD).toNat)) ∨
       (st.ret = 0 ∧ ∃ full, r = ⟨(flush k2 full now).k, 0, (flush k2 full now).outs, (flush k2 full now).panic⟩))
    show Q (input k d regular ackNoDelay now)
    refine input_cases (S := fun s => st = s) hst.symm (fun h => absurd h hshort) ?_ ?_ ?_
    · rintro _ rfl hp
      rw [hl.1] at hp; cases hp
    · rintro _ rfl _ hr
      exact ⟨_, hl.2.2, Or.inl ⟨rfl, fun h0 => by omega⟩⟩
    · rintro _ rfl _ hr
      have hr0 : st.ret = 0 := by
        have := retSpec_cases k.conv (d.length / IKCP_OVERHEAD + 1) d
        have := hl.2.1
        omega
      have hk2 : PresN _ k (cwndOnAck (inputK1 st regular now) k.snd_una) :=
        hl.2.2.trans ((ite_ind (updateAck_pres _ _) (PresN.refl _)).trans (cwndOnAck_pres _ _))
      exact inputFin_cases (fun _ => ⟨_, hk2, Or.inr ⟨hr0, true, rfl⟩⟩) (fun _ _ => ⟨_, hk2, Or.inr ⟨hr0, false, rfl⟩⟩)
        (fun _ hlt _ => ⟨_, hk2, Or.inl ⟨by rw [hr0], fun _ => hlt⟩⟩)

theorem mtu_div_pos {k : Kcp} (h : InvK k) : 0 < (k.mtu / u32 IKCP_OVERHEAD).toNat := by
  have := h.mtu_gt
  unfold u32 IKCP_OVERHEAD at *
  rw [BitVec.toNat_udiv]
  simp only [BitVec.toNat_ofNat, Nat.reducePow, Nat.reduceMod]
  omega

theorem input_total {k : Kcp} (h : InvK k) (d : Bytes) (regular ackNoDelay : Bool) (now : U32) :
    (input k d regular ackNoDelay now).panic = false ∧
    InvK (input k d regular ackNoDelay now).k ∧
    (input k d regular ackNoDelay now).ret = inputRet k.conv d ∧
    (input k d regular ackNoDelay now).k.mtu = k.mtu ∧
    (input k d regular ackNoDelay now).k.acklist.length ≤
      k.acklist.length + pushSpec k.conv (d.length / IKCP_OVERHEAD + 1) d ∧
    ((input k d regular ackNoDelay now).ret = 0 →
      (input k d regular ackNoDelay now).k.acklist.length < (k.mtu / u32 IKCP_OVERHEAD).toNat) := by
  obtain ⟨k2, hp, ⟨e, hlt⟩ | ⟨h0, full, e⟩⟩ := input_res k d regular ackNoDelay now
  · rw [e]
    exact ⟨rfl, h.of_pres hp, rfl, hp.mtu, hp.ackl, fun h0 => by rw [← hp.mtu]; exact hlt h0⟩
  · rw [e, h0]
    have hf := flush_total (h.of_pres hp) full now
    refine ⟨hf.1, hf.2.1, rfl, (flush_pres _ full now).mtu.trans hp.mtu, ?_, fun _ => ?_⟩
    · rw [hf.2.2]; exact Nat.zero_le _
    · rw [hf.2.2]; exact mtu_div_pos h

theorem input_ret (k : Kcp) (d : Bytes) (regular ackNoDelay : Bool) (now : U32) :
    (input k d regular ackNoDelay now).ret = inputRet k.conv d := by
  obtain ⟨k2, _, ⟨e, _⟩ | ⟨h0, full, e⟩⟩ := input_res k d regular ackNoDelay now
  · rw [e]
  · rw [e, h0]

theorem inputRet_cases (conv : U32) (d : Bytes) :
    inputRet conv d = 0 ∨ inputRet conv d = -1 ∨ inputRet conv d = -2 ∨ inputRet conv d = -3 := by
  unfold inputRet
  split
  · exact Or.inr (Or.inl rfl)
  · exact retSpec_cases _ _ _

theorem retSpec_fuel (conv : U32) (f1 f2 : Nat) (d : Bytes)
    (h1 : d.length / IKCP_OVERHEAD < f1) (h2 : d.length / IKCP_OVERHEAD < f2) :
    retSpec conv f1 d = retSpec conv f2 d := by
  induction f1 generalizing f2 d with
  | zero => exact absurd h1 (Nat.not_lt_zero _)
  | succ f1 ih =>
    cases f2 with
    | zero => exact absurd h2 (Nat.not_lt_zero _)
    | succ f2 =>
      unfold retSpec
      by_cases hlen : d.length < IKCP_OVERHEAD
      · rw [if_pos hlen, if_pos hlen]
      · rw [if_neg hlen, if_neg hlen, ih _ _ (nextSeg_fuel hlen h1) (nextSeg_fuel hlen h2)]

/-- the fuel is an artefact of the model: the Go loop ends because the data runs out, one unit per 24 bytes is enough -/
theorem inputLoop_fuel (regular : Bool) (f1 f2 : Nat) (d : Bytes) (st : InLoop)
    (h1 : d.length / IKCP_OVERHEAD < f1) (h2 : d.length / IKCP_OVERHEAD < f2) :
    inputLoop regular f1 d st = inputLoop regular f2 d st := by
  induction f1 generalizing f2 d st with
  | zero => exact absurd h1 (Nat.not_lt_zero _)
  | succ f1 ih =>
    cases f2 with
    | zero => exact absurd h2 (Nat.not_lt_zero _)
    | succ f2 =>
      rw [inputLoop_step, inputLoop_step]
      by_cases hlen : d.length < IKCP_OVERHEAD
      · rw [if_pos hlen, if_pos hlen]
      · rw [if_neg hlen, if_neg hlen, ih _ _ _ (nextSeg_fuel hlen h1) (nextSeg_fuel hlen h2)]

theorem inputLoop_reject (regular : Bool) (fuel : Nat) (d : Bytes) (st : InLoop) (h1 : ¬ d.length < IKCP_OVERHEAD)
    (h : rd32 d 0 ≠ st.k.conv ∨ badLen d ∨ badCmd d) :
    ∃ r : Int, r < 0 ∧ inputLoop regular (fuel + 1) d st = { st with ret := r } := by
  let P (s : InLoop) : Prop := ∃ r : Int, r < 0 ∧ s = { st with ret := r }
  show P _
  rw [inputLoop_step, if_neg h1]
  exact ite_cases (fun _ => ⟨-1, (by decide : (-1 : Int) < 0), rfl⟩) fun h2 =>
    ite_cases (fun _ => ⟨-2, (by decide : (-2 : Int) < 0), rfl⟩) fun h3 =>
    ite_cases (fun _ => ⟨-3, (by decide : (-3 : Int) < 0), rfl⟩) fun h4 => by
      rcases h with h | h | h <;> contradiction

end KcpVerif.Total
