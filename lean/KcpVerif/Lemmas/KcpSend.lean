/-
Send side of C01 (DESIGN.md 7.1 items 1–2): the invariant `InvS` of the send half of the KCP core
(`snd_una`, `snd_nxt`, `snd_queue`, `snd_buf`) against the ghost log `L` of the contents of the
segments that have been given a sequence number so far.
-/
import KcpVerif.Model.Kcp
import KcpVerif.Lemmas.KcpFrame
import KcpVerif.Lemmas.KcpRecv
import KcpVerif.Lemmas.KcpWire
import KcpVerif.Lemmas.SysWire
import KcpVerif.Lemmas.Fold

namespace KcpVerif.Send
open KcpVerif.Gen KcpVerif.Kcp KcpVerif.Frame KcpVerif.Recv KcpVerif.Wire

/-- `buf` lists the sequence numbers `sn0 + a, sn0 + a + 1, …` consecutively; every entry that has
not been acknowledged still carries the content logged under its index (`parse_ack` clears the
payload of an acknowledged entry); payloads fit a pool buffer -/
def BufS (sn0 : U32) (L : List Content) : Nat → List Seg → Prop
  | _, [] => True
  | a, s :: rest =>
    (s.sn = sn0 + BitVec.ofNat 32 a ∧ s.data.length ≤ mtuLimit ∧
      (s.acked = false → L[a]? = some (content s))) ∧ BufS sn0 L (a + 1) rest

theorem BufS.drop {sn0 : U32} {L : List Content} : ∀ {a : Nat} {buf : List Seg} (c : Nat),
    BufS sn0 L a buf → c ≤ buf.length → BufS sn0 L (a + c) (buf.drop c) := by
  intro a buf c
  induction c generalizing a buf with
  | zero => intro h _; simpa using h
  | succ c ih =>
    intro h hc
    cases buf with
    | nil => simp at hc
    | cons s rest =>
      have := ih (a := a + 1) (buf := rest) h.2 (by simpa using hc)
      rw [List.drop_succ_cons]
      have e : a + (c + 1) = a + 1 + c := by omega
      rw [e]; exact this

theorem BufS.append {sn0 : U32} {L : List Content} : ∀ {a : Nat} {buf new : List Seg},
    BufS sn0 L a buf → BufS sn0 L (a + buf.length) new → BufS sn0 L a (buf ++ new) := by
  intro a buf
  induction buf generalizing a with
  | nil => intro new _ h; simpa using h
  | cons s rest ih =>
    intro new h hn
    refine ⟨h.1, ih h.2 ?_⟩
    have e : a + (s :: rest).length = a + 1 + rest.length := by simp; omega
    rw [e] at hn; exact hn

theorem BufS.mono {sn0 : U32} {L : List Content} (X : List Content) : ∀ {a : Nat} {buf : List Seg},
    BufS sn0 L a buf → BufS sn0 (L ++ X) a buf := by
  intro a buf
  induction buf generalizing a with
  | nil => intro _; trivial
  | cons s rest ih =>
    intro h
    refine ⟨⟨h.1.1, h.1.2.1, fun hac => ?_⟩, ih h.2⟩
    have h1 := h.1.2.2 hac
    exact getElem?_append_of_some h1 X

theorem BufS.get {sn0 : U32} {L : List Content} : ∀ {a : Nat} {buf : List Seg},
    BufS sn0 L a buf → ∀ s ∈ buf, ∃ i, s.sn = sn0 + BitVec.ofNat 32 i ∧ s.data.length ≤ mtuLimit ∧
      (s.acked = false → L[i]? = some (content s)) := by
  intro a buf
  induction buf generalizing a with
  | nil => intro _ s hs; cases hs
  | cons x rest ih =>
    intro h s hs
    rcases List.mem_cons.mp hs with h1 | h1
    · rw [h1]; exact ⟨a, h.1⟩
    · exact ih h.2 s h1

/-- segments that differ only in retransmission bookkeeping -/
def SegSim (s s' : Seg) : Prop :=
  s'.sn = s.sn ∧ s'.acked = s.acked ∧ s'.frg = s.frg ∧ s'.data = s.data ∧ s'.conv = s.conv ∧ s'.cmd = s.cmd

theorem SegSim.refl (s : Seg) : SegSim s s := ⟨rfl, rfl, rfl, rfl, rfl, rfl⟩

def SimL : List Seg → List Seg → Prop
  | [], [] => True
  | s :: l, s' :: l' => SegSim s s' ∧ SimL l l'
  | _, _ => False

theorem SimL.refl : ∀ l : List Seg, SimL l l
  | [] => trivial
  | s :: l => ⟨SegSim.refl s, SimL.refl l⟩

theorem SimL.length : ∀ {l l' : List Seg}, SimL l l' → l'.length = l.length
  | [], [], _ => rfl
  | _ :: l, _ :: l', h => by simp [SimL.length (l := l) (l' := l') h.2]
  | [], _ :: _, h => h.elim
  | _ :: _, [], h => h.elim

theorem SimL.append : ∀ {a a' b b' : List Seg}, SimL a a' → SimL b b' → SimL (a ++ b) (a' ++ b')
  | [], [], _, _, _, h => h
  | _ :: a, _ :: a', _, _, h1, h2 => ⟨h1.1, SimL.append (a := a) (a' := a') h1.2 h2⟩
  | [], _ :: _, _, _, h, _ => h.elim
  | _ :: _, [], _, _, h, _ => h.elim

/-- what may happen to a buffered segment without harm to `BufS`: the number stays, the payload does not grow, and
while the segment is unacknowledged its content stays -/
def SegKeep (s s' : Seg) : Prop :=
  s'.sn = s.sn ∧ s'.data.length ≤ s.data.length ∧ (s'.acked = false → s.acked = false ∧ content s' = content s)

theorem BufS.pointwise {sn0 : U32} {L : List Content} {R : Seg → Seg → Prop} (hR : ∀ s s', R s s' → SegKeep s s') :
    ∀ {a : Nat} {buf buf' : List Seg}, Pointwise R buf buf' → BufS sn0 L a buf →
      buf'.length = buf.length ∧ BufS sn0 L a buf'
  | _, [], [], _, _ => ⟨rfl, trivial⟩
  | _, s :: _, s' :: _, h, hb => by
    obtain ⟨h1, h2, h3⟩ := hR s s' h.1
    obtain ⟨i1, i2⟩ := BufS.pointwise hR h.2 hb.2
    refine ⟨by rw [List.length_cons, List.length_cons, i1], ⟨by rw [h1]; exact hb.1.1, Nat.le_trans h2 hb.1.2.1, fun hac => ?_⟩, i2⟩
    rw [(h3 hac).2]
    exact hb.1.2.2 (h3 hac).1
  | _, [], _ :: _, h, _ => h.elim
  | _, _ :: _, [], h, _ => h.elim

theorem SegKeep.refl (s : Seg) : SegKeep s s := ⟨rfl, Nat.le_refl _, fun h => ⟨h, rfl⟩⟩

/-- the send half against the log `L` of numbered contents: `snd_nxt = sn0 + |L|`; `snd_buf` holds the sequence
numbers `snd_una = sn0 + a, …, sn0 + |L| − 1` (`BufS`); queued payloads fit a pool buffer -/
structure InvS (sn0 : U32) (k : Kcp) (L : List Content) : Prop where
  nxt : k.snd_nxt = sn0 + BitVec.ofNat 32 L.length
  buf : ∃ a, a + k.snd_buf.length = L.length ∧ k.snd_una = sn0 + BitVec.ofNat 32 a ∧ BufS sn0 L a k.snd_buf
  que : ∀ s ∈ k.snd_queue, s.data.length ≤ mtuLimit

theorem InvS.congr {sn0 : U32} {k k' : Kcp} {L : List Content} (h : InvS sn0 k L)
    (h1 : k'.snd_nxt = k.snd_nxt) (h2 : k'.snd_una = k.snd_una) (h3 : k'.snd_buf = k.snd_buf)
    (h4 : k'.snd_queue = k.snd_queue) : InvS sn0 k' L :=
  ⟨by rw [h1]; exact h.nxt, by rw [h2, h3]; exact h.buf, by rw [h4]; exact h.que⟩

theorem InvS.same {sn0 : U32} {k k' : Kcp} {L : List Content} (h : InvS sn0 k L) (hs : SndSame k k') :
    InvS sn0 k' L := h.congr hs.snd_nxt hs.snd_una hs.snd_buf hs.snd_queue

theorem InvS.fresh (k : Kcp) (hq : k.snd_queue = []) (hb : k.snd_buf = []) (hu : k.snd_una = k.snd_nxt) :
    InvS k.snd_nxt k [] :=
  ⟨by simp, ⟨0, by simp [hb], by simp [hu], by rw [hb]; trivial⟩, by simp [hq]⟩

theorem shrinkBuf_nil (k : Kcp) (h : dropAcked k.snd_buf = []) :
    shrinkBuf k = { k with snd_buf := [], snd_una := k.snd_nxt } := by
  unfold shrinkBuf; rw [h]

theorem shrinkBuf_cons (k : Kcp) (s : Seg) (rest : List Seg) (h : dropAcked k.snd_buf = s :: rest) :
    shrinkBuf k = { k with snd_buf := s :: rest, snd_una := s.sn } := by
  unfold shrinkBuf; rw [h]

/-- popping acknowledged heads and advancing `snd_una` go together: `shrink_buf` establishes the invariant from its
`snd_una`-free part (what `parse_una` and `parse_ack` leave behind) -/
theorem shrinkBuf_invS {sn0 : U32} {k : Kcp} {L : List Content}
    (hn : k.snd_nxt = sn0 + BitVec.ofNat 32 L.length)
    (hb : ∃ a, a + k.snd_buf.length = L.length ∧ BufS sn0 L a k.snd_buf)
    (hq : ∀ s ∈ k.snd_queue, s.data.length ≤ mtuLimit) : InvS sn0 (shrinkBuf k) L := by
  obtain ⟨a, hlen, hbs⟩ := hb
  obtain ⟨c, hc, hd⟩ : ∃ c, c ≤ k.snd_buf.length ∧ dropAcked k.snd_buf = k.snd_buf.drop c :=
    ⟨_, ackedCount_le _, dropAcked_eq_drop _⟩
  have hdrop := hbs.drop c hc
  cases hx : dropAcked k.snd_buf with
  | nil =>
    rw [shrinkBuf_nil k hx]
    exact ⟨hn, ⟨L.length, by simp, hn, trivial⟩, hq⟩
  | cons s rest =>
    rw [shrinkBuf_cons k s rest hx]
    rw [hx] at hd
    rw [← hd] at hdrop
    refine ⟨hn, ⟨a + c, ?_, hdrop.1.1, hdrop⟩, hq⟩
    have := congrArg List.length hd
    simp at this
    show a + c + (s :: rest).length = L.length
    simp; omega

theorem InvS.shrink {sn0 : U32} {k : Kcp} {L : List Content} (h : InvS sn0 k L) : InvS sn0 (shrinkBuf k) L := by
  obtain ⟨a, hlen, _, hb⟩ := h.buf
  exact shrinkBuf_invS h.nxt ⟨a, hlen, hb⟩ h.que

theorem InvS.una {sn0 : U32} {k : Kcp} {L : List Content} (h : InvS sn0 k L) (una : U32) :
    InvS sn0 (shrinkBuf (parseUna k una).1) L := by
  obtain ⟨a, hlen, _, hb⟩ := h.buf
  have hc := unaCount_le una k.snd_buf
  refine shrinkBuf_invS h.nxt ⟨a + unaCount una k.snd_buf, ?_, hb.drop _ hc⟩ h.que
  show _ + (k.snd_buf.drop (unaCount una k.snd_buf)).length = _
  rw [List.length_drop]
  omega

theorem InvS.pointwise {sn0 : U32} {k k' : Kcp} {L : List Content} {R : Seg → Seg → Prop} (h : InvS sn0 k L)
    (hR : ∀ s s', R s s' → SegKeep s s') (hp : Pointwise R k.snd_buf k'.snd_buf) (h1 : k'.snd_nxt = k.snd_nxt)
    (h2 : k'.snd_una = k.snd_una) (h4 : k'.snd_queue = k.snd_queue) : InvS sn0 k' L := by
  obtain ⟨a, hlen, huna, hb⟩ := h.buf
  obtain ⟨i1, i2⟩ := hb.pointwise hR hp
  exact ⟨by rw [h1]; exact h.nxt, ⟨a, by rw [i1]; exact hlen, by rw [h2]; exact huna, i2⟩, by rw [h4]; exact h.que⟩

theorem parseAck_invS {sn0 : U32} {k : Kcp} {L : List Content} (h : InvS sn0 k L) (sn : U32) :
    InvS sn0 (parseAck k sn) L := by
  unfold parseAck
  refine ite_ind (P := fun x => InvS sn0 x L) h
    (h.pointwise (k' := { k with snd_buf := ackLoop sn k.snd_buf }) (fun s s' hm => ?_) (ackLoop_pointwise sn k.snd_buf)
      rfl rfl rfl)
  rcases hm with rfl | rfl
  · exact SegKeep.refl _
  · exact ⟨rfl, Nat.zero_le _, fun hc => by cases hc⟩

theorem parseFastack_invS {sn0 : U32} {k : Kcp} {L : List Content} (h : InvS sn0 k L) (sn ts : U32) :
    InvS sn0 (parseFastack k sn ts).1 L := by
  unfold parseFastack
  refine ite_ind (P := fun r : Kcp × Bool => InvS sn0 r.1 L) h
    (h.pointwise (fun s s' hm => ?_) (fastLoop_pointwise sn ts k.fastresend k.snd_buf) rfl rfl rfl)
  rcases hm with rfl | rfl
  · exact SegKeep.refl _
  · exact ⟨rfl, Nat.le_refl _, fun h => ⟨h, rfl⟩⟩

theorem InvS.loopSteps (sn0 : U32) (L : List Content) : LoopSteps fun a b => InvS sn0 a L → InvS sn0 b L where
  refl _ := id
  trans h1 h2 := h2 ∘ h1
  rmtWnd _ _ h := h.congr rfl rfl rfl rfl
  una _ una h := h.una una
  ack _ _ _ h := parseFastack_invS (parseAck_invS h _).shrink _ _
  acklist _ _ h := h.congr rfl rfl rfl rfl
  data k s h := h.same (parseData_sndSame k s)
  probe _ h := h.congr rfl rfl rfl rfl

theorem inputLoop_invS {sn0 : U32} {L : List Content} (regular : Bool) :
    ∀ (fuel : Nat) (data : Bytes) (st : InLoop), InvS sn0 st.k L → InvS sn0 (inputLoop regular fuel data st).k L :=
  (InvS.loopSteps sn0 L).loop regular

theorem stampSegs_bufS {sn0 : U32} (conv now : U32) : ∀ (l : List Seg) (L : List Content) (nxt : U32),
    nxt = sn0 + BitVec.ofNat 32 L.length → (∀ s ∈ l, s.data.length ≤ mtuLimit) →
    (stampSegs conv now nxt l).length = l.length ∧ BufS sn0 (L ++ l.map content) L.length (stampSegs conv now nxt l)
  | [], _, _, _, _ => ⟨rfl, trivial⟩
  | s :: r, L, nxt, h1, h2 => by
    have hn : nxt + 1 = sn0 + BitVec.ofNat 32 (L ++ [content s]).length := by
      rw [h1]; simp only [List.length_append, List.length_singleton, BitVec.ofNat_add, BitVec.add_assoc]; rfl
    obtain ⟨i1, i2⟩ := stampSegs_bufS conv now r (L ++ [content s]) (nxt + 1) hn
      (fun x hx => h2 x (List.mem_cons_of_mem _ hx))
    rw [List.length_append, List.length_singleton, List.append_assoc] at i2
    refine ⟨by rw [stampSegs, List.length_cons, i1, List.length_cons], ⟨h1, h2 s (List.mem_cons_self ..), fun _ => ?_⟩, i2⟩
    rw [List.getElem?_append_right (Nat.le_refl _)]
    simp [content]

theorem flSeg_keep (k : Kcp) (full : Bool) (now : U32) (n : Nat) (s : Seg) : SegKeep s (Live.flSeg k full now n s) := by
  have h := Live.flSeg_key (key := fun s => (s.sn, s.acked, s.frg, s.data)) (fun _ _ _ _ _ _ _ _ => rfl) k full now n s
  simp only [Prod.mk.injEq] at h
  obtain ⟨h1, h2, h3, h4⟩ := h
  exact ⟨h1, by rw [h4]; exact Nat.le_refl _, fun hac => ⟨by rw [← h2]; exact hac, by unfold content; rw [h3, h4]⟩⟩

/-- contents of the segments that left `snd_queue` between `k` and `k'` (an operation that admits
segments removes a prefix of the queue and appends nothing) -/
def admitted (k k' : Kcp) : List Content :=
  (k.snd_queue.take (k.snd_queue.length - k'.snd_queue.length)).map content

theorem admitted_self (k k' : Kcp) (h : k'.snd_queue = k.snd_queue) : admitted k k' = [] := by
  unfold admitted; rw [h]; simp

theorem admitted_congr (k k1 k' : Kcp) (h : k1.snd_queue = k.snd_queue) : admitted k k' = admitted k1 k' := by
  unfold admitted; rw [h]

theorem admitted_drop (k k' : Kcp) (j : Nat) (hj : j ≤ k.snd_queue.length) (h : k'.snd_queue = k.snd_queue.drop j) :
    admitted k k' = (k.snd_queue.take j).map content := by
  unfold admitted
  rw [h, List.length_drop, Nat.sub_sub_self hj]

theorem admitted_trans (k0 k1 k2 : Kcp) (j1 j2 : Nat) (h1 : j1 ≤ k0.snd_queue.length)
    (e1 : k1.snd_queue = k0.snd_queue.drop j1) (h2 : j2 ≤ k1.snd_queue.length)
    (e2 : k2.snd_queue = k1.snd_queue.drop j2) :
    admitted k0 k2 = admitted k0 k1 ++ admitted k1 k2 ∧ j1 + j2 ≤ k0.snd_queue.length ∧
      k2.snd_queue = k0.snd_queue.drop (j1 + j2) := by
  have e2' : k2.snd_queue = k0.snd_queue.drop (j1 + j2) := by rw [e2, e1, List.drop_drop]
  have hl : j1 + j2 ≤ k0.snd_queue.length := by
    rw [e1, List.length_drop] at h2
    omega
  refine ⟨?_, hl, e2'⟩
  rw [admitted_drop k0 k2 _ hl e2', admitted_drop k0 k1 _ h1 e1, admitted_drop k1 k2 _ h2 e2, e1, List.take_add,
    List.map_append]

/-- `G` agrees with the log: the content function the peer's receive side is measured against -/
def Agree (G : U32 → Content) (sn0 : U32) (L : List Content) : Prop :=
  ∀ i c, L[i]? = some c → G (sn0 + BitVec.ofNat 32 i) = c

theorem Agree.prefix {G : U32 → Content} {sn0 : U32} {L X : List Content} (h : Agree G sn0 (L ++ X)) :
    Agree G sn0 L := by
  intro i c hc
  exact h i c (getElem?_append_of_some hc X)

/-- `m` segments leave the queue for the buffer, stamped from `snd_nxt` on: the log grows by their contents -/
theorem admit_invS {sn0 : U32} {k : Kcp} {L : List Content} (h : InvS sn0 k L) (now : U32) (m : Nat)
    (hm : m ≤ k.snd_queue.length) :
    InvS sn0 { k with snd_queue := k.snd_queue.drop m,
                      snd_buf := k.snd_buf ++ stampSegs k.conv now k.snd_nxt (k.snd_queue.take m),
                      snd_nxt := k.snd_nxt + u32 m } (L ++ (k.snd_queue.take m).map content) := by
  obtain ⟨a, hlen, huna, hb⟩ := h.buf
  obtain ⟨s1, s2⟩ := stampSegs_bufS k.conv now (k.snd_queue.take m) L k.snd_nxt h.nxt
    (fun s hs => h.que s (List.mem_of_mem_take hs))
  rw [← hlen] at s2
  refine ⟨?_, ⟨a, ?_, huna, (hb.mono _).append s2⟩, fun s hs => h.que s (List.mem_of_mem_drop hs)⟩
  · show k.snd_nxt + u32 m = _
    rw [h.nxt]
    simp [u32, Nat.min_eq_left hm, BitVec.ofNat_add, BitVec.add_assoc]
  · show a + (k.snd_buf ++ stampSegs k.conv now k.snd_nxt (k.snd_queue.take m)).length = _
    rw [List.length_append, s1]
    simp [Nat.min_eq_left hm]
    omega

theorem pushFrs_mem (k : Kcp) (full : Bool) (now : U32) : ∀ fr ∈ SysW.pushFrs k full now,
    ∃ s ∈ (Live.flAd k now).buf, s.acked = false ∧
      fr.conv = s.conv ∧ fr.cmd = s.cmd ∧ fr.frg = s.frg ∧ fr.sn = s.sn ∧ fr.data = s.data := by
  intro fr hfr
  obtain ⟨_, s, hs, hac, _, rfl⟩ := SysW.mem_pushFrs.mp hfr
  obtain ⟨e1, e2, e3, e4, e5⟩ := Live.segAfter_id now (Live.resentOf k) (wndUnused k) k.rcv_nxt
    (Live.flAd k now).count k.rx_rto k.nodelay s
  exact ⟨s, hs, hac, e5, e4, e3, e1, e2⟩

/-- control frames are header-only and no PUSH; the others come from phase 4's buffer -/
theorem flushFrs_logged {sn0 : U32} {k : Kcp} {L : List Content} (h : InvS sn0 k L) (full : Bool) (now : U32) :
    ∀ fr ∈ SysW.flushFrs k full now, fr.data.length ≤ mtuLimit ∧
      (fr.cmd.toNat = IKCP_CMD_PUSH → ∃ i, fr.sn = sn0 + BitVec.ofNat 32 i ∧
        (L ++ admitted k (flush k full now).k)[i]? = some (fr.frg, fr.data)) := by
  intro fr hfr
  rcases SysW.flushFrs_cases hfr with h1 | h1 | h1
  · obtain ⟨_, a2, _, a4, _⟩ := SysW.ackFrsOf_mem k fr h1
    exact ⟨by rw [a4]; exact Nat.zero_le _, fun hp => by rw [a2] at hp; exact absurd hp (by decide)⟩
  · obtain ⟨_, a2, _, a4⟩ := SysW.probeFrs_mem k now fr h1
    exact ⟨by rw [a4]; exact Nat.zero_le _,
      fun hp => by rcases a2 with a2 | a2 <;> (rw [a2] at hp; exact absurd hp (by decide))⟩
  · obtain ⟨s, hs, hac, _, _, e3, e4, e5⟩ := pushFrs_mem k full now fr h1
    obtain ⟨hm, e⟩ := Live.flAd_count k now
    obtain ⟨_, _, _, hB⟩ := (admit_invS h now _ hm).buf
    rw [e] at hs
    rw [admitted_drop k _ _ hm (Live.flush_snd_count k full now).1]
    obtain ⟨i, b1, b2, b3⟩ := hB.get s hs
    exact ⟨by rw [e5]; exact b2, fun _ => ⟨i, by rw [e4]; exact b1, by rw [e3, e5]; exact b3 hac⟩⟩

/-- `flush` on the send side: the log grows by the contents of the admitted prefix of the queue, and — unless a modelled
panic occurred — every datagram is made of frames whose PUSH members carry the logged content of their number -/
theorem flush_invS {sn0 : U32} {k : Kcp} {L : List Content} (h : InvS sn0 k L) (full : Bool) (now : U32) :
    InvS sn0 (flush k full now).k (L ++ admitted k (flush k full now).k) ∧
    ∀ G, Agree G sn0 (L ++ admitted k (flush k full now).k) → (flush k full now).panic = false →
      ∀ o ∈ (flush k full now).outs, Framed G o := by
  obtain ⟨m, hm, eq, eb, en, eu⟩ := Live.flush_snd k full now
  refine ⟨?_, fun G hG hp o ho => ?_⟩
  · rw [admitted_drop k _ m hm eq]
    exact (admit_invS h now m hm).pointwise (fun _ _ h => h)
      (by rw [eb]; exact Pointwise.map _ (flSeg_keep k full now _) _) en eu eq
  obtain ⟨g, rfl, hg⟩ := SysW.flush_outs_mem k full now hp ho
  refine ⟨g, rfl, fun fr hfr => ?_⟩
  obtain ⟨hl, hpush⟩ := flushFrs_logged h full now fr (hg fr hfr)
  refine ⟨hl, fun hp => ?_⟩
  obtain ⟨i, e, hi⟩ := hpush hp
  rw [e]
  exact (hG i _ hi).symm

theorem sendQ1_len (k : Kcp) (buffer : Bytes) (hq : ∀ s ∈ k.snd_queue, s.data.length ≤ mtuLimit)
    (hp : sendPanic1 k buffer = false) : ∀ s ∈ sendQ1 k buffer, s.data.length ≤ mtuLimit := by
  rcases sendQ1_shape k buffer with ⟨_, e⟩ | ⟨ys, x, hys, hl, e⟩
  · rw [e]; exact hq
  · rw [e]
    intro s hs
    rcases List.mem_append.mp hs with h1 | h1
    · exact hq s (by rw [hys]; exact List.mem_append_left _ h1)
    · rw [List.mem_singleton.mp h1]
      unfold sendPanic1 at hp
      rw [hl] at hp
      simp only [decide_eq_false_iff_not, not_and] at hp
      have hx := hq x (by rw [hys]; simp)
      simp only [List.length_append, List.length_take]
      by_cases h0 : sendExt k buffer > 0
      · have := hp h0; omega
      · omega

theorem send_invS {sn0 : U32} {k : Kcp} {L : List Content} (h : InvS sn0 k L) (buffer : Bytes)
    (hp : (send k buffer).panic = false) : InvS sn0 (send k buffer).k L := by
  refine send_cases (P := fun r => r.panic = false → InvS sn0 r.k L) k buffer (fun _ _ _ _ => h) (fun _ _ _ hp => nomatch hp)
    (fun _ _ h1 _ => ⟨h.nxt, h.buf, sendQ1_len k buffer h.que h1⟩) (fun _ h1 h4 _ => ⟨h.nxt, h.buf, fun s hs => ?_⟩) hp
  rcases List.mem_append.mp hs with h5 | h5
  · exact sendQ1_len k buffer h.que h1 s h5
  · have := mkSegs_forall (P := fun s => s.data.length ≤ min (sendRest k buffer).length k.mss.toNat) _ _ _ _
      (fun _ _ h => h) s h5
    omega

theorem inputLoop_queue (regular : Bool) :
    ∀ (fuel : Nat) (data : Bytes) (st : InLoop), (inputLoop regular fuel data st).k.snd_queue = st.k.snd_queue := by
  intro fuel data st
  obtain ⟨_, _, _, _, _, _, _, _, e⟩ := inputLoop_shape regular fuel data st
  rw [e]

/-- an operation that leaves the queue alone and emits nothing admits nothing; in the shape the quiet cases of
`input_ind`/`update_ind` ask for (`p` is whatever panic flag they carry) -/
theorem InvS.quiet {sn0 : U32} {k k' : Kcp} {L : List Content} (h : InvS sn0 k' L) (hq : k'.snd_queue = k.snd_queue)
    (p : Bool) :
    InvS sn0 k' (L ++ admitted k k') ∧
    ∀ G, Agree G sn0 (L ++ admitted k k') → p = false → ∀ o ∈ ([] : List Bytes), Framed G o := by
  rw [admitted_self k k' hq, List.append_nil]
  exact ⟨h, fun _ _ _ o ho => by cases ho⟩

theorem InvS.flush {sn0 : U32} {k k1 : Kcp} {L : List Content} (h : InvS sn0 k1 L) (hq : k1.snd_queue = k.snd_queue)
    (full : Bool) (now : U32) :
    InvS sn0 (flush k1 full now).k (L ++ admitted k (flush k1 full now).k) ∧
    ∀ G, Agree G sn0 (L ++ admitted k (flush k1 full now).k) → (flush k1 full now).panic = false →
      ∀ o ∈ (flush k1 full now).outs, Framed G o := by
  rw [admitted_congr k k1 _ hq]
  exact flush_invS h full now

theorem input_invS {sn0 : U32} {k : Kcp} {L : List Content} (h : InvS sn0 k L) (data : Bytes)
    (regular ackNoDelay : Bool) (now : U32) :
    InvS sn0 (input k data regular ackNoDelay now).k (L ++ admitted k (input k data regular ackNoDelay now).k) ∧
    ∀ G, Agree G sn0 (L ++ admitted k (input k data regular ackNoDelay now).k) →
      (input k data regular ackNoDelay now).panic = false →
      ∀ o ∈ (input k data regular ackNoDelay now).outs, Framed G o := by
  let Q (r : InRes) : Prop := InvS sn0 r.k (L ++ admitted k r.k) ∧
    ∀ G, Agree G sn0 (L ++ admitted k r.k) → r.panic = false → ∀ o ∈ r.outs, Framed G o
  refine input_ind (Q := Q) (S := fun st => InvS sn0 st.k L ∧ st.k.snd_queue = k.snd_queue)
    ⟨inputLoop_invS regular _ data { k := k } h, inputLoop_queue regular _ data { k := k }⟩ (h.quiet rfl false)
    (fun st _ p ⟨hl, hq⟩ => hl.quiet hq p) ?_ ackNoDelay
  intro st nd ⟨hl, hq⟩
  have hs := (inputK1_same st regular now k.snd_una).2
  exact inputFin_ind (Q := Q) (fun full => (hl.same hs).flush (hs.snd_queue.trans hq) full now)
    ((hl.same hs).quiet (hs.snd_queue.trans hq) false) _ _

theorem update_invS {sn0 : U32} {k : Kcp} {L : List Content} (h : InvS sn0 k L) (now : U32) :
    InvS sn0 (update k now).k (L ++ admitted k (update k now).k) ∧
    ∀ G, Agree G sn0 (L ++ admitted k (update k now).k) → (update k now).panic = false →
      ∀ o ∈ (update k now).outs, Framed G o :=
  update_ind (Q := fun r => InvS sn0 r.k (L ++ admitted k r.k) ∧
      ∀ G, Agree G sn0 (L ++ admitted k r.k) → r.panic = false → ∀ o ∈ r.outs, Framed G o)
    (fun u t => InvS.flush (k1 := { k with updated := u, ts_flush := t }) (h.congr rfl rfl rfl rfl) rfl true now)
    (fun u t => InvS.quiet (k' := { k with updated := u, ts_flush := t }) (h.congr rfl rfl rfl rfl) rfl false)

end KcpVerif.Send
