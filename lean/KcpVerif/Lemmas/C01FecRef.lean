/-
The two-session system with FEC and its simulation by the two-core system of `C01_core`.
-/
import KcpVerif.Lemmas.C01FecSys
import KcpVerif.Lemmas.FecDec
import KcpVerif.Lemmas.Fold

namespace KcpVerif.C01
open KcpVerif.Gen
open KcpVerif.SessFec KcpVerif.Props
open KcpVerif.Fec KcpVerif.Lemmas.FecSpec KcpVerif.Lemmas

structure FecSys where
  A : FecG
  B : FecG

inductive FSOp where
  /-- `A` performs any session operation (including `packetInput` of arbitrary bytes) -/
  | a (op : FecOp)
  /-- `B` performs any session operation other than `packetInput` -/
  | b (op : FecOp)
  /-- the network delivers to `B.packetInput` the `i`-th datagram `A` has put on the wire so far -/
  | dlv (i : Nat) (now : U32) (gap : Int)

def isFecInput : FecOp → Bool
  | .input .. => true
  | _ => false

def fsstep (C : CodecNew) (s : FecSys) : FSOp → FecSys
  | .a op => { s with A := fecStep C s.A op }
  | .b op => if isFecInput op then s else { s with B := fecStep C s.B op }
  | .dlv i now gap =>
    match s.A.wire[i]? with
    | some d => { s with B := fecStep C s.B (.input d now gap) }
    | none => s

def fsrun (C : CodecNew) (s : FecSys) (ops : List FSOp) : FecSys := ops.foldl (fsstep C) s

theorem fsstep_cases {P : FecSys → Prop} (C : CodecNew) (s : FecSys) (op : FSOp) (same : P s)
    (a : ∀ o, P { s with A := fecStep C s.A o }) (b : ∀ o, isFecInput o = false → P { s with B := fecStep C s.B o })
    (dlv : ∀ i now gap, op = .dlv i now gap → ∀ q ∈ s.A.wire, P { s with B := fecStep C s.B (.input q now gap) }) :
    P (fsstep C s op) := by
  cases op with
  | a o => exact a o
  | b o => exact ite_cases (fun _ => same) (fun h => b o (by simpa using h))
  | dlv i now gap =>
    show P (match s.A.wire[i]? with
      | some d => { s with B := fecStep C s.B (.input d now gap) }
      | none => s)
    cases hd : s.A.wire[i]? with
    | none => exact same
    | some q => exact dlv i now gap rfl q (List.mem_of_getElem? hd)

theorem fsstep_A (C : CodecNew) (s : FecSys) (op : FSOp) :
    (fsstep C s op).A = s.A ∨ ∃ o, (fsstep C s op).A = fecStep C s.A o :=
  fsstep_cases (P := fun s' => s'.A = s.A ∨ ∃ o, s'.A = fecStep C s.A o) C s op (Or.inl rfl) (fun o => Or.inr ⟨o, rfl⟩)
    (fun _ _ => Or.inl rfl) (fun _ _ _ _ _ _ => Or.inl rfl)

/-- **what the sender's FEC stage has produced**: everything on the wire is a packet of a well-formed `d/p` group
of one family, and the payloads of those groups are datagrams the core handed to `output` (or shorter than a KCP
header: placeholders of a group that is still filling) -/
def EncGenuine (C : CodecNew) (d p : Nat) (f : FecG) : Prop :=
  ∃ grp : FecDec.Family, (∀ q ∈ f.wire, FecDec.GenuinePkt C grp d p q) ∧
    ∀ (G : Group) (k : Nat), grp (G.base / Fec.u32 G.n) = some G → k < G.d →
      G.payloads.getD k [] ∈ f.cwire ∨ (G.payloads.getD k []).length < IKCP_OVERHEAD

def stepGenuine (C : CodecNew) (d p : Nat) (s : FecSys) : FSOp → Prop
  | .dlv .. => EncGenuine C d p s.A
  | _ => True

def FecRunGenuine (C : CodecNew) (d p : Nat) : FecSys → List FSOp → Prop
  | _, [] => True
  | s, op :: rest => stepGenuine C d p s op ∧ FecRunGenuine C d p (fsstep C s op) rest

/-- soundness of the FEC receive path of a reader that started with the decoder `dec0`
(`Props.C01_fec_reduction_full`: a fresh decoder) -/
def FecSound (C : CodecNew) (d p : Nat) (dec0 : Decoder) : Prop :=
  ∀ (grp : FecDec.Family) (pkts : List Bytes), (∀ q ∈ pkts, FecDec.GenuinePkt C grp d p q) →
    ∀ c ∈ (C01_fecRun C dec0 pkts).2,
      ∃ (G : Group) (k : Nat), grp (G.base / Fec.u32 G.n) = some G ∧ G.WF ∧ k < G.d ∧
        c.1 = G.payloads.getD k [] ∧ (c.2 = true → G.packet C k ∈ pkts)

theorem fecStep_ref (C : CodecNew) {f : FecG} {g : GSt} (h : RefK (toSessG f) g) (op : FecOp) :
    ∃ ops : List Op, RefK (toSessG (fecStep C f op)) (run g ops) ∧
      (RefW (toSessG f) g → RefW (toSessG (fecStep C f op)) (run g ops)) ∧
      (isFecInput op = false → (∀ o ∈ ops, isInput o = false) ∧
        (RefR (toSessG f) g → RefR (toSessG (fecStep C f op)) (run g ops)) ∧
        (fecStep C f op).x.dec = f.x.dec ∧ (fecStep C f op).recvd = f.recvd) := by
  rcases plainOp_some f op with ⟨d, now, gap, rfl⟩ | ⟨sop, hsop⟩
  · obtain ⟨ops, h1, h2⟩ := fecInput_ref C h d now gap
    exact ⟨ops, h1, h2, fun hi => by cases hi⟩
  · obtain ⟨hcase, hdec, hrec, _⟩ := fecStep_plain C f op sop hsop
    rcases hcase with e | e <;> rw [e]
    · obtain ⟨ops, ho, _, h1, h2, h3⟩ := sessStep_run h sop
      exact ⟨ops, h1, h3, fun _ => ⟨ho.notInput (plainOp_notInput f op sop hsop), h2, hdec, hrec⟩⟩
    · exact ⟨[], h.die, fun hw => ⟨hw.acc, hw.wr⟩, fun _ => ⟨fun _ ho => (List.not_mem_nil ho).elim, id, hdec, hrec⟩⟩

structure FecInv (C : CodecNew) (dec0 : Decoder) (s : FecSys) (S : Sys) : Prop where
  sim : Sim (toSessG s.A) (toSessG s.B) S
  dec : s.B.x.dec = some (C01_fecRun C dec0 s.B.recvd).1
  sub : ∀ q ∈ s.B.recvd, q ∈ s.A.wire

theorem fecRun_snoc (C : CodecNew) (dec0 : Decoder) (pkts : List Bytes) (q : Bytes) :
    C01_fecRun C dec0 (pkts ++ [q]) =
      (((C01_fecRun C dec0 pkts).1.decode C q).st,
       (C01_fecRun C dec0 pkts).2 ++ C01_fecInputCalls C (C01_fecRun C dec0 pkts).1 q) := by
  unfold C01_fecRun
  rw [List.foldl_append]
  rfl

theorem genuine_flag {C : CodecNew} {grp : FecDec.Family} {d p : Nat} {q : Bytes}
    (h : FecDec.GenuinePkt C grp d p q) : Fec.flag q = typeData ∨ Fec.flag q = typeParity := by
  obtain ⟨G, j, _, _, _, _, _, rfl⟩ := h
  rw [FecDec.flag_packet]
  split
  · exact Or.inl rfl
  · exact Or.inr rfl

/-- delivery of a genuine FEC packet to the reader is a sequence of deliveries of datagrams the writer's core emitted -/
theorem fecInput_dlv {C : CodecNew} {d p : Nat} {dec0 : Decoder} (hs : FecSound C d p dec0)
    {s : FecSys} {S : Sys} (h : FecInv C dec0 s S) (hg : EncGenuine C d p s.A)
    (q : Bytes) (hq : q ∈ s.A.wire) (now : U32) (gap : Int) :
    ∃ cops : List SOp, FecInv C dec0 { s with B := fecStep C s.B (.input q now gap) } (srun S cops) := by
  obtain ⟨grp, hg1, hg2⟩ := hg
  rcases fecStep_input C s.B q now gap with e | e | ⟨hd, hp⟩
  · rw [e]
    exact ⟨[], h⟩
  · rw [e]
    exact ⟨[], ⟨h.sim.a, h.sim.w, h.sim.b.die, h.sim.r⟩, h.dec, h.sub⟩
  · have hsd := (packetInput_ok C s.B.x q now gap hp).dec
    have key : ∃ calls : List (Bytes × Bool), Feeds C s.B.x q now calls ∧
        (∀ cl ∈ calls, cl.1 ∈ S.A.wire ∨ cl.1.length < IKCP_OVERHEAD) ∧
        (kcpInputCore C s.B.x q now).dec =
          some (C01_fecRun C dec0 (s.B.recvd ++ (if toDecoder q then [q] else []))).1 ∧
        ∀ x ∈ s.B.recvd ++ (if toDecoder q then [q] else []), x ∈ s.A.wire := by
      by_cases ht : toDecoder q = true
      · obtain ⟨e1, e2⟩ := kcpInputCore_fec C s.B.x q now _ h.dec ht
        have hgen : ∀ x ∈ s.B.recvd ++ [q], FecDec.GenuinePkt C grp d p x :=
          forall_mem_snoc (fun x hx => hg1 x (h.sub x hx)) (hg1 q hq)
        rw [if_pos ht]
        refine ⟨_, e1, ?_, by rw [e2, fecRun_snoc], forall_mem_snoc h.sub hq⟩
        intro cl hcl
        have hmem : cl ∈ (C01_fecRun C dec0 (s.B.recvd ++ [q])).2 := by
          rw [fecRun_snoc]; exact List.mem_append_right _ hcl
        obtain ⟨G, k, g1, _, g3, g4, _⟩ := hs grp _ hgen cl hmem
        have hw : s.A.cwire = S.A.wire := h.sim.a.wire
        rw [g4, ← hw]
        exact hg2 G k g1 g3
      · -- stopped by one of the size checks in front of the decoder: no `Input` call
        obtain ⟨e1, e2⟩ :=
          kcpInputCore_skip C s.B.x q now (Bool.eq_false_iff.mpr ht) (genuine_flag (hg1 q hq))
        rw [if_neg ht, List.append_nil]
        exact ⟨[], e1, nofun, e2.trans h.dec, h.sub⟩
    obtain ⟨calls, hf, hcalls, hdec, hsub⟩ := key
    obtain ⟨r1, _, r3⟩ := fecInput_run C h.sim.b q now gap hd hp hf
    obtain ⟨cops, hsim⟩ := h.sim.deliver s.B.x.s.ackNoDelay now hcalls r1 (r3 h.sim.r)
    refine ⟨cops, hsim, ?_, ?_⟩ <;> rw [fecStep_input_live hd hp]
    · exact hsd.trans hdec
    · exact hsub

theorem fsstep_sim {C : CodecNew} {d p : Nat} {dec0 : Decoder} (hs : FecSound C d p dec0)
    {s : FecSys} {S : Sys} (h : FecInv C dec0 s S) (op : FSOp) (hg : stepGenuine C d p s op) :
    ∃ cops : List SOp, FecInv C dec0 (fsstep C s op) (srun S cops) := by
  refine fsstep_cases (P := fun s' => ∃ cops : List SOp, FecInv C dec0 s' (srun S cops)) C s op ⟨[], h⟩
    (fun o => ?_) (fun o hi => ?_) (fun i now gap e q hq => ?_)
  · obtain ⟨ops, hk, hw, _⟩ := fecStep_ref C h.sim.a o
    obtain ⟨_, _, st⟩ := fecStep_pp C s.A o
    exact ⟨ops.map .a, h.sim.stepA hk (hw h.sim.w), h.dec,
      fun q hq => by show q ∈ (fecStep C s.A o).wire; rw [st.wire]; exact List.mem_append_left _ (h.sub q hq)⟩
  · obtain ⟨ops, hk, _, hb⟩ := fecStep_ref C h.sim.b o
    obtain ⟨hn, hr, hdec, hrec⟩ := hb hi
    exact ⟨ops.map .b, h.sim.stepB hn hk (hr h.sim.r), by rw [hdec, hrec]; exact h.dec,
      by rw [hrec]; exact h.sub⟩
  · subst e
    exact fecInput_dlv hs h hg q hq now gap

theorem fsrun_sim {C : CodecNew} {d p : Nat} {dec0 : Decoder} (hs : FecSound C d p dec0) (ops : List FSOp) :
    ∀ (s : FecSys) (S : Sys), FecInv C dec0 s S → FecRunGenuine C d p s ops →
      ∃ cops : List SOp, FecInv C dec0 (fsrun C s ops) (srun S cops) :=
  foldl_sim (fsstep C) sstep (FecInv C dec0) (FecRunGenuine C d p)
    (fun _ _ op _ h hg => ⟨hg.2, fsstep_sim hs h op hg.1⟩) ops

end KcpVerif.C01
