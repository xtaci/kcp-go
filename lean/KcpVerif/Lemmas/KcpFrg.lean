/-
Sender half of the message-boundary statement of C01: the fragment numbers of `L ++ snd_queue`
(numbered segments followed by queued ones) always form well-formed countdowns `c-1, …, 1, 0` with
`c ≤ 255`, ending on a message boundary — in message mode and in stream mode (all zero).
-/
import KcpVerif.Lemmas.KcpAcc

namespace KcpVerif.C01
open KcpVerif.Kcp KcpVerif.Frame KcpVerif.Recv KcpVerif.Send KcpVerif.Wire

/-- a concatenation of countdowns, ending on a boundary -/
def CountOkF : List (BitVec 8) → Prop
  | [] => True
  | [f] => f = 0
  | f :: g :: rest => f ≠ 255 ∧ (f ≠ 0 → g = f - 1) ∧ CountOkF (g :: rest)

theorem CountOkF.append : ∀ {a b : List (BitVec 8)}, CountOkF a → CountOkF b → CountOkF (a ++ b)
  | [], _, _, hb => hb
  | [f], [], ha, _ => ha
  | [f], g :: r, ha, hb => by
    have hf : f = 0 := ha
    subst hf
    exact ⟨by decide, fun h => absurd rfl h, hb⟩
  | f :: g :: rest, b, ha, hb => by
    have ih := CountOkF.append (a := g :: rest) (b := b) ha.2.2 hb
    exact ⟨ha.1, ha.2.1, ih⟩

theorem CountOkF.get : ∀ {l : List (BitVec 8)}, CountOkF l → ∀ (i : Nat) (f : BitVec 8), l[i]? = some f →
    f ≠ 255 ∧ (f ≠ 0 → ∀ g : BitVec 8, l[i + 1]? = some g → g = f - 1)
  | [], _, i, f, h => by simp at h
  | [x], hl, i, f, h => by
    have hx : x = 0 := hl
    cases i with
    | zero =>
      have : x = f := by simpa using h
      subst this; subst hx
      exact ⟨by decide, fun hc => absurd rfl hc⟩
    | succ j => simp at h
  | x :: y :: rest, hl, i, f, h => by
    cases i with
    | zero =>
      have : x = f := by simpa using h
      subst this
      refine ⟨hl.1, fun hne g hg => ?_⟩
      have : y = g := by simpa using hg
      subst this
      exact hl.2.1 hne
    | succ j =>
      have := CountOkF.get (l := y :: rest) hl.2.2 j f (by simpa using h)
      refine ⟨this.1, fun hne g hg => this.2 hne g (by simpa using hg)⟩

/-- the countdown `c-1, …, 0` -/
def cd : Nat → List (BitVec 8)
  | 0 => []
  | c + 1 => BitVec.ofNat 8 c :: cd c

theorem cd_ok : ∀ c, c ≤ 255 → CountOkF (cd c) := by
  intro c
  induction c with
  | zero => intro _; trivial
  | succ c ih =>
    intro hc
    cases c with
    | zero => show BitVec.ofNat 8 0 = 0; rfl
    | succ c' =>
      show BitVec.ofNat 8 (c' + 1) ≠ 255 ∧ (BitVec.ofNat 8 (c' + 1) ≠ 0 → BitVec.ofNat 8 c' = BitVec.ofNat 8 (c' + 1) - 1) ∧
        CountOkF (cd (c' + 1))
      refine ⟨?_, fun _ => ?_, ih (by omega)⟩
      · intro h
        have := congrArg BitVec.toNat h
        simp at this; omega
      · apply BitVec.eq_of_toNat_eq
        simp [BitVec.toNat_sub]; omega

theorem replicate_ok : ∀ c, CountOkF (List.replicate c (0 : BitVec 8)) := by
  intro c
  induction c with
  | zero => trivial
  | succ c ih =>
    cases c with
    | zero => rfl
    | succ c' => exact ⟨by decide, fun h => absurd rfl h, ih⟩

def frgs (q : List Seg) : List (BitVec 8) := q.map (·.frg)

theorem frgs_append (a b : List Seg) : frgs (a ++ b) = frgs a ++ frgs b := List.map_append

theorem mkSegs_frgs (mss : Nat) (st : Bool) : ∀ (c : Nat) (buf : Bytes),
    frgs (mkSegs mss st c buf) = if st then List.replicate c 0 else cd c := by
  intro c
  induction c with
  | zero => intro buf; cases st <;> rfl
  | succ c ih =>
    intro buf
    unfold mkSegs
    have := ih (buf.drop mss)
    cases st
    · simp only [Bool.false_eq_true, ↓reduceIte] at this ⊢
      simp [frgs, cd] at this ⊢
      exact this
    · simp only [↓reduceIte] at this ⊢
      simp [frgs, List.replicate_succ] at this ⊢
      exact this

theorem sendQ1_frgs (k : Kcp) (buffer : Bytes) : frgs (sendQ1 k buffer) = frgs k.snd_queue := by
  rcases sendQ1_shape k buffer with ⟨_, e⟩ | ⟨ys, x, hys, _, e⟩
  · rw [e]
  · rw [e, hys]; simp [frgs]

theorem sendNew_ok (k : Kcp) (buffer : Bytes) (h : ¬ sendCount k buffer > 255) : CountOkF (frgs (sendNew k buffer)) := by
  unfold sendNew
  rw [mkSegs_frgs]
  split
  · exact replicate_ok _
  · apply cd_ok
    split <;> omega

def pendFrgs (s : GSt) : List (BitVec 8) := (s.log ++ s.k.snd_queue.map content).map (·.1)

theorem pend_eq (L : List Content) (q : List Seg) :
    (L ++ q.map content).map (·.1) = L.map (·.1) ++ frgs q := by
  unfold frgs content
  simp [List.map_append, List.map_map, Function.comp_def]

theorem step_countOk {s : GSt} (h : CountOkF (pendFrgs s)) (op : Op) : CountOkF (pendFrgs (step s op)) := by
  rcases (step_sender s op).2 with ⟨buf, rfl, hd, hp⟩ | ⟨hp, _, _⟩
  · rw [step_send s buf hd hp]
    show CountOkF ((s.log ++ (send s.k buf).k.snd_queue.map content).map (·.1))
    unfold pendFrgs at h
    rw [pend_eq] at h ⊢
    refine send_cases (P := fun r => r.panic = false → CountOkF (s.log.map (·.1) ++ frgs r.k.snd_queue)) s.k buf
      (fun _ _ _ _ => h) (fun _ _ _ hp => nomatch hp) (fun _ _ _ _ => ?_) (fun hc _ _ _ => ?_) hp
    · show CountOkF (_ ++ frgs (sendQ1 s.k buf))
      rw [sendQ1_frgs]; exact h
    · show CountOkF (_ ++ frgs (sendQ1 s.k buf ++ sendNew s.k buf))
      rw [frgs_append, sendQ1_frgs, ← List.append_assoc]
      exact h.append (sendNew_ok s.k buf hc)
  · show CountOkF ((pend (step s op)).map (·.1))
    rw [hp]; exact h

theorem run_countOk (ops : List Op) : ∀ s : GSt, CountOkF (pendFrgs s) → CountOkF (pendFrgs (run s ops)) :=
  foldl_inv (fun _ op h => step_countOk h op) ops

theorem fresh_countOk (k : Kcp) (hf : Fresh k) : CountOkF (pendFrgs { k := k }) := by
  unfold pendFrgs; simp [hf.sq]; trivial

/-- the sender's countdown invariant discharges the receiver's `FrgOk` premise for every content
function that agrees with the log, on every prefix of the log -/
theorem frgOk_of_log {s : GSt} (h : CountOkF (pendFrgs s)) (G : U32 → Content) (sn0 : U32)
    (hG : Agree G sn0 s.log) (n : Nat) (hn : n ≤ s.log.length) : FrgOk G sn0 n := by
  have hget : ∀ i, i < s.log.length → ∃ c, s.log[i]? = some c ∧ G (sn0 + BitVec.ofNat 32 i) = c ∧
      (pendFrgs s)[i]? = some c.1 := by
    intro i hi
    refine ⟨s.log[i], List.getElem?_eq_getElem hi, hG i _ (List.getElem?_eq_getElem hi), ?_⟩
    unfold pendFrgs
    rw [List.map_append, List.getElem?_append_left (by simpa using hi)]
    simp [List.getElem?_eq_getElem hi]
  intro i hi
  obtain ⟨c, _, hc2, hc3⟩ := hget i (by omega)
  have hk := h.get i c.1 hc3
  rw [hc2]
  refine ⟨hk.1, fun hi1 hne => ?_⟩
  obtain ⟨c', _, hc2', hc3'⟩ := hget (i + 1) (by omega)
  rw [hc2']
  exact hk.2 hne c'.1 hc3'

theorem sendRest_le (k : Kcp) (b : Bytes) : (sendRest k b).length ≤ b.length := by
  unfold sendRest; rw [List.length_drop]; omega

theorem sendCount_chunk (k : Kcp) (b : Bytes) (hle : b.length ≤ k.mss.toNat) : sendCount k b = 1 := by
  unfold sendCount
  have := sendRest_le k b
  rw [if_pos (by omega)]

/-- stream mode, or at most `mss` bytes: such a `Send` queues whole messages only -/
def Unfrag (k : Kcp) (b : Bytes) : Prop := k.stream ≠ 0 ∨ b.length ≤ k.mss.toNat

theorem send_frgs_zero (k : Kcp) (b : Bytes) (h : Unfrag k b) (hp : (send k b).panic = false) :
    ∃ z, frgs (send k b).k.snd_queue = frgs k.snd_queue ++ List.replicate z 0 := by
  refine send_cases (P := fun r => r.panic = false → ∃ z, frgs r.k.snd_queue = frgs k.snd_queue ++ List.replicate z 0) k b
    (fun _ _ _ _ => ⟨0, by simp⟩) (fun _ _ _ hp => nomatch hp)
    (fun _ _ _ _ => ⟨0, by show frgs (sendQ1 k b) = _; rw [sendQ1_frgs]; simp⟩) (fun _ _ _ _ => ?_) hp
  refine ⟨if sendCount k b = 0 then 1 else sendCount k b, ?_⟩
  show frgs (sendQ1 k b ++ sendNew k b) = _
  rw [frgs_append, sendQ1_frgs, sendNew, mkSegs_frgs]
  rcases h with hs | hle
  · have hd : decide (k.stream ≠ 0) = true := by simpa using hs
    rw [hd]; rfl
  · -- one segment: the countdown `cd 1` is `[0]`
    rw [sendCount_chunk k b hle]
    split <;> rfl

/-- at most `mss` bytes are one fragment, so the −2 refusal (more than 255) cannot happen -/
theorem sendTaken_chunk (k : Kcp) (b : Bytes) (hle : b.length ≤ k.mss.toNat) : sendTaken k b = b := by
  unfold sendTaken
  have hcnt := sendCount_chunk k b hle
  refine send_cases (P := fun r => (if r.ret = 0 then b else []) = b) k b (fun r hr hc => ?_) (fun _ _ _ => rfl)
    (fun _ _ _ => rfl) (fun _ _ _ => rfl)
  rcases hc with c0 | c3
  · rw [if_neg hr, List.length_eq_zero_iff.mp c0]
  · omega

theorem step_whole {g : GSt} (h : ∀ f ∈ pendFrgs g, f = 0) (o : Op) (hu : ∀ c, o = .send c → Unfrag g.k c) :
    ∀ f ∈ pendFrgs (step g o), f = 0 := by
  rcases (step_sender g o).2 with ⟨buf, rfl, hd, hp⟩ | ⟨hp, _, _⟩
  · obtain ⟨z, hz⟩ := send_frgs_zero g.k buf (hu buf rfl) hp
    rw [step_send g buf hd hp]
    show ∀ f ∈ (g.log ++ (send g.k buf).k.snd_queue.map content).map (·.1), f = 0
    unfold pendFrgs at h
    rw [pend_eq] at h ⊢
    rw [hz, ← List.append_assoc]
    intro f hf
    rcases List.mem_append.mp hf with h1 | h1
    · exact h f h1
    · exact (List.mem_replicate.mp h1).2
  · show ∀ f ∈ (pend (step g o)).map (·.1), f = 0
    rw [hp]; exact h

/-- every `Send` of the run carries at most the `mss` of its moment -/
def Chunked : GSt → List Op → Prop
  | _, [] => True
  | g, o :: ops => (∀ c, o = .send c → c.length ≤ g.k.mss.toNat) ∧ Chunked (step g o) ops

theorem Chunked.append : ∀ {a : List Op} {g : GSt} {b : List Op}, Chunked g a → Chunked (run g a) b → Chunked g (a ++ b)
  | [], _, _, _, hb => hb
  | _ :: _, _, _, ha, hb => ⟨ha.1, Chunked.append ha.2 hb⟩

theorem run_whole : ∀ (ops : List Op) (g : GSt), Chunked g ops → (∀ f ∈ pendFrgs g, f = 0) →
    ∀ f ∈ pendFrgs (run g ops), f = 0
  | [], _, _, h => h
  | o :: ops, g, hc, h => run_whole ops (step g o) hc.2 (step_whole h o fun c e => Or.inr (hc.1 c e))

theorem run_accB (ops : List Op) (g : GSt) (h : ∀ o ∈ ops, ∀ c, o ≠ .send c) : (run g ops).accB = g.accB :=
  foldl_inv_mem (P := fun s => s.accB = g.accB) ops
    (fun s o ho hs => by
      rcases (step_sender s o).2 with ⟨buf, e, _⟩ | ⟨_, ha, _⟩
      · exact absurd e (h o ho buf)
      · exact ha.trans hs)
    g rfl

end KcpVerif.C01
