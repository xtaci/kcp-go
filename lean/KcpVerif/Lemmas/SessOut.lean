import KcpVerif.Model.SessOut
import KcpVerif.Lemmas.Wire
/-! The FEC encoder model (`encode`, its id counter and invariant) and `postProcess`: packets, draws, lengths. -/
namespace KcpVerif.SessOut
open KcpVerif.Gen KcpVerif.Wire

theorem paws_dvd (e : Enc) : e.shardSize ∣ e.paws := ⟨4294967295 / e.shardSize, by simp [Enc.paws, Nat.mul_comm]⟩

theorem paws_lt (e : Enc) : e.paws < 4294967296 := by
  have := Nat.div_mul_le_self 4294967295 e.shardSize
  simp only [Enc.paws]; omega

theorem paws_pos (e : Enc) (h1 : 0 < e.shardSize) (h2 : e.shardSize ≤ 256) : 0 < e.paws := by
  have h : 4294967295 / e.shardSize * e.shardSize + 4294967295 % e.shardSize = 4294967295 := by
    rw [Nat.mul_comm]; exact Nat.div_add_mod _ _
  have := Nat.mod_lt 4294967295 h1
  simp only [Enc.paws]; omega

/-- the state the encoder is in between packets: `next` is the unwrapped id counter `vnext` modulo `paws` (`ghost`), and the
counter's place in the cycle of `d + p` ids is the number of cached data shards (`pos`) -/
structure Enc.Inv (e : Enc) : Prop where
  dpos  : 0 < e.d
  ppos  : 0 < e.p
  nle   : e.d + e.p ≤ 256
  cnt   : e.cache.length < e.d
  ghost : e.next = e.vnext % e.paws
  pos   : e.vnext % e.shardSize = e.cache.length

theorem Enc.Inv.paws_pos {e : Enc} (h : e.Inv) : 0 < e.paws :=
  SessOut.paws_pos e (by have := h.dpos; simp only [Enc.shardSize]; omega) (by simp only [Enc.shardSize]; exact h.nle)

theorem Enc.Inv.next_lt {e : Enc} (h : e.Inv) : e.next < e.paws := by
  rw [h.ghost]; exact Nat.mod_lt _ h.paws_pos

theorem Enc.Inv.next_pos {e : Enc} (h : e.Inv) : e.next % e.shardSize = e.cache.length := by
  rw [h.ghost, Nat.mod_mod_of_dvd _ (paws_dvd e)]; exact h.pos

@[simp] theorem bump_d (e : Enc) : e.bump.d = e.d := rfl
@[simp] theorem bump_p (e : Enc) : e.bump.p = e.p := rfl
@[simp] theorem bump_cache (e : Enc) : e.bump.cache = e.cache := rfl
@[simp] theorem bump_maxSize (e : Enc) : e.bump.maxSize = e.maxSize := rfl
@[simp] theorem bump_ts (e : Enc) : e.bump.tsLatest = e.tsLatest := rfl
@[simp] theorem bump_vnext (e : Enc) : e.bump.vnext = e.vnext + 1 := rfl
@[simp] theorem bump_paws (e : Enc) : e.bump.paws = e.paws := rfl
@[simp] theorem bump_shardSize (e : Enc) : e.bump.shardSize = e.shardSize := rfl

/-- `next + k ≤ paws < 2^32`: the uint32 addition does not wrap, so `next` stays `vnext % paws` -/
theorem add_ghost (e : Enc) (k : Nat) (hg : e.next = e.vnext % e.paws) (hle : e.next + k ≤ e.paws) :
    u32w (e.next + k) % e.paws = (e.vnext + k) % e.paws := by
  have h2 := paws_lt e
  have h3 : u32w (e.next + k) = e.next + k := by simp only [u32w]; omega
  rw [h3, hg, Nat.add_mod e.vnext k, Nat.add_mod (e.vnext % e.paws) k, Nat.mod_mod]

theorem bump_ghost (e : Enc) (hp : 0 < e.paws) (hg : e.next = e.vnext % e.paws) :
    e.bump.next = e.bump.vnext % e.bump.paws :=
  add_ghost e 1 hg (by rw [hg]; exact Nat.mod_lt _ hp)

theorem bumpN_eq (e : Enc) (k : Nat) : ∃ n, bumpN e k = { e with next := n, vnext := e.vnext + k } := by
  induction k generalizing e with
  | zero => exact ⟨e.next, rfl⟩
  | succ k ih =>
    obtain ⟨n, h⟩ := ih e.bump
    exact ⟨n, by rw [bumpN, h]; simp only [Enc.bump, Nat.add_assoc, Nat.add_comm 1 k]⟩

@[simp] theorem bumpN_d (e : Enc) (k : Nat) : (bumpN e k).d = e.d := by obtain ⟨n, h⟩ := bumpN_eq e k; rw [h]
@[simp] theorem bumpN_p (e : Enc) (k : Nat) : (bumpN e k).p = e.p := by obtain ⟨n, h⟩ := bumpN_eq e k; rw [h]
@[simp] theorem bumpN_vnext (e : Enc) (k : Nat) : (bumpN e k).vnext = e.vnext + k := by
  obtain ⟨n, h⟩ := bumpN_eq e k; rw [h]

theorem bumpN_paws (e : Enc) (k : Nat) : (bumpN e k).paws = e.paws := by
  simp only [Enc.paws, Enc.shardSize, bumpN_d, bumpN_p]

theorem bumpN_ghost (e : Enc) (k : Nat) (hp : 0 < e.paws) (hg : e.next = e.vnext % e.paws) :
    (bumpN e k).next = (bumpN e k).vnext % (bumpN e k).paws := by
  induction k generalizing e with
  | zero => exact hg
  | succ k ih => exact ih e.bump (by simpa using hp) (bump_ghost e hp hg)

/-- `skipParity` from the position right behind the last data shard: `next + p ≤ paws`, so the skip is
`p` single steps. -/
theorem skip_ghost (e : Enc) (hp : 0 < e.paws) (hg : e.next = e.vnext % e.paws)
    (hpos : e.vnext % e.shardSize = e.d) (hpp : 0 < e.p) :
    e.skip.next = e.skip.vnext % e.paws := by
  have hn : 0 < e.shardSize := by simp only [Enc.shardSize]; omega
  have h1 : e.next < e.paws := by rw [hg]; exact Nat.mod_lt _ hp
  have hpos' : e.next % e.shardSize = e.d := by rw [hg, Nat.mod_mod_of_dvd _ (paws_dvd e)]; exact hpos
  -- next = n*a + d with a < q, paws = q*n
  have hq : e.paws = 4294967295 / e.shardSize * e.shardSize := rfl
  have hdm := Nat.div_add_mod e.next e.shardSize
  have ha : e.next / e.shardSize < 4294967295 / e.shardSize := by
    rw [Nat.div_lt_iff_lt_mul hn]; rw [← hq]; exact h1
  have hmul : e.shardSize * (e.next / e.shardSize + 1) ≤ e.shardSize * (4294967295 / e.shardSize) :=
    Nat.mul_le_mul_left _ ha
  rw [Nat.mul_add, Nat.mul_one, Nat.mul_comm e.shardSize (4294967295 / e.shardSize), ← hq] at hmul
  have hsz : e.shardSize = e.d + e.p := rfl
  exact add_ghost e e.p hg (by omega)

/- `SessOut.encode` has no counterpart of the error branch of `codec.Encode` (fec.go 466–476: count the error,
`skipParity`): all `d + p` slices handed over have the one length `maxSize − payloadOffset ≥ 2`, and klauspost's `Encode`
(GF(2^8), `d + p ≤ 256`) fails only on a wrong shard count, empty shards or differing lengths. -/
theorem encode_pkt (par : List Bytes → Nat → Bytes) (ho : Nat) (e : Enc) (body : Bytes) (now rto : Int) :
    (encode par ho e body now rto).pkt =
      { kind := .data, seqid := e.next, vid := e.vnext,
        rest := fecHeader (BitVec.ofNat 32 e.next) typeData ++ sizeField body.length ++ body } := by
  simp only [encode]
  split
  · split <;> rfl
  · rfl

/-- the length `maxSize` takes when a packet of `ho + 8 + |body|` bytes joins the group -/
def newMax (ho : Nat) (e : Enc) (body : Bytes) : Nat :=
  if e.maxSize < ho + fecHeaderSizePlus2 + body.length then ho + fecHeaderSizePlus2 + body.length else e.maxSize

theorem encode_mid (par : List Bytes → Nat → Bytes) (ho : Nat) (e : Enc) (body : Bytes) (now rto : Int)
    (h : e.cache.length + 1 ≠ e.d) :
    (encode par ho e body now rto).enc =
        { e.bump with maxSize := newMax ho e body, cache := e.cache ++ [sizeField body.length ++ body], tsLatest := now } ∧
      (encode par ho e body now rto).parity = [] := by
  simp only [encode, bump_cache, bump_d, List.length_append, List.length_cons, List.length_nil, h, if_false, newMax,
    bump_maxSize, Nat.zero_add]
  exact ⟨rfl, trivial⟩

theorem encode_full_ok (par : List Bytes → Nat → Bytes) (ho : Nat) (e : Enc) (body : Bytes) (now rto : Int)
    (h : e.cache.length + 1 = e.d) (hg : now - e.tsLatest < rto) :
    (encode par ho e body now rto).enc = { bumpN e.bump e.p with maxSize := 0, cache := [], tsLatest := now } ∧
      (encode par ho e body now rto).parity =
        sealParities e.bump ((List.range e.p).map fun k =>
          fit (newMax ho e body - (ho + fecHeaderSize))
            (par ((e.cache ++ [sizeField body.length ++ body]).map (fit (newMax ho e body - (ho + fecHeaderSize)))) k)) := by
  simp only [encode, bump_cache, bump_d, List.length_append, List.length_cons, List.length_nil, h, if_true, newMax,
    bump_maxSize, bump_ts, bump_p, hg, Nat.zero_add]
  exact ⟨trivial, rfl⟩

theorem encode_full_skip (par : List Bytes → Nat → Bytes) (ho : Nat) (e : Enc) (body : Bytes) (now rto : Int)
    (h : e.cache.length + 1 = e.d) (hg : ¬ now - e.tsLatest < rto) :
    (encode par ho e body now rto).enc = { e.bump.skip with maxSize := 0, cache := [], tsLatest := now } ∧
      (encode par ho e body now rto).parity = [] := by
  simp only [encode, bump_cache, bump_d, List.length_append, List.length_cons, List.length_nil, h, if_true,
    bump_ts, hg, if_false, Nat.zero_add]
  exact ⟨trivial, trivial⟩

/-- the three ways out of `encode`, each under its case; the data packet is `encode_pkt` in all three -/
theorem encode_cases {Q : Enc → List Pkt → Prop} (par : List Bytes → Nat → Bytes) (ho : Nat) (e : Enc) (body : Bytes)
    (now rto : Int)
    (mid : e.cache.length + 1 ≠ e.d →
      Q { e.bump with maxSize := newMax ho e body, cache := e.cache ++ [sizeField body.length ++ body], tsLatest := now } [])
    (ok : e.cache.length + 1 = e.d → now - e.tsLatest < rto →
      Q { bumpN e.bump e.p with maxSize := 0, cache := [], tsLatest := now }
        (sealParities e.bump ((List.range e.p).map fun k =>
          fit (newMax ho e body - (ho + fecHeaderSize))
            (par ((e.cache ++ [sizeField body.length ++ body]).map (fit (newMax ho e body - (ho + fecHeaderSize)))) k))))
    (skip : e.cache.length + 1 = e.d → ¬ now - e.tsLatest < rto →
      Q { e.bump.skip with maxSize := 0, cache := [], tsLatest := now } []) :
    Q (encode par ho e body now rto).enc (encode par ho e body now rto).parity := by
  by_cases hfull : e.cache.length + 1 = e.d
  · by_cases hg : now - e.tsLatest < rto
    · rw [(encode_full_ok par ho e body now rto hfull hg).1, (encode_full_ok par ho e body now rto hfull hg).2]
      exact ok hfull hg
    · rw [(encode_full_skip par ho e body now rto hfull hg).1, (encode_full_skip par ho e body now rto hfull hg).2]
      exact skip hfull hg
  · rw [(encode_mid par ho e body now rto hfull).1, (encode_mid par ho e body now rto hfull).2]
    exact mid hfull

theorem newEnc_inv (c : Cfg) (e : Enc) (h : newEnc c = some e) : e.Inv := by
  unfold newEnc at h
  split at h
  · rename_i hf
    simp only [Cfg.fecOn, Bool.and_eq_true, decide_eq_true_eq] at hf
    cases h
    exact ⟨hf.1.1, hf.1.2, hf.2, hf.1.1, by simp, by simp⟩
  · cases h

theorem mod_add_of_lt (v n l k : Nat) (h : v % n = l) (hl : l + k < n) : (v + k) % n = l + k := by
  rw [Nat.add_mod, h, Nat.mod_eq_of_lt (show k < n by omega), Nat.mod_eq_of_lt hl]

theorem mod_close_group (v d p : Nat) (h : v % (d + p) = d) : (v + p) % (d + p) = 0 := by
  have := Nat.div_add_mod v (d + p)
  have e : v + p = (d + p) * (v / (d + p) + 1) := by rw [Nat.mul_add, Nat.mul_one]; omega
  rw [e, Nat.mul_mod_right]

theorem Enc.Inv.full_pos {e : Enc} (h : e.Inv) (hfull : e.cache.length + 1 = e.d) :
    (e.vnext + 1) % e.shardSize = e.d := by
  have hpp := h.ppos
  rw [mod_add_of_lt _ _ _ 1 h.pos (by simp only [Enc.shardSize]; omega)]; exact hfull

theorem encode_inv (par : List Bytes → Nat → Bytes) (ho : Nat) (e : Enc) (body : Bytes) (now rto : Int)
    (h : e.Inv) : (encode par ho e body now rto).enc.Inv := by
  have hp := h.paws_pos
  have hd := h.dpos; have hpp := h.ppos; have hc := h.cnt
  -- when the group closes, `next` advances over the parity ids, one by one or by `skipParity`
  have hzero (hfull : e.cache.length + 1 = e.d) : (e.vnext + 1 + e.p) % (e.d + e.p) = 0 :=
    mod_close_group _ _ _ (h.full_pos hfull)
  refine encode_cases (Q := fun enc _ => enc.Inv) par ho e body now rto (fun hfull => ?_) (fun hfull _ => ?_)
    (fun hfull _ => ?_)
  · refine ⟨hd, hpp, h.nle, by simp only [List.length_append, List.length_cons, List.length_nil, bump_d]; omega, ?_, ?_⟩
    · simpa [Enc.paws, Enc.shardSize] using bump_ghost e hp h.ghost
    · simp only [bump_vnext, List.length_append, List.length_cons, List.length_nil, Nat.zero_add]
      exact mod_add_of_lt _ _ _ 1 h.pos (by simp only [Enc.shardSize, bump_d, bump_p]; omega)
  · have hgh := bumpN_ghost e.bump e.p (by simpa using hp) (bump_ghost e hp h.ghost)
    refine ⟨?_, ?_, ?_, ?_, ?_, ?_⟩
    · simpa using hd
    · simpa using hpp
    · simpa using h.nle
    · simpa using hd
    · simpa [Enc.paws, Enc.shardSize] using hgh
    · simp only [Enc.shardSize, bumpN_d, bumpN_p, bumpN_vnext, bump_d, bump_p, bump_vnext, List.length_nil]
      exact hzero hfull
  · have hs := skip_ghost e.bump (by simpa using hp) (bump_ghost e hp h.ghost) (h.full_pos hfull) hpp
    refine ⟨hd, hpp, h.nle, hd, ?_, ?_⟩
    · simpa [Enc.paws, Enc.shardSize, Enc.skip] using hs
    · simp only [Enc.shardSize, Enc.skip, bump_vnext, bump_p, bump_d, List.length_nil]; exact hzero hfull

theorem mem_sealParities (bs : List Bytes) : ∀ (e : Enc) (q : Pkt), q ∈ sealParities e bs →
    ∃ k b, k < bs.length ∧ q.kind = .parity ∧ q.vid = e.vnext + k ∧ q.seqid = (bumpN e k).next ∧
      q.rest = fecHeader (BitVec.ofNat 32 q.seqid) typeParity ++ b ∧ bs[k]? = some b := by
  induction bs with
  | nil => intro e q h; simp [sealParities] at h
  | cons b bs ih =>
    intro e q h
    simp only [sealParities, List.mem_cons] at h
    rcases h with h | h
    · exact ⟨0, b, by simp, by rw [h], by rw [h]; rfl, by rw [h]; rfl, by rw [h], by simp⟩
    · obtain ⟨k, b', hk, h1, h2, h3, h4, h5⟩ := ih e.bump q h
      refine ⟨k + 1, b', by simp only [List.length_cons]; omega, h1, ?_, ?_, h4, by simpa using h5⟩
      · rw [h2, bump_vnext]; omega
      · rw [h3]; rfl

theorem sealParities_length (bs : List Bytes) : ∀ e : Enc, (sealParities e bs).length = bs.length := by
  induction bs with
  | nil => intro e; rfl
  | cons b bs ih => intro e; simp only [sealParities, List.length_cons, ih]

theorem fit_length (n : Nat) (b : Bytes) : (fit n b).length = n := by
  simp only [fit, List.length_take, List.length_append, List.length_replicate]; omega

/-- the group stays open (one id taken) or closes (the parity ids taken too, parity sent or skipped) -/
structure EncodeFields (ho : Nat) (e : Enc) (body : Bytes) (enc : Enc) (parity : List Pkt) : Prop where
  d : enc.d = e.d
  p : enc.p = e.p
  adv : enc.vnext = e.vnext + 1 ∧ enc.maxSize = newMax ho e body ∧ parity = [] ∨
    enc.vnext = e.vnext + 1 + e.p ∧ enc.maxSize = 0 ∧ (parity.length = e.p ∨ parity = [])

theorem encode_fields (par : List Bytes → Nat → Bytes) (ho : Nat) (e : Enc) (body : Bytes) (now rto : Int) :
    EncodeFields ho e body (encode par ho e body now rto).enc (encode par ho e body now rto).parity :=
  encode_cases par ho e body now rto (fun _ => ⟨rfl, rfl, .inl ⟨rfl, rfl, rfl⟩⟩)
    (fun _ _ => ⟨by simp, by simp, .inr ⟨by simp, rfl,
      .inl (by rw [sealParities_length, List.length_map, List.length_range])⟩⟩)
    (fun _ _ => ⟨rfl, rfl, .inr ⟨rfl, rfl, .inr rfl⟩⟩)

/-- the `k`-th parity packet of a closing group, with payload `b` -/
structure ParityAt (ho : Nat) (e : Enc) (body : Bytes) (q : Pkt) (k : Nat) (b : Bytes) : Prop where
  full  : e.cache.length + 1 = e.d
  lt    : k < e.p
  kind  : q.kind = .parity
  vid   : q.vid = e.vnext + 1 + k
  seqid : q.seqid = (bumpN e.bump k).next
  rest  : q.rest = fecHeader (BitVec.ofNat 32 q.seqid) typeParity ++ b
  len   : b.length = newMax ho e body - (ho + fecHeaderSize)

theorem mem_encode_parity {par : List Bytes → Nat → Bytes} {ho : Nat} {e : Enc} {body : Bytes} {now rto : Int}
    {q : Pkt} : q ∈ (encode par ho e body now rto).parity → ∃ k b, ParityAt ho e body q k b := by
  refine encode_cases (Q := fun _ ps => q ∈ ps → ∃ k b, ParityAt ho e body q k b) par ho e body now rto
    (fun _ hq => by cases hq) (fun hfull _ hq => ?_) (fun _ _ hq => by cases hq)
  obtain ⟨k, b, hk, h1, h2, h3, h4, h5⟩ := mem_sealParities _ _ _ hq
  rw [List.length_map, List.length_range] at hk
  obtain ⟨x, _, rfl⟩ := List.mem_map.mp (List.mem_of_getElem? h5)
  exact ⟨k, _, hfull, hk, h1, h2, h3, h4, fit_length _ _⟩

theorem crypt_none {γ : Type} (P : Prims γ) {c : Cfg} (g : γ) (pkt : Pkt) (h : c.cipher = .none) :
    crypt P c g pkt = { g := g, emit := { pkt := pkt, nonce := [], plain := pkt.rest, wire := pkt.rest } } := by
  simp only [crypt, h]

theorem crypt_aead {γ : Type} (P : Prims γ) {c : Cfg} (g : γ) (pkt : Pkt) {n o : Nat} (h : c.cipher = .aead n o) :
    crypt P c g pkt =
      { g := (P.draw g).g,
        emit := { pkt := pkt, nonce := (P.draw g).out.take n, plain := (P.draw g).out.take n ++ pkt.rest,
                  wire := (P.draw g).out.take n ++ P.aseal ((P.draw g).out.take n) pkt.rest } } := by
  simp only [crypt, h]

theorem crypt_block {γ : Type} (P : Prims γ) {c : Cfg} (g : γ) (pkt : Pkt) (h : c.cipher = .block) :
    crypt P c g pkt =
      { g := (P.draw g).g,
        emit := { pkt := pkt, nonce := (P.draw g).out.take nonceSize,
                  plain := (P.draw g).out.take nonceSize ++ le32 (P.crc pkt.rest) ++ pkt.rest,
                  wire := P.encB ((P.draw g).out.take nonceSize ++ le32 (P.crc pkt.rest) ++ pkt.rest) } } := by
  simp only [crypt, h, cryptFrame]

/-- whatever the cipher: the packet is kept, the nonce is the draw cut to `nonceLen` (`0` without a cipher) and leads
the plaintext frame; with a cipher the generator has made one draw -/
theorem crypt_shape {γ : Type} (P : Prims γ) (c : Cfg) (g : γ) (pkt : Pkt) :
    (crypt P c g pkt).emit.pkt = pkt ∧ (crypt P c g pkt).emit.nonce = (P.draw g).out.take c.nonceLen ∧
      (∃ mid, (crypt P c g pkt).emit.plain = (crypt P c g pkt).emit.nonce ++ (mid ++ pkt.rest)) ∧
      (c.cipher ≠ .none → (crypt P c g pkt).g = (P.draw g).g) := by
  cases h : c.cipher with
  | none => rw [crypt_none P g pkt h]; exact ⟨rfl, by simp only [Cfg.nonceLen, h, List.take_zero], ⟨[], rfl⟩, fun hn => absurd rfl hn⟩
  | aead n o => rw [crypt_aead P g pkt h]; exact ⟨rfl, by simp only [Cfg.nonceLen, h], ⟨[], rfl⟩, fun _ => rfl⟩
  | block =>
    rw [crypt_block P g pkt h]
    exact ⟨rfl, by simp only [Cfg.nonceLen, h], ⟨le32 (P.crc pkt.rest), List.append_assoc ..⟩, fun _ => rfl⟩

theorem crypt_pkt {γ : Type} (P : Prims γ) (c : Cfg) (g : γ) (pkt : Pkt) : (crypt P c g pkt).emit.pkt = pkt :=
  (crypt_shape P c g pkt).1

theorem cryptAll_pkts {γ : Type} (P : Prims γ) (c : Cfg) : ∀ (pkts : List Pkt) (g : γ),
    (cryptAll P c g pkts).emits.map (·.pkt) = pkts := by
  intro pkts
  induction pkts with
  | nil => intro g; rfl
  | cons x xs ih =>
    intro g
    simp only [cryptAll, List.map_cons, ih, crypt_pkt]

/-- the FEC stage alone over a request list (no cipher, no entropy) -/
def fecAll {γ : Type} (P : Prims γ) (c : Cfg) : Option Enc → List Req → List Pkt
  | _, [] => []
  | enc, r :: rs => (fecStage P c enc r).2 ++ fecAll P c (fecStage P c enc r).1 rs

def fecEnd {γ : Type} (P : Prims γ) (c : Cfg) : Option Enc → List Req → Option Enc
  | enc, [] => enc
  | enc, r :: rs => fecEnd P c (fecStage P c enc r).1 rs

theorem fecStage_none {γ : Type} (P : Prims γ) (c : Cfg) (r : Req) :
    fecStage P c none r = (none, [{ kind := .raw, seqid := 0, vid := 0, rest := r.body }]) := rfl

theorem fecStage_oob {γ : Type} (P : Prims γ) (c : Cfg) (e : Enc) (r : Req) (h : r.oob = true) :
    fecStage P c (some e) r = (some e, [(encodeOOB e r.body).pkt]) := by
  simp only [fecStage, h, if_true]

theorem fecStage_data {γ : Type} (P : Prims γ) (c : Cfg) (e : Enc) (r : Req) (h : r.oob = false) :
    fecStage P c (some e) r =
      (some (encode P.parity c.cryptBase e r.body r.now maxFECEncodeLatency).enc,
       (encode P.parity c.cryptBase e r.body r.now maxFECEncodeLatency).pkt ::
         (encode P.parity c.cryptBase e r.body r.now maxFECEncodeLatency).parity) := by
  simp only [fecStage, h, Bool.false_eq_true, if_false]

theorem fecStage_isSome {γ : Type} (P : Prims γ) (c : Cfg) (enc : Option Enc) (r : Req) :
    (fecStage P c enc r).1.isSome = enc.isSome := by
  cases enc with
  | none => rfl
  | some e => cases h : r.oob <;> simp only [fecStage_oob, fecStage_data, h, Option.isSome_some]

theorem fecAll_inv {γ : Type} (P : Prims γ) (c : Cfg) (I : Option Enc → Prop) (R : Req → Prop) (Q : Pkt → Prop)
    (step : ∀ enc r, I enc → R r → I (fecStage P c enc r).1 ∧ ∀ q ∈ (fecStage P c enc r).2, Q q) :
    ∀ (reqs : List Req) (enc : Option Enc), I enc → (∀ r ∈ reqs, R r) →
      I (fecEnd P c enc reqs) ∧ ∀ q ∈ fecAll P c enc reqs, Q q := by
  intro reqs
  induction reqs with
  | nil => intro enc h _; exact ⟨h, fun q hq => by cases hq⟩
  | cons r rs ih =>
    intro enc h hR
    obtain ⟨h1, hq1⟩ := step enc r h (hR r (List.mem_cons_self ..))
    obtain ⟨h2, hq2⟩ := ih _ h1 fun x hx => hR x (List.mem_cons_of_mem _ hx)
    exact ⟨h2, fun q hq => (List.mem_append.mp hq).elim (hq1 q) (hq2 q)⟩

theorem cryptAll_length {γ : Type} (P : Prims γ) (c : Cfg) (pkts : List Pkt) (g : γ) :
    (cryptAll P c g pkts).emits.length = pkts.length := by
  simpa using congrArg List.length (cryptAll_pkts P c pkts g)

theorem cryptAll_append {γ : Type} (P : Prims γ) (c : Cfg) : ∀ (a b : List Pkt) (g : γ),
    cryptAll P c g (a ++ b) =
      { g := (cryptAll P c (cryptAll P c g a).g b).g,
        emits := (cryptAll P c g a).emits ++ (cryptAll P c (cryptAll P c g a).g b).emits } := by
  intro a
  induction a with
  | nil => intro b g; rfl
  | cons x xs ih => intro b g; simp only [List.cons_append, cryptAll, ih]

/-- `postProcess` is the crypt stage over the packets of the FEC stage -/
theorem postProcess_eq {γ : Type} (P : Prims γ) (c : Cfg) : ∀ (reqs : List Req) (st : PP γ),
    postProcess P c st reqs =
      { st := { enc := fecEnd P c st.enc reqs, gen := (cryptAll P c st.gen (fecAll P c st.enc reqs)).g },
        emits := (cryptAll P c st.gen (fecAll P c st.enc reqs)).emits } := by
  intro reqs
  induction reqs with
  | nil => intro st; rfl
  | cons r rs ih =>
    intro st
    simp only [postProcess, ih, fecAll, fecEnd, cryptAll_append, ppStep]

theorem postProcess_pkts {γ : Type} (P : Prims γ) (c : Cfg) (reqs : List Req) (st : PP γ) :
    (postProcess P c st reqs).emits.map (·.pkt) = fecAll P c st.enc reqs ∧
      (postProcess P c st reqs).st.enc = fecEnd P c st.enc reqs := by
  rw [postProcess_eq]; exact ⟨cryptAll_pkts P c _ _, rfl⟩

/-- the first `n` outputs of the entropy source and its state afterwards -/
def drawsFrom {γ : Type} (P : Prims γ) : γ → Nat → List Bytes
  | _, 0 => []
  | g, n + 1 => (P.draw g).out :: drawsFrom P (P.draw g).g n

def genAfter {γ : Type} (P : Prims γ) : γ → Nat → γ
  | g, 0 => g
  | g, n + 1 => genAfter P (P.draw g).g n

theorem drawsFrom_add {γ : Type} (P : Prims γ) : ∀ (a b : Nat) (g : γ),
    drawsFrom P g (a + b) = drawsFrom P g a ++ drawsFrom P (genAfter P g a) b := by
  intro a
  induction a with
  | zero => intro b g; simp [drawsFrom, genAfter]
  | succ a ih => intro b g; rw [Nat.succ_add]; simp only [drawsFrom, genAfter, ih, List.cons_append]

theorem genAfter_add {γ : Type} (P : Prims γ) : ∀ (a b : Nat) (g : γ),
    genAfter P g (a + b) = genAfter P (genAfter P g a) b := by
  intro a
  induction a with
  | zero => intro b g; simp [genAfter]
  | succ a ih => intro b g; rw [Nat.succ_add]; simp only [genAfter, ih]

theorem cryptAll_draws {γ : Type} (P : Prims γ) (c : Cfg) (hc : c.cipher ≠ .none) : ∀ (pkts : List Pkt) (g : γ),
    (cryptAll P c g pkts).emits.map (·.nonce) = (drawsFrom P g pkts.length).map (·.take c.nonceLen) ∧
      (cryptAll P c g pkts).g = genAfter P g pkts.length := by
  intro pkts
  induction pkts with
  | nil => intro g; exact ⟨rfl, rfl⟩
  | cons x xs ih =>
    intro g
    obtain ⟨_, hn, _, hg⟩ := crypt_shape P c g x
    have := ih (P.draw g).g
    simp only [cryptAll, List.map_cons, List.length_cons, drawsFrom, genAfter, hn, hg hc, this.1, this.2, and_self]

theorem postProcess_draws {γ : Type} (P : Prims γ) (c : Cfg) (hc : c.cipher ≠ .none) (reqs : List Req) (st : PP γ) :
    (postProcess P c st reqs).emits.map (·.nonce) =
        (drawsFrom P st.gen (postProcess P c st reqs).emits.length).map (·.take c.nonceLen) ∧
      (postProcess P c st reqs).st.gen = genAfter P st.gen (postProcess P c st reqs).emits.length := by
  rw [postProcess_eq, cryptAll_length]
  exact cryptAll_draws P c hc _ _

/-- what the theorems about sizes need to know about the external primitives -/
structure LenLaws {γ : Type} (P : Prims γ) (c : Cfg) : Prop where
  encB  : ∀ x, (P.encB x).length = x.length                      -- block ciphers encrypt in place
  aseal : ∀ n x, (P.aseal n x).length = x.length + c.overhead     -- Seal appends exactly Overhead() bytes
  draw  : ∀ g, 16 ≤ (P.draw g).out.length                        -- one Read yields a 16-byte block
  nonce : c.nonceLen ≤ 16

theorem fecHeader_length (id : BitVec 32) (t : Nat) : (fecHeader id t).length = fecHeaderSize := rfl
theorem sizeField_length (n : Nat) : (sizeField n).length = 2 := rfl

theorem crypt_wire_length {γ : Type} (P : Prims γ) (c : Cfg) (L : LenLaws P c) (g : γ) (pkt : Pkt) :
    (crypt P c g pkt).emit.wire.length = c.cryptBase + pkt.rest.length + c.overhead := by
  have hd := L.draw g
  have hn := L.nonce
  cases hc : c.cipher with
  | none => rw [crypt_none P g pkt hc]; simp only [Cfg.cryptBase, Cfg.overhead, hc]; omega
  | aead n o =>
    simp only [Cfg.nonceLen, hc] at hn
    have ha := L.aseal ((P.draw g).out.take n) pkt.rest
    simp only [Cfg.overhead, hc] at ha
    rw [crypt_aead P g pkt hc]
    simp only [Cfg.cryptBase, Cfg.overhead, hc, List.length_append, List.length_take, ha]; omega
  | block =>
    rw [crypt_block P g pkt hc]
    simp only [Cfg.cryptBase, Cfg.overhead, hc, L.encB, List.length_append, List.length_take, le32_length, cryptHeaderSize,
      nonceSize]; omega

theorem newMax_ge (ho : Nat) (e : Enc) (body : Bytes) :
    ho + fecHeaderSizePlus2 + body.length ≤ newMax ho e body ∧ e.maxSize ≤ newMax ho e body := by
  simp only [newMax]; split <;> omega

theorem newMax_le (ho : Nat) (e : Enc) (body : Bytes) (B : Nat) (h1 : e.maxSize ≤ B)
    (h2 : ho + fecHeaderSizePlus2 + body.length ≤ B) : newMax ho e body ≤ B := by
  simp only [newMax]; split <;> omega

theorem encode_lengths (par : List Bytes → Nat → Bytes) (ho : Nat) (e : Enc) (body : Bytes) (now rto : Int) :
    (encode par ho e body now rto).pkt.rest.length = fecHeaderSizePlus2 + body.length ∧
    ∀ q ∈ (encode par ho e body now rto).parity, ho + q.rest.length = newMax ho e body := by
  refine ⟨?_, ?_⟩
  · rw [encode_pkt]; simp only [List.length_append, fecHeader_length, sizeField_length, fecHeaderSize, fecHeaderSizePlus2]
  · intro q hq
    obtain ⟨k, b, hq⟩ := mem_encode_parity hq
    have := (newMax_ge ho e body).1
    rw [hq.rest]; simp only [List.length_append, fecHeader_length, hq.len, fecHeaderSize, fecHeaderSizePlus2] at this ⊢
    omega

theorem encode_maxSize (par : List Bytes → Nat → Bytes) (ho : Nat) (e : Enc) (body : Bytes) (now rto : Int) :
    (encode par ho e body now rto).enc.maxSize = 0 ∨ (encode par ho e body now rto).enc.maxSize = newMax ho e body :=
  (encode_fields par ho e body now rto).adv.elim (fun h => .inr h.2.1) (fun h => .inl h.2.1)

/-- lengths are counted from the start of the datagram, hence `cryptBase +` -/
theorem fecStage_lengths {γ : Type} (P : Prims γ) (c : Cfg) (enc : Option Enc) (r : Req) (hcons : enc.isSome = c.fecOn) :
    ∀ q ∈ (fecStage P c enc r).2,
      (q.kind ≠ .parity → c.cryptBase + q.rest.length = c.headerSize + r.body.length) ∧
      (q.kind = .parity → ∃ e, enc = some e ∧ r.oob = false ∧
        c.cryptBase + q.rest.length = newMax c.cryptBase e r.body) := by
  intro q hq
  cases enc with
  | none =>
    have hf : c.fecOn = false := hcons.symm
    rw [fecStage_none, List.mem_singleton] at hq
    subst hq
    exact ⟨fun _ => by simp only [Cfg.headerSize, hf]; simp, fun h => by cases h⟩
  | some e =>
    have hf : c.fecOn = true := hcons.symm
    have hh : c.headerSize = c.cryptBase + fecHeaderSizePlus2 := by simp only [Cfg.headerSize, hf, if_true]
    cases hro : r.oob with
    | true =>
      rw [fecStage_oob P c e r hro, List.mem_singleton] at hq
      subst hq
      refine ⟨fun _ => ?_, fun h => by cases h⟩
      simp only [encodeOOB, hh, List.length_append, fecHeader_length, sizeField_length, fecHeaderSize, fecHeaderSizePlus2]
      omega
    | false =>
      rw [fecStage_data P c e r hro, List.mem_cons] at hq
      have hl := encode_lengths P.parity c.cryptBase e r.body r.now maxFECEncodeLatency
      rcases hq with hq | hq
      · subst hq
        exact ⟨fun _ => by rw [hl.1, hh]; omega, fun h => by rw [encode_pkt] at h; cases h⟩
      · obtain ⟨_, _, hk⟩ := mem_encode_parity hq
        exact ⟨fun h => absurd hk.kind h, fun _ => ⟨e, rfl, rfl, hl.2 q hq⟩⟩

theorem fecStage_maxSize {γ : Type} (P : Prims γ) (c : Cfg) (enc : Option Enc) (r : Req) (B : Nat)
    (hmax : ∀ e, enc = some e → e.maxSize ≤ B)
    (hr : enc.isSome = true → c.cryptBase + fecHeaderSizePlus2 + r.body.length ≤ B) :
    ∀ e', (fecStage P c enc r).1 = some e' → e'.maxSize ≤ B := by
  intro e' he'
  cases enc with
  | none => cases he'
  | some e =>
    cases hro : r.oob with
    | true =>
      rw [fecStage_oob P c e r hro] at he'
      rw [← Option.some.inj he']; exact hmax e rfl
    | false =>
      rw [fecStage_data P c e r hro] at he'
      rw [← Option.some.inj he']
      have hB := newMax_le c.cryptBase e r.body B (hmax e rfl) (hr rfl)
      rcases encode_maxSize P.parity c.cryptBase e r.body r.now maxFECEncodeLatency with h | h <;> omega

theorem mem_cryptAll {γ : Type} (P : Prims γ) (c : Cfg) : ∀ (pkts : List Pkt) (g : γ),
    ∀ em ∈ (cryptAll P c g pkts).emits, ∃ g' pkt, pkt ∈ pkts ∧ em = (crypt P c g' pkt).emit := by
  intro pkts
  induction pkts with
  | nil => intro g em hem; cases hem
  | cons x xs ih =>
    intro g em hem
    simp only [cryptAll, List.mem_cons] at hem
    rcases hem with hem | hem
    · exact ⟨g, x, by simp, hem⟩
    · obtain ⟨g', pkt, h1, h2⟩ := ih _ em hem
      exact ⟨g', pkt, by simp [h1], h2⟩

theorem mem_postProcess {γ : Type} (P : Prims γ) (c : Cfg) (reqs : List Req) (st : PP γ) :
    ∀ em ∈ (postProcess P c st reqs).emits, ∃ g pkt, pkt ∈ fecAll P c st.enc reqs ∧ em = (crypt P c g pkt).emit := by
  rw [postProcess_eq]
  exact mem_cryptAll P c _ _

theorem crypt_nonce {γ : Type} (P : Prims γ) (c : Cfg) (g : γ) (pkt : Pkt) (hd : c.nonceLen ≤ (P.draw g).out.length) :
    (crypt P c g pkt).emit.nonce.length = c.nonceLen ∧
      (crypt P c g pkt).emit.plain.take c.nonceLen = (crypt P c g pkt).emit.nonce := by
  obtain ⟨_, hn, ⟨mid, hp⟩, _⟩ := crypt_shape P c g pkt
  have hl : (crypt P c g pkt).emit.nonce.length = c.nonceLen := by rw [hn, List.length_take]; omega
  exact ⟨hl, by rw [hp]; exact List.take_left' hl⟩

end KcpVerif.SessOut
