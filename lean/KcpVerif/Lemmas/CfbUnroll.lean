import KcpVerif.Lemmas.CfbList
/-! the unrolled shape (`repeat` groups of eight literal steps, fall-through `left` switch) is a
plain loop of `len/bs` block steps followed by the tail: `tailXor (steps L (flags c (len/bs)) start)`.
The steps inside the groups use closed slice expressions, those of the switch open-ended ones in
the 16-byte helpers, so the loop is a fold over a list of flags and not an `iter`. -/
namespace KcpVerif.Cfb

variable (E : Bytes → Bytes) (bs : Nat) (c : Bool)

@[simp] theorem setBase_base (s : St) (b : Nat) : (s.setBase b).base = b := rfl
@[simp] theorem setBase_setBase (s : St) (a b : Nat) : (s.setBase a).setBase b = s.setBase b := rfl
@[simp] theorem encAt_base (off : Nat) (s : St) : (encAt E bs c off s).base = s.base := rfl
@[simp] theorem encAt_setBase (off b : Nat) (s : St) :
    encAt E bs c off (s.setBase b) = (encAt E bs c off s).setBase b := rfl
@[simp] theorem decA_base (off : Nat) (s : St) : (decA E bs c off s).base = s.base := rfl
@[simp] theorem decA_setBase (off b : Nat) (s : St) :
    decA E bs c off (s.setBase b) = (decA E bs c off s).setBase b := rfl
@[simp] theorem swap_base (s : St) : s.swap.base = s.base := rfl
@[simp] theorem swap_setBase (s : St) (b : Nat) : (s.setBase b).swap = s.swap.setBase b := rfl
@[simp] theorem swap_swap (s : St) : s.swap.swap = s := rfl
theorem decB_eq (off : Nat) (s : St) : decB E bs c off s = (decA E bs c off s.swap).swap := rfl

theorem encL_eq (s : St) : encL E bs c s = (encAt E bs c s.base s).setBase (s.base + bs) := rfl
theorem decL_eq (s : St) : decL E bs c s = (decA E bs c s.base s).swap.setBase (s.base + bs) := rfl

theorem encGroup8_eq (s : St) : encGroup8 E s = iter (encL E 8 true) 8 s := by
  simp only [encGroup8, iter, encL_eq, encAt_setBase, setBase_base, setBase_setBase,
    Nat.add_assoc, Nat.reduceAdd, Nat.add_zero]

theorem encGroup16_eq (s : St) : encGroup16 E s = iter (encL E 16 true) 8 s := by
  simp only [encGroup16, iter, encL_eq, encAt_setBase, setBase_base, setBase_setBase,
    Nat.add_assoc, Nat.reduceAdd, Nat.add_zero]

theorem decGroup8_eq (s : St) : decGroup8 E s = iter (decL E 8 true) 8 s := by
  simp only [decGroup8, iter, decL_eq, decB_eq, decA_setBase, swap_setBase,
    setBase_base, setBase_setBase, Nat.add_assoc, Nat.reduceAdd, Nat.add_zero]

theorem decGroup16_eq (s : St) : decGroup16 E s = iter (decL E 16 true) 8 s := by
  simp only [decGroup16, iter, decL_eq, decB_eq, decA_setBase, swap_setBase,
    setBase_base, setBase_setBase, Nat.add_assoc, Nat.reduceAdd, Nat.add_zero]

theorem encSwitch_eq (left : Nat) (h : left < 8) (s : St) :
    encSwitch E bs c left s = tailXor (iter (encL E bs c) left s) := by
  match left, h with
  | 0, _ => rfl
  | 1, _ => rfl
  | 2, _ => rfl
  | 3, _ => rfl
  | 4, _ => rfl
  | 5, _ => rfl
  | 6, _ => rfl
  | 7, _ => rfl
  | n + 8, h => omega

theorem decSwitch_eq (left : Nat) (h : left < 8) (s : St) :
    decSwitch E bs c left s = tailXor (iter (decL E bs c) left s) := by
  match left, h with
  | 0, _ => rfl
  | 1, _ => rfl
  | 2, _ => rfl
  | 3, _ => rfl
  | 4, _ => rfl
  | 5, _ => rfl
  | 6, _ => rfl
  | 7, _ => rfl
  | n + 8, h => omega

/-- run one block step per flag (`true` = closed slice expressions, `false` = open ended) -/
def steps {α : Type} (f : Bool → α → α) (cs : List Bool) (x : α) : α :=
  cs.foldl (fun x c => f c x) x

theorem steps_append {α : Type} (f : Bool → α → α) (a b : List Bool) (x : α) :
    steps f (a ++ b) x = steps f b (steps f a x) :=
  List.foldl_append

theorem iter_eq_steps {α : Type} (f : Bool → α → α) (c : Bool) (n : Nat) (x : α) :
    iter (f c) n x = steps f (List.replicate n c) x := by
  induction n generalizing x with
  | zero => rfl
  | succ n ih => exact ih (f c x)

def flags (c : Bool) (n : Nat) : List Bool :=
  List.replicate (8 * (n / 8)) true ++ List.replicate (n % 8) c

theorem length_flags (c : Bool) (n : Nat) : (flags c n).length = n := by
  simp only [flags, List.length_append, List.length_replicate]; omega

theorem unroll_skeleton {α : Type} (group : α → α) (f : Bool → α → α)
    (hg : ∀ x, group x = iter (f true) 8 x) (c : Bool) (n : Nat) (x : α) :
    iter (f c) (n &&& 7) (iter group (n >>> 3) x) = steps f (flags c n) x := by
  have h7 : n &&& 7 = n % 8 := Nat.and_two_pow_sub_one_eq_mod n 3
  have h3 : n >>> 3 = n / 8 := by rw [Nat.shiftRight_eq_div_pow]
  rw [show group = iter (f true) 8 from funext hg, iter_mul, iter_eq_steps, iter_eq_steps, ← steps_append,
    h7, h3, flags]

theorem and7_lt (n : Nat) : n &&& 7 < 8 := by
  have h7 : n &&& 7 = n % 8 := Nat.and_two_pow_sub_one_eq_mod n 3
  omega

theorem encrypt8_eq_steps (src dst : Bytes) (a : Bool) :
    encrypt8 E src dst a =
      tailXor (steps (encL E 8) (flags true (src.length / 8)) (start E 8 src dst a [])) := by
  simp only [encrypt8]
  rw [encSwitch_eq _ _ _ _ (and7_lt _), unroll_skeleton _ (encL E 8) (encGroup8_eq E),
    Nat.shiftRight_eq_div_pow]

theorem encrypt16_eq_steps (src dst : Bytes) (a : Bool) :
    encrypt16 E src dst a =
      tailXor (steps (encL E 16) (flags false (src.length / 16)) (start E 16 src dst a [])) := by
  simp only [encrypt16]
  rw [encSwitch_eq _ _ _ _ (and7_lt _), unroll_skeleton _ (encL E 16) (encGroup16_eq E),
    Nat.shiftRight_eq_div_pow]

theorem decrypt8_eq_steps (src dst : Bytes) (a : Bool) (nx : Bytes) :
    decrypt8 E src dst a nx =
      tailXor (steps (decL E 8) (flags true (src.length / 8)) (start E 8 src dst a nx)) := by
  simp only [decrypt8]
  rw [decSwitch_eq _ _ _ _ (and7_lt _), unroll_skeleton _ (decL E 8) (decGroup8_eq E),
    Nat.shiftRight_eq_div_pow]

theorem decrypt16_eq_steps (src dst : Bytes) (a : Bool) (nx : Bytes) :
    decrypt16 E src dst a nx =
      tailXor (steps (decL E 16) (flags false (src.length / 16)) (start E 16 src dst a nx)) := by
  simp only [decrypt16]
  rw [decSwitch_eq _ _ _ _ (and7_lt _), unroll_skeleton _ (decL E 16) (decGroup16_eq E),
    Nat.shiftRight_eq_div_pow]

end KcpVerif.Cfb
