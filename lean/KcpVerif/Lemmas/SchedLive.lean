import KcpVerif.Lemmas.Sched
/-!
For C17, what the scheduler CAN do without a further `Put`.  While the goal (settled; nothing
pending) fails, some step other than `Put` and `tick` is enabled after letting time pass; once the
clock has passed every submitted deadline each such step lowers the variant `mu D`.  So the goal is
reached.
-/
namespace KcpVerif.Sched

/-- a schedule without submissions -/
def NoPut (ls : List Label) : Prop := ∀ l, l ∈ ls → ∀ id ts, l ≠ .put id ts

theorem NoPut.append {a b : List Label} (ha : NoPut a) (hb : NoPut b) : NoPut (a ++ b) := by
  intro l hl
  rcases List.mem_append.mp hl with h | h
  · exact ha l h
  · exact hb l h

theorem NoPut.nil : NoPut [] := fun _ hl => by cases hl

theorem NoPut.cons {l : Label} {ls : List Label} (hl : ∀ id ts, l ≠ .put id ts) (h : NoPut ls) :
    NoPut (l :: ls) := by
  intro x hx
  rcases List.mem_cons.mp hx with rfl | hx
  · exact hl
  · exact h x hx

theorem run_append {m : Mode} : ∀ {a b : List Label} {s s1 s2 : State},
    run m s a = some s1 → run m s1 b = some s2 → run m s (a ++ b) = some s2
  | [], b, s, s1, s2, h1, h2 => by cases h1; exact h2
  | l :: a, b, s, s1, s2, h1, h2 => by
    obtain ⟨s0, hs0, h1⟩ := run_cons_eq_some.mp h1
    exact run_cons_eq_some.mpr ⟨s0, hs0, run_append h1 h2⟩

theorem step_noput {m : Mode} {s s' : State} {l : Label} (hs : step m s l = some s')
    (hl : ∀ id ts, l ≠ .put id ts) : s'.sub = s.sub ∧ s.done.length ≤ s'.done.length := by
  cases step_inv hs with
  | put => exact absurd rfl (hl _ _)
  | @w i l w out =>
    refine ⟨by simp, ?_⟩
    cases out.exec <;> simp [logExec]
  | _ => exact ⟨rfl, Nat.le_refl _⟩

theorem run_noput {m : Mode} : ∀ {ls : List Label} {s s' : State}, run m s ls = some s' → NoPut ls →
    s'.sub = s.sub ∧ s.done.length ≤ s'.done.length
  | [], s, s', h, _ => by cases h; exact ⟨rfl, Nat.le_refl _⟩
  | l :: ls, s, s', h, hn => by
    obtain ⟨s1, hs1, h⟩ := run_cons_eq_some.mp h
    have h1 := step_noput hs1 (hn l (by simp))
    have h2 := run_noput h (fun x hx => hn x (List.mem_cons_of_mem _ hx))
    exact ⟨h2.1.trans h1.1, Nat.le_trans h1.2 h2.2⟩

theorem step_now_mono {m : Mode} {s s' : State} {l : Label} (hs : step m s l = some s') :
    s.now ≤ s'.now := by
  cases step_inv hs with
  | tick d => exact Nat.le_add_right _ _
  | w => simp
  | _ => exact Nat.le_refl _

theorem run_now_mono {m : Mode} : ∀ {ls : List Label} {s s' : State}, run m s ls = some s' → s.now ≤ s'.now
  | [], s, s', h => by cases h; exact Nat.le_refl _
  | l :: ls, s, s', h => by
    obtain ⟨s1, hs1, h⟩ := run_cons_eq_some.mp h
    exact Nat.le_trans (step_now_mono hs1) (run_now_mono h)

theorem pending_length {m : Mode} {k : Nat} {t0 : Time} {s : State} (h : Reachable m k t0 s) :
    s.sub.length = (pendingTasks s).length + s.done.length := by
  simpa using h.inv.c.perm.length_eq


/-- `rank`, `rankAll`, `rho` enter only the statement of `settle` -/
def Worker.rank (w : Worker) : Nat :=
  match w.pc with
  | .select => 0
  | .gotTask _ => 4
  | .pushed _ => 3
  | .stopped _ _ => 2
  | .reset _ => 1
  | .loop _ => 1 + w.heap.length

def rankAll (ws : List Worker) : Nat := (ws.map Worker.rank).sum

def rho (s : State) : Nat :=
  3 * s.pend + (if s.ntok = true then 2 else 0) + (match s.ppc with | .gotToken => 1 | .idle => 0)
    + 6 * s.pre.length + 5 * s.batch.length + rankAll s.ws

/-- stage 1 is empty-handed and every worker stands at its `select`: whatever is pending waits in a
    heap for its timer -/
def Settled (s : State) : Prop :=
  s.pend = 0 ∧ s.ntok = false ∧ s.ppc = .idle ∧ s.batch = [] ∧ ∀ w, w ∈ s.ws → w.pc = .select

theorem exists_held_of_heldAll_ne_nil {ws : List Worker} (h : heldAll ws ≠ []) :
    ∃ (i : Nat) (w : Worker), ws[i]? = some w ∧ held w ≠ [] := by
  obtain ⟨t, ht⟩ := List.exists_mem_of_ne_nil _ h
  obtain ⟨l, hl, htl⟩ := List.mem_flatten.mp ht
  obtain ⟨w, hw, rfl⟩ := List.mem_map.mp hl
  obtain ⟨i, hi⟩ := List.getElem?_of_mem hw
  exact ⟨i, w, hi, List.ne_nil_of_mem htl⟩

theorem unsettled_step {m : Mode} {k : Nat} {t0 : Time} {s : State} (h : Reachable m k t0 s) (hk : 0 < k)
    (hns : ¬ Settled s) :
    ∃ l s', (∀ id ts, l ≠ .put id ts) ∧ (∀ d, l ≠ .tick d) ∧ SStep m s l s' := by
  by_cases hall : ∀ w, w ∈ s.ws → w.pc = .select
  · by_cases hpend : s.pend = 0
    · cases hppc : s.ppc with
      | gotToken => exact ⟨.swap, _, by simp, by simp, .swap hppc⟩
      | idle =>
        cases hb : s.batch with
        | cons t rest =>
          have h0 : 0 < s.ws.length := by rw [h.inv.len]; exact hk
          have hsel := hall _ (List.getElem_mem h0)
          exact ⟨.handoff 0, _, by simp, by simp,
            .handoff hppc hb (List.getElem?_eq_getElem h0) hsel⟩
        | nil =>
          by_cases htok : s.ntok = true
          · exact ⟨.takeToken, _, by simp, by simp, .takeToken ⟨hppc, hb, htok⟩⟩
          · exact absurd ⟨hpend, by simpa using htok, hppc, hb, hall⟩ hns
    · exact ⟨.notify, _, by simp, by simp, .notify hpend⟩
  · -- some worker is inside its critical section: it can always move on
    have : ∃ w, w ∈ s.ws ∧ w.pc ≠ .select := by
      apply Classical.byContradiction
      intro hno
      exact hall fun w hw => Classical.byContradiction fun hne => hno ⟨w, hw, hne⟩
    obtain ⟨w, hw, hne⟩ := this
    obtain ⟨i, hi⟩ := List.getElem?_of_mem hw
    obtain ⟨l, out, hnf, ho⟩ := (h.inv.w w hw).next hne
    exact ⟨.w i l, _, by simp, by simp, .w hi ho.wstep_eq⟩

/-- time has to pass only when every remaining task waits for its timer -/
theorem no_deadlock {m : Mode} {k : Nat} {t0 : Time} {s : State} (h : Reachable m k t0 s) (hk : 0 < k)
    (hp : pendingTasks s ≠ []) :
    ∃ d l, (∀ id ts, l ≠ .put id ts) ∧ (∀ d', l ≠ .tick d') ∧ (run m s [.tick d, l]).isSome := by
  by_cases hs : Settled s
  · obtain ⟨hpend, htok, hppc, hb, hall⟩ := hs
    -- nothing in flight in stage 1, so `pre` is empty and a worker holds a task
    have hpre : s.pre = [] := by
      apply Classical.byContradiction
      intro hne
      rcases h.inv.h hne with h1 | h1 | h1
      · simp [htok] at h1
      · simp [hppc] at h1
      · omega
    obtain ⟨i, w, hwi, hne⟩ := exists_held_of_heldAll_ne_nil (by simpa [pendingTasks, hpre, hb] using hp)
    have hmem := List.mem_of_getElem? hwi
    have hsel := hall w hmem
    have hq : w.quiet s.now := by simpa only [hsel] using (h.inv.w w hmem).2
    cases hd : w.drained with
    | true => exact absurd (hq.1 hd).2 (by simpa [held, hsel] using hne)
    | false =>
      rcases hq.2.1 hd with ⟨ha, _⟩ | ⟨_, hc⟩
      · obtain ⟨wh, hwh⟩ := Option.isSome_iff_exists.mp ha
        -- `omega` does not see through `Time := Nat` in the types of hypotheses
        have hle : wh ≤ s.now + (wh - s.now) := by unfold Time at *; omega
        refine ⟨wh - s.now, .w i (.fire wh), by simp, by simp, ?_⟩
        rw [run_tick_step]
        exact (SStep.w (s := { s with now := s.now + (wh - s.now) }) hwi
          (WStep.fire hwh ⟨hle, Nat.le_refl _, hle⟩).wstep_eq).isSome
      · obtain ⟨v, hv⟩ := Option.isSome_iff_exists.mp hc
        refine ⟨0, .w i .recvTimer, by simp, by simp, ?_⟩
        rw [run_tick0_step]
        exact (SStep.w hwi (WStep.recvTimer hsel hv).wstep_eq).isSome
  · obtain ⟨l, s', hput, htick, hs'⟩ := unsettled_step h hk hs
    exact ⟨0, l, hput, htick, by rw [run_tick0_step]; exact hs'.isSome⟩

/-! `D` bounds every submitted deadline.  Once `D < now`, a clock reading `> D` is *fresh*: it pops
everything.  `phi D w` bounds the steps worker `w` and the runtime on its timer can still take; it
does not depend on `now`.

The numbers: with `h` tasks in the heap a timer cycle on a fresh value is fire, receive, `h` pops,
loop end — `h + 3` when armed for a fresh time, `h + 2` with a fresh value buffered, `h + 1` inside
the loop.  A stale value (from before the clock passed `D`) need not pop anything; its cycle may end
in a re-arm, then for a fresh time: three more (loop end, fire and receive of the second cycle).  The
Stop/drain/Reset section counts down to the re-armed `select`: `reset` is `1 + (h + 3)`, `stopped`
one more, `pushed` one more and one for a timer that may still fire before `Stop`; `gotTask` is one
step before `select` (after `D` nothing is pushed). -/

def selCost (D : Time) (h : Nat) (t : Timer) : Nat :=
  match t.chan with
  | some v => if D < v then h + 2 else h + 5
  | none =>
    match t.armed with
    | some wh => if D < wh then h + 3 else h + 6
    | none => 0

def phi (D : Time) (w : Worker) : Nat :=
  match w.pc with
  | .select => selCost D w.heap.length w.timer
  | .gotTask _ => selCost D w.heap.length w.timer + 1
  | .pushed _ => w.heap.length + 6 + (if w.timer.armed.isSome then 1 else 0)
  | .stopped _ _ => w.heap.length + 5
  | .reset _ => w.heap.length + 4
  | .loop v => if D < v then w.heap.length + 1 else w.heap.length + 4

theorem selCost_fire {D : Time} {h : Nat} {t : Timer} {wh v : Time} (ha : t.armed = some wh)
    (hc : t.chan = none) (hv : wh ≤ v) : selCost D h (t.fire v) < selCost D h t := by
  simp only [selCost, Timer.fire, hc, ha]
  by_cases h1 : D < wh
  · have h2 : D < v := Nat.lt_of_lt_of_le h1 hv
    simp only [h1, h2, if_true]; omega
  · simp only [h1, if_false]
    split <;> omega

theorem quiet_armed_chan {now : Time} {w : Worker} {wh : Time} (hq : w.quiet now)
    (ha : w.timer.armed = some wh) : w.timer.chan = none := by
  obtain ⟨h1, h2, _⟩ := hq
  cases hd : w.drained
  · rcases h2 hd with ⟨_, hc⟩ | ⟨hn, _⟩
    · exact hc
    · simp [hn] at ha
  · exact (h1 hd).1.2

theorem phi_decreases {m : Mode} {now D : Time} {w : Worker} {l : WLabel} {out : WOut}
    (hinv : WInv m now w) (hD : D < now) (hts : ∀ t, t ∈ held w → t.ts ≤ D)
    (hs : wstep m now w l = some out) : phi D out.w < phi D w := by
  obtain ⟨hc, hpc⟩ := hinv
  cases wstep_inv hs with
  | exec hp =>
    simp only [phi, hp]
    omega
  | @push t hp hge =>
    exact absurd (Nat.lt_of_le_of_lt (hts t (by simp [held, hp])) hD) hge
  | stop hp =>
    simp only [phi, hp]
    omega
  | drainRecv hp =>
    simp only [phi, hp]
    omega
  | drainSkip hp =>
    simp only [phi, hp]
    omega
  | @reset n hp =>
    simp only [hp] at hpc
    have hfresh : D < now + (minTs w.heap - n) := Nat.lt_of_lt_of_le hD (Nat.le_add_right _ _)
    simp only [Worker.rearm, phi, hp, selCost, reset_chan_of_idle m _ _ hpc.2.2, reset_armed, hfresh, if_true]
    omega
  | recvTimer hp hv =>
    simp only [phi, hp, selCost, hv]
    split <;> omega
  | pop hp hcond =>
    have hlen := List.length_erase_of_mem hcond.1
    have hpos : 0 < w.heap.length := List.length_pos_of_mem hcond.1
    simp only [phi, hp, hlen]
    split <;> omega
  | loopDone hp =>
    simp only [hp] at hpc
    simp only [phi, hp, selCost, hpc.2.1.2, hpc.2.1.1]
    split <;> omega
  | @loopArm v hp hne hmin =>
    simp only [hp] at hpc
    have hstale : ¬ D < v := by
      intro hf
      obtain ⟨t, ht, hte⟩ := minTs_mem hne
      have htD : t.ts ≤ D := hts t (by simp [held, hp, ht])
      apply hmin
      rw [← hte]
      exact Nat.lt_of_le_of_lt htD hf
    have hfresh : D < now + (minTs w.heap - v) := Nat.lt_of_lt_of_le hD (Nat.le_add_right _ _)
    simp only [Worker.rearm, phi, hp, selCost, reset_chan_of_idle m _ _ hpc.2.1.2, reset_armed, hfresh, hstale,
      if_true, if_false]
    omega
  | fire hwh hcond =>
    cases hp : w.pc <;> simp only [hp] at hpc
    · simp only [phi, hp]
      exact selCost_fire hwh (quiet_armed_chan hpc hwh) hcond.2.1
    · simp only [phi, hp]
      have := selCost_fire (D := D) (h := w.heap.length) hwh (quiet_armed_chan hpc hwh) hcond.2.1
      omega
    · simp only [phi, hp, Timer.fire, hwh]
      simp
    · simp [hpc.unarmed] at hwh
    · simp [hpc.2.1] at hwh
    · simp [hpc.2.1.1] at hwh


def phiAll (D : Time) (ws : List Worker) : Nat := (ws.map (phi D)).sum

theorem phiAll_set {D : Time} {ws : List Worker} {i : Nat} {w w' : Worker} (h : ws[i]? = some w) :
    phiAll D (ws.set i w') + phi D w = phiAll D ws + phi D w' :=
  sum_map_set (phi D) h

/-- stage-1 weights plus the workers' potentials; independent of `now` -/
def mu (D : Time) (s : State) : Nat :=
  3 * s.pend + (if s.ntok = true then 2 else 0) + (match s.ppc with | .gotToken => 1 | .idle => 0)
    + 3 * s.pre.length + 2 * s.batch.length + phiAll D s.ws

theorem held_sub {m : Mode} {k : Nat} {t0 : Time} {s : State} (h : Reachable m k t0 s) {i : Nat}
    {w : Worker} (hw : s.ws[i]? = some w) {t : Task} (ht : t ∈ held w) : t ∈ s.sub :=
  h.inv.c.perm.mem_iff.mpr (List.mem_append_left _ (mem_pending_of_held hw ht))

/-- the clock has passed every submitted deadline: every clock reading taken from now on is fresh -/
def Past (D : Time) (s : State) : Prop := D < s.now ∧ ∀ t, t ∈ s.sub → t.ts ≤ D

theorem Past.step {m : Mode} {D : Time} {l : Label} {s s' : State} (hp : Past D s)
    (hs : step m s l = some s') (hl : ∀ id ts, l ≠ .put id ts) : Past D s' :=
  ⟨Nat.lt_of_lt_of_le hp.1 (step_now_mono hs), by rw [(step_noput hs hl).1]; exact hp.2⟩

theorem mu_step {m : Mode} {k : Nat} {t0 D : Time} {s s' : State} {l : Label}
    (h : Reachable m k t0 s) (hp : Past D s)
    (hs : step m s l = some s') (hput : ∀ id ts, l ≠ .put id ts) (hnt : ∀ d, l ≠ .tick d) :
    mu D s' < mu D s := by
  cases step_inv hs with
  | tick d => exact absurd rfl (hnt d)
  | put => exact absurd rfl (hput _ _)
  | notify =>
    simp only [mu]
    split <;> simp <;> omega
  | takeToken hc => simp [mu, hc.1, hc.2.2]
  | swap hg =>
    have hb := h.inv.c.2 hg
    simp only [mu, hg, hb, List.length_nil]
    omega
  | @handoff i t rest w hidle hb hw hsel =>
    have hset := phiAll_set (D := D) (w' := { w with pc := .gotTask t }) hw
    have hphi : phi D { w with pc := .gotTask t } = phi D w + 1 := by simp [phi, hsel]
    simp only [mu, hb, List.length_cons]
    omega
  | @w i l w out hw ho =>
    have hmem := List.mem_of_getElem? hw
    have hdec := phi_decreases (D := D) (h.inv.w w hmem) hp.1
      (fun t ht => hp.2 t (held_sub h hw ht)) ho
    have hset := phiAll_set (D := D) (w' := out.w) hw
    simp only [mu, logExec_pend, logExec_ntok, logExec_ppc, logExec_pre, logExec_batch, logExec_ws]
    omega

theorem mu_tick (D : Time) (s : State) (d : Nat) : mu D { s with now := s.now + d } = mu D s := rfl

def nonTicks : List Label → Nat
  | [] => 0
  | .tick _ :: ls => nonTicks ls
  | _ :: ls => nonTicks ls + 1

theorem nonTicks_cons (l : Label) (ls : List Label) : nonTicks (l :: ls) = nonTicks [l] + nonTicks ls := by
  cases l <;> simp only [nonTicks] <;> omega

theorem nonTicks_of_not_tick {l : Label} (h : ∀ d, l ≠ .tick d) : nonTicks [l] = 1 := by
  cases l <;> first | rfl | exact absurd rfl (h _)

theorem mu_le {m : Mode} {k : Nat} {t0 D : Time} {s s' : State} {l : Label}
    (h : Reachable m k t0 s) (hp : Past D s) (hs : step m s l = some s') (hput : ∀ id ts, l ≠ .put id ts) :
    nonTicks [l] + mu D s' ≤ mu D s := by
  by_cases htk : ∃ d, l = .tick d
  · obtain ⟨d, rfl⟩ := htk
    cases hs
    rw [mu_tick]
    exact Nat.le_of_eq (Nat.zero_add _)
  · have hnt : ∀ d, l ≠ .tick d := fun d hd => htk ⟨d, hd⟩
    have := mu_step h hp hs hput hnt
    rw [nonTicks_of_not_tick hnt]
    omega

theorem bounded_work {m : Mode} {k : Nat} {t0 D : Time} : ∀ {ls : List Label} {s s' : State},
    Reachable m k t0 s → Past D s → NoPut ls → run m s ls = some s' → nonTicks ls + mu D s' ≤ mu D s
  | [], s, s', _, _, _, hr => by cases hr; simp [nonTicks]
  | l :: ls, s, s', h, hp, hnp, hr => by
    obtain ⟨s1, hs1, hr⟩ := run_cons_eq_some.mp hr
    have hlput := hnp l (by simp)
    have ih := bounded_work (h.step hs1) (hp.step hs1 hlput) (fun x hx => hnp x (List.mem_cons_of_mem _ hx)) hr
    have := mu_le h hp hs1 hlput
    rw [nonTicks_cons]
    omega


def maxTs : List Task → Time
  | [] => 0
  | t :: l => max t.ts (maxTs l)

theorem le_maxTs : ∀ {l : List Task} {t : Task}, t ∈ l → t.ts ≤ maxTs l
  | [], _, h => by cases h
  | x :: l, t, h => by
    rcases List.mem_cons.mp h with rfl | h'
    · exact Nat.le_max_left _ _
    · exact Nat.le_trans (le_maxTs h') (Nat.le_max_right _ _)

theorem Past.run {m : Mode} {D : Time} {ls : List Label} {s s' : State} (hp : Past D s)
    (hr : run m s ls = some s') (hnp : NoPut ls) : Past D s' :=
  ⟨Nat.lt_of_lt_of_le hp.1 (run_now_mono hr), by rw [(run_noput hr hnp).1]; exact hp.2⟩

theorem mu_tick_step {m : Mode} {k : Nat} {t0 D : Time} {s s' : State} {d : Nat} {l : Label}
    (h : Reachable m k t0 s) (hp : Past D s) (hput : ∀ id ts, l ≠ .put id ts) (htick : ∀ d', l ≠ .tick d')
    (hr : run m s [.tick d, l] = some s') : mu D s' < mu D s := by
  rw [run_tick_step] at hr
  have := mu_step (h.step (step_tick m s d)) (hp.step (step_tick m s d) (fun _ _ he => by cases he)) hr hput htick
  rwa [mu_tick] at this

section
variable {m : Mode} {k : Nat} {t0 : Time} {P : State → Prop}
  (hprog : ∀ {s}, Reachable m k t0 s → ¬ P s →
    ∃ d l, (∀ id ts, l ≠ .put id ts) ∧ (∀ d', l ≠ .tick d') ∧ (run m s [.tick d, l]).isSome)
include hprog

theorem descend {D : Time} : ∀ (n : Nat) {s : State}, Reachable m k t0 s → Past D s → mu D s ≤ n →
    ∃ ls s', NoPut ls ∧ run m s ls = some s' ∧ P s'
  | n, s, h, hp, hn => by
    by_cases hP : P s
    · exact ⟨[], s, NoPut.nil, rfl, hP⟩
    · obtain ⟨d, l, hput, htick, hen⟩ := hprog h hP
      obtain ⟨s1, hr1⟩ := Option.isSome_iff_exists.mp hen
      have hnp1 : NoPut [.tick d, l] := .cons (fun _ _ he => by cases he) (.cons hput .nil)
      have hlt := mu_tick_step h hp hput htick hr1
      match n with
      | 0 => omega
      | n + 1 =>
        obtain ⟨ls2, s2, hnp2, hr2, hP2⟩ := descend n (h.run hr1) (hp.run hr1 hnp1) (by omega)
        exact ⟨_, s2, hnp1.append hnp2, run_append hr1 hr2, hP2⟩

/-- let the clock pass every submitted deadline; from then on each step `hprog` provides lowers `mu` -/
theorem can_reach {s : State} (h : Reachable m k t0 s) :
    ∃ ls s', NoPut ls ∧ run m s ls = some s' ∧ P s' := by
  have hp : Past (maxTs s.sub) { s with now := s.now + (maxTs s.sub + 1) } :=
    ⟨Nat.lt_of_lt_of_le (Nat.lt_succ_self _) (Nat.le_add_left _ _), fun t ht => le_maxTs ht⟩
  obtain ⟨ls, s', hnp, hr, hP⟩ := descend hprog _ (h.step (step_tick m s _)) hp (Nat.le_refl _)
  exact ⟨.tick _ :: ls, s', .cons (fun _ _ he => by cases he) hnp, run_cons_eq_some.mpr ⟨_, step_tick m s _, hr⟩, hP⟩

end

theorem can_settle {m : Mode} {k : Nat} {t0 : Time} (hk : 0 < k) {s : State} (h : Reachable m k t0 s) :
    ∃ ls s', NoPut ls ∧ run m s ls = some s' ∧ Settled s' :=
  can_reach (fun h hns =>
    let ⟨l, _, hput, htick, hs⟩ := unsettled_step h hk hns
    ⟨0, l, hput, htick, by rw [run_tick0_step]; exact hs.isSome⟩) h

/-- the same for a bound `n` on `rho s`; the bound plays no part -/
theorem settle {m : Mode} {k : Nat} {t0 : Time} (hk : 0 < k) : ∀ (n : Nat) {s : State},
    Reachable m k t0 s → rho s ≤ n → ∃ ls s', NoPut ls ∧ run m s ls = some s' ∧ Settled s' :=
  fun _ _ h _ => can_settle hk h

theorem can_complete {m : Mode} {k : Nat} {t0 : Time} (hk : 0 < k) {s : State} (h : Reachable m k t0 s) :
    ∃ ls s', NoPut ls ∧ run m s ls = some s' ∧ pendingTasks s' = [] :=
  can_reach (P := fun s => pendingTasks s = []) (fun h hp => no_deadlock h hk hp) h

end KcpVerif.Sched
