import Mathlib.LinearAlgebra.Vandermonde
import Mathlib.LinearAlgebra.Matrix.NonsingularInverse

/-!
# The systematic Vandermonde Reed–Solomon construction is MDS

The Mathlib side of the Reed–Solomon chain: abstract matrices over any field `F`, nothing about lists.
It is NOT the lemma file of `Model/RS.lean` (namespace `KcpVerif.RS`, lists of bytes): those are
`Lemmas/RSRows`, `RSGauss`, `RSRecon`, and `RSBridge` identifies the two.

klauspost/reedsolomon's `buildMatrix(d, n)` is `vm * vm[0:d]⁻¹` with `vm = vandermonde(n, d)`,
`vm[r][c] = r ^ c`; here the nodes are any `x : Fin n → F`, injective where needed (in `GF(2^8)` the
nodes `0, …, n-1` are distinct as long as `n ≤ 256`).  A data vector `v` (one symbol per data shard, at
a fixed byte offset) is encoded as `sysMatrix h x *ᵥ v`; decoding from `d` symbols at positions
`s : Fin d → Fin n` inverts the rows `s` and multiplies.  That this works for EVERY injective `s` is
the MDS property.  `MDS`, `vandermondeMDS` package the same facts as an illustration; the FEC theorems
use `FecSpec.Lawful` instead.
-/

namespace KcpVerif.Lemmas.RS

open Matrix

variable {F : Type*} [Field F] {d n : ℕ}

/-- `V r c = x r ^ c` (`n` rows, `d` columns): klauspost's `vandermonde(n, d)` with nodes `x`. -/
def vand (x : Fin n → F) : Matrix (Fin n) (Fin d) F := fun r c => x r ^ (c : ℕ)

def top (h : d ≤ n) (x : Fin n → F) : Matrix (Fin d) (Fin d) F :=
  fun r c => x (Fin.castLE h r) ^ (c : ℕ)

/-- klauspost's `buildMatrix`: `V * V_top⁻¹`. -/
noncomputable def sysMatrix (h : d ≤ n) (x : Fin n → F) : Matrix (Fin n) (Fin d) F :=
  vand x * (top h x)⁻¹

theorem vand_submatrix (x : Fin n → F) (s : Fin d → Fin n) :
    (vand x : Matrix (Fin n) (Fin d) F).submatrix s id = Matrix.vandermonde (x ∘ s) := by
  ext i j
  rfl

theorem top_eq_submatrix (h : d ≤ n) (x : Fin n → F) :
    top h x = (vand x : Matrix (Fin n) (Fin d) F).submatrix (Fin.castLE h) id := rfl

theorem select_det_ne_zero {x : Fin n → F} (hx : Function.Injective x)
    (s : Fin d → Fin n) (hs : Function.Injective s) :
    ((vand x : Matrix (Fin n) (Fin d) F).submatrix s id).det ≠ 0 := by
  rw [vand_submatrix]
  exact Matrix.det_vandermonde_ne_zero_iff.mpr (hx.comp hs)

theorem top_det_ne_zero (h : d ≤ n) {x : Fin n → F} (hx : Function.Injective x) :
    (top h x).det ≠ 0 := by
  rw [top_eq_submatrix]
  exact select_det_ne_zero hx _ (Fin.castLE_injective h)

theorem top_isUnit_det (h : d ≤ n) {x : Fin n → F} (hx : Function.Injective x) :
    IsUnit (top h x).det :=
  isUnit_iff_ne_zero.mpr (top_det_ne_zero h hx)

theorem submatrix_mul_left {a b c e : ℕ} (A : Matrix (Fin a) (Fin b) F) (B : Matrix (Fin b) (Fin c) F)
    (s : Fin e → Fin a) : (A * B).submatrix s id = A.submatrix s id * B := by
  ext i j
  rfl

theorem sys_submatrix {m : ℕ} (h : d ≤ n) (x : Fin n → F) (s : Fin m → Fin n) :
    (sysMatrix h x).submatrix s id
      = (vand x : Matrix (Fin n) (Fin d) F).submatrix s id * (top h x)⁻¹ :=
  submatrix_mul_left _ _ s

theorem sys_top (h : d ≤ n) {x : Fin n → F} (hx : Function.Injective x) :
    (sysMatrix h x).submatrix (Fin.castLE h) id = (1 : Matrix (Fin d) (Fin d) F) := by
  rw [sys_submatrix, ← top_eq_submatrix]
  exact Matrix.mul_nonsing_inv _ (top_isUnit_det h hx)

theorem sys_systematic (h : d ≤ n) {x : Fin n → F} (hx : Function.Injective x)
    (r : Fin d) (c : Fin d) :
    sysMatrix h x (Fin.castLE h r) c = (1 : Matrix (Fin d) (Fin d) F) r c :=
  congrFun (congrFun (sys_top h hx) r) c

theorem encode_systematic (h : d ≤ n) {x : Fin n → F} (hx : Function.Injective x)
    (v : Fin d → F) (i : Fin d) :
    (sysMatrix h x *ᵥ v) (Fin.castLE h i) = v i := by
  have h1 : (sysMatrix h x *ᵥ v) (Fin.castLE h i)
      = ((sysMatrix h x).submatrix (Fin.castLE h) id *ᵥ v) i := rfl
  rw [h1, sys_top h hx, Matrix.one_mulVec]

theorem sys_select_det_ne_zero (h : d ≤ n) {x : Fin n → F} (hx : Function.Injective x)
    (s : Fin d → Fin n) (hs : Function.Injective s) :
    ((sysMatrix h x).submatrix s id).det ≠ 0 := by
  rw [sys_submatrix, Matrix.det_mul]
  refine mul_ne_zero (select_det_ne_zero hx s hs) ?_
  exact (Matrix.isUnit_nonsing_inv_det _ (top_isUnit_det h hx)).ne_zero

theorem encode_select (h : d ≤ n) (x : Fin n → F) (s : Fin d → Fin n) (v : Fin d → F) :
    (fun i => (sysMatrix h x *ᵥ v) (s i)) = (sysMatrix h x).submatrix s id *ᵥ v := rfl

/-- klauspost's decoding procedure (invert the selected rows, multiply by the received
symbols) returns the data. -/
theorem decode_encode (h : d ≤ n) {x : Fin n → F} (hx : Function.Injective x)
    (s : Fin d → Fin n) (hs : Function.Injective s) (v : Fin d → F) :
    ((sysMatrix h x).submatrix s id)⁻¹ *ᵥ (fun i => (sysMatrix h x *ᵥ v) (s i)) = v := by
  rw [encode_select, Matrix.mulVec_mulVec,
    Matrix.nonsing_inv_mul _ (isUnit_iff_ne_zero.mpr (sys_select_det_ne_zero h hx s hs)),
    Matrix.one_mulVec]

theorem data_determined (h : d ≤ n) {x : Fin n → F} (hx : Function.Injective x)
    (s : Fin d → Fin n) (hs : Function.Injective s) (v w : Fin d → F)
    (heq : ∀ i, (sysMatrix h x *ᵥ v) (s i) = (sysMatrix h x *ᵥ w) (s i)) : v = w := by
  rw [← decode_encode h hx s hs v, ← decode_encode h hx s hs w]
  exact congrArg _ (funext heq)

theorem vand_mulVec_single (x : Fin n → F) (hd : 0 < d) :
    (vand x : Matrix (Fin n) (Fin d) F) *ᵥ Pi.single ⟨0, hd⟩ 1 = 1 := by
  rw [Matrix.mulVec_single_one]
  ext r
  simp [vand, Matrix.col_apply]

theorem top_mulVec_single (h : d ≤ n) (x : Fin n → F) (hd : 0 < d) :
    top h x *ᵥ Pi.single ⟨0, hd⟩ 1 = 1 :=
  funext fun r => congrFun (vand_mulVec_single x hd) (Fin.castLE h r)

theorem sys_mulVec_one (h : d ≤ n) {x : Fin n → F} (hx : Function.Injective x) (hd : 0 < d) :
    sysMatrix h x *ᵥ 1 = 1 := by
  -- the all-ones vector is column `0` of `vand x` and of `top h x`
  have h1 : sysMatrix h x *ᵥ (top h x *ᵥ Pi.single ⟨0, hd⟩ 1) = 1 := by
    rw [Matrix.mulVec_mulVec, sysMatrix, Matrix.mul_assoc,
      Matrix.nonsing_inv_mul _ (top_isUnit_det h hx), Matrix.mul_one, vand_mulVec_single]
  rwa [top_mulVec_single] at h1

theorem rows_sum_one (h : d ≤ n) {x : Fin n → F} (hx : Function.Injective x) (hd : 0 < d)
    (r : Fin n) : ∑ c, sysMatrix h x r c = 1 := by
  have h1 := congrFun (sys_mulVec_one h hx hd) r
  simpa [Matrix.mulVec, dotProduct] using h1

/-- A byte position on which all data shards agree is reproduced in every shard,
in particular in every parity shard. -/
theorem encode_const (h : d ≤ n) {x : Fin n → F} (hx : Function.Injective x) (hd : 0 < d)
    (a : F) (r : Fin n) : (sysMatrix h x *ᵥ fun _ => a) r = a := by
  have h1 : (sysMatrix h x *ᵥ fun _ => a) r = (∑ c, sysMatrix h x r c) * a := by
    simp [Matrix.mulVec, dotProduct, Finset.sum_mul]
  rw [h1, rows_sum_one h hx hd, one_mul]

theorem row_depends_on_top_and_node {n' : ℕ} (h : d ≤ n) (h' : d ≤ n')
    (x : Fin n → F) (x' : Fin n' → F)
    (htop : ∀ i : Fin d, x (Fin.castLE h i) = x' (Fin.castLE h' i))
    (r : Fin n) (r' : Fin n') (hr : x r = x' r') :
    sysMatrix h x r = sysMatrix h' x' r' := by
  have ht : top h x = top h' x' := by
    ext i j
    simp only [top, htop]
  funext c
  simp only [sysMatrix, Matrix.mul_apply, vand, ht, hr]

structure MDS (F : Type*) (d n : ℕ) where
  le : d ≤ n
  gen : (Fin d → F) → (Fin n → F)
  systematic : ∀ v (i : Fin d), gen v (Fin.castLE le i) = v i
  determined : ∀ (s : Fin d → Fin n), Function.Injective s →
    ∀ v w, (∀ i, gen v (s i) = gen w (s i)) → v = w

noncomputable def vandermondeMDS (h : d ≤ n) (x : Fin n → F) (hx : Function.Injective x) :
    MDS F d n where
  le := h
  gen v := sysMatrix h x *ᵥ v
  systematic v i := encode_systematic h hx v i
  determined s hs v w heq := data_determined h hx s hs v w heq

@[simp]
theorem vandermondeMDS_gen (h : d ≤ n) (x : Fin n → F) (hx : Function.Injective x)
    (v : Fin d → F) : (vandermondeMDS h x hx).gen v = sysMatrix h x *ᵥ v := rfl

/-- Shards of `L` symbols, encoded column by column (byte offset by byte offset). -/
def MDS.genShards {F : Type*} {d n L : ℕ} (C : MDS F d n) (D : Fin d → Fin L → F) :
    Fin n → Fin L → F :=
  fun r l => C.gen (fun j => D j l) r

theorem MDS.genShards_systematic {F : Type*} {d n L : ℕ} (C : MDS F d n)
    (D : Fin d → Fin L → F) (i : Fin d) : C.genShards D (Fin.castLE C.le i) = D i := by
  funext l
  exact C.systematic _ i

theorem MDS.column_wise {F : Type*} {d n L : ℕ} (C : MDS F d n)
    (s : Fin d → Fin n) (hs : Function.Injective s) (D W : Fin d → Fin L → F)
    (heq : ∀ i, C.genShards D (s i) = C.genShards W (s i)) : D = W := by
  funext j l
  have hcol : (fun j => D j l) = fun j => W j l :=
    C.determined s hs _ _ fun i => congrFun (heq i) l
  exact congrFun hcol j

/-! ### Non-vacuity: the hypotheses are satisfiable -/

section Examples

theorem natCast_nodes_injective (n : ℕ) :
    Function.Injective (fun i : Fin n => ((i : ℕ) : ℚ)) :=
  fun _ _ hab => Fin.ext (Nat.cast_injective hab)

example : Function.Injective (fun i : Fin 4 => ((i : ℕ) : ℚ)) := natCast_nodes_injective 4

noncomputable example : MDS ℚ 2 4 :=
  vandermondeMDS (by decide) (fun i : Fin 4 => ((i : ℕ) : ℚ)) (natCast_nodes_injective 4)

/-- Decoding from the two parity symbols alone. -/
example (v : Fin 2 → ℚ) :
    ((sysMatrix (by decide : 2 ≤ 4) (fun i : Fin 4 => ((i : ℕ) : ℚ))).submatrix
        ![2, 3] id)⁻¹ *ᵥ
      (fun i => (sysMatrix (by decide : 2 ≤ 4) (fun i : Fin 4 => ((i : ℕ) : ℚ)) *ᵥ v)
        (![2, 3] i)) = v :=
  decode_encode _ (natCast_nodes_injective 4) ![2, 3] (by decide) v

example (r : Fin 4) :
    ∑ c, sysMatrix (by decide : 2 ≤ 4) (fun i : Fin 4 => ((i : ℕ) : ℚ)) r c = 1 :=
  rows_sum_one _ (natCast_nodes_injective 4) (by decide) r

/-- The parity row for node `2` is the same in a `(4, 2)` and in a `(3, 2)` code. -/
example :
    sysMatrix (by decide : 2 ≤ 4) (fun i : Fin 4 => ((i : ℕ) : ℚ)) 2
      = sysMatrix (by decide : 2 ≤ 3) (fun i : Fin 3 => ((i : ℕ) : ℚ)) 2 :=
  row_depends_on_top_and_node _ _ _ _ (fun i => by simp) 2 2 (by simp)

end Examples

end KcpVerif.Lemmas.RS
