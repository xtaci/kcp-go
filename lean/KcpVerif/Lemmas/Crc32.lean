import KcpVerif.Model.Crc32
import KcpVerif.Lemmas.Fold
/-!
The bitwise CRC-32 is GF(2)-linear jointly in (register, message), so a corruption `e` changes the
checksum iff the zero-init register run over `e` is non-zero.  For a burst of at most 32 bits it is:
the feedback bit of every step lands in bit 31, so a register below `2^t` after `m` steps
(`m + t ≤ 32`) forces every feedback bit, hence every message bit, to be 0; and shifting in zero
bits afterwards never clears a non-zero register.  Of the polynomial only two facts are used: bit 31
of the reflected constant is set (the generator's constant term is 1) and the register is 32 bits wide.
-/
namespace KcpVerif.Crc32

theorem poly_bit31 : poly.getLsbD 31 = true := by decide

theorem step_eq (r : BitVec 32) (b : Bool) :
    step r b = (r >>> 1) ^^^ (if (r.getLsbD 0 != b) then poly else 0) := by
  unfold step
  cases (r.getLsbD 0 != b)
  · simp
  · simp

theorem scale_xor (p : BitVec 32) (a b : Bool) :
    (if (a != b) then p else 0) = (if a then p else 0) ^^^ (if b then p else 0) := by
  cases a <;> cases b <;> simp

theorem step_xor (r1 r2 : BitVec 32) (b1 b2 : Bool) :
    step (r1 ^^^ r2) (b1 != b2) = step r1 b1 ^^^ step r2 b2 := by
  have e : ((r1 ^^^ r2).getLsbD 0 != (b1 != b2)) = ((r1.getLsbD 0 != b1) != (r2.getLsbD 0 != b2)) := by
    rw [BitVec.getLsbD_xor]
    cases r1.getLsbD 0 <;> cases r2.getLsbD 0 <;> cases b1 <;> cases b2 <;> rfl
  rw [step_eq, step_eq, step_eq, e, scale_xor, BitVec.ushiftRight_xor_distrib]
  ac_rfl

theorem run_xor (a e : List Bool) (h : a.length = e.length) (r1 r2 : BitVec 32) :
    run (r1 ^^^ r2) (List.zipWith (· != ·) a e) = run r1 a ^^^ run r2 e := by
  induction a generalizing e r1 r2 with
  | nil => cases e with
    | nil => rfl
    | cons _ _ => simp at h
  | cons x xs ih => cases e with
    | nil => simp at h
    | cons y ys =>
      simp only [List.length_cons, Nat.add_right_cancel_iff] at h
      simp only [run, List.zipWith_cons_cons, List.foldl_cons]
      rw [step_xor]
      exact ih ys h _ _

theorem run_append (r : BitVec 32) (a b : List Bool) : run r (a ++ b) = run (run r a) b := by
  simp [run, List.foldl_append]

theorem update_eq_run (r : BitVec 32) (bs : List UInt8) : update r bs = run r (bitsOf bs) :=
  List.foldl_flatMap.symm

theorem bitsOfByte_length (x : UInt8) : (bitsOfByte x).length = 8 := rfl

theorem bitsOfByte_xor (x y : UInt8) :
    bitsOfByte (x ^^^ y) = List.zipWith (· != ·) (bitsOfByte x) (bitsOfByte y) := by
  simp only [bitsOfByte, UInt8.toNat_xor, Nat.testBit_xor, List.zipWith_cons_cons, List.zipWith_nil_left]

theorem bitsOf_length (a : List UInt8) : (bitsOf a).length = 8 * a.length := by
  induction a with
  | nil => rfl
  | cons x xs ih => simp only [bitsOf, List.flatMap_cons, List.length_append, List.length_cons] at ih ⊢; rw [ih, bitsOfByte_length]; omega

theorem bitsOf_xorBytes (a e : List UInt8) (h : a.length = e.length) :
    bitsOf (xorBytes a e) = List.zipWith (· != ·) (bitsOf a) (bitsOf e) := by
  induction a generalizing e with
  | nil => cases e with
    | nil => rfl
    | cons _ _ => simp at h
  | cons x xs ih => cases e with
    | nil => simp at h
    | cons y ys =>
      simp only [List.length_cons, Nat.add_right_cancel_iff] at h
      have := ih ys h
      simp only [xorBytes, bitsOf, List.zipWith_cons_cons, List.flatMap_cons] at this ⊢
      rw [List.zipWith_append (by simp [bitsOfByte_length]), this, bitsOfByte_xor]

theorem crc32_xor (a e : List UInt8) (h : a.length = e.length) :
    crc32 (xorBytes a e) = crc32 a ^^^ update 0 e := by
  simp only [crc32, update_eq_run, bitsOf_xorBytes a e h]
  have := run_xor (bitsOf a) (bitsOf e) (by rw [bitsOf_length, bitsOf_length, h]) 0xFFFFFFFF#32 0#32
  rw [BitVec.xor_zero] at this
  rw [this, BitVec.xor_assoc, BitVec.xor_comm (run 0#32 (bitsOf e)), ← BitVec.xor_assoc]
  rfl

theorem step_zero_false : step 0 false = 0 := by decide

theorem run_zero_of_all_false (l : List Bool) (h : ∀ b ∈ l, b = false) : run 0 l = 0 :=
  foldl_inv_mem (P := (· = 0)) l (fun r b hb hr => by rw [hr, h b hb, step_zero_false]) 0 rfl

theorem run_zero_replicate (n : Nat) : run 0 (List.replicate n false) = 0 :=
  run_zero_of_all_false _ (fun _ hb => (List.mem_replicate.mp hb).2)

theorem step_bit31 (r : BitVec 32) (b : Bool) : (step r b).getLsbD 31 = (r.getLsbD 0 != b) := by
  unfold step
  cases h : (r.getLsbD 0 != b)
  · simp only [Bool.false_eq_true, if_false]
    rw [BitVec.getLsbD_ushiftRight]
    exact BitVec.getLsbD_of_ge _ _ (by decide)
  · simp only [if_true]
    rw [BitVec.getLsbD_xor, poly_bit31, BitVec.getLsbD_ushiftRight, BitVec.getLsbD_of_ge _ _ (by decide)]
    rfl

theorem toNat_ge_of_bit31 (x : BitVec 32) (h : x.getLsbD 31 = true) : 2 ^ 31 ≤ x.toNat := by
  rw [← BitVec.testBit_toNat] at h
  exact Nat.ge_two_pow_of_testBit h

theorem step_lt (r : BitVec 32) (b : Bool) (t : Nat) (ht : t ≤ 31) (h : (step r b).toNat < 2 ^ t) :
    (r.getLsbD 0 != b) = false ∧ r.toNat < 2 ^ (t + 1) := by
  have hfb : (r.getLsbD 0 != b) = false := by
    cases hf : (r.getLsbD 0 != b) with
    | false => rfl
    | true =>
      have := toNat_ge_of_bit31 _ ((step_bit31 r b).trans hf)
      have : 2 ^ t ≤ 2 ^ 31 := Nat.pow_le_pow_right (by decide) ht
      omega
  refine ⟨hfb, ?_⟩
  unfold step at h
  rw [hfb] at h
  simp only [Bool.false_eq_true, if_false, BitVec.toNat_ushiftRight, Nat.shiftRight_eq_div_pow, Nat.pow_one] at h
  rw [Nat.pow_succ]
  omega

theorem step_false_ne_zero (r : BitVec 32) (h : r ≠ 0) : step r false ≠ 0 := by
  intro hz
  have hlt : (step r false).toNat < 2 ^ 0 := by rw [hz]; decide
  have := step_lt r false 0 (by decide) hlt
  have h0 : r.getLsbD 0 = false := by simpa using this.1
  have h1 : r.toNat < 2 := by simpa using this.2
  rw [← BitVec.testBit_toNat, Nat.testBit_zero] at h0
  have : r.toNat = 0 := by
    have : ¬ (r.toNat % 2 = 1) := by simpa using h0
    omega
  exact h (BitVec.eq_of_toNat_eq this)

theorem run_false_ne_zero (r : BitVec 32) (n : Nat) (h : r ≠ 0) : run r (List.replicate n false) ≠ 0 :=
  foldl_inv_mem (P := (· ≠ 0)) _
    (fun r b hb hr => by rw [(List.mem_replicate.mp hb).2]; exact step_false_ne_zero r hr) r h

/-- the message bits are given last first, so that the induction peels the last step -/
theorem run_zero_lt (rev : List Bool) (t : Nat) (hlen : rev.length + t ≤ 32)
    (h : (run 0 rev.reverse).toNat < 2 ^ t) : ∀ b ∈ rev, b = false := by
  induction rev generalizing t with
  | nil => intro b hb; cases hb
  | cons x xs ih =>
    simp only [List.length_cons] at hlen
    simp only [List.reverse_cons, run_append] at h
    have h' : (step (run 0 xs.reverse) x).toNat < 2 ^ t := by simpa [run] using h
    have hs := step_lt _ x t (by omega) h'
    have hxs := ih (t + 1) (by omega) hs.2
    have hr : run 0 xs.reverse = 0 := run_zero_of_all_false _ (fun b hb => hxs b (List.mem_reverse.mp hb))
    have hx : x = false := by
      have := hs.1
      rw [hr] at this
      simpa using this
    intro b hb
    cases hb with
    | head => exact hx
    | tail _ hb => exact hxs b hb

theorem run_zero_short (bits : List Bool) (hlen : bits.length ≤ 32) (hne : true ∈ bits) : run 0 bits ≠ 0 := by
  intro hz
  have h := run_zero_lt bits.reverse 0 (by simpa using hlen) (by rw [List.reverse_reverse, hz]; decide)
  have := h true (List.mem_reverse.mpr hne)
  cases this

theorem run_burst_ne_zero (i j : Nat) (burst : List Bool) (hb : burst.length ≤ 32) (hne : true ∈ burst) :
    run 0 (List.replicate i false ++ burst ++ List.replicate j false) ≠ 0 := by
  rw [run_append, run_append, run_zero_replicate]
  exact run_false_ne_zero _ _ (run_zero_short burst hb hne)

theorem crc32_burst (a e : List UInt8) (i j : Nat) (burst : List Bool)
    (hlen : a.length = e.length)
    (hbits : bitsOf e = List.replicate i false ++ burst ++ List.replicate j false)
    (hb : burst.length ≤ 32) (hne : true ∈ burst) :
    crc32 (xorBytes a e) ≠ crc32 a := by
  rw [crc32_xor a e hlen]
  intro h
  have := (BitVec.xor_right_inj _).mp (h.trans BitVec.xor_zero.symm)
  rw [update_eq_run, hbits] at this
  exact run_burst_ne_zero i j burst hb hne this

end KcpVerif.Crc32
