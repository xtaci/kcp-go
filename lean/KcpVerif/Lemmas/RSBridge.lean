/-
The executable Reed–Solomon code of `Model/RS` (lists of bytes, arithmetic of `Model/GF256`) IS the
systematic Vandermonde code of `Lemmas/RS` (here `RS.vand`, `RS.sysMatrix` are that file's) over the field
`GF` with the nodes `0, 1, …, n−1` (`buildMatrix_spec`), and therefore satisfies the list-level MDS law
`Lawful` for every ratio the FEC layer accepts: `rsNew_lawful` is `recon_mds` — the list decoder undoes
the encoder for any coding matrix with identity top square and non-singular `d`-row selections — at
`buildMatrix`.  List matrices are compared through `toM` only (`Lemmas/RSRows`).
-/
import KcpVerif.Lemmas.RSGauss
import KcpVerif.Lemmas.RSRecon
import KcpVerif.Lemmas.RS

namespace KcpVerif.Lemmas.RSBridge
open KcpVerif.RS KcpVerif.Lemmas.RSRows KcpVerif.Lemmas.RSGauss KcpVerif.Lemmas.RSRecon
open KcpVerif.Lemmas.GF256 (GF)
open KcpVerif.Lemmas.FecSpec KcpVerif.Fec

theorem getD_map_range {α : Type} (f : Nat → α) {n i : Nat} (hi : i < n) (dflt : α) :
    ((List.range n).map f).getD i dflt = f i := by
  rw [List.getD_eq_getElem?_getD, List.getElem?_map, List.getElem?_range hi]; rfl

/-- klauspost's Vandermonde nodes `byte(r)`, `r = 0, 1, …, n − 1` -/
def node (n : Nat) : Fin n → GF := fun i => GF.of (UInt8.ofNat i.val)

theorem node_injective {n : Nat} (hn : n ≤ 256) : Function.Injective (node n) :=
  GF.node_injective hn

theorem shaped_vandermonde (n d : Nat) : Shaped n d (vandermonde n d) := by
  constructor
  · simp [vandermonde]
  · intro row h
    simp only [vandermonde, List.mem_map, List.mem_range] at h
    obtain ⟨r, _, rfl⟩ := h
    simp

theorem toM_vandermonde (n d : Nat) : toM n d (vandermonde n d) = RS.vand (node n) := by
  ext i j
  unfold toM RS.vand node vandermonde
  rw [getD_map_range _ i.isLt]
  unfold ent
  rw [getD_map_range _ j.isLt, GF.pow_def]

theorem toM_top {d n : Nat} (h : d ≤ n) :
    toM d d ((vandermonde n d).take d) = RS.top h (node n) := by
  rw [toM_take (r := n) _ h, toM_vandermonde, RS.top_eq_submatrix]

theorem buildMatrix_spec {d n : Nat} (h : d ≤ n) (hn : n ≤ 256) :
    Shaped n d (buildMatrix d n) ∧ toM n d (buildMatrix d n) = RS.sysMatrix h (node n) := by
  have hx := node_injective hn
  have htopS : Shaped d d ((vandermonde n d).take d) := shaped_take (shaped_vandermonde n d) h
  have hdet : (toM d d ((vandermonde n d).take d)).det ≠ 0 := by
    rw [toM_top h]; exact RS.top_det_ne_zero h hx
  obtain ⟨ti, hti, htiS, hmul⟩ := invert_spec htopS hdet
  have hinv : toM d d ti = (RS.top h (node n))⁻¹ := by
    rw [toM_top h] at hmul
    exact (Matrix.inv_eq_left_inv hmul).symm
  have hbm : buildMatrix d n = (vandermonde n d).map fun r => combine d r ti := by
    unfold buildMatrix
    simp only [hti]
  rw [hbm]
  refine ⟨shaped_map_combine (shaped_vandermonde n d).1 htiS.2, ?_⟩
  rw [toM_map_combine (shaped_vandermonde n d) htiS, toM_vandermonde, hinv]; rfl

theorem buildMatrix_row_sum {d p : Nat} (hd : 0 < d) (hn : d + p ≤ 256) :
    ∀ row ∈ buildMatrix d (d + p), row.length = d ∧ ∑ j ∈ Finset.range d, ent row j = 1 := by
  intro row hrow
  obtain ⟨⟨hlen, hrows⟩, hM⟩ := buildMatrix_spec (Nat.le_add_right d p) hn
  obtain ⟨i, hi, rfl⟩ := List.getElem_of_mem hrow
  have hsum : ∑ c : Fin d, ent ((buildMatrix d (d + p)).getD i []) c.val = 1 := by
    have h := RS.rows_sum_one (Nat.le_add_right d p) (node_injective hn) hd ⟨i, hlen ▸ hi⟩
    rw [← hM] at h
    exact h
  rw [Fin.sum_univ_eq_sum_range (fun j => ent ((buildMatrix d (d + p)).getD i []) j) d,
    List.getD_eq_getElem?_getD, List.getElem?_eq_getElem hi, Option.getD_some] at hsum
  exact ⟨hrows _ hrow, hsum⟩

theorem encode_eq {d L : Nat} (m : LM) {data : List Shard} (hd : 0 < d) (hdl : data.length = d)
    (hsz : ∀ s ∈ data, s.length = L) :
    encode m d data = (m.drop d).map fun row => combine L row data := by
  have : (data.headD []).length = L := by
    cases data with
    | nil => simp at hdl; omega
    | cons s _ => exact hsz s (by simp)
  unfold encode; rw [this]

/-- `encode` computes the parity rows only: the identity top square makes the data the first `d` rows
    of the product -/
theorem codeword_eq {d p L : Nat} {m : LM} (hm : Shaped (d + p) d m)
    (htop : (toM (d + p) d m).submatrix (Fin.castLE (Nat.le_add_right d p)) id = 1)
    {data : List Shard} (hd : 0 < d) (hD : Shaped d L data) :
    data ++ encode m d data = m.map fun row => combine L row data := by
  have hk := Nat.le_add_right d p
  have htake : data = (m.take d).map fun row => combine L row data :=
    toM_inj hD (shaped_map_combine (shaped_take hm hk).1 hD.2) (by
      rw [toM_map_combine (shaped_take hm hk) hD, toM_take (r := d + p) m hk, htop, Matrix.one_mul])
  have := List.map_append (f := fun row => combine L row data) (l₁ := m.take d) (l₂ := m.drop d)
  rw [List.take_append_drop, ← htake] at this
  rw [encode_eq m hd hD.1 hD.2]
  exact this.symm

theorem recon_mds {d p L : Nat} {m : LM} (hm : Shaped (d + p) d m)
    (htop : (toM (d + p) d m).submatrix (Fin.castLE (Nat.le_add_right d p)) id = 1)
    (hmds : ∀ s : Fin d → Fin (d + p), Function.Injective s →
      ((toM (d + p) d m).submatrix s id).det ≠ 0)
    {data : List Shard} (present : List Bool) (hd : 0 < d) (hL : 0 < L) (hD : Shaped d L data)
    (hpl : present.length = d + p) (hcnt : d ≤ present.count true) :
    reconstructData m d (mask present (data ++ encode m d data)) = some data := by
  have hcw := codeword_eq hm htop hd hD
  have hcwS : Shaped (d + p) L (data ++ encode m d data) := hcw ▸ shaped_map_combine hm.1 hD.2
  have htk : (data ++ encode m d data).take d = data := List.take_left' hD.1
  refine (reconstructData_mask m d p L _ present hd hL hm.1 hcwS.1 hcwS.2 hpl hcnt ?_).trans
    (congrArg some htk)
  -- the first `d` present shards `fp`: increasing indices, each with the row of the codeword there
  generalize hfp : firstPresent d 0 (mask present (data ++ encode m d data)) = fp
  have hfpm : ∀ js ∈ fp, (data ++ encode m d data)[js.1]? = some js.2 := fun js h =>
    getElem?_mask (firstPresent_mem d 0 _ js (hfp ▸ h)).2
  have hidxlen : (fp.map (·.1)).length = d := by
    rw [List.length_map, ← hfp, firstPresent_length d 0 _ (by
      rw [countP_mask _ _ (hpl.trans hcwS.1.symm)]; exact hcnt)]
  have hval : fp.map (·.2) = (fp.map (·.1)).map fun j => (data ++ encode m d data).getD j [] := by
    rw [List.map_map]
    apply List.map_congr_left
    intro js h
    show js.2 = ((data ++ encode m d data)[js.1]?).getD []
    rw [hfpm js h]; rfl
  have hmem : ∀ i ∈ fp.map (·.1), i < d + p := fun i hi => by
    obtain ⟨js, h, rfl⟩ := List.mem_map.1 hi
    exact hcwS.1 ▸ (List.getElem?_eq_some_iff.1 (hfpm js h)).1
  have hidxlt : ∀ j (hj : j < (fp.map (·.1)).length), (fp.map (·.1))[j] < d + p :=
    fun j hj => hmem _ (List.getElem_mem hj)
  have hs := select_injective _ hidxlen hidxlt (hfp ▸ firstPresent_pairwise d 0 _)
  have hsubM := toM_select (c := d) m _ hidxlen hidxlt
  obtain ⟨dec, hdec, hdecS, hdecM⟩ := invert_spec (shaped_select hm hidxlen hmem)
    (by rw [hsubM]; exact hmds _ hs)
  have hvalS := shaped_select hcwS hidxlen hmem
  refine ⟨dec, by rw [← hdec, List.map_map]; rfl, ?_⟩
  -- `dec · (selected rows of m · data) = data`
  rw [htk, hval]
  refine (toM_inj hD (shaped_map_combine hdecS.1 hvalS.2) ?_).symm
  rw [toM_map_combine hdecS hvalS, toM_select (c := L) _ _ hidxlen hidxlt, hcw,
    toM_map_combine hm hD, RS.submatrix_mul_left, ← hsubM, ← Matrix.mul_assoc, hdecM, Matrix.one_mul]

/-- The executable GF(2^8) Reed–Solomon code satisfies the list-level MDS law for every ratio
    `1 ≤ d`, `1 ≤ p`, `d + p ≤ 256`. -/
theorem rsNew_lawful : Lawful rsNew where
  enc_length d p data _ _ hn _ := by
    show (encode (buildMatrix d (d + p)) d data).length = p
    unfold encode
    rw [List.length_map, List.length_drop, (buildMatrix_spec (Nat.le_add_right d p) hn).1.1]
    omega
  enc_size d p L data hd _ _ hdl hsz s hs := by
    have hs' : s ∈ encode (buildMatrix d (d + p)) d data := hs
    rw [encode_eq _ hd hdl hsz] at hs'
    exact (shaped_map_combine rfl hsz).2 s hs'
  recon d p L data present hd _ hn hL hdl hsz hpl hcnt := by
    obtain ⟨hmS, hmM⟩ := buildMatrix_spec (Nat.le_add_right d p) hn
    have hx := node_injective hn
    refine recon_mds hmS ?_ ?_ present hd hL ⟨hdl, hsz⟩ hpl hcnt
    · rw [hmM]; exact RS.sys_top _ hx
    · intro s hs; rw [hmM]; exact RS.sys_select_det_ne_zero _ hx s hs

end KcpVerif.Lemmas.RSBridge
