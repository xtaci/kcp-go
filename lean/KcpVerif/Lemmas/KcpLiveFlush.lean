/-
`flush` cut into its phases (every intermediate value of the model's `let` chain gets a name), the frame
of each phase, and the send side after a flush in closed form.  Core Lean only.
-/
import KcpVerif.Lemmas.KcpXmit

namespace KcpVerif.Live
open KcpVerif.Gen KcpVerif.Kcp

/-- phase 1: the ack list -/
def flAck (k : Kcp) : AckSt :=
  ackFlush (wndUnused k) k.rcv_nxt k.acklist.length k.acklist 0
    ⟨{ k := k }, { cmd := BitVec.ofNat 8 IKCP_CMD_ACK }⟩

def flF1 (k : Kcp) : Fl := { (flAck k).f with k := { (flAck k).f.k with acklist := [] } }

/-- phase 2: probe timer -/
def flF2 (k : Kcp) (now : U32) : Fl := { flF1 k with k := probePhase (flF1 k).k now }

/-- phase 3: WASK -/
def flF3a (k : Kcp) (now : U32) : Fl :=
  if (flF2 k now).k.probe &&& u32 IKCP_ASK_SEND ≠ 0 then
    ((flF2 k now).makeSpace IKCP_OVERHEAD).putHdr
      (encodeHdr (flF2 k now).k.conv (BitVec.ofNat 8 IKCP_CMD_WASK) 0 (wndUnused k) (flAck k).sc.ts (flAck k).sc.sn k.rcv_nxt 0)
  else flF2 k now

/-- phase 3: WINS -/
def flF3b (k : Kcp) (now : U32) : Fl :=
  if (flF3a k now).k.probe &&& u32 IKCP_ASK_TELL ≠ 0 then
    ((flF3a k now).makeSpace IKCP_OVERHEAD).putHdr
      (encodeHdr (flF3a k now).k.conv (BitVec.ofNat 8 IKCP_CMD_WINS) 0 (wndUnused k) (flAck k).sc.ts (flAck k).sc.sn k.rcv_nxt 0)
  else flF3a k now

def flF3 (k : Kcp) (now : U32) : Fl := { flF3b k now with k := { (flF3b k now).k with probe := 0 } }

/-- `cwnd := min(snd_wnd, rmt_wnd); if nocwnd == 0 { cwnd = min(kcp.cwnd, cwnd) }` of `flush` -/
def effWnd (k : Kcp) : U32 :=
  if k.nocwnd = 0 then
    (if k.cwnd ≤ (if k.snd_wnd ≤ k.rmt_wnd then k.snd_wnd else k.rmt_wnd) then k.cwnd
     else (if k.snd_wnd ≤ k.rmt_wnd then k.snd_wnd else k.rmt_wnd))
  else (if k.snd_wnd ≤ k.rmt_wnd then k.snd_wnd else k.rmt_wnd)

def flAd (k : Kcp) (now : U32) : AdmitRes :=
  admitSegs (flF3 k now).k.conv (flF3 k now).k.snd_una (effWnd (flF3 k now).k) now
    (flF3 k now).k.snd_queue (flF3 k now).k.snd_buf (flF3 k now).k.snd_nxt 0

def flF4 (k : Kcp) (now : U32) : Fl :=
  { flF3 k now with k := { (flF3 k now).k with snd_queue := (flAd k now).queue, snd_buf := (flAd k now).buf,
                                                 snd_nxt := (flAd k now).nxt } }

/-- `resent` of `flush`: `fastresend`, or `0xffffffff` when that is not positive -/
def resentOf (k : Kcp) : U32 := if k.fastresend.sle 0 then 0xFFFFFFFF#32 else k.fastresend

theorem resentOf_ne_zero (k : Kcp) : resentOf k ≠ 0 := by
  unfold resentOf
  split
  · decide
  · rename_i h
    intro hc
    rw [hc] at h
    exact h (by decide)

def flX (k : Kcp) (full : Bool) (now : U32) : XmitSt :=
  if full then (flF4 k now).k.snd_buf.foldl
      (xmitOne now (resentOf (flF4 k now).k) (wndUnused k) k.rcv_nxt (flAd k now).count)
      { f := flF4 k now, next := (flF4 k now).k.interval }
  else { f := flF4 k now, done := (flF4 k now).k.snd_buf, next := (flF4 k now).k.interval }

def flF5 (k : Kcp) (full : Bool) (now : U32) : Fl :=
  { (flX k full now).f with k := { (flX k full now).f.k with snd_buf := (flX k full now).done } }

theorem flush_eq (k : Kcp) (full : Bool) (now : U32) :
    flush k full now =
      ⟨phase6 (flF5 k full now).k (effWnd (flF3 k now).k) (resentOf (flF4 k now).k) (flX k full now).change
          (flX k full now).lost,
       if (flF5 k full now).cur.length > 0 then (flF5 k full now).outs ++ [(flF5 k full now).cur]
       else (flF5 k full now).outs,
       (flX k full now).next, (flF5 k full now).panic⟩ := rfl

/-- one turn of the ack loop of `flush`: room is made for a header, and it is written unless the entry is below
`rcv_nxt` and not the last -/
def ackStep (wnd : BitVec 16) (una : U32) (total : Nat) (a : Ack) (i : Nat) (st : AckSt) : AckSt :=
  if itimediff a.sn st.f.k.rcv_nxt ≥ 0 ∨ total - 1 = i then
    ⟨(st.f.makeSpace IKCP_OVERHEAD).putHdr (encodeHdr st.f.k.conv st.sc.cmd 0 wnd a.ts a.sn una 0),
     { st.sc with sn := a.sn, ts := a.ts }⟩
  else ⟨st.f.makeSpace IKCP_OVERHEAD, st.sc⟩

theorem ackFlush_cons (wnd : BitVec 16) (una : U32) (total : Nat) (a : Ack) (rest : List Ack) (i : Nat) (st : AckSt) :
    ackFlush wnd una total (a :: rest) i st = ackFlush wnd una total rest (i + 1) (ackStep wnd una total a i st) := by
  rw [ackFlush]
  simp only [Fl.makeSpace_k, ackStep]
  split <;> rfl

theorem ackStep_k (wnd : BitVec 16) (una : U32) (total : Nat) (a : Ack) (i : Nat) (st : AckSt) :
    (ackStep wnd una total a i st).f.k = st.f.k ∧ (ackStep wnd una total a i st).sc.cmd = st.sc.cmd := by
  unfold ackStep
  split
  · exact ⟨by simp only [Fl.putHdr_k, Fl.makeSpace_k], rfl⟩
  · exact ⟨by simp only [Fl.makeSpace_k], rfl⟩

theorem ackFlush_ext (wnd : BitVec 16) (una : U32) (total : Nat) (l : List Ack) (i : Nat) (st : AckSt) :
    Fl.Ext st.f (ackFlush wnd una total l i st).f :=
  ackFlush_forall (P := Fl.Ext st.f) wnd una total st.sc.cmd (fun _ h => h.trans (Fl.makeSpace_ext _ _))
    (fun _ _ h => (h.trans (Fl.makeSpace_ext _ _)).trans (Fl.putHdr_ext _ _)) l i st rfl (Fl.Ext.refl _)

/-- the jitter filter of phase 1 always keeps the LAST entry of the ack list: its header is the
last thing phase 1 writes, and the scratch segment keeps its `sn`/`ts` -/
theorem ackFlush_last (wnd : BitVec 16) (una : U32) (total : Nat) (l : List Ack) (i : Nat) (st : AckSt)
    (a : Ack) (hl : l.getLast? = some a) (hi : i + l.length = total)
    (hp : (ackFlush wnd una total l i st).f.panic = false) :
    (∃ pre, (ackFlush wnd una total l i st).f.liveWire = pre ++ encodeHdr st.f.k.conv st.sc.cmd 0 wnd a.ts a.sn una 0) ∧
    (ackFlush wnd una total l i st).sc.sn = a.sn ∧ (ackFlush wnd una total l i st).sc.ts = a.ts := by
  induction l generalizing i st with
  | nil => simp at hl
  | cons b rest ih =>
    rw [ackFlush_cons] at hp ⊢
    cases rest with
    | nil =>
      simp only [List.getLast?_singleton, Option.some.injEq] at hl
      subst hl
      have hc : total - 1 = i := by simp at hi; omega
      simp only [ackFlush] at hp ⊢
      unfold ackStep at hp ⊢
      rw [if_pos (Or.inr hc)] at hp ⊢
      have hw := Fl.putHdr_wire _ _ hp
      exact ⟨⟨_, hw.1⟩, rfl, rfl⟩
    | cons c r =>
      rw [List.getLast?_cons_cons] at hl
      have hi' : (i + 1) + (c :: r).length = total := by
        simp only [List.length_cons] at hi ⊢; omega
      have h := ih (i + 1) (ackStep wnd una total b i st) hl hi' hp
      rw [(ackStep_k wnd una total b i st).1, (ackStep_k wnd una total b i st).2] at h
      exact h

theorem flAck_k (k : Kcp) : (flAck k).f.k = k := (ackFlush_k _ _ _ _ _ _).1

theorem flAck_cmd (k : Kcp) : (flAck k).sc.cmd = BitVec.ofNat 8 IKCP_CMD_ACK := (ackFlush_k _ _ _ _ _ _).2

theorem flF1_k (k : Kcp) : (flF1 k).k = { k with acklist := [] } := by
  unfold flF1; simp only [flAck_k]

theorem flF2_k (k : Kcp) (now : U32) : (flF2 k now).k = probePhase { k with acklist := [] } now := by
  unfold flF2; simp only [flF1_k]

theorem flF3a_k (k : Kcp) (now : U32) : (flF3a k now).k = (flF2 k now).k := by
  unfold flF3a; split
  · rw [Fl.putHdr_k, Fl.makeSpace_k]
  · rfl

theorem flF3b_k (k : Kcp) (now : U32) : (flF3b k now).k = (flF2 k now).k := by
  unfold flF3b; split
  · rw [Fl.putHdr_k, Fl.makeSpace_k, flF3a_k]
  · exact flF3a_k k now

theorem flF3_k (k : Kcp) (now : U32) :
    (flF3 k now).k = { probePhase { k with acklist := [] } now with probe := 0 } := by
  unfold flF3; simp only [flF3b_k, flF2_k]

theorem flF4_k (k : Kcp) (now : U32) :
    (flF4 k now).k = { probePhase { k with acklist := [] } now with
      probe := 0, snd_queue := (flAd k now).queue, snd_buf := (flAd k now).buf, snd_nxt := (flAd k now).nxt } := by
  unfold flF4; simp only [flF3_k]

theorem grow_F1 (k : Kcp) : Fl.Grow (flAck k).f (flF1 k) := Fl.Grow.setK _ _
theorem grow_F2 (k : Kcp) (now : U32) : Fl.Grow (flF1 k) (flF2 k now) := Fl.Grow.setK _ _

theorem grow_F3a (k : Kcp) (now : U32) : Fl.Grow (flF2 k now) (flF3a k now) := by
  unfold flF3a; split
  · exact ((Fl.makeSpace_ext _ _).trans (Fl.putHdr_ext _ _)).grow
  · exact Fl.Grow.refl _

theorem grow_F3b (k : Kcp) (now : U32) : Fl.Grow (flF3a k now) (flF3b k now) := by
  unfold flF3b; split
  · exact ((Fl.makeSpace_ext _ _).trans (Fl.putHdr_ext _ _)).grow
  · exact Fl.Grow.refl _

theorem grow_F3 (k : Kcp) (now : U32) : Fl.Grow (flF3b k now) (flF3 k now) := Fl.Grow.setK _ _
theorem grow_F4 (k : Kcp) (now : U32) : Fl.Grow (flF3 k now) (flF4 k now) := Fl.Grow.setK _ _

theorem flX_ackonly (k : Kcp) (now : U32) :
    flX k false now = { f := flF4 k now, done := (flF4 k now).k.snd_buf, next := (flF4 k now).k.interval } := by
  unfold flX; simp only [Bool.false_eq_true, ↓reduceIte]

theorem ext_X (k : Kcp) (full : Bool) (now : U32) : Fl.Ext (flF4 k now) (flX k full now).f := by
  cases full
  · rw [flX_ackonly]; exact Fl.Ext.refl _
  · unfold flX; simp only [↓reduceIte]
    exact (foldXmit_spec now (resentOf (flF4 k now).k) (wndUnused k) k.rcv_nxt (flAd k now).count (flF4 k now).k.snd_buf
      { f := flF4 k now, next := (flF4 k now).k.interval }).ext

theorem grow_F5 (k : Kcp) (full : Bool) (now : U32) : Fl.Grow (flX k full now).f (flF5 k full now) :=
  Fl.Grow.setK _ _

theorem grow_F3b_end (k : Kcp) (full : Bool) (now : U32) : Fl.Grow (flF3b k now) (flF5 k full now) :=
  (grow_F3 k now).trans <| (grow_F4 k now).trans <| (ext_X k full now).grow.trans (grow_F5 k full now)

theorem grow_ack_end (k : Kcp) (full : Bool) (now : U32) : Fl.Grow (flAck k).f (flF5 k full now) :=
  (grow_F1 k).trans <| (grow_F2 k now).trans <| (grow_F3a k now).trans <| (grow_F3b k now).trans (grow_F3b_end k full now)

theorem flush_panic (k : Kcp) (full : Bool) (now : U32) : (flush k full now).panic = (flF5 k full now).panic := by
  rw [flush_eq]

theorem flush_wire (k : Kcp) (full : Bool) (now : U32) :
    (flush k full now).outs.flatten = (flF5 k full now).liveWire := by
  rw [flush_eq]
  simp only [Fl.liveWire]
  split
  · simp
  · rename_i h
    have : (flF5 k full now).cur = [] := by
      cases hc : (flF5 k full now).cur with
      | nil => rfl
      | cons a t => rw [hc] at h; simp at h
    rw [this]; simp

/-- the frame of a flush with the probe timer as phase 2 leaves it -/
theorem flush_frame_probe (k : Kcp) (full : Bool) (now : U32) :
    ∃ st ss cw inc, (flush k full now).k =
      { k with acklist := [], probe_wait := (probePhase { k with acklist := [] } now).probe_wait,
               ts_probe := (probePhase { k with acklist := [] } now).ts_probe, probe := 0,
               snd_queue := (flAd k now).queue, snd_buf := (flX k full now).done, snd_nxt := (flAd k now).nxt,
               state := st, ssthresh := ss, cwnd := cw, incr := inc } := by
  rw [flush_eq]
  simp only []
  obtain ⟨ss, cw, inc, h6⟩ := phase6_shape (flF5 k full now).k (effWnd (flF3 k now).k) (resentOf (flF4 k now).k)
    (flX k full now).change (flX k full now).lost
  rw [h6]
  obtain ⟨pw, tp, pr, hp⟩ := probePhase_shape { k with acklist := [] } now
  have hx := (ext_X k full now).k
  refine ⟨(flX k full now).f.k.state, ss, cw, inc, ?_⟩
  unfold flF5
  simp only []
  rw [hx, flF4_k, hp]

theorem flush_frame (k : Kcp) (full : Bool) (now : U32) :
    ∃ pw tp st ss cw inc, (flush k full now).k =
      { k with acklist := [], probe_wait := pw, ts_probe := tp, probe := 0,
               snd_queue := (flAd k now).queue, snd_buf := (flX k full now).done, snd_nxt := (flAd k now).nxt,
               state := st, ssthresh := ss, cwnd := cw, incr := inc } := by
  obtain ⟨st, ss, cw, inc, e⟩ := flush_frame_probe k full now
  exact ⟨_, _, st, ss, cw, inc, e⟩

theorem flush_una (k : Kcp) (full : Bool) (now : U32) : (flush k full now).k.snd_una = k.snd_una := by
  obtain ⟨pw, tp, st, ss, cw, inc, hk⟩ := flush_frame k full now
  rw [hk]

theorem admitSegs_closed (conv una cwnd now : U32) (q buf : List Seg) (nxt : U32) (c : Nat)
    (h : itimediff nxt (una + cwnd) ≥ 0) :
    admitSegs conv una cwnd now q buf nxt c = ⟨q, buf, nxt, c⟩ := by
  cases q with
  | nil => rfl
  | cons s rest => unfold admitSegs; rw [if_pos h]

theorem flF4_frame (k : Kcp) (now : U32) :
    ∃ pw tp, (flF4 k now).k =
      { k with acklist := [], probe_wait := pw, ts_probe := tp, probe := 0,
               snd_queue := (flAd k now).queue, snd_buf := (flAd k now).buf, snd_nxt := (flAd k now).nxt } := by
  obtain ⟨pw, tp, pr, hp⟩ := probePhase_shape { k with acklist := [] } now
  exact ⟨pw, tp, by rw [flF4_k, hp]⟩

theorem flF3_frame (k : Kcp) (now : U32) :
    ∃ pw tp, (flF3 k now).k = { k with acklist := [], probe_wait := pw, ts_probe := tp, probe := 0 } := by
  obtain ⟨pw, tp, pr, hp⟩ := probePhase_shape { k with acklist := [] } now
  exact ⟨pw, tp, by rw [flF3_k, hp]⟩

theorem effWnd_flF3 (k : Kcp) (now : U32) : effWnd (flF3 k now).k = effWnd k := by
  obtain ⟨pw, tp, h⟩ := flF3_frame k now
  rw [h]; rfl

theorem resentOf_flF4 (k : Kcp) (now : U32) : resentOf (flF4 k now).k = resentOf k := by
  obtain ⟨pw, tp, h⟩ := flF4_frame k now
  rw [h]; rfl

theorem flAd_eq (k : Kcp) (now : U32) :
    flAd k now = admitSegs k.conv k.snd_una (effWnd k) now k.snd_queue k.snd_buf k.snd_nxt 0 := by
  obtain ⟨pw, tp, h⟩ := flF3_frame k now
  unfold flAd
  rw [effWnd_flF3, h]

/-- phase 4 in closed form; the number of segments admitted is `(flAd k now).count` -/
theorem flAd_count (k : Kcp) (now : U32) : (flAd k now).count ≤ k.snd_queue.length ∧
    flAd k now = ⟨k.snd_queue.drop (flAd k now).count,
      k.snd_buf ++ stampSegs k.conv now k.snd_nxt (k.snd_queue.take (flAd k now).count),
      k.snd_nxt + u32 (flAd k now).count, (flAd k now).count⟩ := by
  obtain ⟨m, hm, e⟩ := admitSegs_eq k.conv k.snd_una (effWnd k) now k.snd_queue k.snd_buf k.snd_nxt 0
  have hc : (flAd k now).count = m := by rw [flAd_eq, e, Nat.zero_add]
  rw [hc]
  exact ⟨hm, by rw [flAd_eq, e, Nat.zero_add]⟩

theorem flAd_spec (k : Kcp) (now : U32) : ∃ m, m ≤ k.snd_queue.length ∧
    flAd k now = ⟨k.snd_queue.drop m, k.snd_buf ++ stampSegs k.conv now k.snd_nxt (k.snd_queue.take m),
      k.snd_nxt + u32 m, m⟩ :=
  ⟨(flAd k now).count, (flAd_count k now).1, (flAd_count k now).2⟩

/-- what a flush leaves of one buffered segment: only a full flush (not the ack-only one) runs phase 5 -/
def flSeg (k : Kcp) (full : Bool) (now : U32) (newSegs : Nat) (s : Seg) : Seg :=
  if full then segAfter now (resentOf k) (wndUnused k) k.rcv_nxt newSegs k.rx_rto k.nodelay s else s

theorem flSeg_key {α : Type} {key : Seg → α} (hk : XmitKey key) (k : Kcp) (full : Bool) (now : U32) (n : Nat) (s : Seg) :
    key (flSeg k full now n s) = key s :=
  ite_ind (P := fun x => key x = key s) (segAfter_key _ _ _ _ _ _ _ _ hk) rfl

theorem flX_fold (k : Kcp) (now : U32) :
    flX k true now = (flAd k now).buf.foldl (xmitOne now (resentOf k) (wndUnused k) k.rcv_nxt (flAd k now).count)
      { f := flF4 k now, next := k.interval } ∧
    (flF4 k now).k.rx_rto = k.rx_rto ∧ (flF4 k now).k.nodelay = k.nodelay := by
  obtain ⟨pw, tp, hk4⟩ := flF4_frame k now
  unfold flX
  simp only [↓reduceIte]
  rw [resentOf_flF4, hk4]
  exact ⟨rfl, rfl, rfl⟩

theorem flX_spec (k : Kcp) (now : U32) :
    FoldSpec now (resentOf k) (flAd k now).count
      (segAfter now (resentOf k) (wndUnused k) k.rcv_nxt (flAd k now).count k.rx_rto k.nodelay)
      (flAd k now).buf { f := flF4 k now, next := k.interval } (flX k true now) := by
  obtain ⟨hf, hrto, hnd⟩ := flX_fold k now
  have h := foldXmit_spec now (resentOf k) (wndUnused k) k.rcv_nxt (flAd k now).count (flAd k now).buf
    { f := flF4 k now, next := k.interval }
  rw [← hf] at h
  simpa only [hrto, hnd] using h

theorem flX_done (k : Kcp) (full : Bool) (now : U32) :
    (flX k full now).done = (flAd k now).buf.map (flSeg k full now (flAd k now).count) := by
  cases full
  · obtain ⟨pw, tp, h4⟩ := flF4_frame k now
    rw [flX_ackonly, h4]
    exact (List.map_id'' (fun _ => rfl) _).symm
  · rw [(flX_spec k now).done.trans (List.nil_append _)]
    exact List.map_congr_left (fun _ _ => rfl)

/-- a flush moves the first `(flAd k now).count` queued segments, stamped, to the end of the buffer and then runs
phase 5 over all of it -/
theorem flush_snd_count (k : Kcp) (full : Bool) (now : U32) :
    (flush k full now).k.snd_queue = k.snd_queue.drop (flAd k now).count ∧
    (flush k full now).k.snd_buf =
      (k.snd_buf ++ stampSegs k.conv now k.snd_nxt (k.snd_queue.take (flAd k now).count)).map
        (flSeg k full now (flAd k now).count) ∧
    (flush k full now).k.snd_nxt = k.snd_nxt + u32 (flAd k now).count ∧
    (flush k full now).k.snd_una = k.snd_una := by
  obtain ⟨_, _, _, _, _, _, hk⟩ := flush_frame k full now
  have hd := flX_done k full now
  have e := (flAd_count k now).2
  generalize (flAd k now).count = m at e hd ⊢
  rw [e] at hk hd
  exact ⟨by rw [hk], by rw [hk]; exact hd, by rw [hk], by rw [hk]⟩

theorem flush_snd (k : Kcp) (full : Bool) (now : U32) :
    ∃ m, m ≤ k.snd_queue.length ∧
      (flush k full now).k.snd_queue = k.snd_queue.drop m ∧
      (flush k full now).k.snd_buf =
        (k.snd_buf ++ stampSegs k.conv now k.snd_nxt (k.snd_queue.take m)).map (flSeg k full now m) ∧
      (flush k full now).k.snd_nxt = k.snd_nxt + u32 m ∧ (flush k full now).k.snd_una = k.snd_una :=
  ⟨(flAd k now).count, (flAd_count k now).1, flush_snd_count k full now⟩

theorem flush_snd_buf_key {α : Type} {key : Seg → α} (hk : XmitKey key) (k : Kcp) (full : Bool) (now : U32) :
    (flush k full now).k.snd_buf.map key = (flAd k now).buf.map key := by
  obtain ⟨_, _, _, _, _, _, e⟩ := flush_frame k full now
  rw [e]
  show (flX k full now).done.map key = _
  rw [flX_done, List.map_map]
  exact List.map_congr_left (fun s _ => flSeg_key hk k full now _ s)

theorem flush_snd_buf (k : Kcp) (now : U32) : (flush k true now).k.snd_buf =
    (flAd k now).buf.map (segAfter now (resentOf k) (wndUnused k) k.rcv_nxt (flAd k now).count k.rx_rto k.nodelay) := by
  obtain ⟨_, _, _, _, _, _, hk⟩ := flush_frame k true now
  rw [hk]
  exact (flX_spec k now).done.trans (List.nil_append _)

theorem flAd_prefix (k : Kcp) (now : U32) : ∃ t, (flAd k now).buf = k.snd_buf ++ t := by
  obtain ⟨m, _, e⟩ := flAd_spec k now
  exact ⟨_, by rw [e]⟩

theorem flush_interval_le (k : Kcp) (now : U32) : (flush k true now).interval ≤ k.interval := by
  rw [flush_eq]
  exact (flX_spec k now).next_le

theorem effWnd_le (k : Kcp) : (effWnd k).toNat ≤ min k.snd_wnd.toNat k.rmt_wnd.toNat := by
  have hm : (if k.snd_wnd ≤ k.rmt_wnd then k.snd_wnd else k.rmt_wnd).toNat = min k.snd_wnd.toNat k.rmt_wnd.toNat :=
    ite_cases (P := fun x : U32 => x.toNat = min k.snd_wnd.toNat k.rmt_wnd.toNat)
      (fun h => by rw [BitVec.le_def] at h; omega) (fun h => by rw [BitVec.le_def] at h; omega)
  unfold effWnd
  rw [← hm]
  exact ite_ind (P := fun x : U32 => x.toNat ≤ _) (ite_cases (P := fun x : U32 => x.toNat ≤ _) (fun h => BitVec.le_def.mp h)
    (fun _ => Nat.le_refl _)) (Nat.le_refl _)

end KcpVerif.Live
