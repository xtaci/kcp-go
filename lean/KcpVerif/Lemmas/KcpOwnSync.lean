/-
C15 (ownership, protocol core): erasure.  Forgetting the buffer ids of the instrumented queues of
`Model/KcpOwn` gives exactly the queues of the model state the instrumented operation computes (`Sync`),
and that state IS the one the un-instrumented model computes (`*_k`).  The loop state of `Input` is read
as a core state (`InLoopO.toO`), so that the core's invariants are stated of the loop as they are.
Core Lean only.
-/
import KcpVerif.Lemmas.KcpOwnCount
import KcpVerif.Lemmas.KcpSteps
import KcpVerif.Lemmas.KcpLiveFlush

namespace KcpVerif.Own
open KcpVerif.Gen KcpVerif.Kcp

theorem er_nil : er [] = [] := rfl
theorem er_cons (x : SegO) (l : List SegO) : er (x :: l) = x.s :: er l := rfl
theorem er_append (a b : List SegO) : er (a ++ b) = er a ++ er b := List.map_append
theorem er_length (l : List SegO) : (er l).length = l.length := List.length_map _
theorem er_drop (l : List SegO) (n : Nat) : er (l.drop n) = (er l).drop n := List.map_drop
theorem er_take (l : List SegO) (n : Nat) : er (l.take n) = (er l).take n := List.map_take

theorem er_reattach (new : List Seg) (old : List SegO) (h : new.length = old.length) :
    er (reattach new old) = new := by
  induction new generalizing old with
  | nil => cases old with
    | nil => rfl
    | cons x old => simp at h
  | cons s new ih => cases old with
    | nil => simp at h
    | cons x old =>
      simp only [List.length_cons, Nat.add_right_cancel_iff] at h
      show s :: er (reattach new old) = s :: new
      rw [ih old h]

theorem popMsgO_er (l : List SegO) (g : Ghost) : er (popMsgO l g).rest = (popMsg (er l)).rest := by
  induction l generalizing g with
  | nil => rfl
  | cons x rest ih =>
    rw [er_cons]
    unfold popMsgO popMsg
    split
    · rfl
    · exact ih _

theorem moveLoopO_er (wnd : Nat) (buf q : List SegO) (nxt : U32) :
    er (moveLoopO wnd buf q nxt).buf = (moveLoop wnd (er buf) (er q) nxt).buf ∧
    er (moveLoopO wnd buf q nxt).q = (moveLoop wnd (er buf) (er q) nxt).q := by
  induction buf generalizing q nxt with
  | nil => exact ⟨rfl, rfl⟩
  | cons x rest ih =>
    rw [er_cons]
    unfold moveLoopO moveLoop
    rw [er_length]
    split
    · have := ih (q ++ [x]) (nxt + 1)
      rw [er_append] at this
      exact this
    · exact ⟨rfl, rfl⟩

theorem mkSegsO_er (mss : Nat) (stream : Bool) (n : Nat) (buf : Bytes) (g : Ghost) :
    er (mkSegsO mss stream n buf g).l = mkSegs mss stream n buf := by
  induction n generalizing buf g with
  | zero => rfl
  | succ c ih =>
    unfold mkSegsO mkSegs
    rw [er_cons, ih]

theorem er_getLast? (q : List SegO) : (er q).getLast? = q.getLast?.map (·.s) := List.getLast?_map

theorem appendLastO_er (q : List SegO) (extra : Bytes) :
    er (appendLastO q extra) =
      match (er q).getLast? with
      | some s => setLast (er q) { s with data := s.data ++ extra }
      | none => er q := by
  unfold appendLastO
  rw [er_getLast?]
  cases hq : q.getLast? with
  | none => rfl
  | some x =>
    simp only [Option.map_some]
    unfold setLast
    rw [er_append]
    show er q.dropLast ++ _ = (er q).dropLast ++ _
    unfold er
    rw [List.map_dropLast]
    rfl

theorem unaO_er (una : U32) (l : List SegO) (g : Ghost) :
    er (unaO una l g).l = (er l).drop (unaCount una (er l)) := by
  induction l generalizing g with
  | nil => rfl
  | cons x rest ih =>
    rw [er_cons]
    unfold unaO unaCount
    split
    · rw [ih]; rfl
    · rfl

theorem dropAckedO_er (l : List SegO) (g : Ghost) : er (dropAckedO l g).l = dropAcked (er l) := by
  induction l generalizing g with
  | nil => rfl
  | cons x rest ih =>
    rw [er_cons]
    unfold dropAckedO dropAcked
    split
    · exact ih _
    · rfl

theorem ackLoopO_er (sn : U32) (l : List SegO) (g : Ghost) : er (ackLoopO sn l g).l = ackLoop sn (er l) := by
  induction l generalizing g with
  | nil => rfl
  | cons x rest ih =>
    rw [er_cons]
    unfold ackLoopO ackLoop
    split
    · rfl
    · split
      · rfl
      · show x.s :: er (ackLoopO sn rest g).l = _
        rw [ih]

theorem heapInsertO_er (x : SegO) (l : List SegO) : er (heapInsertO x l) = heapInsert x.s (er l) := by
  induction l with
  | nil => rfl
  | cons h t ih =>
    rw [er_cons]
    unfold heapInsertO heapInsert
    split
    · rfl
    · rw [er_cons, ih]

theorem any_er (l : List SegO) (sn : U32) :
    l.any (fun x => decide (x.s.sn = sn)) = (er l).any (fun x => decide (x.sn = sn)) := by
  unfold er; rw [List.any_map]; rfl

theorem ackLoop_length (sn : U32) (l : List Seg) : (ackLoop sn l).length = l.length := Kcp.ackLoop_length sn l

theorem map_acked_er (l : List SegO) : (er l).map (·.acked) = l.map (·.s.acked) := by
  unfold er; rw [List.map_map]; rfl

theorem reattach_acked (new : List Seg) (old : List SegO) (hl : new.length = old.length) :
    (reattach new old).map (·.s.acked) = new.map (·.acked) := by
  rw [← map_acked_er, er_reattach new old hl]

/-- the lengths `reattach` needs come with the `acked` marks of a rewritten buffer and of the buffer it was -/
theorem length_eq_of_map_eq {α β γ : Type} {f : α → γ} {g : β → γ} {l : List α} {l' : List β}
    (h : l.map f = l'.map g) : l.length = l'.length := by
  have := congrArg List.length h
  rwa [List.length_map, List.length_map] at this

structure Sync (o : KcpO) : Prop where
  sq : o.k.snd_queue = er o.sq
  sb : o.k.snd_buf = er o.sb
  rb : o.k.rcv_buf = er o.rb
  rq : o.k.rcv_queue = er o.rq

theorem Sync.new (conv : U32) : Sync (KcpO.new conv) := ⟨rfl, rfl, rfl, rfl⟩

structure SameQ (k' k : Kcp) : Prop where
  sq : k'.snd_queue = k.snd_queue
  sb : k'.snd_buf = k.snd_buf
  rb : k'.rcv_buf = k.rcv_buf
  rq : k'.rcv_queue = k.rcv_queue

theorem Sync.setK {o : KcpO} (h : Sync o) {k' : Kcp} (e : SameQ k' o.k) : Sync { o with k := k' } :=
  ⟨e.sq.trans h.sq, e.sb.trans h.sb, e.rb.trans h.rb, e.rq.trans h.rq⟩

theorem recvO_cases {P : KcpO → Prop} (o : KcpO) (n : Nat)
    (refused : (o.k.recv n).k = o.k → P o)
    (popped : ¬ o.k.peekSize < 0 → ¬ o.k.peekSize > n →
      P { o with k := (o.k.recv n).k,
                 rb := (moveLoopO o.k.rcv_wnd.toNat o.rb (popMsgO o.rq o.gh).rest o.k.rcv_nxt).buf,
                 rq := (moveLoopO o.k.rcv_wnd.toNat o.rb (popMsgO o.rq o.gh).rest o.k.rcv_nxt).q,
                 gh := (popMsgO o.rq o.gh).g }) :
    P (recvO o n).o := by
  unfold recvO
  refine ite_cases (P := fun r : RecvResO => P r.o)
    (fun h1 => refused (congrArg RecvRes.k (recv_fail1 o.k n h1))) (fun h1 => ?_)
  exact ite_cases (P := fun r : RecvResO => P r.o)
    (fun h2 => refused (congrArg RecvRes.k (recv_fail2 o.k n h1 h2))) (fun h2 => popped h1 h2)

theorem recvO_k (o : KcpO) (n : Nat) : (recvO o n).o.k = (o.k.recv n).k :=
  recvO_cases (P := fun o' => o'.k = (o.k.recv n).k) o n (fun e => e.symm) (fun _ _ => rfl)

theorem recvO_sync {o : KcpO} (h : Sync o) (n : Nat) : Sync (recvO o n).o := by
  refine recvO_cases o n (fun _ => h) (fun h1 h2 => ?_)
  have hm := moveLoopO_er o.k.rcv_wnd.toNat o.rb (popMsgO o.rq o.gh).rest o.k.rcv_nxt
  rw [popMsgO_er, ← h.rb, ← h.rq] at hm
  rw [recv_ok o.k n h1 h2]
  unfold recvK moveReady
  simp only []
  constructor
  · split <;> exact h.sq
  · split <;> exact h.sb
  · split <;> exact hm.1.symm
  · split <;> exact hm.2.symm

theorem sendApp_er {o : KcpO} (h : Sync o) (b : Bytes) (ext : Nat) : sendQ1 o.k b ext = er (sendApp o b ext).l := by
  unfold sendQ1 sendApp
  split
  · rw [appendLastO_er, ← h.sq]; rfl
  · exact h.sq

/-- `lost`: `newSegment` has acquired a buffer when its slice expression panics -/
theorem sendO_cases {P : KcpO → Prop} (o : KcpO) (b : Bytes)
    {ext : Nat} (hext : ext = sendExt o.k b) {a : SegsG} (ha : a = sendApp o b ext)
    (refused : (o.k.send b).k = o.k → P o)
    (appended : (o.k.send b).k.snd_queue = sendQ1 o.k b ext →
      P { o with k := (o.k.send b).k, sq := a.l, gh := a.g })
    (lost : min (b.drop ext).length o.k.mss.toNat > mtuLimit → (o.k.send b).k.snd_queue = sendQ1 o.k b ext →
      P { o with k := (o.k.send b).k, sq := a.l, gh := a.g.getLost })
    (queued : ∀ n, (o.k.send b).k.snd_queue = sendQ1 o.k b ext ++ mkSegs o.k.mss.toNat (o.k.stream ≠ 0) n (b.drop ext) →
      P { o with k := (o.k.send b).k, sq := a.l ++ (mkSegsO o.k.mss.toNat (o.k.stream ≠ 0) n (b.drop ext) a.g).l,
                 gh := (mkSegsO o.k.mss.toNat (o.k.stream ≠ 0) n (b.drop ext) a.g).g }) :
    P (sendO o b).o := by
  subst hext ha
  unfold sendO
  refine ite_cases (P := fun r : SendResO => P r.o) (fun c1 => refused (by rw [send_eq, if_pos c1])) (fun c1 => ?_)
  refine ite_cases (P := fun r : SendResO => P r.o)
    (fun c2 => refused (by rw [send_eq, if_neg c1, if_pos c2])) (fun c2 => ?_)
  refine ite_cases (P := fun r : SendResO => P r.o)
    (fun c3 => refused (by rw [send_eq, if_neg c1, if_neg c2, if_pos c3])) (fun c3 => ?_)
  refine ite_cases (P := fun r : SendResO => P r.o)
    (fun c4 => appended (by rw [send_eq, if_neg c1, if_neg c2, if_neg c3, if_pos c4])) (fun c4 => ?_)
  refine ite_cases (P := fun r : SendResO => P r.o)
    (fun c5 => lost c5 (by rw [send_eq, if_neg c1, if_neg c2, if_neg c3, if_neg c4, if_pos c5]))
    (fun c5 => queued _ (by rw [send_eq, if_neg c1, if_neg c2, if_neg c3, if_neg c4, if_neg c5]; rfl))

theorem sendO_k (o : KcpO) (b : Bytes) : (sendO o b).o.k = (o.k.send b).k :=
  sendO_cases (P := fun o' => o'.k = (o.k.send b).k) o b rfl rfl (fun e => e.symm) (fun _ => rfl) (fun _ _ => rfl) (fun _ _ => rfl)

theorem sendO_sync {o : KcpO} (h : Sync o) (b : Bytes) : Sync (sendO o b).o := by
  obtain ⟨q, e⟩ := send_shape o.k b
  have hsb : (o.k.send b).k.snd_buf = er o.sb := by rw [e]; exact h.sb
  have hrb : (o.k.send b).k.rcv_buf = er o.rb := by rw [e]; exact h.rb
  have hrq : (o.k.send b).k.rcv_queue = er o.rq := by rw [e]; exact h.rq
  refine sendO_cases o b rfl rfl (fun _ => h) (fun hq => ⟨hq.trans (sendApp_er h b _), hsb, hrb, hrq⟩)
    (fun _ hq => ⟨hq.trans (sendApp_er h b _), hsb, hrb, hrq⟩) (fun n hq => ⟨?_, hsb, hrb, hrq⟩)
  rw [hq, er_append, mkSegsO_er, sendApp_er h]

theorem flushO_k (o : KcpO) (full : Bool) (now : U32) : (flushO o full now).o.k = (o.k.flush full now).k := rfl

theorem flush_queues (k : Kcp) (full : Bool) (now : U32) :
    (flush k full now).k.snd_queue = k.snd_queue.drop (flushAd k now).count ∧
    (flushAd k now).buf.map (·.acked) = (k.snd_buf ++ k.snd_queue.take (flushAd k now).count).map (·.acked) ∧
    (flush k full now).k.snd_buf.map (·.acked) = (flushAd k now).buf.map (·.acked) ∧
    (flush k full now).k.rcv_buf = k.rcv_buf ∧ (flush k full now).k.rcv_queue = k.rcv_queue := by
  obtain ⟨pw, tp, st, ss, cw, inc, done, hk, _⟩ := flush_k k full now
  obtain ⟨n, _, h2, h3, h4⟩ := admitSegs_key (key := (·.acked)) (fun _ _ _ _ _ _ => rfl)
    k.conv k.snd_una (effCwnd k) now k.snd_queue k.snd_buf k.snd_nxt 0
  have hc : (flushAd k now).count = n := h2.trans (Nat.zero_add n)
  have h5 : (flush k full now).k.snd_buf.map (·.acked) = (flushAd k now).buf.map (·.acked) :=
    (Live.flush_snd_buf_key (key := (·.acked)) (fun _ _ _ _ _ _ _ _ => rfl) k full now).trans
      (congrArg (fun a : AdmitRes => a.buf.map (·.acked)) (Live.flAd_eq k now))
  refine ⟨?_, ?_, h5, by rw [hk], by rw [hk]⟩
  · rw [hk, hc]; exact h3
  · rw [hc, List.map_append]; exact h4

/-- the two `reattach` of `flushO` meet lists that carry the marks of the segments they replace -/
theorem flushO_acked {o : KcpO} (h : Sync o) (full : Bool) (now : U32) :
    (flushAd o.k now).buf.map (·.acked) = (o.sb ++ o.sq.take (flushAd o.k now).count).map (·.s.acked) ∧
    (o.k.flush full now).k.snd_buf.map (·.acked) =
      (reattach (flushAd o.k now).buf (o.sb ++ o.sq.take (flushAd o.k now).count)).map (·.s.acked) := by
  obtain ⟨_, h3, h4, _, _⟩ := flush_queues o.k full now
  have e1 : (flushAd o.k now).buf.map (·.acked) = (o.sb ++ o.sq.take (flushAd o.k now).count).map (·.s.acked) := by
    rw [h3, h.sb, h.sq, ← er_take, ← er_append, map_acked_er]
  exact ⟨e1, by rw [h4, reattach_acked _ _ (length_eq_of_map_eq e1)]⟩

theorem flushO_sync {o : KcpO} (h : Sync o) (full : Bool) (now : U32) : Sync (flushO o full now).o := by
  obtain ⟨h2, _, _, h4, h5⟩ := flush_queues o.k full now
  unfold flushO
  simp only []
  refine ⟨?_, ?_, ?_, ?_⟩
  · rw [h2, h.sq, er_drop]
  · rw [er_reattach _ _ (length_eq_of_map_eq (flushO_acked h full now).2)]
  · rw [h4]; exact h.rb
  · rw [h5]; exact h.rq

/-! ### the model's loop body of `Input`, queue by queue -/

theorem inSt1_queues (regular : Bool) (wnd : BitVec 16) (una : U32) (m : InLoop) :
    (inSt1 regular wnd una m).k.snd_buf = dropAcked (m.k.snd_buf.drop (unaCount una m.k.snd_buf)) ∧
    (inSt1 regular wnd una m).k.rcv_buf = m.k.rcv_buf ∧
    (inSt1 regular wnd una m).k.rcv_queue = m.k.rcv_queue := by
  unfold inSt1
  simp only []
  rw [shrinkBuf_eq]
  unfold parseUna
  cases regular <;> exact ⟨rfl, rfl, rfl⟩

theorem parseAck_snd_buf (k : Kcp) (sn : U32) :
    (parseAck k sn).snd_buf =
      (if itimediff sn k.snd_una < 0 ∨ itimediff sn k.snd_nxt ≥ 0 then k.snd_buf else ackLoop sn k.snd_buf) := by
  unfold parseAck
  split <;> rfl

theorem parseFastack_acked (k : Kcp) (sn ts : U32) :
    (parseFastack k sn ts).1.snd_buf.map (·.acked) = k.snd_buf.map (·.acked) := by
  unfold parseFastack
  split
  · rfl
  · exact fastLoop_key (key := (·.acked)) (fun _ _ => rfl) _ _ _ _

theorem inAck_queues (m1 : InLoop) (sn ts : U32) :
    (inAck m1 sn ts).k.rcv_buf = m1.k.rcv_buf ∧
    (inAck m1 sn ts).k.rcv_queue = m1.k.rcv_queue ∧
    (inAck m1 sn ts).k.snd_buf.map (·.acked) = (dropAcked (parseAck m1.k sn).snd_buf).map (·.acked) := by
  obtain ⟨b, u, e⟩ := ackPath_shape m1.k sn ts
  have f := parseFastack_acked (shrinkBuf (parseAck m1.k sn)) sn ts
  unfold inAck
  simp only []
  exact ⟨by rw [e], by rw [e], by rw [f, shrinkBuf_eq]⟩

theorem ackShrinkO_er (k : Kcp) (sn : U32) (u : SegsG) (hu : k.snd_buf = er u.l) :
    er (ackShrinkO k sn u).l = dropAcked (parseAck k sn).snd_buf := by
  unfold ackShrinkO
  rw [dropAckedO_er, parseAck_snd_buf]
  split
  · rw [hu]
  · rw [ackLoopO_er, hu]

theorem inAck_acked (m1 : InLoop) (sn ts : U32) (u : SegsG) (hu : m1.k.snd_buf = er u.l) :
    (inAck m1 sn ts).k.snd_buf.map (·.acked) = (ackShrinkO m1.k sn u).l.map (·.s.acked) := by
  rw [(inAck_queues m1 sn ts).2.2, ← ackShrinkO_er m1.k sn u hu, map_acked_er]

theorem unaShrinkO_er (regular : Bool) (wnd : BitVec 16) (una : U32) {st : InLoopO} (h : st.m.k.snd_buf = er st.sb) :
    (inSt1 regular wnd una st.m).k.snd_buf = er (unaShrinkO una st.sb st.gh).l := by
  unfold unaShrinkO
  rw [(inSt1_queues regular wnd una st.m).1, dropAckedO_er, unaO_er, h]

theorem parseDataO_er (k k0 : Kcp) (s : Seg) (rb rq : List SegO) (g : Ghost)
    (hn : k0.rcv_nxt = k.rcv_nxt) (hw : k0.rcv_wnd = k.rcv_wnd)
    (hb : k.rcv_buf = er rb) (hq : k.rcv_queue = er rq) :
    (parseData k s).k.snd_buf = k.snd_buf ∧
    (parseData k s).k.rcv_buf = er (parseDataO k0 s rb rq g).rb ∧
    (parseData k s).k.rcv_queue = er (parseDataO k0 s rb rq g).rq := by
  generalize hd : parseDataO k0 s rb rq g = d
  unfold parseDataO at hd
  rw [hn, hw, any_er, ← hb] at hd
  refine parseData_cases (P := fun r => r.k.snd_buf = k.snd_buf ∧ r.k.rcv_buf = er d.rb ∧ r.k.rcv_queue = er d.rq) k s
    (fun h1 => ?_) (fun h1 h2 => ?_) (fun h1 h2 h3 => ?_) (fun h1 h2 h3 => ?_)
  · rw [if_pos h1] at hd; subst hd; exact ⟨rfl, hb, hq⟩
  · rw [if_neg h1, if_pos h2] at hd; subst hd
    have hm := moveLoopO_er k.rcv_wnd.toNat rb rq k.rcv_nxt
    rw [← hb, ← hq] at hm
    exact ⟨rfl, hm.1.symm, hm.2.symm⟩
  · rw [if_neg h1, if_neg h2, if_pos h3] at hd; subst hd; exact ⟨rfl, hb, hq⟩
  · rw [if_neg h1, if_neg h2, if_neg h3] at hd; subst hd
    have hm := moveLoopO_er k.rcv_wnd.toNat (heapInsertO { s := s, buf := some g.next } rb) rq k.rcv_nxt
    rw [heapInsertO_er, ← hb, ← hq] at hm
    exact ⟨rfl, hm.1.symm, hm.2.symm⟩

/-- the loop state of `Input` as a core state; `sq` is the send queue, which the loop does not touch -/
abbrev InLoopO.toO (st : InLoopO) (sq : List SegO) : KcpO :=
  { k := st.m.k, sq := sq, sb := st.sb, rb := st.rb, rq := st.rq, gh := st.gh }

/-- `u`: after `parse_una` and `shrink_buf`; the ACK case goes on with `parse_ack`, `shrink_buf` and the
in-place `parse_fastack` -/
theorem inBodyO_cases {P : InLoopO → Prop} (regular : Bool) (data : Bytes) (st : InLoopO)
    {m1 : InLoop} (hm1 : m1 = inSt1 regular (rd16 data 6) (rd32 data 16) st.m)
    {u : SegsG} (hu : u = unaShrinkO (rd32 data 16) st.sb st.gh)
    (ack : inBody regular data st.m = inAck m1 (rd32 data 12) (rd32 data 8) →
      P { st with m := inBody regular data st.m,
                  sb := reattach (inBody regular data st.m).k.snd_buf (ackShrinkO m1.k (rd32 data 12) u).l,
                  gh := (ackShrinkO m1.k (rd32 data 12) u).g })
    (push : ∀ seg : Seg, seg.data.length ≤ (rd32 data 20).toNat →
      inBody regular data st.m =
        { m1 with k := (parseData { m1.k with acklist := m1.k.acklist ++ [⟨seg.sn, seg.ts⟩] } seg).k,
                  panic := (parseData { m1.k with acklist := m1.k.acklist ++ [⟨seg.sn, seg.ts⟩] } seg).panic } →
      P { m := inBody regular data st.m, sb := u.l, rb := (parseDataO m1.k seg st.rb st.rq u.g).rb,
          rq := (parseDataO m1.k seg st.rb st.rq u.g).rq, gh := (parseDataO m1.k seg st.rb st.rq u.g).g })
    (other : (inBody regular data st.m).k.snd_buf = m1.k.snd_buf ∧
        (inBody regular data st.m).k.rcv_buf = m1.k.rcv_buf ∧
        (inBody regular data st.m).k.rcv_queue = m1.k.rcv_queue →
      P { st with m := inBody regular data st.m, sb := u.l, gh := u.g }) :
    P (inBodyO regular data st) := by
  subst hm1 hu
  unfold inBodyO
  refine ite_cases (fun hc => ack (by unfold inBody; simp only []; rw [if_pos hc])) (fun hc => ?_)
  refine ite_cases (fun hp => ?_) (fun hp => other ?_)
  · refine ite_cases (fun hw => push _ (List.length_take_le _ _) ?_) (fun hw => other ?_)
    · unfold inBody; simp only []; rw [if_neg hc, if_pos hp]
      unfold inPush; simp only []; rw [if_pos hw.1, if_pos hw.2]
    · unfold inBody; simp only []; rw [if_neg hc, if_pos hp]
      unfold inPush; simp only []
      split
      · rename_i h1
        split
        · rename_i h2; exact absurd ⟨h1, h2⟩ hw
        · exact ⟨rfl, rfl, rfl⟩
      · exact ⟨rfl, rfl, rfl⟩
  · unfold inBody; simp only []; rw [if_neg hc, if_neg hp]
    split <;> exact ⟨rfl, rfl, rfl⟩

theorem inBodyO_m (regular : Bool) (data : Bytes) (st : InLoopO) :
    (inBodyO regular data st).m = inBody regular data st.m :=
  inBodyO_cases (P := fun st' => st'.m = inBody regular data st.m) regular data st rfl rfl
    (fun _ => rfl) (fun _ _ _ => rfl) (fun _ => rfl)

theorem inBody_snd_queue (regular : Bool) (data : Bytes) (m : InLoop) :
    (inBody regular data m).k.snd_queue = m.k.snd_queue := by
  obtain ⟨_, _, _, _, _, _, _, _, e⟩ := LoopShape.loopSteps.body regular data m
  rw [e]

theorem inBodyO_sync (regular : Bool) (data : Bytes) {st : InLoopO} {sq : List SegO} (h : Sync (st.toO sq)) :
    Sync ((inBodyO regular data st).toO sq) := by
  have hq : (inBody regular data st.m).k.snd_queue = er sq := (inBody_snd_queue regular data st.m).trans h.sq
  obtain ⟨_, s3, s4⟩ := inSt1_queues regular (rd16 data 6) (rd32 data 16) st.m
  have hu := unaShrinkO_er regular (rd16 data 6) (rd32 data 16) h.sb
  refine inBodyO_cases (P := fun st' => Sync (st'.toO sq)) regular data st rfl rfl
    (fun hb => ?_) (fun seg _ hb => ?_) (fun hb => ?_)
  · obtain ⟨a2, a3, _⟩ := inAck_queues (inSt1 regular (rd16 data 6) (rd32 data 16) st.m) (rd32 data 12) (rd32 data 8)
    refine ⟨hq, (er_reattach (inBody regular data st.m).k.snd_buf _ ?_).symm, ?_, ?_⟩
    · rw [hb]; exact length_eq_of_map_eq (inAck_acked _ _ _ _ hu)
    · show (inBody regular data st.m).k.rcv_buf = er st.rb
      rw [hb, a2, s3]; exact h.rb
    · show (inBody regular data st.m).k.rcv_queue = er st.rq
      rw [hb, a3, s4]; exact h.rq
  · obtain ⟨d2, d3, d4⟩ := parseDataO_er
      { (inSt1 regular (rd16 data 6) (rd32 data 16) st.m).k with
        acklist := (inSt1 regular (rd16 data 6) (rd32 data 16) st.m).k.acklist ++ [⟨seg.sn, seg.ts⟩] }
      (inSt1 regular (rd16 data 6) (rd32 data 16) st.m).k seg st.rb st.rq (unaShrinkO (rd32 data 16) st.sb st.gh).g
      rfl rfl (s3.trans h.rb) (s4.trans h.rq)
    refine ⟨hq, ?_, ?_, ?_⟩
    · show (inBody regular data st.m).k.snd_buf = _
      rw [hb]; exact d2.trans hu
    · show (inBody regular data st.m).k.rcv_buf = _
      rw [hb]; exact d3
    · show (inBody regular data st.m).k.rcv_queue = _
      rw [hb]; exact d4
  · exact ⟨hq, hb.1.trans hu, hb.2.1.trans (s3.trans h.rb), hb.2.2.trans (s4.trans h.rq)⟩

theorem inputLoopO_m (regular : Bool) (fuel : Nat) (data : Bytes) (st : InLoopO) :
    (inputLoopO regular fuel data st).m = inputLoop regular fuel data st.m := by
  induction fuel generalizing data st with
  | zero => rfl
  | succ fuel ih =>
    rw [Kcp.inputLoop_succ]
    unfold inputLoopO
    simp only [apply_ite InLoopO.m, ih, inBodyO_m]

/-- a change of the return code does not show in the view: the loop body is all there is to check -/
theorem inputLoopO_preserves {I : KcpO → Prop} (regular : Bool) (sq : List SegO)
    (hbody : ∀ (data : Bytes) (st : InLoopO), (rd32 data 20).toNat ≤ mtuLimit →
      I (st.toO sq) → I ((inBodyO regular data st).toO sq))
    (fuel : Nat) (data : Bytes) (st : InLoopO) (h : I (st.toO sq)) :
    I ((inputLoopO regular fuel data st).toO sq) := by
  induction fuel generalizing data st with
  | zero => exact h
  | succ fuel ih =>
    unfold inputLoopO
    refine ite_cases (P := fun x : InLoopO => I (x.toO sq)) (fun _ => h) (fun _ => ?_)
    refine ite_cases (P := fun x : InLoopO => I (x.toO sq)) (fun _ => h) (fun _ => ?_)
    refine ite_cases (P := fun x : InLoopO => I (x.toO sq)) (fun _ => h) (fun c3 => ?_)
    have hlen : (rd32 data 20).toNat ≤ mtuLimit := by omega
    refine ite_cases (P := fun x : InLoopO => I (x.toO sq)) (fun _ => h) (fun _ => ?_)
    exact ite_cases (P := fun x : InLoopO => I (x.toO sq)) (fun _ => hbody data st hlen h)
      (fun _ => ih _ _ (hbody data st hlen h))

theorem inputK2_sameQ (m : InLoop) (regular : Bool) (now u : U32) : SameQ (cwndOnAck (inputK1 m regular now) u) m.k := by
  obtain ⟨cw, inc, h⟩ := cwndOnAck_shape (inputK1 m regular now) u
  rw [h]
  unfold inputK1
  split
  · obtain ⟨a, b, c, hu⟩ := updateAck_shape m.k (now - m.latest)
    rw [hu]; exact ⟨rfl, rfl, rfl, rfl⟩
  · exact ⟨rfl, rfl, rfl, rfl⟩

theorem updK2_sameQ (k : Kcp) (now : U32) : SameQ (updK2 k now) k := by
  obtain ⟨u, t, h⟩ := updK2_shape k now
  rw [h]; exact ⟨rfl, rfl, rfl, rfl⟩

end KcpVerif.Own
