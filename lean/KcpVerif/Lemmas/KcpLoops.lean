/-
The list loops of `Model/Kcp`, each characterised once — element by element (`Pointwise`) or in closed form over
`take`/`drop` — so that an invariant of a buffer crosses a loop by a lemma and the loop is not unfolded again.
A fact that needs the loop's own test crosses by `admitSegs_carry` / `moveLoop_carry`; a reader of fields the loop
does not write (`AdmitKey`, `XmitKey`) sees the buffer unchanged, in order (`_key`).
Core Lean only.
-/
import KcpVerif.Model.Kcp
import KcpVerif.Lemmas.Ite
import KcpVerif.Lemmas.KcpShape

namespace KcpVerif.Kcp
open KcpVerif.Gen

/-- same length, and related position by position: what a loop that rewrites elements in place does to a list -/
def Pointwise {α : Type} (R : α → α → Prop) : List α → List α → Prop
  | [], [] => True
  | a :: l, a' :: l' => R a a' ∧ Pointwise R l l'
  | _, _ => False

theorem Pointwise.refl {α : Type} {R : α → α → Prop} (hR : ∀ a, R a a) : ∀ l, Pointwise R l l
  | [] => trivial
  | a :: l => ⟨hR a, Pointwise.refl hR l⟩

theorem Pointwise.map {α : Type} {R : α → α → Prop} (f : α → α) (hf : ∀ a, R a (f a)) : ∀ l, Pointwise R l (l.map f)
  | [] => trivial
  | a :: l => ⟨hf a, Pointwise.map f hf l⟩

theorem Pointwise.map_eq {α β : Type} {R : α → α → Prop} {key : α → β} (hk : ∀ a a', R a a' → key a' = key a) :
    ∀ {l l' : List α}, Pointwise R l l' → l'.map key = l.map key
  | [], [], _ => rfl
  | a :: _, a' :: _, h => by rw [List.map_cons, List.map_cons, hk a a' h.1, Pointwise.map_eq hk h.2]
  | [], _ :: _, h => h.elim
  | _ :: _, [], h => h.elim

theorem Pointwise.mem {α : Type} {R : α → α → Prop} :
    ∀ {l l' : List α}, Pointwise R l l' → ∀ a' ∈ l', ∃ a ∈ l, R a a'
  | [], [], _ => fun _ h => absurd h List.not_mem_nil
  | a :: _, _ :: _, h => fun x hx => by
    rcases List.mem_cons.mp hx with rfl | hx
    · exact ⟨a, List.mem_cons_self, h.1⟩
    · obtain ⟨y, hy, r⟩ := Pointwise.mem h.2 x hx
      exact ⟨y, List.mem_cons_of_mem _ hy, r⟩
  | [], _ :: _, h => h.elim
  | _ :: _, [], h => h.elim

theorem Pointwise.length_eq {α : Type} {R : α → α → Prop} : ∀ {l l' : List α}, Pointwise R l l' → l'.length = l.length
  | [], [], _ => rfl
  | _ :: _, _ :: _, h => congrArg Nat.succ (Pointwise.length_eq h.2)
  | [], _ :: _, h => h.elim
  | _ :: _, [], h => h.elim

/-- one segment across `parse_ack` -/
def AckMark (s s' : Seg) : Prop := s' = s ∨ s' = { s with acked := true, data := [] }

/-- one segment across `parse_fastack` -/
def FastMark (s s' : Seg) : Prop := s' = s ∨ s' = { s with fastack := s.fastack + 1 }

theorem ackLoop_pointwise (sn : U32) (l : List Seg) : Pointwise AckMark l (ackLoop sn l) := by
  have hr : ∀ l, Pointwise AckMark l l := Pointwise.refl (fun _ => Or.inl rfl)
  induction l with
  | nil => exact trivial
  | cons s rest ih =>
    unfold ackLoop
    exact ite_ind (P := Pointwise AckMark (s :: rest)) ⟨Or.inr rfl, hr rest⟩
      (ite_ind (P := Pointwise AckMark (s :: rest)) (hr _) ⟨Or.inl rfl, ih⟩)

theorem fastLoop_pointwise (sn ts fr : U32) (l : List Seg) : Pointwise FastMark l (fastLoop sn ts fr l).buf := by
  have hr : ∀ l, Pointwise FastMark l l := Pointwise.refl (fun _ => Or.inl rfl)
  induction l with
  | nil => exact trivial
  | cons s rest ih =>
    unfold fastLoop
    exact ite_ind (P := fun r : FastRes => Pointwise FastMark (s :: rest) r.buf) (hr _)
      (ite_ind (P := fun r : FastRes => Pointwise FastMark (s :: rest) r.buf) ⟨Or.inr rfl, ih⟩ ⟨Or.inl rfl, ih⟩)

theorem ackLoop_key {α : Type} {key : Seg → α} (hk : ∀ (s : Seg) (a : Bool) (d : Bytes), key { s with acked := a, data := d } = key s)
    (sn : U32) (l : List Seg) : (ackLoop sn l).map key = l.map key :=
  (ackLoop_pointwise sn l).map_eq (fun s s' h => by
    rcases h with rfl | rfl
    · rfl
    · exact hk s true [])

theorem fastLoop_key {α : Type} {key : Seg → α} (hk : ∀ (s : Seg) (fa : U32), key { s with fastack := fa } = key s)
    (sn ts fr : U32) (l : List Seg) : (fastLoop sn ts fr l).buf.map key = l.map key :=
  (fastLoop_pointwise sn ts fr l).map_eq (fun s s' h => by
    rcases h with rfl | rfl
    · rfl
    · exact hk s _)

/-- all that `Input` can do to a buffered segment: write `acked` and `fastack`, shorten `data` -/
def SegMark (s s' : Seg) : Prop :=
  ∃ a f d, s' = { s with acked := a, fastack := f, data := d } ∧ d.length ≤ s.data.length

theorem SegMark.refl (s : Seg) : SegMark s s := ⟨s.acked, s.fastack, s.data, rfl, Nat.le_refl _⟩

def Marked (l l' : List Seg) : Prop := ∀ s' ∈ l', ∃ s ∈ l, SegMark s s'

theorem Marked.refl (l : List Seg) : Marked l l := fun s hs => ⟨s, hs, SegMark.refl s⟩

theorem Marked.trans {a b c : List Seg} (h1 : Marked a b) (h2 : Marked b c) : Marked a c := by
  intro z hz
  obtain ⟨y, hy, a2, f2, d2, rfl, l2⟩ := h2 z hz
  obtain ⟨x, hx, a1, f1, d1, rfl, l1⟩ := h1 y hy
  exact ⟨x, hx, a2, f2, d2, rfl, Nat.le_trans l2 l1⟩

theorem Marked.of_subset {a b : List Seg} (h : ∀ x ∈ b, x ∈ a) : Marked a b := fun x hx => ⟨x, h x hx, SegMark.refl x⟩

theorem ackLoop_marked (sn : U32) (l : List Seg) : Marked l (ackLoop sn l) := fun s' hs' => by
  obtain ⟨s, hs, h⟩ := (ackLoop_pointwise sn l).mem s' hs'
  rcases h with rfl | rfl
  · exact ⟨s', hs, SegMark.refl s'⟩
  · exact ⟨s, hs, true, s.fastack, [], rfl, Nat.zero_le _⟩

theorem fastLoop_marked (sn ts fr : U32) (l : List Seg) : Marked l (fastLoop sn ts fr l).buf := fun s' hs' => by
  obtain ⟨s, hs, h⟩ := (fastLoop_pointwise sn ts fr l).mem s' hs'
  rcases h with rfl | rfl
  · exact ⟨s', hs, SegMark.refl s'⟩
  · exact ⟨s, hs, s.acked, s.fastack + 1, s.data, rfl, Nat.le_refl _⟩

theorem ackLoop_length (sn : U32) (l : List Seg) : (ackLoop sn l).length = l.length :=
  (ackLoop_pointwise sn l).length_eq

def countWhile {α : Type} (p : α → Bool) : List α → Nat
  | [] => 0
  | a :: l => if p a then countWhile p l + 1 else 0

theorem countWhile_le {α : Type} (p : α → Bool) (l : List α) : countWhile p l ≤ l.length := by
  induction l with
  | nil => exact Nat.le_refl _
  | cons a r ih => exact ite_ind (P := fun n => n ≤ (a :: r).length) (Nat.succ_le_succ ih) (Nat.zero_le _)

theorem countWhile_take {α : Type} (p : α → Bool) (l : List α) : ∀ x ∈ l.take (countWhile p l), p x = true := by
  induction l with
  | nil => exact fun _ h => absurd h List.not_mem_nil
  | cons a r ih =>
    unfold countWhile
    refine ite_cases (P := fun n => ∀ x ∈ (a :: r).take n, p x = true) (fun ha => ?_)
      (fun _ _ h => absurd h List.not_mem_nil)
    rw [List.take_succ_cons]
    exact List.forall_mem_cons.2 ⟨ha, ih⟩

theorem drop_countWhile {α : Type} (p : α → Bool) (l : List α) : l.drop (countWhile p l) = l.dropWhile p := by
  induction l with
  | nil => rfl
  | cons a r ih =>
    unfold countWhile
    by_cases h : p a = true
    · rw [if_pos h, List.drop_succ_cons, ih, List.dropWhile_cons_of_pos h]
    · rw [if_neg h, List.drop_zero, List.dropWhile_cons_of_neg h]

/-! ### `parse_una`: the segments below `una` -/

theorem unaCount_eq (una : U32) (l : List Seg) :
    unaCount una l = countWhile (fun s => decide (itimediff una s.sn > 0)) l := by
  induction l with
  | nil => rfl
  | cons s r ih =>
    unfold unaCount countWhile
    by_cases h : itimediff una s.sn > 0
    · rw [if_pos h, if_pos (decide_eq_true h), ih]
    · rw [if_neg h, if_neg (by rw [decide_eq_true_eq]; exact h)]



theorem unaCount_le (una : U32) (l : List Seg) : unaCount una l ≤ l.length := by
  rw [unaCount_eq]; exact countWhile_le _ l

theorem unaCount_take (una : U32) (l : List Seg) : ∀ x ∈ l.take (unaCount una l), itimediff una x.sn > 0 := by
  rw [unaCount_eq]
  exact fun x hx => of_decide_eq_true (countWhile_take _ l x hx)

theorem drop_unaCount (una : U32) (l : List Seg) :
    l.drop (unaCount una l) = l.dropWhile (fun s => decide (itimediff una s.sn > 0)) := by
  rw [unaCount_eq]; exact drop_countWhile _ l

/-! ### `shrink_buf`: the acknowledged heads -/

def ackedCount (l : List Seg) : Nat := countWhile (fun s => s.acked) l

theorem ackedCount_le (l : List Seg) : ackedCount l ≤ l.length := countWhile_le _ l

theorem ackedCount_take (l : List Seg) : ∀ x ∈ l.take (ackedCount l), x.acked = true := countWhile_take _ l

theorem dropAcked_eq_dropWhile (l : List Seg) : dropAcked l = l.dropWhile (fun s => s.acked) := by
  induction l with
  | nil => rfl
  | cons s r ih =>
    unfold dropAcked
    by_cases h : s.acked = true
    · rw [if_pos h, List.dropWhile_cons_of_pos h, ih]
    · rw [if_neg h, List.dropWhile_cons_of_neg h]

theorem dropAcked_eq_drop (l : List Seg) : dropAcked l = l.drop (ackedCount l) :=
  (dropAcked_eq_dropWhile l).trans (drop_countWhile _ l).symm

theorem dropAcked_head (l : List Seg) (s : Seg) (rest : List Seg) (h : dropAcked l = s :: rest) : s.acked = false := by
  have := List.head?_dropWhile_not (fun x : Seg => x.acked) l
  rw [← dropAcked_eq_dropWhile, h] at this
  exact this

theorem dropAcked_subset (l : List Seg) : ∀ x ∈ dropAcked l, x ∈ l := fun x hx => by
  rw [dropAcked_eq_drop] at hx
  exact List.mem_of_mem_drop hx

/-! ### admission (phase 4 of `flush`) in closed form -/

/-- what phase 4 writes into the segments it moves to the send buffer, numbered from `nxt` -/
def stampSegs (conv now : U32) : U32 → List Seg → List Seg
  | _, [] => []
  | nxt, s :: r =>
    { s with conv := conv, cmd := BitVec.ofNat 8 IKCP_CMD_PUSH, sn := nxt, ts := now, resendts := now } ::
      stampSegs conv now (nxt + 1) r

theorem u32_succ (m : Nat) : u32 (m + 1) = u32 m + 1 := BitVec.ofNat_add m 1

/-- the bare record equation: nothing about the window at `m` (a fact that needs it crosses by `admitSegs_carry`) -/
theorem admitSegs_eq (conv una cwnd now : U32) (q buf : List Seg) (nxt : U32) (c : Nat) :
    ∃ m, m ≤ q.length ∧ admitSegs conv una cwnd now q buf nxt c =
      ⟨q.drop m, buf ++ stampSegs conv now nxt (q.take m), nxt + u32 m, c + m⟩ := by
  induction q generalizing buf nxt c with
  | nil => exact ⟨0, Nat.le_refl _, by simp [admitSegs, stampSegs, u32]⟩
  | cons s rest ih =>
    unfold admitSegs
    split
    · exact ⟨0, Nat.zero_le _, by simp [stampSegs, u32]⟩
    · obtain ⟨m, hm, e⟩ := ih
        (buf ++ [{ s with conv := conv, cmd := BitVec.ofNat 8 IKCP_CMD_PUSH, sn := nxt, ts := now, resendts := now }])
        (nxt + 1) (c + 1)
      refine ⟨m + 1, Nat.succ_le_succ hm, ?_⟩
      rw [e, u32_succ, List.drop_succ_cons, List.take_succ_cons, stampSegs, List.append_assoc, List.singleton_append,
        BitVec.add_comm (u32 m) 1, ← BitVec.add_assoc, Nat.add_assoc, Nat.add_comm 1 m]

theorem mem_stampSegs {conv now nxt : U32} {l : List Seg} {s : Seg} (h : s ∈ stampSegs conv now nxt l) :
    ∃ q0 ∈ l, ∃ n, s = { q0 with conv := conv, cmd := BitVec.ofNat 8 IKCP_CMD_PUSH, sn := n, ts := now, resendts := now } := by
  induction l generalizing nxt with
  | nil => simp [stampSegs] at h
  | cons a t ih =>
    rw [stampSegs] at h
    rcases List.mem_cons.mp h with rfl | h
    · exact ⟨a, List.mem_cons_self, nxt, rfl⟩
    · obtain ⟨q0, hq, n, e⟩ := ih h
      exact ⟨q0, List.mem_cons_of_mem _ hq, n, e⟩

theorem stampSegs_getElem? (conv now : U32) : ∀ (l : List Seg) (nxt : U32) (t : Nat) (q0 : Seg), l[t]? = some q0 →
    (stampSegs conv now nxt l)[t]? =
      some { q0 with conv := conv, cmd := BitVec.ofNat 8 IKCP_CMD_PUSH, sn := nxt + BitVec.ofNat 32 t, ts := now, resendts := now }
  | a :: l, nxt, 0, q0, h => by
    cases h
    show some { a with conv := conv, cmd := BitVec.ofNat 8 IKCP_CMD_PUSH, sn := nxt, ts := now, resendts := now } = _
    rw [show nxt + BitVec.ofNat 32 0 = nxt by simp]
  | a :: l, nxt, t + 1, q0, h => by
    show (stampSegs conv now (nxt + 1) l)[t]? = _
    rw [stampSegs_getElem? conv now l (nxt + 1) t q0 h, BitVec.add_assoc, BitVec.ofNat_add, BitVec.add_comm 1]
    rfl

/-- `key` reads none of the fields phase 4 stamps: the hypothesis of the `_key` lemmas of admission -/
def AdmitKey {α : Type} (key : Seg → α) : Prop :=
  ∀ (s : Seg) (conv : U32) (cmd : BitVec 8) (ts sn resendts : U32),
    key { s with conv := conv, cmd := cmd, ts := ts, sn := sn, resendts := resendts } = key s

theorem stampSegs_key {α : Type} {key : Seg → α} (hk : AdmitKey key) (conv now nxt : U32) (l : List Seg) :
    (stampSegs conv now nxt l).map key = l.map key := by
  induction l generalizing nxt with
  | nil => rfl
  | cons a t ih => rw [stampSegs, List.map_cons, List.map_cons, ih, hk a]

theorem admitSegs_key {α : Type} {key : Seg → α} (hk : AdmitKey key) (conv una cwnd now : U32) (q buf : List Seg)
    (nxt : U32) (c : Nat) :
    ∃ n, n ≤ q.length ∧ (admitSegs conv una cwnd now q buf nxt c).count = c + n ∧
      (admitSegs conv una cwnd now q buf nxt c).queue = q.drop n ∧
      (admitSegs conv una cwnd now q buf nxt c).buf.map key = buf.map key ++ (q.take n).map key := by
  obtain ⟨m, hm, e⟩ := admitSegs_eq conv una cwnd now q buf nxt c
  exact ⟨m, hm, by rw [e], by rw [e], by rw [e, List.map_append, stampSegs_key hk]⟩

theorem stampSegs_length (conv now nxt : U32) (l : List Seg) : (stampSegs conv now nxt l).length = l.length := by
  induction l generalizing nxt with
  | nil => rfl
  | cons a t ih => exact congrArg Nat.succ (ih _)

/-- the one induction that hands the window test to the caller: `hstep` gets it for each admitted segment -/
theorem admitSegs_carry {I : List Seg → U32 → Prop} (conv una cwnd now : U32)
    (hstep : ∀ (s : Seg) (buf : List Seg) (nxt : U32), I buf nxt → ¬ itimediff nxt (una + cwnd) ≥ 0 →
      I (buf ++ [{ s with conv := conv, cmd := BitVec.ofNat 8 IKCP_CMD_PUSH, sn := nxt, ts := now, resendts := now }]) (nxt + 1))
    (q buf : List Seg) (nxt : U32) (c : Nat) (h : I buf nxt) :
    I (admitSegs conv una cwnd now q buf nxt c).buf (admitSegs conv una cwnd now q buf nxt c).nxt := by
  induction q generalizing buf nxt c with
  | nil => exact h
  | cons s rest ih =>
    let Q (r : AdmitRes) : Prop := I r.buf r.nxt
    show Q (admitSegs conv una cwnd now (s :: rest) buf nxt c)
    unfold admitSegs
    exact ite_cases (fun _ => h) (fun hg => ih _ _ _ (hstep s buf nxt h hg))

/-! ### `parse_data`: insertion into the receive buffer -/

/-- the new segment goes in front of the first later one -/
theorem heapInsert_eq (s : Seg) (l : List Seg) :
    ∃ n, n ≤ l.length ∧ heapInsert s l = l.take n ++ s :: l.drop n ∧
      (∀ x ∈ l.take n, ¬ itimediff x.sn s.sn > 0) ∧ ∀ h t, l.drop n = h :: t → itimediff h.sn s.sn > 0 := by
  induction l with
  | nil => exact ⟨0, Nat.le_refl _, rfl, fun _ h => absurd h List.not_mem_nil, fun _ _ h => by cases h⟩
  | cons h t ih =>
    unfold heapInsert
    by_cases c : itimediff h.sn s.sn > 0
    · rw [if_pos c]
      refine ⟨0, Nat.zero_le _, rfl, fun _ hx => absurd hx List.not_mem_nil, fun a b hab => ?_⟩
      cases hab
      exact c
    · rw [if_neg c]
      obtain ⟨n, hn, e, h1, h2⟩ := ih
      refine ⟨n + 1, Nat.succ_le_succ hn, by rw [e]; rfl, ?_, h2⟩
      rw [List.take_succ_cons]
      exact List.forall_mem_cons.2 ⟨c, h1⟩

theorem heapInsert_perm (s : Seg) (l : List Seg) : (heapInsert s l).Perm (s :: l) := by
  obtain ⟨n, _, e, _⟩ := heapInsert_eq s l
  rw [e]
  exact List.perm_middle.trans (List.Perm.cons s (List.Perm.of_eq (List.take_append_drop n l)))

theorem mem_heapInsert {s x : Seg} {l : List Seg} : x ∈ heapInsert s l ↔ x = s ∨ x ∈ l :=
  (heapInsert_perm s l).mem_iff.trans List.mem_cons

theorem heapInsert_length (s : Seg) (l : List Seg) : (heapInsert s l).length = l.length + 1 :=
  (heapInsert_perm s l).length_eq

theorem heapInsert_map (g : Seg → Seg) (hg : ∀ a b : Seg, itimediff (g a).sn (g b).sn = itimediff a.sn b.sn) (s : Seg)
    (l : List Seg) : heapInsert (g s) (l.map g) = (heapInsert s l).map g := by
  induction l with
  | nil => rfl
  | cons h t ih =>
    unfold heapInsert
    rw [List.map_cons]
    show (if itimediff (g h).sn (g s).sn > 0 then _ else _) = _
    rw [hg]
    by_cases c : itimediff h.sn s.sn > 0
    · rw [if_pos c, if_pos c]; rfl
    · rw [if_neg c, if_neg c, ih]; rfl

/-- sortedness under ANY order that the test of `heapInsert` decides against the new segment: no window, no arithmetic -/
theorem heapInsert_pairwise {lt : Seg → Seg → Prop} {s : Seg} {l : List Seg}
    (htest : ∀ h ∈ l, itimediff h.sn s.sn > 0 → lt s h) (htot : ∀ h ∈ l, ¬ itimediff h.sn s.sn > 0 → lt h s)
    (htr : ∀ h ∈ l, ∀ y ∈ l, lt s h → lt h y → lt s y) (hp : l.Pairwise lt) : (heapInsert s l).Pairwise lt := by
  obtain ⟨n, _, e, hbefore, hat⟩ := heapInsert_eq s l
  rw [e]
  have hp' := hp
  rw [← List.take_append_drop n l, List.pairwise_append] at hp'
  obtain ⟨h1, h2, h3⟩ := hp'
  have hs : ∀ y ∈ l.drop n, lt s y := by
    cases hd : l.drop n with
    | nil => exact fun _ hy => absurd hy List.not_mem_nil
    | cons h t =>
      have hh : h ∈ l := List.mem_of_mem_drop (hd ▸ List.mem_cons_self)
      have hsh := htest h hh (hat h t hd)
      rw [hd] at h2
      intro y hy
      rcases List.mem_cons.1 hy with rfl | hy
      · exact hsh
      · exact htr h hh y (List.mem_of_mem_drop (hd ▸ List.mem_cons_of_mem _ hy)) hsh ((List.pairwise_cons.1 h2).1 y hy)
  refine List.pairwise_append.2 ⟨h1, List.pairwise_cons.2 ⟨hs, h2⟩, fun a ha b hb => ?_⟩
  rcases List.mem_cons.1 hb with rfl | hb
  · exact htot a (List.mem_of_mem_take ha) (hbefore a ha)
  · exact h3 a ha b hb

/-! ### the move from the receive buffer to the delivery queue -/

/-- the loop moves a prefix of the buffer: each segment moved carried the number expected at its turn and found room;
the one it stops at does not carry the next number, unless the queue is full -/
theorem moveLoop_eq (wnd : Nat) (buf q : List Seg) (nxt : U32) :
    ∃ n, n ≤ buf.length ∧ moveLoop wnd buf q nxt = ⟨buf.drop n, q ++ buf.take n, nxt + BitVec.ofNat 32 n⟩ ∧
      (n = 0 ∨ q.length + n ≤ wnd) ∧
      (buf.take n).map (·.sn) = (List.range n).map (fun i => nxt + BitVec.ofNat 32 i) ∧
      ∀ s rest, buf.drop n = s :: rest → s.sn = nxt + BitVec.ofNat 32 n → wnd ≤ q.length + n := by
  induction buf generalizing q nxt with
  | nil => exact ⟨0, Nat.le_refl _, by simp [moveLoop], Or.inl rfl, rfl, fun _ _ h => by cases h⟩
  | cons s rest ih =>
    unfold moveLoop
    by_cases c : s.sn = nxt ∧ q.length < wnd
    · rw [if_pos c]
      obtain ⟨n, hn, e, hq, hs, hstop⟩ := ih (q ++ [s]) (nxt + 1)
      have hl : (q ++ [s]).length = q.length + 1 := by simp
      have hadd (i : Nat) : nxt + 1 + BitVec.ofNat 32 i = nxt + BitVec.ofNat 32 (i + 1) := by
        rw [BitVec.add_assoc, Nat.add_comm, BitVec.ofNat_add]; rfl
      refine ⟨n + 1, Nat.succ_le_succ hn, ?_, Or.inr ?_, ?_, ?_⟩
      · rw [e, hadd, List.drop_succ_cons, List.take_succ_cons, List.append_assoc]; rfl
      · rcases hq with rfl | hq
        · exact c.2
        · rw [hl] at hq; omega
      · rw [List.take_succ_cons, List.map_cons, hs, List.range_succ_eq_map, List.map_cons, List.map_map, c.1]
        rw [show nxt + BitVec.ofNat 32 0 = nxt from BitVec.add_zero nxt]
        exact congrArg (nxt :: ·) (List.map_congr_left fun i _ => hadd i)
      · intro x r hx hsn
        rw [List.drop_succ_cons] at hx
        have := hstop x r hx (by rw [hsn, hadd])
        rw [hl] at this; omega
    · rw [if_neg c]
      refine ⟨0, Nat.zero_le _, by simp, Or.inl rfl, rfl, ?_⟩
      intro x r hx hsn
      rw [List.drop_zero] at hx
      cases hx
      have h0 : nxt + BitVec.ofNat 32 0 = nxt := by simp
      rw [h0] at hsn
      exact Nat.le_of_not_lt fun hlt => c ⟨hsn, by omega⟩

theorem moveLoop_q_le (w : Nat) (buf q : List Seg) (nxt : U32) (h : q.length ≤ w) :
    (moveLoop w buf q nxt).q.length ≤ w := by
  obtain ⟨n, _, e, hq, _⟩ := moveLoop_eq w buf q nxt
  rw [e]
  show (q ++ buf.take n).length ≤ w
  rcases hq with rfl | hq
  · simpa using h
  · rw [List.length_append, List.length_take]; omega

theorem moveLoop_concat (wnd : Nat) (buf q : List Seg) (nxt : U32) :
    (moveLoop wnd buf q nxt).q ++ (moveLoop wnd buf q nxt).buf = q ++ buf := by
  obtain ⟨n, _, e, _⟩ := moveLoop_eq wnd buf q nxt
  rw [e]
  show q ++ buf.take n ++ buf.drop n = _
  rw [List.append_assoc, List.take_append_drop]

theorem moveLoop_forall {P : Seg → Prop} (wnd : Nat) {buf q : List Seg} (nxt : U32) (hb : ∀ s ∈ buf, P s)
    (hq : ∀ s ∈ q, P s) : (∀ s ∈ (moveLoop wnd buf q nxt).buf, P s) ∧ ∀ s ∈ (moveLoop wnd buf q nxt).q, P s := by
  obtain ⟨n, _, e, _⟩ := moveLoop_eq wnd buf q nxt
  rw [e]
  refine ⟨fun s hs => hb s (List.mem_of_mem_drop hs), fun s hs => ?_⟩
  rcases List.mem_append.1 hs with h | h
  · exact hq s h
  · exact hb s (List.mem_of_mem_take h)

/-- as `admitSegs_carry`: `hstep` gets the test of the loop for each segment moved -/
theorem moveLoop_carry {I : List Seg → List Seg → U32 → Prop} (wnd : Nat)
    (hstep : ∀ (s : Seg) (rest q : List Seg) (nxt : U32), I (s :: rest) q nxt → s.sn = nxt → q.length < wnd →
      I rest (q ++ [s]) (nxt + 1))
    (buf q : List Seg) (nxt : U32) (h : I buf q nxt) :
    I (moveLoop wnd buf q nxt).buf (moveLoop wnd buf q nxt).q (moveLoop wnd buf q nxt).nxt := by
  induction buf generalizing q nxt with
  | nil => exact h
  | cons s rest ih =>
    let Q (r : MoveRes) : Prop := I r.buf r.q r.nxt
    show Q (moveLoop wnd (s :: rest) q nxt)
    unfold moveLoop
    exact ite_cases (fun c => ih _ _ (hstep s rest q nxt h c.1 c.2)) (fun _ => h)

theorem moveLoop_pairwise {lt : Seg → Seg → Prop} (wnd : Nat) {buf : List Seg} (q : List Seg) (nxt : U32)
    (hp : buf.Pairwise lt) : (moveLoop wnd buf q nxt).buf.Pairwise lt := by
  obtain ⟨n, _, e, _⟩ := moveLoop_eq wnd buf q nxt
  rw [e]
  exact hp.sublist (List.drop_sublist n buf)

theorem moveLoop_map (g : Seg → Seg) (b : U32) (hg : ∀ s, (g s).sn = s.sn + b) (wnd : Nat) (buf q : List Seg) (nxt : U32) :
    moveLoop wnd (buf.map g) (q.map g) (nxt + b) =
      ⟨(moveLoop wnd buf q nxt).buf.map g, (moveLoop wnd buf q nxt).q.map g, (moveLoop wnd buf q nxt).nxt + b⟩ := by
  induction buf generalizing q nxt with
  | nil => rfl
  | cons s rest ih =>
    have hc : ((g s).sn = nxt + b ∧ (q.map g).length < wnd) ↔ (s.sn = nxt ∧ q.length < wnd) := by
      rw [hg, List.length_map]
      exact and_congr_left' (BitVec.add_left_inj b)
    have h1 : nxt + b + 1 = nxt + 1 + b := by rw [BitVec.add_assoc, BitVec.add_comm b, BitVec.add_assoc]
    rw [List.map_cons]
    unfold moveLoop
    by_cases c : s.sn = nxt ∧ q.length < wnd
    · rw [if_pos c, if_pos (hc.2 c), h1, ← ih (q ++ [s]) (nxt + 1), List.map_append]; rfl
    · rw [if_neg c, if_neg (fun h => c (hc.1 h))]; rfl

/-! ### `Recv`: one message off the delivery queue -/

end KcpVerif.Kcp

-- `popCount` and the two equations over it are named in C01's statements under `Recv`
namespace KcpVerif.Recv
open KcpVerif.Gen KcpVerif.Kcp

def popCount : List Seg → Nat
  | [] => 0
  | s :: rest => if s.frg = 0 then 1 else 1 + popCount rest

theorem popMsg_data (q : List Seg) :
    (popMsg q).data = ((q.take (popCount q)).map (·.data)).flatten := by
  induction q with
  | nil => rfl
  | cons s rest ih =>
    unfold popMsg popCount
    split
    · simp
    · simp only [ih]; rw [Nat.add_comm]; simp

theorem popMsg_rest (q : List Seg) : (popMsg q).rest = q.drop (popCount q) := by
  induction q with
  | nil => rfl
  | cons s rest ih =>
    unfold popMsg popCount
    split
    · simp
    · simp only [ih]; rw [Nat.add_comm]; simp

end KcpVerif.Recv

namespace KcpVerif.Kcp
open KcpVerif.Gen

theorem popMsg_length (q : List Seg) : (popMsg q).data.length = peekSum q := by
  induction q with
  | nil => rfl
  | cons s rest ih =>
    unfold popMsg peekSum
    by_cases c : s.frg = 0
    · rw [if_pos c, if_pos c]
    · rw [if_neg c, if_neg c]
      show (s.data ++ (popMsg rest).data).length = _
      rw [List.length_append, ih]

theorem peekSize_eq (k : Kcp) (h : ¬ peekSize k < 0) : peekSize k = (peekSum k.rcv_queue : Int) := by
  unfold peekSize at *
  split at h
  · exact absurd (by decide) h
  · rename_i s rest hq
    rw [hq] at h ⊢
    split
    · rename_i hf
      unfold peekSum; rw [if_pos hf]
    · rename_i hf
      rw [if_neg hf] at h
      split
      · rename_i hlt; rw [if_pos hlt] at h; exact absurd (by decide) h
      · rfl

theorem popMsg_rest_le (q : List Seg) : (popMsg q).rest.length ≤ q.length := by
  rw [Recv.popMsg_rest, List.length_drop]
  exact Nat.sub_le _ _

theorem popMsg_rest_mem {s : Seg} {q : List Seg} (h : s ∈ (popMsg q).rest) : s ∈ q := by
  rw [Recv.popMsg_rest] at h
  exact List.mem_of_mem_drop h

theorem popMsg_map (g : Seg → Seg) (hf : ∀ s, (g s).frg = s.frg) (hd : ∀ s, (g s).data = s.data) (q : List Seg) :
    popMsg (q.map g) = ⟨(popMsg q).data, (popMsg q).rest.map g⟩ := by
  induction q with
  | nil => rfl
  | cons s rest ih =>
    rw [List.map_cons]
    unfold popMsg
    rw [hf, hd, ih]
    by_cases c : s.frg = 0
    · rw [if_pos c, if_pos c]
    · rw [if_neg c, if_neg c]

theorem peekSum_map (g : Seg → Seg) (hf : ∀ s, (g s).frg = s.frg) (hd : ∀ s, (g s).data = s.data) (q : List Seg) :
    peekSum (q.map g) = peekSum q := by
  induction q with
  | nil => rfl
  | cons s rest ih =>
    rw [List.map_cons]
    unfold peekSum
    rw [hf, hd, ih]

/-! ### `Send`: cutting a buffer into segments -/

theorem mkSegs_forall {P : Seg → Prop} (mss : Nat) (stream : Bool) (c : Nat) (buf : Bytes)
    (hP : ∀ (frg : BitVec 8) (data : Bytes), data.length ≤ min buf.length mss → P { frg := frg, data := data }) :
    ∀ s ∈ mkSegs mss stream c buf, P s := by
  induction c generalizing buf with
  | zero => exact fun _ h => absurd h List.not_mem_nil
  | succ c ih =>
    refine List.forall_mem_cons.2 ⟨hP _ _ ?_, ih _ fun frg data hd => hP frg data ?_⟩
    · rw [List.length_take, Nat.min_comm]; exact Nat.le_refl _
    · rw [List.length_drop] at hd; omega

/-- the queue after `Send`: the old segments, the last of them possibly with bytes appended (stream mode), and fresh
ones that carry `frg` and `data` and are otherwise blank -/
theorem send_queue_forall (P : Seg → Prop) (k : Kcp) (b : Bytes) (hold : ∀ s ∈ k.snd_queue, P s)
    (hnew : ∀ frg data, P { frg := frg, data := data }) (hext : ∀ s data, P s → P { s with data := data }) :
    ∀ s ∈ (send k b).k.snd_queue, P s := by
  have hlast (data : Bytes) (o : Option Seg) (ho : k.snd_queue.getLast? = o) :
      ∀ s ∈ (match o with
        | some s0 => setLast k.snd_queue { s0 with data := s0.data ++ data }
        | none => k.snd_queue), P s := by
    cases o with
    | none => exact hold
    | some s0 =>
      intro x hx
      rcases List.mem_append.mp hx with h | h
      · exact hold x (List.dropLast_subset _ h)
      · rw [List.mem_singleton.mp h]; exact hext _ _ (hold s0 (List.mem_of_getLast? ho))
  let Q (r : SendRes) : Prop := ∀ s ∈ r.k.snd_queue, P s
  have h0 (r : Int) (p : Bool) : Q ⟨k, r, p⟩ := hold
  have h1 (c : Prop) [Decidable c] (data : Bytes) :
      ∀ s ∈ (if c then
          match k.snd_queue.getLast? with
          | some s0 => setLast k.snd_queue { s0 with data := s0.data ++ data }
          | none => k.snd_queue
        else k.snd_queue), P s :=
    ite_ind (P := fun q : List Seg => ∀ s ∈ q, P s) (hlast data _ rfl) hold
  show Q (send k b)
  unfold send
  exact ite_ind (h0 _ _) (ite_ind (h0 _ _) (ite_ind (h0 _ _) (ite_ind (h1 _ _) (ite_ind (h1 _ _)
    fun s hs => (List.mem_append.mp hs).elim (h1 _ _ s) (mkSegs_forall _ _ _ _ (fun frg data _ => hnew frg data) s)))))

/-! ### phase 1 of `flush`: the ACK segments -/

theorem ackFlush_k (wnd : BitVec 16) (una : U32) (total : Nat) (l : List Ack) (i : Nat) (st : AckSt) :
    (ackFlush wnd una total l i st).f.k = st.f.k ∧ (ackFlush wnd una total l i st).sc.cmd = st.sc.cmd := by
  induction l generalizing i st with
  | nil => exact ⟨rfl, rfl⟩
  | cons a rest ih =>
    let P (r : AckSt) : Prop := r.f.k = st.f.k ∧ r.sc.cmd = st.sc.cmd
    show P (ackFlush wnd una total (a :: rest) i st)
    unfold ackFlush
    refine ite_ind ?_ ?_
    · obtain ⟨h1, h2⟩ := ih (i + 1) ⟨(st.f.makeSpace IKCP_OVERHEAD).putHdr
        (encodeHdr (st.f.makeSpace IKCP_OVERHEAD).k.conv st.sc.cmd 0 wnd a.ts a.sn una 0), { st.sc with sn := a.sn, ts := a.ts }⟩
      exact ⟨h1.trans ((Fl.putHdr_k _ _).trans (Fl.makeSpace_k _ _)), h2⟩
    · obtain ⟨h1, h2⟩ := ih (i + 1) ⟨st.f.makeSpace IKCP_OVERHEAD, st.sc⟩
      exact ⟨h1.trans (Fl.makeSpace_k _ _), h2⟩

theorem ackFlush_forall {P : Fl → Prop} (wnd : BitVec 16) (una : U32) (total : Nat) (cmd : BitVec 8)
    (hms : ∀ f, P f → P (f.makeSpace IKCP_OVERHEAD))
    (hput : ∀ f (a : Ack), P f →
      P ((f.makeSpace IKCP_OVERHEAD).putHdr (encodeHdr (f.makeSpace IKCP_OVERHEAD).k.conv cmd 0 wnd a.ts a.sn una 0)))
    (l : List Ack) (i : Nat) (st : AckSt) (hc : st.sc.cmd = cmd) (h : P st.f) :
    P (ackFlush wnd una total l i st).f := by
  induction l generalizing i st with
  | nil => exact h
  | cons a rest ih =>
    have hp := hput _ a h
    rw [← hc] at hp
    let Q (r : AckSt) : Prop := P r.f
    show Q (ackFlush wnd una total (a :: rest) i st)
    unfold ackFlush
    exact ite_ind (ih _ ⟨_, _⟩ hc hp) (ih _ ⟨_, _⟩ hc (hms _ h))

/-- `key` reads none of the fields a (re)transmission writes: the hypothesis of `Live.segAfter_key` and its corollaries -/
def XmitKey {α : Type} (key : Seg → α) : Prop :=
  ∀ (s : Seg) (wnd : BitVec 16) (ts una rto xmit resendts fastack : U32),
    key { s with wnd := wnd, ts := ts, una := una, rto := rto, xmit := xmit, resendts := resendts, fastack := fastack } = key s

end KcpVerif.Kcp
