/-
Sessions refine cores.  Every step of a ghost session is a (possibly empty) run of core operations on a core ghost
state with the same core, log and wire — `WriteBuffers` is `Send`s of at most `mss` bytes and at most one `flush`,
`Read` at most one `Recv`, `packetInput` at most one `Input` — so every invariant of core runs is an invariant of
sessions, and two sessions joined by the replay-only network are matched by the two-core system of `Lemmas/C01Sys.lean`.
-/
import KcpVerif.Lemmas.C01SessSys
import KcpVerif.Lemmas.C01SessOps
import KcpVerif.Lemmas.C01SessCases
import KcpVerif.Lemmas.Fold

namespace KcpVerif.C01
open KcpVerif.Gen KcpVerif.Kcp KcpVerif.Recv KcpVerif.Send

-- the operations are used through their lemmas only; unfolding them when two states are compared is wasted work
attribute [local irreducible] Kcp.flush Kcp.input Kcp.send Kcp.recv

structure RefK (x : SessG) (g : GSt) : Prop where
  k     : x.s.k = g.k
  log   : x.log = g.log
  wire  : x.wire = g.wire
  alive : g.dead = false

def RefR (x : SessG) (g : GSt) : Prop := x.rd ++ x.s.bufptr = g.got.flatten

/-- `acc` travels with `wr` because `wr = accB` is kept only while `mss > 0`: with `mss = 0` the chunking loop of
`WriteBuffers` accepts bytes it never hands to `Send` -/
structure RefW (x : SessG) (g : GSt) : Prop where
  acc : InvAcc g
  wr  : x.wr = g.accB

theorem RefW.wr_eq {x : SessG} {g : GSt} (w : RefW x g) (h : RefK x g) :
    x.wr = bytesOf (x.log ++ x.s.k.snd_queue.map content) := by
  rw [w.wr, w.acc.acc, h.log, h.k]

theorem RefW.keep {x x' : SessG} {g : GSt} (w : RefW x g) (hw : x'.wr = x.wr) {ops : List Op}
    (hns : ∀ o ∈ ops, ∀ c, o ≠ .send c) : RefW x' (run g ops) :=
  ⟨run_invAcc ops g w.acc, by rw [hw, w.wr, run_accB ops g hns]⟩

theorem RefK.die {x : SessG} {g : GSt} (h : RefK x g) : RefK { x with dead := true } g :=
  ⟨h.k, h.log, h.wire, h.alive⟩

/-- what the replay-only network needs to know of the core operations of a session operation: none is an `Input`, or
the operation is `packetInput d` and they are one `Input` of the same bytes -/
def OpsOk (op : SessOp) (ops : List Op) : Prop :=
  (∀ o ∈ ops, isInput o = false) ∨ ∃ d now a, op = .input d now ∧ ops = [.input d true a now]

theorem opsOk_single {op : SessOp} {o : Op} (ho : isInput o = false) : OpsOk op [o] :=
  Or.inl fun o' h' => by rw [List.mem_singleton.mp h']; exact ho

/-- the session moves from `x` to `x'` while its core runs `ops` from `g` -/
structure Runs (x : SessG) (g : GSt) (x' : SessG) (ops : List Op) : Prop where
  chunked : Chunked g ops
  k : RefK x' (run g ops)
  r : RefR x g → RefR x' (run g ops)
  w : RefW x g → RefW x' (run g ops)

theorem Runs.stay {x x' : SessG} {g : GSt} (h : RefK x g) (hk : x'.s.k = x.s.k) (hl : x'.log = x.log)
    (hw : x'.wire = x.wire) (hwr : x'.wr = x.wr) (hrd : x'.rd ++ x'.s.bufptr = x.rd ++ x.s.bufptr) : Runs x g x' [] :=
  ⟨trivial, ⟨hk.trans h.k, hl.trans h.log, hw.trans h.wire, h.alive⟩, fun r => hrd.trans r, fun w => ⟨w.acc, hwr.trans w.wr⟩⟩

theorem Runs.refl {x : SessG} {g : GSt} (h : RefK x g) : Runs x g x [] := .stay h rfl rfl rfl rfl rfl

theorem Runs.trans {x x1 x2 : SessG} {g : GSt} {a b : List Op} (h1 : Runs x g x1 a) (h2 : Runs x1 (run g a) x2 b) :
    Runs x g x2 (a ++ b) := by
  refine ⟨h1.chunked.append h2.chunked, ?_, ?_, ?_⟩ <;> rw [run_append]
  · exact h2.k
  · exact fun r => h2.r (h1.r r)
  · exact fun w => h2.w (h1.w w)

theorem Runs.ofStep {x x' : SessG} {g g' : GSt} {o : Op} (e : step g o = g') (hns : ∀ c, o ≠ .send c) (hk : x'.s.k = g'.k)
    (hl : x'.log = g'.log) (hw : x'.wire = g'.wire) (hd : g'.dead = false) (hwr : x'.wr = x.wr)
    (hr : RefR x g → x'.rd ++ x'.s.bufptr = g'.got.flatten) : Runs x g x' [o] := by
  subst e
  exact ⟨⟨fun c e => absurd e (hns c), trivial⟩, ⟨hk, hl, hw, hd⟩, hr,
    fun w => w.keep hwr fun o' ho' => by rw [List.mem_singleton.mp ho']; exact hns⟩

theorem Runs.ofTx {x : SessG} {g : GSt} (h : RefK x g) {o : Op} {k' : Kcp} {outs : List Bytes} (t : Tx x.s.k o k' outs) :
    Runs x g { x with s := { x.s with k := k' }, log := x.log ++ admitted x.s.k k', wire := x.wire ++ outs } [o] :=
  .ofStep (step_tx h.alive (h.k ▸ t)) (fun c e => by subst e; cases t) rfl (by rw [h.k, h.log]) (by rw [h.wire]) h.alive
    rfl id

theorem Runs.ofRecv {x : SessG} {g : GSt} (h : RefK x g) (n : Nat) (hok : 0 ≤ (recv x.s.k n).n) (hb : x.s.bufptr = [])
    (s' : Sess) (data : Bytes) (hk : s'.k = (recv x.s.k n).k) (hdat : data ++ s'.bufptr = (recv x.s.k n).data) :
    Runs x g { x with s := s', rd := x.rd ++ data } [.recv n] := by
  refine .ofStep (step_recv_alive g n h.alive (h.k ▸ hok)) nofun (by rw [← h.k]; exact hk) h.log h.wire h.alive rfl
    fun hr => ?_
  show (x.rd ++ data) ++ s'.bufptr = (g.got ++ [(recv g.k n).data]).flatten
  have hr' : x.rd ++ x.s.bufptr = g.got.flatten := hr
  rw [hb, List.append_nil] at hr'
  rw [List.append_assoc, hdat, hr', h.k, List.flatten_append, List.flatten_singleton]

theorem Runs.ofSetter {x : SessG} {g : GSt} (h : RefK x g) {o : Op} (f : Kcp → Kcp) (e : step g o = { g with k := f g.k })
    (hns : ∀ c, o ≠ .send c) : Runs x g { x with s := { x.s with k := f x.s.k } } [o] :=
  .ofStep e hns (by rw [h.k]) h.log h.wire h.alive rfl id

theorem ChunkOps.notInput {mss : Nat} {ops : List Op} (h : ChunkOps mss ops) : ∀ o ∈ ops, isInput o = false := by
  intro o ho
  obtain ⟨c, hc, _⟩ := h o ho
  rw [hc]; rfl

theorem Runs.ofSends {x : SessG} {g : GSt} (h : RefK x g) (v : List Bytes) (hp : (Sess.sendAll v x.s.k).panic = false) :
    ∃ ops : List Op, ChunkOps g.k.mss.toNat ops ∧
      Runs x g { x with s := { x.s with k := (Sess.sendAll v x.s.k).k }, wr := x.wr ++ v.flatten } ops := by
  rw [h.k] at hp ⊢
  obtain ⟨ops, ho, hs, hk, ha⟩ := sendAll_run v g h.alive hp
  exact ⟨ops, ho, ho.chunked, ⟨hk.symm, h.log.trans hs.log.symm, h.wire.trans hs.wire.symm, hs.dead⟩,
    fun hr => by show x.rd ++ x.s.bufptr = _; rw [hs.got]; exact hr,
    fun w => ⟨run_invAcc ops g w.acc, by show x.wr ++ v.flatten = _; rw [ha w.acc.mss, w.wr]⟩⟩

theorem sessStep_run {x : SessG} {g : GSt} (h : RefK x g) (op : SessOp) :
    ∃ ops : List Op, OpsOk op ops ∧ Runs x g (sessStep x op) ops := by
  have none : ∀ {x' : SessG}, Runs x g x' [] → ∃ ops : List Op, OpsOk op ops ∧ Runs x g x' ops :=
    fun r => ⟨[], Or.inl nofun, r⟩
  refine sessStep_cases (P := fun x' => ∃ ops : List Op, OpsOk op ops ∧ Runs x g x' ops) x op (fun _ => none (.refl h))
    (none (.stay h rfl rfl rfl rfl rfl)) (fun v now _ hp hb => ?_) (fun blen _ => ?_) (fun now _ hp => ?_)
    (fun d now e hp => ?_) (fun s' t => ?_)
  · obtain ⟨hadm, hp1⟩ := wb_admitted x.s v now (by rw [hp]; nofun) (by rw [hb]; nofun)
    obtain ⟨ops1, ho1, r1⟩ := Runs.ofSends h v hp1
    by_cases hc : wbFlush x.s v
    · rw [wb_flush x.s v now hadm hp1 hc] at hp ⊢
      refine ⟨ops1 ++ [.flush true now], Or.inl fun o ho => ?_, r1.trans (.ofTx r1.k (.flush true now hp))⟩
      rcases List.mem_append.mp ho with h1 | h1
      · exact ho1.notInput o h1
      · rw [List.mem_singleton.mp h1]; rfl
    · rw [wb_noflush x.s v now hadm hp1 hc]
      simp only []
      rw [admitted_self _ _ rfl, List.append_nil, List.append_nil]
      exact ⟨ops1, Or.inl ho1.notInput, r1⟩
  · rcases read_cases x.s blen with ⟨hk, hdat⟩ | ⟨hb, n, hok, hk, hdat⟩
    · exact none (.stay h hk rfl rfl rfl (by
        show (x.rd ++ (x.s.read blen).data) ++ (x.s.read blen).s.bufptr = _
        rw [List.append_assoc, hdat]))
    · exact ⟨[.recv n], opsOk_single rfl, .ofRecv h n hok hb _ _ hk hdat⟩
  · exact ⟨[.flush true now], opsOk_single rfl, .ofTx h (.flush true now hp)⟩
  · rcases packetInput_cases x.s d now with hc | hc <;> rw [hc] at hp ⊢ <;> simp only []
    · rw [admitted_self _ _ rfl, List.append_nil, List.append_nil]
      exact none (.refl h)
    · exact ⟨[.input d true x.s.ackNoDelay now], Or.inr ⟨d, now, _, e, rfl⟩, .ofTx h (.input d true _ now hp)⟩
  · cases t with
    | writeDelay b => exact none (.stay h rfl rfl rfl rfl rfl)
    | ackNoDelay b => exact none (.stay h rfl rfl rfl rfl rfl)
    | noDelay a b c d =>
      exact ⟨[.noDelay a b c d], opsOk_single rfl, .ofSetter h (noDelay · a b c d) ((step_cfg_alive g h.alive).1 a b c d) nofun⟩
    | wndSize a b =>
      exact ⟨[.wndSize a b], opsOk_single rfl, .ofSetter h (wndSize · a b) ((step_cfg_alive g h.alive).2.1 a b) nofun⟩
    | setMtu m =>
      exact ⟨[.setMtu m], opsOk_single rfl, .ofSetter h (fun k => (setMtu k m).1) ((step_cfg_alive g h.alive).2.2 m) nofun⟩

theorem sessRun_run (ops : List SessOp) (x : SessG) (g : GSt) (h : RefK x g) :
    ∃ cops : List Op, Runs x g (sessRun x ops) cops := by
  induction ops generalizing x g with
  | nil => exact ⟨[], .refl h⟩
  | cons op rest ih =>
    obtain ⟨c1, _, r1⟩ := sessStep_run h op
    obtain ⟨c2, r2⟩ := ih (sessStep x op) (run g c1) r1.k
    exact ⟨c1 ++ c2, r1.trans r2⟩

theorem OpsOk.notInput {sop : SessOp} {ops : List Op} (ho : OpsOk sop ops) (hi : isSessInput sop = false) :
    ∀ o ∈ ops, isInput o = false := by
  rcases ho with h | ⟨d, now, a, rfl, _⟩
  · exact h
  · cases hi

structure Sim (x y : SessG) (S : Sys) : Prop where
  a : RefK x S.A
  w : RefW x S.A
  b : RefK y S.B
  r : RefR y S.B

theorem Sim.init (sA sB : Sess) (hA : Fresh sA.k) (hm : 0 < sA.k.mss.toNat) (hbB : sB.bufptr = []) :
    Sim { s := sA } { s := sB } ⟨{ k := sA.k }, { k := sB.k }⟩ :=
  ⟨⟨rfl, rfl, rfl, rfl⟩, ⟨fresh_invAcc sA.k hA hm, rfl⟩, ⟨rfl, rfl, rfl, rfl⟩, by show [] ++ sB.bufptr = _; rw [hbB]; rfl⟩

theorem Sim.stepA {a b a' : SessG} {S : Sys} (h : Sim a b S) {ops : List Op} (hk : RefK a' (run S.A ops))
    (hw : RefW a' (run S.A ops)) : Sim a' b (srun S (ops.map .a)) := by
  rw [srun_mapA]; exact ⟨hk, hw, h.b, h.r⟩

theorem Sim.stepB {a b b' : SessG} {S : Sys} (h : Sim a b S) {ops : List Op} (hn : ∀ o ∈ ops, isInput o = false)
    (hk : RefK b' (run S.B ops)) (hr : RefR b' (run S.B ops)) : Sim a b' (srun S (ops.map .b)) := by
  rw [srun_mapB ops hn]; exact ⟨h.a, h.w, hk, hr⟩

theorem Sim.deliver {a b b' : SessG} {S : Sys} (h : Sim a b S) (ack : Bool) (now : U32) {calls : List (Bytes × Bool)}
    (hc : ∀ cl ∈ calls, cl.1 ∈ S.A.wire ∨ cl.1.length < IKCP_OVERHEAD)
    (hk : RefK b' (run S.B (calls.map fun cl => Op.input cl.1 cl.2 ack now)))
    (hr : RefR b' (run S.B (calls.map fun cl => Op.input cl.1 cl.2 ack now))) :
    ∃ cops : List SOp, Sim a b' (srun S cops) := by
  obtain ⟨cops, e⟩ := srun_deliver ack now calls S hc
  exact ⟨cops, by rw [e]; exact ⟨h.a, h.w, hk, hr⟩⟩

theorem ssstep_sim {s : SessSys} {S : Sys} (h : Sim s.A s.B S) (op : SSOp) :
    ∃ cops : List SOp, Sim (ssstep s op).A (ssstep s op).B (srun S cops) := by
  refine ssstep_cases (P := fun s' => ∃ cops : List SOp, Sim s'.A s'.B (srun S cops)) s op ⟨[], h⟩ (fun o => ?_)
    (fun o hi => ?_) (fun d hd now => ?_)
  · obtain ⟨ops, _, r⟩ := sessStep_run h.a o
    exact ⟨ops.map .a, h.stepA r.k (r.w h.w)⟩
  · obtain ⟨ops, ho, r⟩ := sessStep_run h.b o
    exact ⟨ops.map .b, h.stepB (ho.notInput hi) r.k (r.r h.r)⟩
  · obtain ⟨ops, ho, r⟩ := sessStep_run h.b (.input d now)
    rcases ho with hn | ⟨_, _, a, e, rfl⟩
    · exact ⟨ops.map .b, h.stepB hn r.k (r.r h.r)⟩
    · cases e
      refine h.deliver a now (calls := [(d, true)]) (fun cl hcl => ?_) r.k (r.r h.r)
      rw [List.mem_singleton.mp hcl, ← h.a.wire]
      exact Or.inl hd

theorem ssrun_sim (ops : List SSOp) (s : SessSys) (S : Sys) (h : Sim s.A s.B S) :
    ∃ cops : List SOp, Sim (ssrun s ops).A (ssrun s ops).B (srun S cops) :=
  foldl_sim ssstep sstep (fun s S => Sim s.A s.B S) (fun _ _ => True)
    (fun _ _ op _ h _ => ⟨trivial, ssstep_sim h op⟩) ops s S h trivial

end KcpVerif.C01
