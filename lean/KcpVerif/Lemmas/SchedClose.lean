import KcpVerif.Lemmas.Sched
/-!
C17, `Close`: an extension of the transition system of `Model/Sched.lean` by `Close()`
(`close(ts.die)`, timedsched.go 184) and the `case <-ts.die: return` arms of the three `select`s
(lines 138, 160, 165).  Not linked into the driver; proofs only.

* `close` sets the flag (idempotent, `dieOnce`);
* `exitW i`: worker `i`, standing at its `select` after `close`, returns (its deferred `timer.Stop()`
  is modelled by disabling `fire` for an exited worker);
* `exitP`: the prepend goroutine, standing at its outer `select` or at the inner one (a batch it is
  handing over is abandoned), returns;
* every other step is a step of the base system, restricted to goroutines that have not returned.
  `Put` has no `die` check in the code, so it stays enabled: tasks submitted after (or too shortly
  before) `Close` are appended and never run.

Because every step either is a base step or leaves the base state unchanged (`CReachable.base`),
all safety theorems of C17 hold verbatim with `Close`.
-/
namespace KcpVerif.Sched

structure CState where
  s : State
  closed : Bool
  pexit : Bool
  wexit : List Bool
deriving DecidableEq, Repr

inductive CLabel
  | base (l : Label)
  | close
  | exitW (i : Nat)
  | exitP
deriving DecidableEq, Repr

def CState.wexited (cs : CState) (i : Nat) : Bool := cs.wexit.getD i false

/-- which base steps are still possible: a goroutine that has returned takes no step, a stopped
    timer does not fire, nobody receives from `chTask` for a returned worker -/
def CState.allowed (cs : CState) : Label → Bool
  | .tick _ => true
  | .put _ _ => true
  | .notify => true
  | .takeToken => !cs.pexit
  | .swap => !cs.pexit
  | .handoff i => !cs.pexit && !cs.wexited i
  | .w i _ => !cs.wexited i

def cstep (m : Mode) (cs : CState) : CLabel → Option CState
  | .base l =>
    if cs.allowed l = true then
      match step m cs.s l with
      | some s' => some { cs with s := s' }
      | none => none
    else none
  | .close => some { cs with closed := true }
  | .exitW i =>
    match cs.s.ws[i]? with
    | some w =>
      if cs.closed = true ∧ cs.wexited i = false ∧ w.pc = .select then
        some { cs with wexit := cs.wexit.set i true }
      else none
    | none => none
  | .exitP =>
    if cs.closed = true ∧ cs.pexit = false ∧ cs.s.ppc = .idle then some { cs with pexit := true }
    else none

def cinit (k : Nat) (t0 : Time) : CState :=
  { s := init k t0, closed := false, pexit := false, wexit := List.replicate k false }

inductive CReachable (m : Mode) (k : Nat) (t0 : Time) : CState → Prop
  | init : CReachable m k t0 (cinit k t0)
  | step {cs cs' : CState} {l : CLabel} : CReachable m k t0 cs → cstep m cs l = some cs' →
      CReachable m k t0 cs'

theorem cstep_base {m : Mode} {cs cs' : CState} {l : CLabel} (h : cstep m cs l = some cs') :
    cs'.s = cs.s ∨ ∃ bl, l = .base bl ∧ cs.allowed bl = true ∧ step m cs.s bl = some cs'.s := by
  cases l with
  | base bl =>
    simp only [cstep] at h
    split at h <;> try contradiction
    rename_i hal
    split at h <;> cases h
    rename_i s' hs'
    exact Or.inr ⟨bl, rfl, hal, hs'⟩
  | close => simp only [cstep, Option.some.injEq] at h; subst h; exact Or.inl rfl
  | exitW i =>
    simp only [cstep] at h
    split at h <;> try contradiction
    split at h <;> cases h
    exact Or.inl rfl
  | exitP =>
    simp only [cstep] at h
    split at h <;> cases h
    exact Or.inl rfl

theorem CReachable.base {m : Mode} {k : Nat} {t0 : Time} {cs : CState} (h : CReachable m k t0 cs) :
    Reachable m k t0 cs.s := by
  induction h with
  | init => exact Reachable.init
  | step _ hs ih =>
    rcases cstep_base hs with he | ⟨bl, _, _, hb⟩
    · rw [he]; exact ih
    · exact ih.step hb

def crun (m : Mode) : CState → List CLabel → Option CState
  | cs, [] => some cs
  | cs, l :: ls =>
    match cstep m cs l with
    | none => none
    | some cs' => crun m cs' ls

theorem CReachable.crun {m : Mode} {k : Nat} {t0 : Time} : ∀ {ls : List CLabel} {cs cs' : CState},
    CReachable m k t0 cs → Sched.crun m cs ls = some cs' → CReachable m k t0 cs'
  | [], cs, cs', h, hr => by cases hr; exact h
  | l :: ls, cs, cs', h, hr => by
    simp only [Sched.crun] at hr
    split at hr <;> try contradiction
    rename_i cs1 hs1
    exact CReachable.crun (h.step hs1) hr

end KcpVerif.Sched
