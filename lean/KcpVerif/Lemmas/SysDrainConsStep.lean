/-
`Cons` is preserved by A's `Input` of ANY genuine datagram from B — hence by every event of the closed system and by
every fault that does not forge.  And the case analysis over one event from a consistent state.
-/
import KcpVerif.Lemmas.SysDrainCons
import KcpVerif.Lemmas.SysDrainSnd
import KcpVerif.Lemmas.SysCleanStep

namespace KcpVerif.SysC
open KcpVerif.Kcp KcpVerif.Live KcpVerif.Wire KcpVerif.SysW KcpVerif.Sys

-- the unifier otherwise unfolds the whole of `flush` / `input` when it compares two states
attribute [local irreducible] Kcp.flush Kcp.input

theorem Cons.ackOk {p : Par} {s : State} {gab gba : GLink} (h : Cons p s gab gba) :
    ∀ d ∈ gba, ∀ fr ∈ d.2, AckOk p.base (Has p.base s.B.rcv_nxt s.B.rcv_buf) s.A.snd_nxt fr := by
  intro d hd fr hfr
  obtain ⟨_, _, e3, e4, e5⟩ := h.fba d hd fr hfr
  have hbub := h.bub
  refine ⟨e3, by omega, fun sn hsn => Or.inl (by omega), fun hc => ⟨e5 hc, ?_⟩⟩
  rcases e5 hc with h1 | ⟨y, hy, hys⟩
  · omega
  · rw [← hys]; exact h.bbuf y hy

theorem Cons.inA_loop {p : Par} {s : State} {t0 : Nat} {frs : List Frm} {gab grest : GLink}
    (h : Cons p s gab ((t0, frs) :: grest)) (hnw : NoWrap p.base s) :
    SndOk p.base p.conv (Has p.base s.B.rcv_nxt s.B.rcv_buf) (inFrs true frs { k := s.A }).k ∧
    SndShape s.A (inFrs true frs { k := s.A }).k ∧
    o p.base s.A.snd_una ≤ o p.base (inFrs true frs { k := s.A }).k.snd_una ∧
    (∀ fr ∈ frs, o p.base fr.una ≤ o p.base (inFrs true frs { k := s.A }).k.snd_una) ∧
    (∀ U, U ≤ o p.base s.A.snd_una → (∃ fr ∈ frs, Rel p.base U fr) →
      U < o p.base (inFrs true frs { k := s.A }).k.snd_una) ∧
    (inFrs true frs { k := s.A }).panic = false ∧ (inFrs true frs { k := s.A }).ret = 0 :=
  inFrs_snd p.base p.conv (Has p.base s.B.rcv_nxt s.B.rcv_buf) frs { k := s.A } ⟨h.acon, h.atag, h.ahas, h.arel⟩
    hnw.nxt_lt rfl (h.ackOk _ (List.mem_cons_self ..))

theorem inA_shape (k0 k1 : Kcp) (hk1 : k1 = k0 ∨ ∃ rtt, k1 = updateAck k0 rtt) (u : U32) :
    ∃ a b c cw inc, cwndOnAck k1 u = { k0 with rx_srtt := a, rx_rttvar := b, rx_rto := c, cwnd := cw, incr := inc } := by
  obtain ⟨cw, inc, hcw⟩ := Kcp.cwndOnAck_shape k1 u
  rw [hcw]
  rcases hk1 with rfl | ⟨rtt, rfl⟩
  · exact ⟨_, _, _, _, _, rfl⟩
  · obtain ⟨a, b, c, he⟩ := Kcp.updateAck_shape k0 rtt
    rw [he]
    exact ⟨_, _, _, _, _, rfl⟩

theorem cons_inA {p : Par} {s : State} {t0 : Nat} {frs : List Frm} {gab grest : GLink}
    (h : Cons p s gab ((t0, frs) :: grest)) (hnw : NoWrap p.base s) (k1 : Kcp)
    (hk1 : k1 = (inFrs true frs { k := s.A }).k ∨ ∃ rtt, k1 = updateAck (inFrs true frs { k := s.A }).k rtt) :
    (∀ fr ∈ frs, FrValid s.A.conv fr) ∧
    (inFrs true frs { k := s.A }).panic = false ∧ (inFrs true frs { k := s.A }).ret = 0 ∧
    (cwndOnAck k1 s.A.snd_una).acklist = [] ∧
    (cwndOnAck k1 s.A.snd_una).snd_nxt = s.A.snd_nxt ∧ (cwndOnAck k1 s.A.snd_una).snd_queue = s.A.snd_queue ∧
    Cons p { s with A := cwndOnAck k1 s.A.snd_una, ba := encL grest } gab grest := by
  have hd0 : ((t0, frs) : Nat × List Frm) ∈ (t0, frs) :: grest := List.mem_cons_self ..
  have hv : ∀ fr ∈ frs, FrValid s.A.conv fr := h.validBA _ hd0
  obtain ⟨a1, a2, _, _, _, a4, a5⟩ := h.inA_loop hnw
  obtain ⟨rw, sb, su, pr, est⟩ := a2
  obtain ⟨x, y, z, cw, inc, hK0⟩ := inA_shape _ k1 hk1 s.A.snd_una
  have hK : cwndOnAck k1 s.A.snd_una =
      { s.A with rmt_wnd := rw, snd_buf := sb, snd_una := su, probe := pr, rx_srtt := x, rx_rttvar := y, rx_rto := z,
                 cwnd := cw, incr := inc } := by
    rw [hK0, est]
  have hsb : (inFrs true frs { k := s.A }).k.snd_buf = sb := by rw [est]
  have hsu : (inFrs true frs { k := s.A }).k.snd_una = su := by rw [est]
  have hsn : (inFrs true frs { k := s.A }).k.snd_nxt = s.A.snd_nxt := by rw [est]
  have hKl : Total.InvK (inFrs true frs { k := s.A }).k := inFrs_invK h.aK frs hv
  have hK1 : Total.InvK k1 := by
    rcases hk1 with rfl | ⟨rtt, rfl⟩
    · exact hKl
    · exact hKl.of_pres (Total.updateAck_pres _ _)
  have hKK : Total.InvK (cwndOnAck k1 s.A.snd_una) := hK1.of_pres (Total.cwndOnAck_pres _ _)
  refine ⟨hv, a4, a5, by rw [hK]; exact h.aack, by rw [hK], by rw [hK], ?_⟩
  rw [hK] at hKK ⊢
  have hcon := a1.con
  unfold Contig at hcon
  rw [hsb, hsu, hsn] at hcon
  exact
  { hab := h.hab, hba := rfl, np := h.np, aK := hKK, aconv := h.aconv, aack := h.aack, aq := h.aq, acon := hcon
    atag := by show BufTagged p.conv sb; rw [← hsb]; exact a1.tag
    ahas := by show ∀ x ∈ sb, _; rw [← hsb]; exact a1.akd
    arel := by show ∀ sn, o p.base sn < o p.base su → _; rw [← hsu]; exact a1.rel
    bK := h.bK, bconv := h.bconv, bsb := h.bsb, bsq := h.bsq, bub := h.bub, bbuf := h.bbuf, back := h.back, fab := h.fab
    fba := fun d hd => h.fba d (List.mem_cons_of_mem _ hd) }

/-- `SysC.step_cases` with the head of a link read as a datagram of genuine frames -/
theorem Cons.step_cases {P : State → Prop} {p : Par} {s : State} {gab gba : GLink} (h : Cons p s gab gba) (ev : Ev)
    (same : P s) (tick : ev = .tick → quiet s = true → P { s with now := s.now + 1 })
    (send : ∀ b, ev = .send b → P { s with A := (s.A.send b).k, panic := s.panic || (s.A.send b).panic })
    (read : ev = .read → ¬ (s.B.recv s.B.peekSize.toNat).n < 0 →
      P { s with B := (s.B.recv s.B.peekSize.toNat).k, got := s.got ++ (s.B.recv s.B.peekSize.toNat).data })
    (flushA : ev = .flushA →
      P { s with A := (s.A.flush true (clk s.now)).k, nfA := s.now + (s.A.flush true (clk s.now)).interval.toNat,
                 ab := s.ab ++ stamp (s.now + s.D) (s.A.flush true (clk s.now)).outs,
                 panic := s.panic || (s.A.flush true (clk s.now)).panic })
    (flushB : ev = .flushB →
      P { s with B := (s.B.flush true (clk s.now)).k, nfB := s.now + (s.B.flush true (clk s.now)).interval.toNat,
                 ba := s.ba ++ stamp (s.now + s.D) (s.B.flush true (clk s.now)).outs,
                 panic := s.panic || (s.B.flush true (clk s.now)).panic })
    (dlvB : ∀ t0 frs grest, ev = .dlvB → gab = (t0, frs) :: grest → t0 ≤ s.now →
      P { s with B := (s.B.input (encFrames frs) true s.ndB (clk s.now)).k, ab := encL grest,
                 ba := s.ba ++ stamp (s.now + s.D) (s.B.input (encFrames frs) true s.ndB (clk s.now)).outs,
                 panic := s.panic || (s.B.input (encFrames frs) true s.ndB (clk s.now)).panic })
    (dlvA : ∀ t0 frs grest, ev = .dlvA → gba = (t0, frs) :: grest → t0 ≤ s.now →
      P { s with A := (s.A.input (encFrames frs) true s.ndA (clk s.now)).k, ba := encL grest,
                 ab := s.ab ++ stamp (s.now + s.D) (s.A.input (encFrames frs) true s.ndA (clk s.now)).outs,
                 panic := s.panic || (s.A.input (encFrames frs) true s.ndA (clk s.now)).panic }) :
    P (Sys.step s ev) := by
  refine SysC.step_cases s ev same tick send read flushA flushB ?_ ?_
  · intro d rest he e hd
    obtain ⟨t0, frs, grest, eg, rfl, rfl⟩ := encL_eq_cons (h.hab.symm.trans e)
    exact dlvB t0 frs grest he eg hd
  · intro d rest he e hd
    obtain ⟨t0, frs, grest, eg, rfl, rfl⟩ := encL_eq_cons (h.hba.symm.trans e)
    exact dlvA t0 frs grest he eg hd

/-- A's `Input` is a quiet update of the core (nothing written, the state stays consistent), possibly followed by a
full flush that leaves the next-flush time alone -/
theorem Cons.dlvA_cases {P : State → Prop} {p : Par} {s : State} {t0 : Nat} {frs : List Frm} {gab grest : GLink}
    (h : Cons p s gab ((t0, frs) :: grest)) (hnw : NoWrap p.base s)
    (hP : ∀ k1, (k1 = (inFrs true frs { k := s.A }).k ∨ ∃ rtt, k1 = updateAck (inFrs true frs { k := s.A }).k rtt) →
      Cons p { s with A := cwndOnAck k1 s.A.snd_una, ba := encL grest } gab grest →
      NoWrap p.base { s with A := cwndOnAck k1 s.A.snd_una, ba := encL grest } →
      P { s with A := cwndOnAck k1 s.A.snd_una, ba := encL grest } ∧
      P { s with A := (flush (cwndOnAck k1 s.A.snd_una) true (clk s.now)).k, ba := encL grest,
                 ab := s.ab ++ stamp (s.now + s.D) (flush (cwndOnAck k1 s.A.snd_una) true (clk s.now)).outs,
                 panic := s.panic || (flush (cwndOnAck k1 s.A.snd_una) true (clk s.now)).panic }) :
    P { s with A := (s.A.input (encFrames frs) true s.ndA (clk s.now)).k, ba := encL grest,
               ab := s.ab ++ stamp (s.now + s.D) (s.A.input (encFrames frs) true s.ndA (clk s.now)).outs,
               panic := s.panic || (s.A.input (encFrames frs) true s.ndA (clk s.now)).panic } := by
  have hquiet : ∀ k1, (k1 = (inFrs true frs { k := s.A }).k ∨ ∃ rtt, k1 = updateAck (inFrs true frs { k := s.A }).k rtt) →
      P { s with A := cwndOnAck k1 s.A.snd_una, ba := encL grest } ∧
      P { s with A := (flush (cwndOnAck k1 s.A.snd_una) true (clk s.now)).k, ba := encL grest,
                 ab := s.ab ++ stamp (s.now + s.D) (flush (cwndOnAck k1 s.A.snd_una) true (clk s.now)).outs,
                 panic := s.panic || (flush (cwndOnAck k1 s.A.snd_una) true (clk s.now)).panic } := by
    intro k1 hk1
    obtain ⟨_, _, _, _, hnx, hsq, hclean⟩ := cons_inA h hnw k1 hk1
    refine hP k1 hk1 hclean ?_
    unfold NoWrap at hnw ⊢
    show o p.base (cwndOnAck k1 s.A.snd_una).snd_nxt + (cwndOnAck k1 s.A.snd_una).snd_queue.length < _
    rw [hnx, hsq]; exact hnw
  obtain ⟨hv, hp, hr, _, _, _, _⟩ := cons_inA h hnw (inFrs true frs { k := s.A }).k (Or.inl rfl)
  have dis : ∀ {k1}, Sampled s.A frs k1 →
      k1 = (inFrs true frs { k := s.A }).k ∨ ∃ rtt, k1 = updateAck (inFrs true frs { k := s.A }).k rtt :=
    fun hk => hk.imp_right fun c => c.2
  refine inputFrames_cases (P := fun r => P { s with A := r.k, ba := encL grest,
                                                      ab := s.ab ++ stamp (s.now + s.D) r.outs,
                                                      panic := s.panic || r.panic }) s.A frs s.ndA (clk s.now) hv hp hr
    (fun hnil => ?_) (fun k1 hk _ => ?_) (fun k1 hk _ _ => (hquiet k1 (dis hk)).2) (fun k1 hk _ c => ?_)
  · subst hnil
    have h0 := (hquiet _ (Or.inl rfl)).1
    rw [show cwndOnAck (inFrs true [] { k := s.A }).k s.A.snd_una = s.A from cwndOnAck_self s.A] at h0
    simp only [stamp, List.map_nil, List.append_nil, Bool.or_false]
    exact h0
  · simp only [stamp, List.map_nil, List.append_nil, Bool.or_false]
    exact (hquiet k1 (dis hk)).1
  · -- A lists no acknowledgement: no ACK-only flush
    obtain ⟨_, _, _, hal, _, _, hclean⟩ := cons_inA h hnw k1 (dis hk)
    exact absurd c (no_ackOnly hal hclean.aK)

theorem inA_una (st : InLoop) (k1 : Kcp) (hk1 : k1 = st.k ∨ ∃ rtt, k1 = updateAck st.k rtt) (u : U32) :
    (cwndOnAck k1 u).snd_una = st.k.snd_una := by
  obtain ⟨_, _, _, _, _, e⟩ := inA_shape st.k k1 hk1 u
  rw [e]

theorem dlvA_una {p : Par} {s : State} {t0 : Nat} {frs : List Frm} {gab grest : GLink}
    (h : Cons p s gab ((t0, frs) :: grest)) (hnw : NoWrap p.base s) (hdue : t0 ≤ s.now) :
    (Sys.step s .dlvA).A.snd_una = (inFrs true frs { k := s.A }).k.snd_una := by
  have hba : s.ba = ⟨t0, encFrames frs⟩ :: encL grest := h.hba
  rw [step_dlvA_cons s _ _ hba, if_pos hdue]
  refine h.dlvA_cases (P := fun s' => s'.A.snd_una = (inFrs true frs { k := s.A }).k.snd_una) hnw (fun k1 hk1 _ _ => ?_)
  have hu := inA_una (inFrs true frs { k := s.A }) k1 hk1 s.A.snd_una
  exact ⟨hu, by show (flush (cwndOnAck k1 s.A.snd_una) true (clk s.now)).k.snd_una = _; rw [flush_una, hu]⟩

theorem phase_D {p : Par} {s : State} {t0 : Nat} {frs : List Frm} {gab grest : GLink}
    (h : Cons p s gab ((t0, frs) :: grest)) (hnw : NoWrap p.base s) (hdue : t0 ≤ s.now) :
    ∀ fr ∈ frs, o p.base fr.una ≤ o p.base (Sys.step s .dlvA).A.snd_una := by
  rw [dlvA_una h hnw hdue]
  exact (h.inA_loop hnw).2.2.2.1

theorem phase_D_rel {p : Par} {s : State} {t0 : Nat} {frs : List Frm} {gab grest : GLink}
    (h : Cons p s gab ((t0, frs) :: grest)) (hnw : NoWrap p.base s) (hdue : t0 ≤ s.now) (U : Nat)
    (hU : U ≤ o p.base s.A.snd_una) (hrel : ∃ fr ∈ frs, Rel p.base U fr) :
    U < o p.base (Sys.step s .dlvA).A.snd_una := by
  rw [dlvA_una h hnw hdue]
  exact (h.inA_loop hnw).2.2.2.2.1 U hU hrel

theorem cons_step {p : Par} {s : State} {gab gba : GLink} (h : Cons p s gab gba) (hnw : NoWrap p.base s) (ev : Ev) :
    ∃ gab' gba', Cons p (Sys.step s ev) gab' gba' := by
  refine h.step_cases (P := fun s' => ∃ gab' gba', Cons p s' gab' gba') ev ⟨gab, gba, h⟩
    (fun _ _ => ⟨gab, gba, cons_tick h⟩) (fun b _ => ⟨gab, gba, cons_send h b⟩) (fun _ _ => ⟨gab, gba, cons_read h hnw⟩)
    (fun _ => ?_) (fun _ => ?_) ?_ ?_
  · obtain ⟨gab', hc⟩ := cons_flushA h hnw (s.now + (s.A.flush true (clk s.now)).interval.toNat)
    exact ⟨gab', gba, hc⟩
  · obtain ⟨gba', hc⟩ := cons_flushB h true (s.now + (s.B.flush true (clk s.now)).interval.toNat)
    exact ⟨gab, gba', hc⟩
  · rintro t0 frs grest _ rfl _
    obtain ⟨gba', hc⟩ := cons_dlvB h hnw
    exact ⟨grest, gba', hc⟩
  · rintro t0 frs grest _ rfl _
    refine h.dlvA_cases (P := fun s' => ∃ gab' gba', Cons p s' gab' gba') hnw (fun k1 _ hclean hnw1 => ?_)
    obtain ⟨gab', hc⟩ := cons_flushA hclean hnw1 s.nfA
    exact ⟨⟨gab, grest, hclean⟩, ⟨gab', grest, hc⟩⟩

theorem Cons.run {p : Par} {H J : State → Prop} (hH : ∀ s, H s → NoWrap p.base s)
    (hstep : ∀ s gab gba ev, Cons p s gab gba → H s → J s → J (Sys.step s ev))
    (evs : List Ev) (s : State) (gab gba : GLink) (h : Cons p s gab gba) (hr : RunP H s evs) (hj : J s) :
    (∃ gab' gba', Cons p (Sys.run s evs) gab' gba') ∧ J (Sys.run s evs) :=
  RunP.inv (J := fun s => (∃ gab gba, Cons p s gab gba) ∧ J s)
    (fun s ev hs _ ⟨⟨gab, gba, hc⟩, hj⟩ => ⟨cons_step hc (hH s hs) ev, hstep s gab gba ev hc hs hj⟩) evs s hr
    ⟨⟨gab, gba, h⟩, hj⟩

/-- an event of the network with faults: a fair event, or any rearrangement of what is in flight -/
inductive NetEv where
  | fair (ev : Ev)
  | shuffle (ab' ba' : List Dgram)

/-- a `shuffle` that is not a rearrangement (it would forge a datagram) is refused -/
def netStep (s : State) : NetEv → State
  | .fair ev => Sys.step s ev
  | .shuffle ab' ba' =>
    if (ab'.all fun d => decide (d ∈ s.ab)) && (ba'.all fun d => decide (d ∈ s.ba)) then shuffle s ab' ba' else s

def netRun (s : State) (evs : List NetEv) : State := evs.foldl netStep s

theorem netStep_cases {P : State → Prop} (s : State) (ev : NetEv) (fair : ∀ e, P (Sys.step s e))
    (shuffled : ∀ ab' ba', (∀ d ∈ ab', d ∈ s.ab) → (∀ d ∈ ba', d ∈ s.ba) → P (shuffle s ab' ba')) (refused : P s) :
    P (netStep s ev) := by
  cases ev with
  | fair e => exact fair e
  | shuffle ab' ba' =>
    refine ite_cases (P := P) (fun hc => ?_) (fun _ => refused)
    simp only [Bool.and_eq_true, List.all_eq_true, decide_eq_true_eq] at hc
    exact shuffled ab' ba' hc.1 hc.2

theorem cons_netStep {p : Par} {s : State} {gab gba : GLink} (h : Cons p s gab gba) (hnw : NoWrap p.base s)
    (ev : NetEv) : ∃ gab' gba', Cons p (netStep s ev) gab' gba' :=
  netStep_cases (P := fun s' => ∃ gab' gba', Cons p s' gab' gba') s ev (cons_step h hnw)
    (fun ab' ba' h1 h2 => cons_shuffle h ab' ba' h1 h2) ⟨gab, gba, h⟩

def NetNoWrap (base : U32) : State → List NetEv → Prop
  | s, [] => NoWrap base s
  | s, ev :: rest => NoWrap base s ∧ NetNoWrap base (netStep s ev) rest

theorem NetNoWrap.inv {base : U32} {J : State → Prop} (hstep : ∀ s ev, NoWrap base s → J s → J (netStep s ev)) :
    ∀ (evs : List NetEv) (s : State), NetNoWrap base s evs → J s → J (netRun s evs) := by
  intro evs
  induction evs with
  | nil => intro s _ h; exact h
  | cons ev rest ih => intro s hr h; exact ih _ hr.2 (hstep s ev hr.1 h)

theorem cons_netRun {p : Par} (evs : List NetEv) (s : State) (gab gba : GLink) (h : Cons p s gab gba)
    (hr : NetNoWrap p.base s evs) : ∃ gab' gba', Cons p (netRun s evs) gab' gba' :=
  NetNoWrap.inv (J := fun s => ∃ gab gba, Cons p s gab gba) (fun _ ev hnw ⟨_, _, hc⟩ => cons_netStep hc hnw ev) evs s hr
    ⟨gab, gba, h⟩

/-- the start: two fresh cores with the same conversation id, nothing in flight -/
def ConsInit (A B : Kcp) : Prop :=
  Total.InvK A ∧ Total.InvK B ∧ A.conv = B.conv ∧ A.acklist = [] ∧ A.snd_buf = [] ∧ A.snd_queue = [] ∧
  A.snd_una = A.snd_nxt ∧ B.snd_buf = [] ∧ B.snd_queue = [] ∧ B.rcv_buf = [] ∧ B.acklist = [] ∧ B.rcv_nxt = A.snd_nxt

instance (A B : Kcp) : Decidable (ConsInit A B) := by unfold ConsInit; infer_instance

theorem cons_init (A B : Kcp) (D t0 : Nat) (ndA ndB : Bool) (h : ConsInit A B) :
    Cons ⟨A.snd_nxt, A.conv, 0, 0, 0⟩ (Sys.init A B D t0 ndA ndB) [] [] := by
  obtain ⟨h1, h2, h3, h4, h5, h6, h7, h8, h9, h10, h11, h12⟩ := h
  have z : o A.snd_nxt A.snd_nxt = 0 := o_self _
  exact
  { hab := rfl, hba := rfl, np := rfl, aK := h1, aconv := rfl, aack := h4
    aq := by show ∀ x ∈ A.snd_queue, _; rw [h6]; intro x hx; simp at hx
    acon := by
      show Contig A.snd_nxt A
      unfold Contig; rw [h5, h7, z]; simp
    atag := by show BufTagged _ A.snd_buf; rw [h5]; intro x hx; simp at hx
    ahas := by show ∀ x ∈ A.snd_buf, _; rw [h5]; intro x hx; simp at hx
    arel := by
      show ∀ sn, o A.snd_nxt sn < o A.snd_nxt A.snd_una → _
      rw [h7, z]; intro sn hsn; omega
    bK := h2, bconv := h3.symm, bsb := h8, bsq := h9
    bub := by show o A.snd_nxt B.rcv_nxt ≤ _; rw [h12]; exact Nat.le_refl _
    bbuf := by show ∀ x ∈ B.rcv_buf, _; rw [h10]; intro x hx; simp at hx
    back := by show ∀ a ∈ B.acklist, _; rw [h11]; intro a ha; simp at ha
    fab := by intro d hd; simp at hd
    fba := by intro d hd; simp at hd }

end KcpVerif.SysC
