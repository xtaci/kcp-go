/-
Progress and drain on the clean path (C02).  Segments in A's send buffer are never modified and old sequence numbers
never come back (`Keep`), so the acknowledgement-latency bound of the invariant gives: what is in the send buffer now
has left it `2 D + interval_B` later (for less than 2^31 ms, so that the 32-bit timestamps identify the segment).  The
clock passes through every value, so this applies at the first moment past the bound, and `Keep` carries it to every
later state; with the writer stopped and the queue empty nothing is left waiting.
-/
import KcpVerif.Lemmas.SysWinRun

namespace KcpVerif.SysC
open KcpVerif.Kcp KcpVerif.Sys KcpVerif.Serial

theorem clk_inj_near (t t' : Nat) (h : clk t = clk t') (h1 : t ≤ t') (h2 : t' < t + 2 ^ 32) : t = t' := by
  have a := clk_rep t
  have b := clk_rep t'
  rw [h] at a
  unfold Rep at a b
  omega

theorem clean_progress {p : Par} {s : State} {gab gba : GLink} (h : Clean p s gab gba) (w : Win p s gba)
    (evs : List Ev) (hr : RunNoWrap p.base s evs)
    (ht1 : s.now + 2 * s.D + p.I < (Sys.run s evs).now) (ht2 : (Sys.run s evs).now < s.now + 2 ^ 31) :
    ∀ y ∈ (Sys.run s evs).A.snd_buf, o p.base s.A.snd_nxt ≤ o p.base y.sn := by
  obtain ⟨g1, g2, hc, hw, hnw, hk⟩ := cleanwin_run_keep evs s gab gba h w hr
  intro y hy
  rcases hk.2 y hy with hold | hnew
  · exfalso
    obtain ⟨t, e1, e2, e3⟩ := h.age_nat (h.aseg y hold)
    obtain ⟨t', f1, f2, f3⟩ := hc.age_nat (hc.aseg y hy)
    rw [run_D] at f3
    have hpar := h.par
    have harto := h.arto
    have : t = t' := clk_inj_near t t' (e1.symm.trans f1) (by omega) (by omega)
    omega
  · exact hnew

theorem idle_run (evs : List Ev) (s : State) (hq : s.A.snd_queue = []) (hns : ∀ ev ∈ evs, isSend ev = false) :
    (Sys.run s evs).A.snd_queue = [] ∧ (Sys.run s evs).A.snd_nxt = s.A.snd_nxt :=
  foldl_inv_mem (P := fun s' : State => s'.A.snd_queue = [] ∧ s'.A.snd_nxt = s.A.snd_nxt) evs
    (fun s' ev he ⟨hq', hn⟩ => ⟨(idle_step hq' ev (hns ev he)).1, (idle_step hq' ev (hns ev he)).2.trans hn⟩) s ⟨hq, rfl⟩

theorem runNoWrap_split (base : U32) (a b : List Ev) (s : State) (h : RunNoWrap base s (a ++ b)) :
    RunNoWrap base s a ∧ RunNoWrap base (Sys.run s a) b := by
  obtain ⟨h1, h2⟩ := RunP.split a b s ((runNoWrap_iff base (a ++ b) s).mp h)
  exact ⟨(runNoWrap_iff base a s).mpr h1, (runNoWrap_iff base b _).mpr h2⟩

theorem clean_progress_ever {p : Par} {s : State} {gab gba : GLink} (h : Clean p s gab gba) (w : Win p s gba)
    (evs : List Ev) (hr : RunNoWrap p.base s evs) (ht1 : s.now + 2 * s.D + p.I < (Sys.run s evs).now) :
    (∀ y ∈ (Sys.run s evs).A.snd_buf, o p.base s.A.snd_nxt ≤ o p.base y.sn) ∧
    o p.base s.A.snd_nxt ≤ o p.base (Sys.run s evs).A.snd_una := by
  obtain ⟨a, b, hab, hτ⟩ := run_reaches (s.now + 2 * s.D + p.I + 1) evs s (by omega) (by omega)
  subst hab
  obtain ⟨hra, hrb⟩ := runNoWrap_split p.base a b s hr
  have hpar := h.par
  have harto := h.arto
  have hmid := clean_progress h w a hra (by omega) (by omega)
  obtain ⟨g1, g2, hc, hw, hnw, hk⟩ := cleanwin_run_keep a s gab gba h w hra
  obtain ⟨g3, g4, hc2, hw2, hnw2, hk2⟩ := cleanwin_run_keep b _ g1 g2 hc hw hrb
  rw [run_append]
  have hall : ∀ y ∈ (Sys.run (Sys.run s a) b).A.snd_buf, o p.base s.A.snd_nxt ≤ o p.base y.sn := by
    intro y hy
    rcases hk2.2 y hy with hy' | hy'
    · exact hmid y hy'
    · exact Nat.le_trans hk.1 hy'
  refine ⟨hall, ?_⟩
  cases hbuf : (Sys.run (Sys.run s a) b).A.snd_buf with
  | nil => rw [← una_eq_nxt hw2.wc hbuf]; exact Nat.le_trans hk.1 hk2.1
  | cons y r => rw [← hw2.wc.head hbuf]; exact hall y (by rw [hbuf]; exact List.mem_cons_self ..)

theorem clean_drain_ever {p : Par} {s : State} {gab gba : GLink} (h : Clean p s gab gba) (w : Win p s gba)
    (evs : List Ev) (hr : RunNoWrap p.base s evs) (hq : s.A.snd_queue = []) (hns : ∀ ev ∈ evs, isSend ev = false)
    (ht1 : s.now + 2 * s.D + p.I < (Sys.run s evs).now) : (Sys.run s evs).A.waitSnd = 0 := by
  obtain ⟨g1, g2, hc, _, _⟩ := cleanwin_run evs s gab gba h w hr
  obtain ⟨i1, i2⟩ := idle_run evs s hq hns
  have hp := (clean_progress_ever h w evs hr ht1).1
  have hb : (Sys.run s evs).A.snd_buf = [] := by
    cases hbuf : (Sys.run s evs).A.snd_buf with
    | nil => rfl
    | cons y r =>
      have hy : y ∈ (Sys.run s evs).A.snd_buf := by rw [hbuf]; exact List.mem_cons_self ..
      have := hp y hy
      have := hc.abnd y hy
      rw [i2] at this
      omega
  unfold waitSnd
  rw [hb, i1]; rfl

end KcpVerif.SysC
