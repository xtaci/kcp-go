/-
C04 (truthful window): every segment that `flush` writes into a datagram carries the window value
`wndUnused k` computed at the start of that flush.  The frames of a flush are known exactly (`SysW.flush_frames`),
and each kind carries that value: the ACK / WASK / WINS headers through the scratch header, the PUSH headers
because `xmitOne` stamps `wnd` on every segment it (re)sends.
Core Lean only.
-/
import KcpVerif.Lemmas.KcpOps
import KcpVerif.Lemmas.WrapCodec
import KcpVerif.Lemmas.SysWire

namespace KcpVerif.Kcp
open KcpVerif.Gen

/-- a segment as it appears on the wire; the same record as `Wire.Frm` (`ofFrm`, `encFrames_eq` translate) -/
structure WireSeg where
  conv : U32
  cmd  : BitVec 8
  frg  : BitVec 8
  wnd  : BitVec 16
  ts   : U32
  sn   : U32
  una  : U32
  data : Bytes
deriving Repr, DecidableEq

/-- 24 header bytes (with `len = data.length`) followed by the payload -/
def WireSeg.enc (w : WireSeg) : Bytes :=
  encodeHdr w.conv w.cmd w.frg w.wnd w.ts w.sn w.una w.data.length ++ w.data

def encSegs (l : List WireSeg) : Bytes := (l.map WireSeg.enc).flatten

/-- what a receiver can rely on: whole segments, every one advertising `wnd` -/
def AllWnd (wnd : BitVec 16) (b : Bytes) : Prop := ∃ l : List WireSeg, b = encSegs l ∧ ∀ w ∈ l, w.wnd = wnd

theorem allWnd_nil (wnd : BitVec 16) : AllWnd wnd [] := ⟨[], rfl, fun _ h => absurd h List.not_mem_nil⟩

/-- `panic = false →`: after a recorded slice-bounds panic nothing is claimed of the buffers -/
def FlOK (wnd : BitVec 16) (f : Fl) : Prop :=
  f.panic = false → AllWnd wnd f.cur ∧ ∀ o ∈ f.outs, AllWnd wnd o

theorem FlOK.makeSpace {wnd : BitVec 16} {f : Fl} (h : FlOK wnd f) (n : Nat) : FlOK wnd (f.makeSpace n) := by
  unfold Fl.makeSpace
  split
  · intro hp
    obtain ⟨hc, ho⟩ := h hp
    refine ⟨allWnd_nil wnd, ?_⟩
    intro o hm
    rcases List.mem_append.1 hm with hm | hm
    · exact ho o hm
    · rw [List.mem_singleton.1 hm]; exact hc
  · exact h

theorem xmitStamp_wnd (s : Seg) (now : U32) (wnd : BitVec 16) (una : U32) :
    (xmitStamp true s now wnd una).wnd = wnd := rfl

def ofFrm (fr : Wire.Frm) : WireSeg := ⟨fr.conv, fr.cmd, fr.frg, fr.wnd, fr.ts, fr.sn, fr.una, fr.data⟩

theorem encFrames_eq (frs : List Wire.Frm) : Wire.encFrames frs = encSegs (frs.map ofFrm) := by
  unfold Wire.encFrames encSegs
  rw [List.map_map]
  rfl

theorem flush_allWnd (k : Kcp) (full : Bool) (now : U32) (hp : (flush k full now).panic = false) :
    ∀ o ∈ (flush k full now).outs, AllWnd (wndUnused k) o := by
  intro o ho
  obtain ⟨g, rfl, hg⟩ := SysW.flush_outs_mem k full now hp ho
  refine ⟨g.map ofFrm, encFrames_eq g, fun w hw => ?_⟩
  obtain ⟨fr, hfr, rfl⟩ := List.mem_map.1 hw
  exact SysW.flushFrs_wnd k full now fr (hg fr hfr)

theorem flush_wndUnused (k : Kcp) (full : Bool) (now : U32) : wndUnused (flush k full now).k = wndUnused k := by
  obtain ⟨pw, tp, st, ss, cw, inc, done, hk, _⟩ := flush_k k full now
  rw [hk]; rfl

/-- the `wnd` fields a receiver reads from a datagram, walking it exactly as the parse loop of `Input`
does: 24-byte header, `wnd` at offset 6, `len` at offset 20, skip `len` payload bytes -/
def wndFields : Nat → Bytes → List (BitVec 16)
  | 0, _ => []
  | fuel + 1, data =>
    if data.length < IKCP_OVERHEAD then []
    else rd16 data 6 :: wndFields fuel ((data.drop IKCP_OVERHEAD).drop (rd32 data 20).toNat)

theorem encSegs_cons (w : WireSeg) (l : List WireSeg) : encSegs (w :: l) = w.enc ++ encSegs l := by
  unfold encSegs; simp

theorem wndFields_enc (l : List WireSeg) (hl : ∀ w ∈ l, w.data.length < 2^32) (fuel : Nat) (hf : l.length ≤ fuel) :
    wndFields fuel (encSegs l) = l.map (·.wnd) := by
  induction l generalizing fuel with
  | nil => cases fuel <;> simp [wndFields, encSegs, IKCP_OVERHEAD]
  | cons w t ih =>
    cases fuel with
    | zero => simp at hf
    | succ fuel =>
      have hw := hl w (List.mem_cons_self ..)
      rw [encSegs_cons]
      unfold wndFields WireSeg.enc
      obtain ⟨_, _, _, r6, _, _, _, r20⟩ :=
        encodeHdr_reads w.conv w.cmd w.frg w.wnd w.ts w.sn w.una w.data.length (w.data ++ encSegs t) _ rfl
      rw [List.append_assoc, r6, r20]
      have hlen : ¬ (encodeHdr w.conv w.cmd w.frg w.wnd w.ts w.sn w.una w.data.length ++ (w.data ++ encSegs t)).length < IKCP_OVERHEAD := by
        rw [List.length_append, encodeHdr_length]; omega
      rw [if_neg hlen]
      have hd : List.drop IKCP_OVERHEAD (encodeHdr w.conv w.cmd w.frg w.wnd w.ts w.sn w.una w.data.length ++ (w.data ++ encSegs t))
          = w.data ++ encSegs t := by
        rw [← encodeHdr_length w.conv w.cmd w.frg w.wnd w.ts w.sn w.una w.data.length]
        exact List.drop_left
      have hu : (u32 w.data.length).toNat = w.data.length := by
        unfold u32; rw [BitVec.toNat_ofNat]; exact Nat.mod_eq_of_lt hw
      rw [hd, hu, List.drop_left]
      rw [ih (fun x hx => hl x (List.mem_cons_of_mem _ hx)) fuel (by simpa using hf)]
      rfl

theorem encSegs_length_ge (l : List WireSeg) : IKCP_OVERHEAD * l.length ≤ (encSegs l).length := by
  induction l with
  | nil => simp
  | cons w t ih =>
    rw [encSegs_cons, List.length_append]
    unfold WireSeg.enc
    rw [List.length_append, encodeHdr_length, List.length_cons, Nat.mul_succ]
    omega

/-- with the fuel `Input` uses -/
theorem wndFields_enc' (l : List WireSeg) (hl : ∀ w ∈ l, w.data.length < 2^32) :
    wndFields ((encSegs l).length / IKCP_OVERHEAD + 1) (encSegs l) = l.map (·.wnd) := by
  apply wndFields_enc l hl
  have := encSegs_length_ge l
  have h24 : 0 < IKCP_OVERHEAD := by decide
  have : l.length ≤ (encSegs l).length / IKCP_OVERHEAD := by
    rw [Nat.le_div_iff_mul_le h24]; rw [Nat.mul_comm]; exact this
  omega

theorem encSegs_data_le (l : List WireSeg) (w : WireSeg) (hw : w ∈ l) : w.data.length ≤ (encSegs l).length := by
  induction l with
  | nil => exact absurd hw List.not_mem_nil
  | cons x t ih =>
    rw [encSegs_cons, List.length_append]
    rcases List.mem_cons.1 hw with rfl | h
    · unfold WireSeg.enc; rw [List.length_append]; omega
    · have := ih h; omega

theorem allWnd_fields {wnd : BitVec 16} {o : Bytes} (h : AllWnd wnd o) (hlen : o.length < 2^32) :
    ∀ x ∈ wndFields (o.length / IKCP_OVERHEAD + 1) o, x = wnd := by
  obtain ⟨l, e, hw⟩ := h
  subst e
  rw [wndFields_enc' l (fun w hm => Nat.lt_of_le_of_lt (encSegs_data_le l w hm) hlen)]
  intro x hx
  obtain ⟨w, hm, rfl⟩ := List.mem_map.1 hx
  exact hw w hm

theorem allWnd_count {o : Bytes} (l : List WireSeg) (e : o = encSegs l) (hlen : o.length < 2^32) :
    (wndFields (o.length / IKCP_OVERHEAD + 1) o).length = l.length := by
  subst e
  rw [wndFields_enc' l (fun w hm => Nat.lt_of_le_of_lt (encSegs_data_le l w hm) hlen), List.length_map]

/-- the calls of the `output` callback during an operation -/
def stepOuts (k : Kcp) : Op → List Bytes
  | .input d reg nd now => (k.input d reg nd now).outs
  | .flush full now => (k.flush full now).outs
  | .update now => (k.update now).outs
  | _ => []

/-- whether the model recorded a slice-bounds panic of the real code during the operation -/
def stepPanic (k : Kcp) : Op → Bool
  | .send b => (k.send b).panic
  | .input d reg nd now => (k.input d reg nd now).panic
  | .flush full now => (k.flush full now).panic
  | .update now => (k.update now).panic
  | _ => false

/-- an operation emits through at most one flush, and that flush is the last thing it does -/
theorem step_outs (k : Kcp) (op : Op) :
    stepOuts k op = [] ∨ ∃ k1 full now, stepOuts k op = (flush k1 full now).outs ∧ step k op = (flush k1 full now).k ∧
      stepPanic k op = (flush k1 full now).panic := by
  cases op with
  | input d reg nd now =>
    let Q (r : InRes) : Prop :=
      r.outs = [] ∨ ∃ k1 full now, r.outs = (flush k1 full now).outs ∧ r.k = (flush k1 full now).k ∧ r.panic = (flush k1 full now).panic
    exact input_ind (Q := Q) (S := fun _ => True) trivial (Or.inl rfl) (fun _ _ _ _ => Or.inl rfl)
      (fun _ _ _ => inputFin_ind (fun full => Or.inr ⟨_, full, now, rfl, rfl, rfl⟩) (Or.inl rfl) _ _) nd
  | update now =>
    exact update_ind (Q := fun r => r.outs = [] ∨ ∃ k1 full now, r.outs = (flush k1 full now).outs ∧
        r.k = (flush k1 full now).k ∧ r.panic = (flush k1 full now).panic)
      (fun _ _ => Or.inr ⟨_, true, now, rfl, rfl, rfl⟩) (fun _ _ => Or.inl rfl)
  | flush full now => exact Or.inr ⟨k, full, now, rfl, rfl, rfl⟩
  | _ => exact Or.inl rfl

theorem step_allWnd (k : Kcp) (op : Op) (hp : stepPanic k op = false) :
    ∀ o ∈ stepOuts k op, AllWnd (wndUnused (step k op)) o := by
  rcases step_outs k op with e | ⟨k1, full, now, e1, e2, e3⟩
  · rw [e]; exact fun _ hm => absurd hm List.not_mem_nil
  · rw [e1, e2, flush_wndUnused]
    exact flush_allWnd k1 full now (e3 ▸ hp)

end KcpVerif.Kcp
