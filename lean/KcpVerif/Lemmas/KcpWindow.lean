/-
C04: the window invariant `Inv` of the protocol core, proved inductive over EVERY operation with
arbitrary arguments, and lifted to all reachable states.
Core Lean only.
-/
import KcpVerif.Lemmas.KcpWindowRcv
import KcpVerif.Lemmas.KcpWindowSnd

namespace KcpVerif.Kcp
open KcpVerif.Gen

/-- the window invariant: receive window (`rcv_buf` distinct and inside the window, `rcv_wnd < 2^31`),
delivery-queue bound, send window (`snd_buf` = the consecutive numbers `snd_una … snd_nxt-1`, at most
`snd_wnd < 2^31` of them) -/
structure Inv (k : Kcp) : Prop where
  win : WinOK k.rcv_nxt k.rcv_wnd k.rcv_buf
  rq : k.rcv_queue.length ≤ k.rcv_wnd.toNat
  snd : SndOK k.snd_una k.snd_nxt k.snd_wnd k.snd_buf

theorem moveReady_inv (k : Kcp) (h : Inv k) : Inv (moveReady k) :=
  ⟨moveLoop_ok _ _ _ _ _ h.win, moveLoop_q_le _ _ _ _ h.rq, h.snd⟩

theorem Inv.setProbe {k : Kcp} (h : Inv k) (p : U32) : Inv { k with probe := p } := ⟨h.win, h.rq, h.snd⟩

theorem parseData_inv (k : Kcp) (s : Seg) (h : Inv k) : Inv (parseData k s).k :=
  parseData_cases (P := fun r => Inv r.k) k s (fun _ => h) (fun _ _ => moveReady_inv _ h) (fun _ _ _ => h)
    fun hacc hdup _ =>
      moveReady_inv _ ⟨h.win.insert s (accept_inWin _ _ _ h.win.small hacc) (by simpa using hdup), h.rq, h.snd⟩

theorem recv_inv (k : Kcp) (n : Nat) (h : Inv k) : Inv (recv k n).k := by
  rcases recv_cases k n with e | ⟨pr, _, e⟩
  · rw [e]; exact h
  · have h1 : Inv { k with rcv_queue := (popMsg k.rcv_queue).rest } :=
      ⟨h.win, Nat.le_trans (popMsg_rest_le k.rcv_queue) h.rq, h.snd⟩
    rw [e]
    exact (moveReady_inv _ h1).setProbe pr

theorem shrinkBuf_inv (k : Kcp) (h : Inv k) : Inv (shrinkBuf k) := by
  obtain ⟨b, u, e⟩ := shrinkBuf_shape k
  refine ⟨?_, ?_, h.snd.shrink⟩
  · rw [e]; exact h.win
  · rw [e]; exact h.rq

theorem shrinkUna_inv (k : Kcp) (una : U32) (h : Inv k) : Inv (shrinkBuf (parseUna k una).1) := by
  obtain ⟨b, u, e⟩ := shrinkUna_shape k una
  refine ⟨?_, ?_, h.snd.una una⟩
  · rw [e]; exact h.win
  · rw [e]; exact h.rq

theorem parseAck_inv (k : Kcp) (sn : U32) (h : Inv k) : Inv (parseAck k sn) := by
  unfold parseAck
  split
  · exact h
  · exact ⟨h.win, h.rq, h.snd.congr_sns (ackLoop_key (key := (·.sn)) (fun _ _ _ => rfl) _ _)⟩

theorem parseFastack_inv (k : Kcp) (sn ts : U32) (h : Inv k) : Inv (parseFastack k sn ts).1 := by
  unfold parseFastack
  split
  · exact h
  · exact ⟨h.win, h.rq, h.snd.congr_sns (fastLoop_key (key := (·.sn)) (fun _ _ => rfl) _ _ _ _)⟩

/-- the unsigned minimum as `kcp.go` writes it (`_imin_`) -/
theorem umin_le (a b : U32) : (if a ≤ b then a else b).toNat ≤ a.toNat ∧ (if a ≤ b then a else b).toNat ≤ b.toNat := by
  by_cases h : a ≤ b
  · rw [if_pos h]; exact ⟨Nat.le_refl _, h⟩
  · rw [if_neg h]; exact ⟨Nat.le_of_lt (Nat.lt_of_not_le h), Nat.le_refl _⟩

theorem lt_umin_iff (x a b : U32) : x < (if a ≤ b then a else b) ↔ x < a ∧ x < b := by
  by_cases h : a ≤ b
  · rw [if_pos h]; exact ⟨fun hx => ⟨hx, Nat.lt_of_lt_of_le hx h⟩, fun hx => hx.1⟩
  · rw [if_neg h]; exact ⟨fun hx => ⟨Nat.lt_trans hx (Nat.lt_of_not_le h), hx⟩, fun hx => hx.2⟩

theorem effCwnd_le (k : Kcp) : (effCwnd k).toNat ≤ k.snd_wnd.toNat :=
  Nat.le_trans (Live.effWnd_le k) (Nat.min_le_left _ _)

theorem effCwnd_le_cwnd (k : Kcp) (h : k.nocwnd = 0) : (effCwnd k).toNat ≤ k.cwnd.toNat := by
  unfold effCwnd
  rw [if_pos h]
  exact (umin_le _ _).1

theorem lt_effCwnd_iff (k : Kcp) (x : U32) :
    x < effCwnd k ↔ x < k.snd_wnd ∧ x < k.rmt_wnd ∧ (k.nocwnd = 0 → x < k.cwnd) := by
  unfold effCwnd
  by_cases hn : k.nocwnd = 0
  · rw [if_pos hn, lt_umin_iff]
    unfold cw0
    rw [lt_umin_iff]
    exact ⟨fun ⟨c, a, b⟩ => ⟨a, b, fun _ => c⟩, fun ⟨a, b, c⟩ => ⟨c hn, a, b⟩⟩
  · rw [if_neg hn]
    unfold cw0
    rw [lt_umin_iff]
    exact ⟨fun ⟨a, b⟩ => ⟨a, b, fun h => absurd h hn⟩, fun ⟨a, b, _⟩ => ⟨a, b⟩⟩

theorem flush_inv (k : Kcp) (full : Bool) (now : U32) (h : Inv k) : Inv (flush k full now).k := by
  obtain ⟨pw, tp, st, ss, cw, inc, done, hk, hd⟩ := flush_k k full now
  rw [hk]
  have ha : SndOK k.snd_una (flushAd k now).nxt k.snd_wnd (flushAd k now).buf :=
    admitSegs_ok _ _ _ _ _ (effCwnd_le k) _ _ _ _ h.snd
  exact ⟨h.win, h.rq, ha.congr_sns hd⟩

theorem Inv.steps : Steps fun a b => Inv a → Inv b where
  refl _ := id
  trans f g := g ∘ f
  rmtWnd _ _ h := ⟨h.win, h.rq, h.snd⟩
  una := shrinkUna_inv
  ack _ _ _ h := parseFastack_inv _ _ _ (shrinkBuf_inv _ (parseAck_inv _ _ h))
  acklist _ _ h := ⟨h.win, h.rq, h.snd⟩
  data := parseData_inv
  probe _ h := h.setProbe _
  rtt k rtt h := by obtain ⟨a, b, c, e⟩ := updateAck_shape k rtt; rw [e]; exact ⟨h.win, h.rq, h.snd⟩
  cwnd k u h := by obtain ⟨a, b, e⟩ := cwndOnAck_shape k u; rw [e]; exact ⟨h.win, h.rq, h.snd⟩
  flush := flush_inv
  tick _ _ _ h := ⟨h.win, h.rq, h.snd⟩

theorem input_inv (k : Kcp) (data : Bytes) (regular ackNoDelay : Bool) (now : U32) (h : Inv k) :
    Inv (input k data regular ackNoDelay now).k :=
  Inv.steps.input k data regular ackNoDelay now h

theorem setMtu_inv (k : Kcp) (m : Int) (h : Inv k) : Inv (setMtu k m).1 := by
  obtain ⟨a, b, c, e⟩ := setMtu_shape k m
  rw [e]; exact ⟨h.win, h.rq, h.snd⟩

/-- "windows set before traffic": the second way `WndChangeOK` allows a window change -/
def Quiet (k : Kcp) : Prop := k.rcv_queue = [] ∧ k.rcv_buf = [] ∧ k.snd_buf = []

instance (k : Kcp) : Decidable (Quiet k) := by unfold Quiet; exact inferInstance

/-- the hypothesis on window changes: the new windows are below `2^31`, and EITHER no window shrinks
(growing mid-traffic is allowed) OR nothing is buffered (windows set before traffic).
Shrinking a window under buffered traffic is excluded.  (C02's `Live.wndOk` asks the opposite of `rcv_wnd` for its
own invariant `MoveFix`: no enlarging while segments are buffered; a run under both changes `rcv_wnd` only with empty buffers.) -/
def WndChangeOK (k : Kcp) (snd rcv : Int) : Prop :=
  (k.wndSize snd rcv).snd_wnd.toNat < 2^31 ∧ (k.wndSize snd rcv).rcv_wnd.toNat < 2^31 ∧
  ((k.snd_wnd ≤ (k.wndSize snd rcv).snd_wnd ∧ k.rcv_wnd ≤ (k.wndSize snd rcv).rcv_wnd) ∨ Quiet k)

instance (k : Kcp) (snd rcv : Int) : Decidable (WndChangeOK k snd rcv) := by unfold WndChangeOK; exact inferInstance

theorem wndSize_fields (k : Kcp) (s r : Int) :
    (k.wndSize s r).rcv_nxt = k.rcv_nxt ∧ (k.wndSize s r).rcv_buf = k.rcv_buf ∧ (k.wndSize s r).rcv_queue = k.rcv_queue ∧
    (k.wndSize s r).snd_una = k.snd_una ∧ (k.wndSize s r).snd_nxt = k.snd_nxt ∧ (k.wndSize s r).snd_buf = k.snd_buf := by
  obtain ⟨sw, rw, e⟩ := wndSize_shape k s r
  rw [e]
  exact ⟨rfl, rfl, rfl, rfl, rfl, rfl⟩

theorem WinOK.grow {nxt wnd wnd' : U32} {buf : List Seg} (h : WinOK nxt wnd buf) (hle : wnd ≤ wnd')
    (hs : wnd'.toNat < 2^31) : WinOK nxt wnd' buf := by
  refine ⟨hs, ?_, h.distinct⟩
  intro s hs'
  have := h.inwin s hs'
  unfold InWin at *
  refine ⟨this.1, ?_⟩
  have h2 := this.2
  have : wnd.toNat ≤ wnd'.toNat := hle
  omega

theorem wndSize_inv (k : Kcp) (s r : Int) (hok : WndChangeOK k s r) (h : Inv k) : Inv (k.wndSize s r) := by
  obtain ⟨e1, e2, e3, e4, e5, e6⟩ := wndSize_fields k s r
  obtain ⟨hs, hr, hc⟩ := hok
  rcases hc with ⟨gs, gr⟩ | ⟨q1, q2, q3⟩
  · refine ⟨?_, ?_, ?_⟩
    · rw [e1, e2]; exact h.win.grow gr hr
    · rw [e3]; exact Nat.le_trans h.rq gr
    · rw [e4, e5, e6]
      refine ⟨hs, h.snd.consec, h.snd.nxt_eq, ?_⟩
      exact Nat.le_trans h.snd.len_le gs
  · refine ⟨?_, ?_, ?_⟩
    · rw [e1, e2, q2]; exact ⟨hr, fun _ hx => absurd hx List.not_mem_nil, List.Pairwise.nil⟩
    · rw [e3, q1]; exact Nat.zero_le _
    · rw [e4, e5, e6]
      have := h.snd.nxt_eq
      rw [q3] at this ⊢
      exact ⟨hs, trivial, this, Nat.zero_le _⟩

/-- the side condition of an operation: only window changes have one -/
def Op.ok (k : Kcp) : Op → Prop
  | .wndSize s r => WndChangeOK k s r
  | _ => True

instance (k : Kcp) (op : Op) : Decidable (op.ok k) := by
  cases op <;> unfold Op.ok <;> exact inferInstance

/-- the one hypothesis of the reachable-state theorems of C04: `Op.ok` of each operation in the state it meets -/
def okRun (k : Kcp) : List Op → Prop
  | [] => True
  | op :: rest => op.ok k ∧ okRun (step k op) rest

instance okRunDec : (k : Kcp) → (ops : List Op) → Decidable (okRun k ops)
  | _, [] => isTrue trivial
  | k, op :: rest =>
    have : Decidable (okRun (step k op) rest) := okRunDec (step k op) rest
    (inferInstance : Decidable (op.ok k ∧ okRun (step k op) rest))

theorem step_inv (k : Kcp) (op : Op) (hok : op.ok k) (h : Inv k) : Inv (step k op) :=
  inv_step (ok := fun k op => op.ok k) Inv.steps k op hok h
    (hsend := fun k b h => by obtain ⟨q, e⟩ := send_shape k b; rw [e]; exact ⟨h.win, h.rq, h.snd⟩)
    (hrecv := recv_inv) (hmtu := setMtu_inv)
    (hnd := fun k a b c d h => by
      obtain ⟨_, _, _, _, _, e⟩ := noDelay_shape k a b c d; rw [e]; exact ⟨h.win, h.rq, h.snd⟩)
    (hwnd := wndSize_inv) (hstream := fun _ _ h => ⟨h.win, h.rq, h.snd⟩)

theorem run_inv (k : Kcp) (ops : List Op) (hok : okRun k ops) (h : Inv k) : Inv (run k ops) :=
  foldl_inv_ok (f := step) (okRun := okRun) (ok := fun k op => op.ok k) (fun _ _ _ h => h) step_inv ops k hok h

theorem start_inv (conv snd0 rcv0 : U32) : Inv (start conv snd0 rcv0) := by
  refine ⟨⟨?_, fun _ hx => absurd hx List.not_mem_nil, List.Pairwise.nil⟩, Nat.zero_le _, ⟨?_, trivial, ?_, Nat.zero_le _⟩⟩
  · show (u32 IKCP_WND_RCV).toNat < 2^31
    decide
  · show (u32 IKCP_WND_SND).toNat < 2^31
    decide
  · show snd0 = snd0 + BitVec.ofNat 32 0
    simp

theorem reachable_inv (conv snd0 rcv0 : U32) (ops : List Op) (hok : okRun (start conv snd0 rcv0) ops) :
    Inv (run (start conv snd0 rcv0) ops) :=
  run_inv _ ops hok (start_inv conv snd0 rcv0)

end KcpVerif.Kcp
