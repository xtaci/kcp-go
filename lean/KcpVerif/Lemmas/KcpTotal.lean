/-
C05 (protocol core): the invariant `InvK` under which no operation of the core panics, and `PresN`, what an
operation keeps in any state; `PresN` carries `InvK` and C10's `InvMss` alike.
-/
import KcpVerif.Lemmas.KcpShape
import KcpVerif.Lemmas.KcpLoops

namespace KcpVerif.Total
open KcpVerif.Gen KcpVerif.Kcp

def DataLe (m : Nat) (l : List Seg) : Prop := ∀ s ∈ l, s.data.length ≤ m

instance (m : Nat) (l : List Seg) : Decidable (DataLe m l) := by unfold DataLe; infer_instance

/-- The state invariant of C05 (decidable): the segment size `mss = mtu − 24` fits a pool buffer, the flush buffer has
the size `NewKCP`/`SetMtu` give it, queued segments fit one MTU with their header, received ones a pool buffer. -/
structure InvK (k : Kcp) : Prop where
  mtu_gt : IKCP_OVERHEAD < k.mtu.toNat
  mss_eq : k.mss.toNat + IKCP_OVERHEAD = k.mtu.toNat
  mss_le : k.mss.toNat ≤ mtuLimit
  buf_eq : k.bufLen = (k.mtu.toNat + IKCP_OVERHEAD) * 3
  sndq   : DataLe k.mss.toNat k.snd_queue
  sndb   : DataLe k.mss.toNat k.snd_buf
  rcvb   : DataLe mtuLimit k.rcv_buf
  rcvq   : DataLe mtuLimit k.rcv_queue

instance (k : Kcp) : Decidable (InvK k) :=
  decidable_of_iff
    (IKCP_OVERHEAD < k.mtu.toNat ∧ k.mss.toNat + IKCP_OVERHEAD = k.mtu.toNat ∧ k.mss.toNat ≤ mtuLimit ∧
     k.bufLen = (k.mtu.toNat + IKCP_OVERHEAD) * 3 ∧ DataLe k.mss.toNat k.snd_queue ∧
     DataLe k.mss.toNat k.snd_buf ∧ DataLe mtuLimit k.rcv_buf ∧ DataLe mtuLimit k.rcv_queue)
    ⟨fun ⟨a, b, c, d, e, f, g, h⟩ => ⟨a, b, c, d, e, f, g, h⟩,
     fun h => ⟨h.1, h.2, h.3, h.4, h.5, h.6, h.7, h.8⟩⟩

theorem InvK.congr {k k' : Kcp} (h : InvK k)
    (h1 : k'.mtu = k.mtu) (h2 : k'.mss = k.mss) (h3 : k'.bufLen = k.bufLen)
    (h4 : DataLe k.mss.toNat k'.snd_queue) (h5 : DataLe k.mss.toNat k'.snd_buf)
    (h6 : DataLe mtuLimit k'.rcv_buf) (h7 : DataLe mtuLimit k'.rcv_queue) : InvK k' := by
  constructor
  · rw [h1]; exact h.mtu_gt
  · rw [h1, h2]; exact h.mss_eq
  · rw [h2]; exact h.mss_le
  · rw [h1, h3]; exact h.buf_eq
  · rw [h2]; exact h4
  · rw [h2]; exact h5
  · exact h6
  · exact h7

/-- the form of `mss = mtu − 24` used by the Go code (`kcp.mss = kcp.mtu - IKCP_OVERHEAD`) -/
theorem InvK.mss_bv {k : Kcp} (h : InvK k) : k.mss = k.mtu - u32 IKCP_OVERHEAD := by
  apply BitVec.eq_of_toNat_eq
  rw [toNat_sub_overhead h.mtu_gt]
  have := h.mss_eq
  omega

theorem DataLe.nil (m : Nat) : DataLe m [] := by intro s hs; cases hs

theorem DataLe.cons {m : Nat} {s : Seg} {l : List Seg} (hs : s.data.length ≤ m) (hl : DataLe m l) :
    DataLe m (s :: l) := by
  intro x hx
  rcases List.mem_cons.mp hx with rfl | hx
  · exact hs
  · exact hl x hx

theorem DataLe.head {m : Nat} {s : Seg} {l : List Seg} (h : DataLe m (s :: l)) : s.data.length ≤ m :=
  h s (List.mem_cons_self ..)

theorem DataLe.tail {m : Nat} {s : Seg} {l : List Seg} (h : DataLe m (s :: l)) : DataLe m l :=
  fun x hx => h x (List.mem_cons_of_mem _ hx)

theorem DataLe.append {m : Nat} {a b : List Seg} (ha : DataLe m a) (hb : DataLe m b) : DataLe m (a ++ b) := by
  intro x hx
  rcases List.mem_append.mp hx with hx | hx
  · exact ha x hx
  · exact hb x hx

theorem DataLe.subset {m : Nat} {a b : List Seg} (hb : DataLe m b) (h : ∀ x ∈ a, x ∈ b) : DataLe m a :=
  fun x hx => hb x (h x hx)

theorem DataLe.drop {m : Nat} {l : List Seg} (h : DataLe m l) (n : Nat) : DataLe m (l.drop n) :=
  h.subset (fun _ hx => List.mem_of_mem_drop hx)

theorem DataLe.dropLast {m : Nat} {l : List Seg} (h : DataLe m l) : DataLe m l.dropLast :=
  h.subset (fun _ hx => List.dropLast_subset l hx)

theorem DataLe.mono {m n : Nat} {l : List Seg} (h : DataLe m l) (hmn : m ≤ n) : DataLe n l :=
  fun x hx => Nat.le_trans (h x hx) hmn

theorem DataLe.marked {m : Nat} {l l' : List Seg} (h : DataLe m l) (hm : Marked l l') : DataLe m l' := fun s' hs' => by
  obtain ⟨s, hs, _, _, d, rfl, hd⟩ := hm s' hs'
  exact Nat.le_trans hd (h s hs)

theorem DataLe.stamp {m : Nat} {l : List Seg} (h : DataLe m l) (conv now nxt : U32) :
    DataLe m (stampSegs conv now nxt l) := fun s hs => by
  obtain ⟨q0, hq, n, rfl⟩ := mem_stampSegs hs
  exact h q0 hq

theorem DataLe.map {m : Nat} {l : List Seg} (h : DataLe m l) {f : Seg → Seg} (hf : ∀ s, (f s).data = s.data) :
    DataLe m (l.map f) := fun s hs => by
  obtain ⟨s0, h0, rfl⟩ := List.mem_map.mp hs
  rw [hf]
  exact h s0 h0

/-- What every operation other than an accepted `SetMtu` keeps, in ANY state; `n` bounds the ack-list entries it
adds.  The send side keeps every payload bound from `mss` on: `Send` cuts segments of at most `mss` bytes and nothing else lets a payload grow. -/
structure PresN (n : Nat) (k k' : Kcp) : Prop where
  mtu    : k'.mtu = k.mtu
  mss    : k'.mss = k.mss
  bufLen : k'.bufLen = k.bufLen
  conv   : k'.conv = k.conv
  snd    : ∀ m, k.mss.toNat ≤ m → DataLe m k.snd_queue → DataLe m k.snd_buf →
             DataLe m k'.snd_queue ∧ DataLe m k'.snd_buf
  rcv    : DataLe mtuLimit k.rcv_buf → DataLe mtuLimit k.rcv_queue →
             DataLe mtuLimit k'.rcv_buf ∧ DataLe mtuLimit k'.rcv_queue
  ackl   : k'.acklist.length ≤ k.acklist.length + n

theorem PresN.refl (k : Kcp) : PresN 0 k k :=
  ⟨rfl, rfl, rfl, rfl, fun _ _ hq hb => ⟨hq, hb⟩, fun h1 h2 => ⟨h1, h2⟩, Nat.le_refl _⟩

theorem PresN.trans {a b : Nat} {k1 k2 k3 : Kcp} (h1 : PresN a k1 k2) (h2 : PresN b k2 k3) : PresN (a + b) k1 k3 :=
  ⟨h2.mtu.trans h1.mtu, h2.mss.trans h1.mss, h2.bufLen.trans h1.bufLen, h2.conv.trans h1.conv,
   fun m hm hq hb => h2.snd m (by rw [h1.mss]; exact hm) (h1.snd m hm hq hb).1 (h1.snd m hm hq hb).2,
   fun hb hq => h2.rcv (h1.rcv hb hq).1 (h1.rcv hb hq).2,
   by have := h1.ackl; have := h2.ackl; omega⟩

theorem PresN.mono {a b : Nat} {k k' : Kcp} (h : PresN a k k') (hab : a ≤ b) : PresN b k k' :=
  ⟨h.mtu, h.mss, h.bufLen, h.conv, h.snd, h.rcv, by have := h.ackl; omega⟩

theorem InvK.of_pres {n : Nat} {k k' : Kcp} (h : InvK k) (hp : PresN n k k') : InvK k' :=
  h.congr hp.mtu hp.mss hp.bufLen (hp.snd _ (Nat.le_refl _) h.sndq h.sndb).1 (hp.snd _ (Nat.le_refl _) h.sndq h.sndb).2
    (hp.rcv h.rcvb h.rcvq).1 (hp.rcv h.rcvb h.rcvq).2

theorem PresN.of_eq {k k' : Kcp}
    (h : (k'.mtu, k'.mss, k'.bufLen, k'.conv, k'.snd_queue, k'.snd_buf, k'.rcv_buf, k'.rcv_queue, k'.acklist)
       = (k.mtu, k.mss, k.bufLen, k.conv, k.snd_queue, k.snd_buf, k.rcv_buf, k.rcv_queue, k.acklist)) :
    PresN 0 k k' := by
  simp only [Prod.mk.injEq] at h
  obtain ⟨h1, h2, h3, h4, h5, h6, h7, h8, h9⟩ := h
  exact ⟨h1, h2, h3, h4, fun _ _ hq hb => by rw [h5, h6]; exact ⟨hq, hb⟩, fun hb hq => by rw [h7, h8]; exact ⟨hb, hq⟩,
    by rw [h9]; exact Nat.le_refl _⟩

/-- only the send buffer, by marking or dropping segments, and fields `PresN` does not read were written -/
theorem PresN.of_marked {k k' : Kcp}
    (he : (k'.mtu, k'.mss, k'.bufLen, k'.conv, k'.snd_queue, k'.rcv_buf, k'.rcv_queue, k'.acklist)
        = (k.mtu, k.mss, k.bufLen, k.conv, k.snd_queue, k.rcv_buf, k.rcv_queue, k.acklist))
    (hm : Marked k.snd_buf k'.snd_buf) : PresN 0 k k' := by
  simp only [Prod.mk.injEq] at he
  obtain ⟨h1, h2, h3, h4, h5, h7, h8, h9⟩ := he
  exact ⟨h1, h2, h3, h4, fun _ _ hq hb => ⟨by rw [h5]; exact hq, hb.marked hm⟩, fun hb hq => by rw [h7, h8]; exact ⟨hb, hq⟩,
    by rw [h9]; exact Nat.le_refl _⟩

/-- only the receive queues, within the pool-buffer bound, and fields `PresN` does not read were written -/
theorem PresN.of_rcv {k k' : Kcp}
    (he : (k'.mtu, k'.mss, k'.bufLen, k'.conv, k'.snd_queue, k'.snd_buf, k'.acklist)
        = (k.mtu, k.mss, k.bufLen, k.conv, k.snd_queue, k.snd_buf, k.acklist))
    (h : DataLe mtuLimit k.rcv_buf → DataLe mtuLimit k.rcv_queue →
      DataLe mtuLimit k'.rcv_buf ∧ DataLe mtuLimit k'.rcv_queue) : PresN 0 k k' := by
  simp only [Prod.mk.injEq] at he
  obtain ⟨h1, h2, h3, h4, h5, h6, h9⟩ := he
  exact ⟨h1, h2, h3, h4, fun _ _ hq hb => by rw [h5, h6]; exact ⟨hq, hb⟩, h, by rw [h9]; exact Nat.le_refl _⟩

theorem putHdr_k (f : Fl) (h : Bytes) : (f.putHdr h).k = f.k := Fl.putHdr_k f h

theorem putData_k (f : Fl) (d : Bytes) : (f.putData d).k = f.k := Fl.putData_k f d

end KcpVerif.Total
