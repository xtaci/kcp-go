/-
The `Input` calls `kcpInput` with FEC (`Model/SessFec.lean`) makes, for one FEC packet and along a list of packets;
applying them in order (`chain`) is a run of core operations on the session's core.
-/
import KcpVerif.Model.SessFec
import KcpVerif.Lemmas.C01SessRef
import KcpVerif.Lemmas.Fold

namespace KcpVerif.Props
open KcpVerif.Gen
open KcpVerif.Fec

/-- the calls the FEC branch of `UDPSession.kcpInput` makes to the core's `Input` for one FEC packet
`pkt` (from the FEC header on), as pairs (payload, `regular`): a data packet's own payload
`data[fecHeaderSizePlus2:]` with `IKCP_PACKET_REGULAR`; then, for what `decode` returns, every recovered
shard `r` that passes the size check, `r[2:sz]`, with `IKCP_PACKET_FEC` -/
def C01_fecInputCalls (C : CodecNew) (dec : Decoder) (pkt : Bytes) : List (Bytes × Bool) :=
  (if flag pkt = typeData then [(pkt.drop fecHeaderSizePlus2, true)] else []) ++
    ((dec.decode C pkt).recovered.filterMap trim).map (fun pl => (pl, false))

def C01_fecStep (C : CodecNew) (acc : Decoder × List (Bytes × Bool)) (q : Bytes) : Decoder × List (Bytes × Bool) :=
  ((acc.1.decode C q).st, acc.2 ++ C01_fecInputCalls C acc.1 q)

def C01_fecRun (C : CodecNew) (dec : Decoder) (pkts : List Bytes) : Decoder × List (Bytes × Bool) :=
  pkts.foldl (C01_fecStep C) (dec, [])

end KcpVerif.Props

namespace KcpVerif.C01
open KcpVerif.Kcp KcpVerif.Frame KcpVerif.Send
open KcpVerif.SessFec

def chain (a : Bool) (now : U32) (c : CoreIn) (calls : List (Bytes × Bool)) : CoreIn :=
  calls.foldl (fun c cl => c.input cl.1 cl.2 a now) c

theorem chain_nil (a : Bool) (now : U32) (c : CoreIn) : chain a now c [] = c := rfl

theorem chain_cons (a : Bool) (now : U32) (c : CoreIn) (cl : Bytes × Bool) (rest : List (Bytes × Bool)) :
    chain a now c (cl :: rest) = chain a now (c.input cl.1 cl.2 a now) rest := rfl

theorem chain_append (a : Bool) (now : U32) (c : CoreIn) (l1 l2 : List (Bytes × Bool)) :
    chain a now c (l1 ++ l2) = chain a now (chain a now c l1) l2 := by
  unfold chain; rw [List.foldl_append]

theorem input_of_panic (c : CoreIn) (d : Bytes) (r a : Bool) (now : U32) (h : c.panic = true) :
    c.input d r a now = c := by
  unfold CoreIn.input; rw [if_pos h]

theorem chain_of_panic (a : Bool) (now : U32) (calls : List (Bytes × Bool)) (c : CoreIn) (h : c.panic = true) :
    chain a now c calls = c :=
  foldl_inv (P := fun c' => c' = c) (fun _ _ e => by rw [e]; exact input_of_panic c _ _ _ _ h) calls c rfl

theorem input_alive (c : CoreIn) (d : Bytes) (r a : Bool) (now : U32) (h : c.panic = false) :
    (c.input d r a now).k = (input c.k d r a now).k ∧
    (c.input d r a now).outs = c.outs ++ (input c.k d r a now).outs ∧
    (c.input d r a now).panic = (input c.k d r a now).panic := by
  unfold CoreIn.input
  rw [if_neg (by simp [h])]
  exact ⟨rfl, rfl, rfl⟩

theorem feedRecovered_chain (a : Bool) (now : U32) : ∀ (rs : List Bytes) (c : CoreIn),
    feedRecovered a now c rs = chain a now c ((rs.filterMap Fec.trim).map (fun pl => (pl, false))) := by
  intro rs
  induction rs with
  | nil => intro c; rfl
  | cons r rest ih =>
    intro c
    unfold feedRecovered
    cases h : Fec.trim r with
    | none => simp only [List.filterMap_cons, h]; exact ih c
    | some pl => simp only [List.filterMap_cons, h, List.map_cons, chain_cons]; exact ih _

/-- `X`: what the calls hand to `output`.  The last conjunct is there for the induction: `admitted` of two steps
composes only when the send queue is known to shrink from the front -/
theorem chain_run (a : Bool) (now : U32) : ∀ (calls : List (Bytes × Bool)) (c : CoreIn) (g : GSt),
    c.k = g.k → g.dead = false → c.panic = false → (chain a now c calls).panic = false →
    ∃ X : List Bytes,
      (chain a now c calls).outs = c.outs ++ X ∧
      run g (calls.map fun cl => Op.input cl.1 cl.2 a now) =
        { g with k := (chain a now c calls).k, wire := g.wire ++ X,
                 log := g.log ++ admitted c.k (chain a now c calls).k } ∧
      TxSame c.k (chain a now c calls).k := by
  intro calls
  induction calls with
  | nil =>
    intro c g hk _ _ _
    refine ⟨[], (List.append_nil _).symm, ?_, TxSame.of_eq rfl rfl rfl rfl⟩
    show g = { g with k := c.k, wire := g.wire ++ [], log := g.log ++ admitted c.k c.k }
    rw [admitted_self _ _ rfl, List.append_nil, List.append_nil, hk]
  | cons cl rest ih =>
    intro c g hk hd hcp hp
    rw [chain_cons] at hp ⊢
    obtain ⟨i1, i2, i3⟩ := input_alive c cl.1 cl.2 a now hcp
    have hp1 : (c.input cl.1 cl.2 a now).panic = false := by
      cases h : (c.input cl.1 cl.2 a now).panic with
      | false => rfl
      | true => rw [chain_of_panic a now rest _ h] at hp; rw [h] at hp; cases hp
    have hpi : (input g.k cl.1 cl.2 a now).panic = false := by rw [← hk, ← i3]; exact hp1
    have hstep := step_tx hd (.input cl.1 cl.2 a now hpi)
    obtain ⟨X, o1, o2, o3⟩ := ih (c.input cl.1 cl.2 a now) (step g (.input cl.1 cl.2 a now))
      (by rw [hstep, i1, hk]) (by rw [hstep]; exact hd) hp1 hp
    have h1 : TxSame c.k (c.input cl.1 cl.2 a now).k := by rw [i1]; exact TxSame.steps.input c.k cl.1 cl.2 a now
    obtain ⟨j1, hj1, hq1⟩ := h1.queue
    obtain ⟨j, hj, hq⟩ := o3.queue
    have t1 := (admitted_trans c.k (c.input cl.1 cl.2 a now).k _ j1 j hj1 hq1 hj hq).1
    refine ⟨(input c.k cl.1 cl.2 a now).outs ++ X, by rw [o1, i2, List.append_assoc], ?_, h1.trans o3⟩
    show run (step g (.input cl.1 cl.2 a now)) (rest.map fun cl => Op.input cl.1 cl.2 a now) = _
    rw [o2, hstep, t1, i1, hk]
    simp only [List.append_assoc]

end KcpVerif.C01
