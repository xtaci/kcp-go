import KcpVerif.Model.Lifecycle
/-! The LTSs of `Model/Lifecycle` (session, listener's monitor) as relations.  The invariants (`Props.WF`, `Props.Closed`), the
measure `Props.mu` and the runs `Props.Run` are in Props/C15, with the theorems that state them. -/
namespace KcpVerif.Life
open KcpVerif.Gen

/-- The transitions of `next`, exactly (`next_inv`, `Step.next_eq`): one constructor for each label and each branch of
the `if`s that choose its result; an `if` inside a field of the result is carried as an equation (`htx`, `hco`). -/
inductive Step (s : Sess) : Lbl → Sess → Prop
  | ppRecv (k tx' : Nat) (hp : s.pp ≠ .exited) (hq : 0 < s.q)
      (htx : tx' = if s.q - 1 = 0 ∨ maxBatchSize ≤ s.tx + k + 1 then 0 else s.tx + k + 1) :
      Step s (.ppRecv k) { s with q := s.q - 1, tx := tx', pp := .sel }
  | ppDieMore (hp : s.pp = .sel) (hd : s.die = true) (hq : 0 < s.q) : Step s .ppDie { s with pp := .selNoDie }
  | ppDieExit (hp : s.pp = .sel) (hd : s.die = true) (hq : s.q = 0) : Step s .ppDie { s with pp := .exited }
  | enqueue (hn : 0 < s.prod) (hb : s.q < devBacklog) :
      Step s (.produce true) { s with prod := s.prod - 1, q := s.q + 1 }
  | drop (hn : 0 < s.prod) : Step s (.produce false) { s with prod := s.prod - 1 }
  | updStop (n : Nat) (hu : s.upd = .pending) (hd : s.die = true) : Step s (.updFire n) { s with upd := .stopped }
  | updStart (n : Nat) (hu : s.upd = .pending) (hd : ¬ s.die = true) :
      Step s (.updFire n) { s with upd := .running, prod := s.prod + n }
  | updRun (hu : s.upd = .running) : Step s .updRun { s with upd := .pending }
  | rlErr (hr : s.rl = .reading) (hc : s.connOpen = false) : Step s (.rlReturn true) { s with rl := .exited }
  | rlGot (hr : s.rl = .reading) (hc : ¬ s.connOpen = false) : Step s (.rlReturn false) { s with rl := .got }
  | rlExit (n : Nat) (hr : s.rl = .got) (hd : s.die = true) : Step s (.rlCheck n) { s with rl := .exited }
  | rlAgain (n : Nat) (hr : s.rl = .got) (hd : ¬ s.die = true) :
      Step s (.rlCheck n) { s with rl := .reading, prod := s.prod + n }
  | api (n : Nat) (hd : s.die = false) : Step s (.api n) { s with prod := s.prod + n }
  | close (n : Nat) (co : Bool) (hd : s.die = false)
      (hco : co = if s.ownConn = true ∧ s.rl ≠ .absent then false else s.connOpen) :
      Step s (.close n) { s with die := true, prod := s.prod + n, connOpen := co }
  | closeTransport (hc : s.connOpen = true) : Step s .closeTransport { s with connOpen := false }

theorem next_inv {s s' : Sess} {l : Lbl} (h : next s l = some s') : Step s l s' := by
  cases l with
  | ppRecv k =>
    simp only [next] at h
    split at h
    · next hg =>
      cases h
      exact .ppRecv k _ hg.1 hg.2 rfl
    · cases h
  | ppDie =>
    simp only [next] at h
    split at h
    · next hg =>
      cases h
      split
      · next hq => exact .ppDieMore hg.1 hg.2 hq
      · next hq => exact .ppDieExit hg.1 hg.2 (by omega)
    · cases h
  | produce enq =>
    simp only [next] at h
    split at h
    · next hg =>
      cases h
      cases enq
      · exact .drop hg.1
      · exact .enqueue hg.1 (hg.2 rfl)
    · cases h
  | updFire n =>
    simp only [next] at h
    split at h
    · next hu =>
      cases h
      split
      · next hd => exact .updStop n hu hd
      · next hd => exact .updStart n hu hd
    · cases h
  | updRun =>
    simp only [next] at h
    split at h
    · next hu =>
      cases h
      exact .updRun hu
    · cases h
  | rlReturn err =>
    simp only [next] at h
    split at h
    · next hg =>
      cases h
      cases err
      · exact .rlGot hg.1 (fun hc => by simpa using hg.2.2 hc)
      · exact .rlErr hg.1 (hg.2.1 rfl)
    · cases h
  | rlCheck n =>
    simp only [next] at h
    split at h
    · next hr =>
      cases h
      split
      · next hd => exact .rlExit n hr hd
      · next hd => exact .rlAgain n hr hd
    · cases h
  | api n =>
    simp only [next] at h
    split at h
    · next hd =>
      cases h
      exact .api n hd
    · cases h
  | close n =>
    simp only [next] at h
    split at h
    · next hd =>
      cases h
      exact .close n _ hd rfl
    · cases h
  | closeTransport =>
    simp only [next] at h
    split at h
    · next hc =>
      cases h
      exact .closeTransport hc
    · cases h

theorem Step.next_eq {s s' : Sess} {l : Lbl} (h : Step s l s') : next s l = some s' := by
  cases h
  case ppRecv k tx' hp hq htx => simp [next, hp, hq, htx]
  case ppDieMore hp hd hq => simp [next, hp, hd, hq]
  case ppDieExit hp hd hq => simp [next, hp, hd, hq]
  case enqueue hn hb => simp [next, hn, hb]
  case drop hn => simp [next, hn]
  case updStop n hu hd => simp [next, hu, hd]
  case updStart n hu hd => simp [next, hu, hd]
  case updRun hu => simp [next, hu]
  case rlErr hr hc => simp [next, hr, hc]
  case rlGot hr hc => simp [next, hr, hc]
  case rlExit n hr hd => simp [next, hr, hd]
  case rlAgain n hr hd => simp [next, hr, hd]
  case api n hd => simp [next, hd]
  case close n co hd hco => simp [next, hd, hco]
  case closeTransport hc => simp [next, hc]

/-- the transitions of the listener's `mnext` -/
inductive MStep (l : Lst) : MLbl → Lst → Prop
  | retErr (hm : l.mon = .reading) (hc : l.connOpen = false) : MStep l (.ret true) { l with mon := .exited }
  | retPkt (hm : l.mon = .reading) (hc : ¬ l.connOpen = false) : MStep l (.ret false) { l with mon := .processing }
  | processed (hm : l.mon = .processing) : MStep l .processed { l with mon := .reading }
  | closeTransport (hc : l.connOpen = true) : MStep l .closeTransport { l with connOpen := false }

theorem mnext_inv {l l' : Lst} {a : MLbl} (h : mnext l a = some l') : MStep l a l' := by
  cases a with
  | ret err =>
    simp only [mnext] at h
    split at h
    · next hg =>
      cases h
      cases err
      · exact .retPkt hg.1 (fun hc => by simpa using hg.2.2 hc)
      · exact .retErr hg.1 (hg.2.1 rfl)
    · cases h
  | processed =>
    simp only [mnext] at h
    split at h
    · next hm => cases h; exact .processed hm
    · cases h
  | closeTransport =>
    simp only [mnext] at h
    split at h
    · next hc => cases h; exact .closeTransport hc
    · cases h

end KcpVerif.Life
