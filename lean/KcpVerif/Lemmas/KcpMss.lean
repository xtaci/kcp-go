/-
C10 (core half): the transition system C10 is stated on (`step` returns the outputs and the panic flag, `trace`
pairs every datagram with the MTU in force when it left) and `InvMss` as an invariant of every operation with
arbitrary arguments.  C05's totality (`Lemmas/KcpTotalOps`) rests on the same per-operation lemmas.  First `Send` along `Frame.send_eq`: the stream-mode
append fills the last queued segment up to `mss` and no further, which is all `Send` needs to stay within a pool buffer
once `mss ≤ mtuLimit`.
-/
import KcpVerif.Lemmas.KcpTotalInput
import KcpVerif.Lemmas.KcpFrame
import KcpVerif.Lemmas.Fold
import KcpVerif.Lemmas.KcpStages

namespace KcpVerif.Total
open KcpVerif.Gen KcpVerif.Kcp
open KcpVerif.Frame (sendExt sendQ1 sendPanic1)

theorem sendExt_le (k : Kcp) (buffer : Bytes) (s : Seg) (hs : k.snd_queue.getLast? = some s) :
    sendExt k buffer = 0 ∨ s.data.length + sendExt k buffer ≤ k.mss.toNat := by
  unfold sendExt
  rw [hs]
  simp only []
  split
  · split
    · exact Or.inr (by omega)
    · exact Or.inl rfl
  · exact Or.inl rfl

theorem sendPanic1_false {k : Kcp} (hm : k.mss.toNat ≤ mtuLimit) (buffer : Bytes) : sendPanic1 k buffer = false := by
  unfold sendPanic1
  split
  · rename_i s hs
    have := sendExt_le k buffer s hs
    simp only [decide_eq_false_iff_not]
    omega
  · rfl

theorem sendQ1_dataLe {k : Kcp} {m : Nat} (hm : k.mss.toNat ≤ m) (h : DataLe m k.snd_queue) (buffer : Bytes) :
    DataLe m (sendQ1 k buffer) := by
  unfold sendQ1
  split
  · split
    · rename_i s hs
      have := sendExt_le k buffer s hs
      have := h s (List.mem_of_getLast? hs)
      unfold setLast
      apply h.dropLast.append
      apply DataLe.cons _ (DataLe.nil _)
      simp only [List.length_append, List.length_take]
      omega
    · exact h
  · exact h

theorem send_pres (k : Kcp) (buffer : Bytes) : PresN 0 k (send k buffer).k := by
  have hq : ∀ q, (∀ m, k.mss.toNat ≤ m → DataLe m k.snd_queue → DataLe m q) → PresN 0 k { k with snd_queue := q } :=
    fun q h => ⟨rfl, rfl, rfl, rfl, fun m hm hs hb => ⟨h m hm hs, hb⟩, fun hb hq => ⟨hb, hq⟩, Nat.le_refl _⟩
  have h1 := hq _ fun m hm h => sendQ1_dataLe hm h buffer
  exact Frame.send_cases (P := fun r => PresN 0 k r.k) k buffer (fun _ _ _ => PresN.refl k)
    (fun q hc _ => by rcases hc with rfl | rfl; exact PresN.refl k; exact h1)
    (fun _ _ _ => h1)
    (fun _ _ _ => hq _ fun m hm h => (sendQ1_dataLe hm h buffer).append
      (mkSegs_forall _ _ _ _ fun _ _ hd => Nat.le_trans (Nat.le_trans hd (Nat.min_le_right _ _)) hm))

/-- no hypothesis on what is queued: the append stops at `mss` (`sendExt_le`).  `Send` in kcp.go also divides by `mss`;
the model flags slice bounds only, and `mss > 0` comes with `InvK`/`InvMss` where this lemma is used. -/
theorem send_safe {k : Kcp} (hm : k.mss.toNat ≤ mtuLimit) (buffer : Bytes) : (send k buffer).panic = false :=
  Frame.send_cases (P := fun r => r.panic = false) k buffer (fun _ _ _ => rfl)
    (fun _ _ hc => absurd hc fun hc => hc.elim (fun h => by rw [sendPanic1_false hm buffer] at h; cases h) (fun h => by omega))
    (fun _ _ _ => rfl) (fun _ _ _ => rfl)

end KcpVerif.Total

namespace KcpVerif.Lemmas.KcpMss
open KcpVerif.Gen KcpVerif.Kcp KcpVerif.Lemmas.KcpFlush
open KcpVerif.Total (PresN input_res send_pres send_safe recv_pres noDelay_pres wndSize_pres)

theorem mem_of_getLast? {l : List Seg} {s : Seg} (h : l.getLast? = some s) : s ∈ l :=
  List.mem_of_getLast? h

theorem send_ok (k : Kcp) (b : Bytes) (h : InvMss k) :
    (send k b).panic = false ∧ InvMss (send k b).k ∧ (send k b).k.mtu = k.mtu :=
  ⟨send_safe h.mss_le_limit b, h.of_pres (send_pres k b), (send_pres k b).mtu⟩

theorem setMtu_accept_iff (k : Kcp) (m : Int) : (setMtu k m).2 = 0 ↔ MtuAcceptable k m := by
  rcases setMtu_cases k m with ⟨hn, e⟩ | ⟨ha, e⟩ <;> rw [e]
  · exact ⟨fun h => (by cases h), fun h => absurd h hn⟩
  · exact ⟨fun _ => ha, fun _ => rfl⟩

theorem setMtu_ret (k : Kcp) (m : Int) : (setMtu k m).2 = 0 ∨ (setMtu k m).2 = -1 := by
  rcases setMtu_cases k m with ⟨_, e⟩ | ⟨_, e⟩ <;> rw [e]
  · exact Or.inr rfl
  · exact Or.inl rfl

/-- no 32-bit truncation -/
theorem setMtu_accepted_mtu (k : Kcp) (m : Int) (h : MtuAcceptable k m) :
    ((setMtu k m).1.mtu.toNat : Int) = m := by
  rw [setMtu_of_acceptable k m h]
  exact h.toNat

theorem setMtu_installed_inv (k : Kcp) (m : Int) (ha : MtuAcceptable k m) :
    InvMss { k with mtu := BitVec.ofInt 32 m, mss := BitVec.ofInt 32 m - u32 IKCP_OVERHEAD,
                    bufLen := (m.toNat + IKCP_OVERHEAD) * 3 } := by
  have hm := ha.toNat
  obtain ⟨h1, h2, h3⟩ := ha
  have hgt : (BitVec.ofInt 32 m).toNat > IKCP_OVERHEAD := by omega
  have hmss := toNat_sub_overhead hgt
  have hle : (BitVec.ofInt 32 m).toNat ≤ mtuLimit + IKCP_OVERHEAD := by omega
  refine ⟨?_, rfl, hgt, hle, ?_⟩
  · intro s hs
    have := h3 s hs
    show s.data.length ≤ (BitVec.ofInt 32 m - u32 IKCP_OVERHEAD).toNat
    rw [hmss]; omega
  · show (m.toNat + IKCP_OVERHEAD) * 3 = ((BitVec.ofInt 32 m).toNat + IKCP_OVERHEAD) * 3
    have : m.toNat = (BitVec.ofInt 32 m).toNat := by omega
    rw [this]

theorem setMtu_inv (k : Kcp) (m : Int) (h : InvMss k) : InvMss (setMtu k m).1 := by
  rcases setMtu_cases k m with ⟨_, e⟩ | ⟨ha, e⟩ <;> rw [e]
  · exact h
  · exact setMtu_installed_inv k m ha

theorem input_ok (k : Kcp) (data : Bytes) (regular ackNoDelay : Bool) (now : U32) (h : InvMss k) :
    (input k data regular ackNoDelay now).panic = false
      ∧ (∀ o ∈ (input k data regular ackNoDelay now).outs, 0 < o.length ∧ o.length ≤ k.mtu.toNat)
      ∧ InvMss (input k data regular ackNoDelay now).k ∧ (input k data regular ackNoDelay now).k.mtu = k.mtu := by
  obtain ⟨k2, hp, ⟨e, _⟩ | ⟨_, full, e⟩⟩ := input_res k data regular ackNoDelay now
  · rw [e]
    exact ⟨rfl, (by intro o ho; cases ho), h.of_pres hp, hp.mtu⟩
  · rw [e]
    have hf := flush_ok k2 full now (h.of_pres hp)
    rw [hp.mtu] at hf
    exact hf

theorem update_pres (k : Kcp) (now : U32) : PresN 0 k (update k now).k :=
  update_ind (Q := fun r => PresN 0 k r.k)
    (fun _ _ => by refine PresN.trans (b := 0) ?_ (flush_pres _ true now); exact PresN.of_eq rfl)
    (fun _ _ => PresN.of_eq rfl)

theorem update_ok (k : Kcp) (now : U32) (h : InvMss k) :
    (update k now).panic = false
      ∧ (∀ o ∈ (update k now).outs, 0 < o.length ∧ o.length ≤ k.mtu.toNat)
      ∧ InvMss (update k now).k ∧ (update k now).k.mtu = k.mtu :=
  update_ind (Q := fun r => r.panic = false ∧ (∀ o ∈ r.outs, 0 < o.length ∧ o.length ≤ k.mtu.toNat) ∧
      InvMss r.k ∧ r.k.mtu = k.mtu)
    (fun _ _ => flush_ok _ true now (h.of_eq rfl rfl rfl rfl rfl))
    (fun _ _ => ⟨rfl, (by intro o ho; cases ho), h.of_eq rfl rfl rfl rfl rfl, rfl⟩)

/-- every state-changing operation of the protocol core, arguments arbitrary.  `stream` is the field write of
`UDPSession.SetStreamMode`, `shift` the harness hook that offsets the sequence numbers; the readers `PeekSize`,
`Check`, `WaitSnd` are left out (C05's `Total.Op` has them as steps that change nothing). -/
inductive Op where
  | send (b : Bytes)
  | recv (buflen : Nat)
  | input (data : Bytes) (regular ackNoDelay : Bool) (now : U32)
  | flush (full : Bool) (now : U32)
  | update (now : U32)
  | setMtu (m : Int)
  | noDelay (nodelay interval resend nc : Int)
  | wndSize (snd rcv : Int)
  | stream (v : U32)
  | shift (snd rcv : U32)

structure StepRes where
  k     : Kcp
  outs  : List Bytes := []     -- what the output callback received during the operation
  panic : Bool := false

def step (k : Kcp) : Op → StepRes
  | .send b => { k := (k.send b).k, panic := (k.send b).panic }
  | .recv n => { k := (k.recv n).k }
  | .input d r a now => { k := (k.input d r a now).k, outs := (k.input d r a now).outs, panic := (k.input d r a now).panic }
  | .flush full now => { k := (k.flush full now).k, outs := (k.flush full now).outs, panic := (k.flush full now).panic }
  | .update now => { k := (k.update now).k, outs := (k.update now).outs, panic := (k.update now).panic }
  | .setMtu m => { k := (k.setMtu m).1 }
  | .noDelay a b c d => { k := k.noDelay a b c d }
  | .wndSize a b => { k := k.wndSize a b }
  | .stream v => { k := { k with stream := v } }
  | .shift s r => { k := { k with snd_una := s, snd_nxt := s, rcv_nxt := r } }

def run (k : Kcp) (ops : List Op) : Kcp := ops.foldl (fun k op => (step k op).k) k

/-- every packet handed to the output callback during a history, with the MTU in force at that moment -/
def trace (k : Kcp) : List Op → List (Nat × Bytes)
  | [] => []
  | op :: rest => (step k op).outs.map (fun o => (k.mtu.toNat, o)) ++ trace (step k op).k rest

def anyPanic (k : Kcp) : List Op → Bool
  | [] => false
  | op :: rest => (step k op).panic || anyPanic (step k op).k rest

theorem new_inv (c : U32) : InvMss (Kcp.new c) where
  segs := by intro s hs; cases hs
  mss_eq := rfl
  mtu_gt := by show (u32 IKCP_MTU_DEF).toNat > IKCP_OVERHEAD; decide
  mtu_le := by show (u32 IKCP_MTU_DEF).toNat ≤ mtuLimit + IKCP_OVERHEAD; decide
  buf := by show (IKCP_MTU_DEF + IKCP_OVERHEAD) * 3 = ((u32 IKCP_MTU_DEF).toNat + IKCP_OVERHEAD) * 3; decide

theorem step_ok (k : Kcp) (op : Op) (h : InvMss k) :
    (step k op).panic = false
      ∧ (∀ o ∈ (step k op).outs, 0 < o.length ∧ o.length ≤ k.mtu.toNat)
      ∧ InvMss (step k op).k
      ∧ ((∀ m, op ≠ .setMtu m) → (step k op).k.mtu = k.mtu) := by
  have hnil : ∀ o ∈ ([] : List Bytes), 0 < o.length ∧ o.length ≤ k.mtu.toNat := by intro o ho; cases ho
  cases op with
  | send b => have := send_ok k b h; exact ⟨this.1, hnil, this.2.1, fun _ => this.2.2⟩
  | recv n => exact ⟨rfl, hnil, h.of_pres (recv_pres k n), fun _ => (recv_pres k n).mtu⟩
  | input d r a now => have := input_ok k d r a now h; exact ⟨this.1, this.2.1, this.2.2.1, fun _ => this.2.2.2⟩
  | flush full now => have := flush_ok k full now h; exact ⟨this.1, this.2.1, this.2.2.1, fun _ => this.2.2.2⟩
  | update now => have := update_ok k now h; exact ⟨this.1, this.2.1, this.2.2.1, fun _ => this.2.2.2⟩
  | setMtu m => exact ⟨rfl, hnil, setMtu_inv k m h, fun hop => absurd rfl (hop m)⟩
  | noDelay a b c d => exact ⟨rfl, hnil, h.of_pres (noDelay_pres k a b c d), fun _ => (noDelay_pres k a b c d).mtu⟩
  | wndSize a b => exact ⟨rfl, hnil, h.of_pres (wndSize_pres k a b), fun _ => (wndSize_pres k a b).mtu⟩
  | stream v => exact ⟨rfl, hnil, h.of_eq rfl rfl rfl rfl rfl, fun _ => rfl⟩
  | shift s r => exact ⟨rfl, hnil, h.of_eq rfl rfl rfl rfl rfl, fun _ => rfl⟩

theorem run_append (k : Kcp) (a b : List Op) : run k (a ++ b) = run (run k a) b := by
  unfold run; rw [List.foldl_append]

theorem run_inv (k : Kcp) (ops : List Op) (h : InvMss k) : InvMss (run k ops) :=
  foldl_inv (P := InvMss) (fun k op h => (step_ok k op h).2.2.1) ops k h

theorem trace_ok (k : Kcp) (ops : List Op) (h : InvMss k) :
    anyPanic k ops = false ∧ ∀ p ∈ trace k ops, 0 < p.2.length ∧ p.2.length ≤ p.1 := by
  induction ops generalizing k with
  | nil => exact ⟨rfl, by intro p hp; cases hp⟩
  | cons op rest ih =>
    obtain ⟨h1, h2, h3, _⟩ := step_ok k op h
    obtain ⟨i1, i2⟩ := ih _ h3
    unfold anyPanic trace
    refine ⟨by rw [h1, i1]; rfl, ?_⟩
    intro p hp
    rcases List.mem_append.mp hp with hp | hp
    · obtain ⟨o, ho, rfl⟩ := List.mem_map.mp hp
      exact h2 o ho
    · exact i2 p hp

end KcpVerif.Lemmas.KcpMss
