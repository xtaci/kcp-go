/-
The progress step of C02 for EVERY head segment, all phases composed (B not behind A's head).

An individual ACK for the HEAD of the send buffer releases it (it is flagged, and `shrink_buf` discards flagged
heads), so the frame that lets `snd_una` pass `U` is any frame with `una` beyond `U` OR an ACK for `U` itself (`Rel`).
B owes one as soon as its ack list holds an entry for `U` (the jitter filter keeps entries at or beyond `rcv_nxt`),
whether or not the segment could be moved to the delivery queue.  While the head waits, no `Input` touches its timer
or its transmission count (`Live.SndMarked`) and it is never flagged (`Live.LiveInv`).  A head never sent (`xmit = 0`:
admitted by an ACK-only flush) goes out with the next FULL flush whatever the time.

Names: the digit counts the legs of the chain — `Ret` the way back, `Ret2` request and way back (SysDrainPush), `RetG3`
waiting, request and way back; `P1` is the waiting phase.  `H`: B is only required not to be behind the head (`P1H`,
`retH3_done`); `G`: moreover the head may never have been sent (`P1G`, `RetG3`, `retG3_done`).  `…_done`: once
the clock is past the last deadline, `snd_una` has passed `U`.
-/
import KcpVerif.Lemmas.SysDrainPush
import KcpVerif.Lemmas.KcpHead

namespace KcpVerif.SysC
open KcpVerif.Gen KcpVerif.Kcp KcpVerif.Live KcpVerif.Wire KcpVerif.SysW KcpVerif.Sys

-- the unifier otherwise unfolds the whole of `flush` / `input` when it compares two states
attribute [local irreducible] Kcp.flush Kcp.input

/-- as `OweUna`, or B lists an acknowledgement for `U` itself -/
def Owe (base : U32) (U : Nat) (k : Kcp) : Prop :=
  OweUna base U k ∨ ∃ a ∈ k.acklist, o base a.sn = U

theorem ackFrs_contains (conv : U32) (cmd : BitVec 8) (wnd : BitVec 16) (una rn : U32) (total : Nat) :
    ∀ (l : List Ack) (i : Nat) (a : Ack), a ∈ l → itimediff a.sn rn ≥ 0 →
      (⟨conv, cmd, 0, wnd, a.ts, a.sn, una, []⟩ : Frm) ∈ ackFrs conv cmd wnd una rn total l i := by
  intro l
  induction l with
  | nil => intro i a h; simp at h
  | cons b rest ih =>
    intro i a ha hge
    unfold ackFrs
    rcases List.mem_cons.mp ha with rfl | ha
    · apply List.mem_append_left
      rw [if_pos (Or.inl hge)]
      exact List.mem_singleton.mpr rfl
    · exact List.mem_append_right _ (ih (i + 1) a ha hge)

theorem owe_flush (base : U32) (U : Nat) (k : Kcp) (h : Owe base U k) (hU : U ≤ o base k.rcv_nxt) :
    ∃ fr ∈ ackFrsOf k, Rel base U fr := by
  -- beyond `U` with something listed: the cumulative `una` of any ACK frame does
  have una : OweUna base U k → ∃ fr ∈ ackFrsOf k, Rel base U fr := fun ho =>
    let ⟨fr, hm, hr⟩ := (oweRel_una base U).flush k ho
    ⟨fr, hm, Or.inl hr⟩
  rcases h with ho | ⟨a, ha, hau⟩
  · exact una ho
  · by_cases hlt : U < o base k.rcv_nxt
    · exact una ⟨hlt, List.ne_nil_of_mem ha⟩
    · have heq : a.sn = k.rcv_nxt := o_inj base _ _ (by omega)
      have hge : itimediff a.sn k.rcv_nxt ≥ 0 := by rw [heq, itimediff_self]; omega
      refine ⟨_, ackFrs_contains k.conv (BitVec.ofNat 8 IKCP_CMD_ACK) (wndUnused k) k.rcv_nxt k.rcv_nxt k.acklist.length
        k.acklist 0 a ha hge,
        Or.inr ⟨show (BitVec.ofNat 8 IKCP_CMD_ACK).toNat = IKCP_CMD_ACK by decide, hau⟩⟩

/-- `Owe`, and B is not behind `U` -/
def OweHead (base : U32) (U : Nat) (k : Kcp) : Prop := U ≤ o base k.rcv_nxt ∧ Owe base U k

theorem oweRel_head (base : U32) (U : Nat) : OweRel base (OweHead base U) (Rel base U) where
  mono := by
    rintro k k' ⟨hU, ho⟩ hlo hsub
    refine ⟨Nat.le_trans hU hlo, ?_⟩
    rcases ho with ⟨a1, a2⟩ | ⟨a, ha, hau⟩
    · obtain ⟨a, rest, e⟩ := List.exists_cons_of_ne_nil a2
      exact Or.inl ⟨Nat.lt_of_lt_of_le a1 hlo, List.ne_nil_of_mem (hsub a (by rw [e]; exact List.mem_cons_self ..))⟩
    · exact Or.inr ⟨a, hsub a ha, hau⟩
  flush := fun k ho => owe_flush base U k ho.2 ho.1

theorem pushRel_head (base : U32) (U : Nat) :
    PushRel base (OweHead base U) (fun n => U ≤ n) (fun _ fr => o base fr.sn = U) where
  up := fun _ _ _ hn => ⟨fun h => Nat.le_trans h hn, fun h => h⟩
  listed := fun _ _ a hb hF ha hsn => ⟨hb, Or.inr ⟨a, ha, by rw [hsn]; exact hF⟩⟩

theorem inFrs_marked (frs : List Frm) (st : InLoop) : SndMarked st.k (inFrs true frs st).k :=
  inFrs_rel (R := fun a b => SndMarked a.k b.k) (fun _ => ⟨Marked.refl _, rfl, rfl⟩) SndMarked.trans
    (fun _ _ => inStep_marked _ _ _ _ _ _ _ _ _ _) frs st

theorem inA_buf (st : InLoop) (k1 : Kcp) (hk1 : k1 = st.k ∨ ∃ rtt, k1 = updateAck st.k rtt) (u : U32) :
    (cwndOnAck k1 u).snd_buf = st.k.snd_buf ∧ (cwndOnAck k1 u).interval = st.k.interval := by
  obtain ⟨_, _, _, _, _, e⟩ := inA_shape st.k k1 hk1 u
  rw [e]; exact ⟨rfl, rfl⟩

theorem Contig.head_unique {base : U32} {k : Kcp} (hc : Contig base k) {x y : Seg} {rest : List Seg}
    (hb : k.snd_buf = x :: rest) (hy : y ∈ k.snd_buf) (hs : y.sn = x.sn) : y = x := by
  rw [hb] at hy
  rcases List.mem_cons.mp hy with h | h
  · exact h
  · exfalso
    have h1 := hc.1
    rw [hb] at h1
    simp only [List.map_cons, List.length_cons, List.range'_succ, List.cons.injEq] at h1
    have hm : o base y.sn ∈ rest.map (fun x => o base x.sn) := List.mem_map.mpr ⟨y, h, rfl⟩
    rw [h1.2] at hm
    have := List.mem_range'_1.mp hm
    rw [hs] at this
    omega

theorem clk_due (t R : Nat) (h1 : R ≤ t) (h2 : t < R + 2 ^ 31) : itimediff (clk t) (clk R) ≥ 0 := by
  unfold clk
  rw [Serial.itimediff_rep (Serial.Rep.ofNat t) (Serial.Rep.ofNat R) (by omega) (by omega)]
  omega

theorem live_step (s : State) (h : LiveInv s.A) (ev : Ev) : LiveInv (Sys.step s ev).A :=
  step_cases (P := fun s' => LiveInv s'.A) s ev h (fun _ _ => h) (fun b _ => send_live s.A b h) (fun _ _ => h)
    (fun _ => flush_live s.A true (clk s.now) h) (fun _ => h) (fun _ _ _ _ _ => h)
    (fun d _ _ _ _ => input_live s.A d.data true s.ndA (clk s.now) h)

/-- the head has offset `U`, was sent before, its timer is at `R`; B has delivered it; A's next flush is by `T1` -/
structure P1 (p : Par) (U R T1 IA : Nat) (s : State) : Prop where
  hd : ∃ x rest, s.A.snd_buf = x :: rest ∧ o p.base x.sn = U ∧ x.xmit ≠ 0 ∧ x.resendts = clk R
  iv : s.A.interval.toNat = IA
  nf : s.nfA ≤ T1
  nw : s.now ≤ T1
  rb : U < o p.base s.B.rcv_nxt

theorem headLive_head {k : Kcp} {x : Seg} {rest : List Seg} (h : HeadLive k) (hb : k.snd_buf = x :: rest) :
    x.acked = false ∧ k.snd_una = x.sn := by
  unfold HeadLive at h
  rw [hb] at h
  exact h

theorem inFrs_headLive (frs : List Frm) (st : InLoop) (h : HeadLive st.k) : HeadLive (inFrs true frs st).k :=
  inFrs_rel (R := fun a b => HeadLive a.k → HeadLive b.k) (fun _ h => h) (fun h1 h2 h => h2 (h1 h))
    (fun _ _ _ => inStep_headLive _ _ _ _ _ _ _ _ _ _) frs st h

/-- as `P1`, but B is only required not to be behind `U` -/
structure P1H (p : Par) (U R T1 IA : Nat) (s : State) : Prop where
  hd : ∃ x rest, s.A.snd_buf = x :: rest ∧ o p.base x.sn = U ∧ x.xmit ≠ 0 ∧ x.resendts = clk R
  iv : s.A.interval.toNat = IA
  nf : s.nfA ≤ T1
  nw : s.now ≤ T1
  rb : U ≤ o p.base s.B.rcv_nxt

/-- as `P1H`, and the head may never have been sent (`xmit = 0`: A's next flush sends it whatever the time) -/
structure P1G (p : Par) (U R T1 IA : Nat) (s : State) : Prop where
  hd : ∃ x rest, s.A.snd_buf = x :: rest ∧ o p.base x.sn = U ∧ (x.xmit = 0 ∨ (x.xmit ≠ 0 ∧ x.resendts = clk R))
  iv : s.A.interval.toNat = IA
  nf : s.nfA ≤ T1
  nw : s.now ≤ T1
  rb : U ≤ o p.base s.B.rcv_nxt

theorem P1H.toG {p : Par} {U R T1 IA : Nat} {s : State} (h : P1H p U R T1 IA s) : P1G p U R T1 IA s := by
  obtain ⟨x, rest, hb, hU, hm, hr⟩ := h.hd
  exact ⟨⟨x, rest, hb, hU, Or.inr ⟨hm, hr⟩⟩, h.iv, h.nf, h.nw, h.rb⟩

theorem P1.toH {p : Par} {U R T1 IA : Nat} {s : State} (h : P1 p U R T1 IA s) : P1H p U R T1 IA s :=
  ⟨h.hd, h.iv, h.nf, h.nw, Nat.le_of_lt h.rb⟩

def PushHead (base : U32) (U T2 : Nat) (s : State) : Prop :=
  Pushed (PushF (fun n => U ≤ n) (fun _ fr => o base fr.sn = U) base) T2 s

theorem p1G_flush {p : Par} {s : State} {gab gba : GLink} (h : Cons p s gab gba) (hl : LiveInv s.A) (hnw : NoWrap p.base s)
    (U R T1 IA T2 : Nat) (hT : R + IA ≤ T1 ∧ T1 < R + 2 ^ 31) (hT2 : T1 + s.D ≤ T2) (h1 : P1G p U R T1 IA s) (nf : Nat)
    (hnf : nf = s.nfA ∨ nf = s.now + (s.A.flush true (clk s.now)).interval.toNat) :
    P1G p U R T1 IA (afterFlushA s nf) ∨ PushHead p.base U T2 (afterFlushA s nf) := by
  obtain ⟨x, rest, hb, hxU, hdj⟩ := h1.hd
  have hhl := headLive_head hl.1 hb
  have hxm' : x ∈ s.A.snd_buf := by rw [hb]; exact List.mem_cons_self ..
  obtain ⟨pw, tp, st, ss, cw, inc, hk⟩ := flush_frame s.A true (clk s.now)
  by_cases hc : cause (clk s.now) (resentOf s.A) (flAd s.A (clk s.now)).count x = .none
  · -- not due: the head is untouched
    left
    obtain ⟨t, ht⟩ := flAd_prefix s.A (clk s.now)
    have f1 : (s.A.flush true (clk s.now)).k.snd_buf = x :: (rest ++ t).map
        (segAfter (clk s.now) (resentOf s.A) (wndUnused s.A) s.A.rcv_nxt (flAd s.A (clk s.now)).count s.A.rx_rto s.A.nodelay) := by
      rw [flush_snd_buf, ht, hb]
      simp only [List.cons_append, List.map_cons]
      rw [segAfter_none _ _ _ _ _ _ _ x (Or.inr hc)]
    have hlt : s.now < R := by
      have hxr : x.resendts = clk R := by
        rcases hdj with h0 | ⟨_, hr⟩
        · exact absurd h0 (cause_none _ _ _ x hc).1
        · exact hr
      have := (cause_none _ _ _ x hc).2
      rw [hxr] at this
      rcases Nat.lt_or_ge s.now R with hlt | hge
      · exact hlt
      · exfalso
        have := clk_due s.now R hge (by have := h1.nw; omega)
        omega
    have hle := flush_interval_le s.A (clk s.now)
    rw [BitVec.le_def, h1.iv] at hle
    exact
    { hd := ⟨x, _, f1, hxU, hdj⟩
      iv := by show (s.A.flush true (clk s.now)).k.interval.toNat = IA; rw [hk]; exact h1.iv
      nf := by
        show nf ≤ T1
        rcases hnf with e | e
        · rw [e]; exact h1.nf
        · rw [e]; omega
      nw := h1.nw
      rb := h1.rb }
  · -- the PUSH of the head is emitted
    right
    obtain ⟨g1, g2, g3, g4, g5, g6, g7⟩ := flush_gen p.base s.A (clk s.now) h.aK h.aack h.acon
      (by rw [h.aconv]; exact h.atag) h.aq hnw
    obtain ⟨g, fr0, hg, hall, hfg, hcmd, hsn⟩ := flush_push_out h x hxm' hhl.1 hc
    have hnw1 := h1.nw
    exact ⟨by show s.now ≤ T2; omega, ⟨s.now + s.D, encFrames g⟩,
      List.mem_append_right _ (List.mem_map.mpr ⟨encFrames g, hg, rfl⟩), by show s.now + s.D ≤ T2; omega, g, rfl,
      fun fr hfr => (g7 fr (hall fr hfr)).2.1.2,
      fr0, hfg, hcmd, h1.rb, by show o p.base fr0.sn = U; rw [hsn]; exact hxU⟩

theorem p1G_inA {p : Par} {s : State} {t0 : Nat} {frs : List Frm} {gab grest : GLink}
    (h : Cons p s gab ((t0, frs) :: grest)) (hl : LiveInv s.A) (hnw : NoWrap p.base s) (U R T1 IA : Nat)
    (h1 : P1G p U R T1 IA s) (hU : U ≤ o p.base s.A.snd_una) (k1 : Kcp)
    (hk1 : k1 = (inFrs true frs { k := s.A }).k ∨ ∃ rtt, k1 = updateAck (inFrs true frs { k := s.A }).k rtt) :
    LiveInv (cwndOnAck k1 s.A.snd_una) ∧
    (U < o p.base (cwndOnAck k1 s.A.snd_una).snd_una ∨
     P1G p U R T1 IA { s with A := cwndOnAck k1 s.A.snd_una, ba := encL grest }) := by
  have hd0 : ((t0, frs) : Nat × List Frm) ∈ (t0, frs) :: grest := List.mem_cons_self ..
  have hnw' := hnw
  unfold NoWrap at hnw'
  obtain ⟨x, rest, hb, hxU, hdj⟩ := h1.hd
  obtain ⟨_, _, _, _, hnx, hsq, hclean⟩ := cons_inA h hnw k1 hk1
  obtain ⟨_, a2, a3, _, _⟩ := h.inA_loop hnw
  have a3' : o p.base s.A.snd_una ≤ o p.base (inFrs true frs { k := s.A }).k.snd_una := a3
  have hkeep := (inFrs_marked frs { k := s.A }).1
  have hhl := inFrs_headLive frs { k := s.A } hl.1
  have hu := inA_una (inFrs true frs { k := s.A }) k1 hk1 s.A.snd_una
  obtain ⟨hbf, hiv⟩ := inA_buf (inFrs true frs { k := s.A }) k1 hk1 s.A.snd_una
  have hiv2 : (inFrs true frs { k := s.A }).k.interval = s.A.interval := by
    obtain ⟨r, sb, su, pr, e⟩ := a2
    rw [e]
  have hnx2 : (inFrs true frs { k := s.A }).k.snd_nxt = s.A.snd_nxt := by
    obtain ⟨r, sb, su, pr, e⟩ := a2
    rw [e]
  have hHL : HeadLive (cwndOnAck k1 s.A.snd_una) := by
    unfold HeadLive at hhl ⊢
    rw [hbf, hu, hnx, ← hnx2]
    exact hhl
  have hLive : LiveInv (cwndOnAck k1 s.A.snd_una) := ⟨hHL, by rw [hsq]; exact hl.2⟩
  refine ⟨hLive, ?_⟩
  by_cases hG : U < o p.base (cwndOnAck k1 s.A.snd_una).snd_una
  · exact Or.inl hG
  · right
    have huU : o p.base (cwndOnAck k1 s.A.snd_una).snd_una = U := by rw [hu] at hG ⊢; omega
    have hcon := hclean.acon
    have hcon' : Contig p.base (cwndOnAck k1 s.A.snd_una) := hcon
    have hxlt := (h.acon.mem (by rw [hb]; exact List.mem_cons_self .. : x ∈ s.A.snd_buf)).2
    cases hbuf : (cwndOnAck k1 s.A.snd_una).snd_buf with
    | nil =>
      exfalso
      have := hcon'.o_nil hbuf
      rw [hnx, huU] at this
      omega
    | cons x' rest' =>
      unfold HeadLive at hHL
      rw [hbuf] at hHL
      have hx'U : o p.base x'.sn = U := by rw [← hHL.2]; exact huU
      have hx'm : x' ∈ (inFrs true frs { k := s.A }).k.snd_buf := by rw [← hbf, hbuf]; exact List.mem_cons_self ..
      obtain ⟨y, hy, _, _, _, ey, _⟩ := hkeep x' hx'm
      have e1 : x'.sn = y.sn := by rw [ey]
      have e2 : x'.resendts = y.resendts := by rw [ey]
      have e3 : x'.xmit = y.xmit := by rw [ey]
      have hyx : y = x := h.acon.head_unique hb hy (o_inj p.base _ _ (by rw [← e1, hx'U, hxU]))
      rw [hyx] at e2 e3
      exact
      { hd := ⟨x', rest', hbuf, hx'U, by rw [e3, e2]; exact hdj⟩
        iv := by show (cwndOnAck k1 s.A.snd_una).interval.toNat = IA; rw [hiv, hiv2]; exact h1.iv
        nf := h1.nf
        nw := h1.nw
        rb := h1.rb }

def RetG3 (p : Par) (U R T1 IA T2 IB : Nat) (s : State) : Prop :=
  Ret2 p (OweHead p.base U) (Rel p.base U) (fun n => U ≤ n) (fun _ fr => o p.base fr.sn = U) U T2 IB s ∨ P1G p U R T1 IA s

theorem retG3_step {p : Par} {s : State} {gab gba : GLink} (h : Cons p s gab gba) (hl : LiveInv s.A) (hsm : Small p.base s)
    (U R T1 IA T2 IB : Nat) (hT : R + IA ≤ T1 ∧ T1 < R + 2 ^ 31) (hT2 : T1 + s.D ≤ T2) (ht : Tm IB s)
    (hw0 : U < o p.base s.B.rcv_nxt ∨ 0 < s.B.rcv_wnd.toNat) (hUa : U ≤ o p.base s.A.snd_una)
    (hr : RetG3 p U R T1 IA T2 IB s) (ev : Ev) : RetG3 p U R T1 IA T2 IB (Sys.step s ev) := by
  have hnw := hsm.noWrap
  rcases hr with hr | h1
  · refine Or.inl (ret2_step (oweRel_head p.base U) (pushRel_head p.base U) h hsm U T2 IB ht (fun t0 frs grest e hdue hrl => by subst e; exact phase_D_rel h hnw hdue U hUa hrl)
      (fun fr hb hF => ?_) hr ev)
    -- the PUSH of `U` is inside B's window: B is beyond `U`, or at `U` with room for one segment (`hw0`)
    have hb' : U ≤ o p.base s.B.rcv_nxt := hb
    have hF' : o p.base fr.sn = U := hF
    rcases hw0 with hlt | hpos
    · omega
    · omega
  · have hG : ∀ s' : State, U < o p.base s'.A.snd_una → RetG3 p U R T1 IA T2 IB s' :=
      fun s' hg => Or.inl (Or.inl (Or.inl hg))
    -- B stays at or beyond `U` (`rcvNxt_mono_step`): handed to each case as a hypothesis of the motive
    suffices hM : U ≤ o p.base (Sys.step s ev).B.rcv_nxt → RetG3 p U R T1 IA T2 IB (Sys.step s ev) from
      hM (Nat.le_trans h1.rb (rcvNxt_mono_step h hnw ev))
    have keepB : ∀ B' gotten ab' ba' nfB' pan, U ≤ o p.base B'.rcv_nxt →
        RetG3 p U R T1 IA T2 IB { s with B := B', got := gotten, ab := ab', ba := ba', nfB := nfB', panic := pan } :=
      fun _ _ _ _ _ _ hrb => Or.inr ⟨h1.hd, h1.iv, h1.nf, h1.nw, hrb⟩
    refine h.step_cases (P := fun s' => U ≤ o p.base s'.B.rcv_nxt → RetG3 p U R T1 IA T2 IB s') ev
      (fun _ => Or.inr h1) ?_ ?_ (fun _ _ => keepB _ _ _ _ _ _) (fun _ => ?_) (fun _ => keepB _ _ _ _ _ _)
      (fun _ _ _ _ _ _ => keepB _ _ _ _ _ _) ?_
    · intro _ hq _
      have := (quiet_spec hq).2.2.1
      exact Or.inr ⟨h1.hd, h1.iv, h1.nf, by show s.now + 1 ≤ T1; have := h1.nf; omega, h1.rb⟩
    · intro b _ _
      have hq := Frame.send_k s.A b
      exact Or.inr
        { hd := by show ∃ x rest, (s.A.send b).k.snd_buf = x :: rest ∧ _; rw [hq]; exact h1.hd
          iv := by show (s.A.send b).k.interval.toNat = IA; rw [hq]; exact h1.iv
          nf := h1.nf, nw := h1.nw, rb := h1.rb }
    · intro _
      rcases p1G_flush h hl hnw U R T1 IA T2 hT hT2 h1 (s.now + (s.A.flush true (clk s.now)).interval.toNat) (Or.inr rfl)
        with h2 | h2
      · exact Or.inr h2
      · exact Or.inl (Or.inr h2)
    · rintro t0 frs grest _ rfl _ _
      refine h.dlvA_cases (P := RetG3 p U R T1 IA T2 IB) hnw (fun k1 hk1 hclean hnw1 => ?_)
      obtain ⟨hlive, hcase⟩ := p1G_inA h hl hnw U R T1 IA h1 hUa k1 hk1
      rcases hcase with hg | h2
      · refine ⟨hG _ hg, hG _ ?_⟩
        show U < o p.base (flush (cwndOnAck k1 s.A.snd_una) true (clk s.now)).k.snd_una
        rw [flush_una]; exact hg
      · refine ⟨Or.inr h2, ?_⟩
        rcases p1G_flush hclean hlive hnw1 U R T1 IA T2 hT hT2 h2 s.nfA (Or.inl rfl) with h3 | h3
        · exact Or.inr h3
        · exact Or.inl (Or.inr h3)


/-- `Small` and an open receive window at B in every state of the run -/
def RunSmallH (base : U32) : State → List Ev → Prop
  | s, [] => Small base s ∧ 0 < s.B.rcv_wnd.toNat
  | s, ev :: rest => (Small base s ∧ 0 < s.B.rcv_wnd.toNat) ∧ RunSmallH base (Sys.step s ev) rest

theorem runSmallH_iff (base : U32) : ∀ (evs : List Ev) (s : State),
    RunSmallH base s evs ↔ RunP (fun s => Small base s ∧ 0 < s.B.rcv_wnd.toNat) s evs := by
  intro evs
  induction evs with
  | nil => intro s; exact Iff.rfl
  | cons ev rest ih => intro s; exact and_congr_right fun _ => ih _

theorem runP_smallH (base : U32) (evs : List Ev) (s : State)
    (h : RunP (fun s => Small base s ∧ 0 < s.B.rcv_wnd.toNat) s evs) : RunSmallH base s evs :=
  (runSmallH_iff base evs s).mpr h

theorem runSmallH_noWrap (base : U32) (evs : List Ev) (s : State) (h : RunSmallH base s evs) : RunNoWrap base s evs :=
  (runNoWrap_iff base evs s).mpr (RunP.mono (fun _ h => h.1.noWrap) evs s ((runSmallH_iff base evs s).mp h))

theorem retG3_run {p : Par} (U R T1 IA T2 IB : Nat) (hT : R + IA ≤ T1 ∧ T1 < R + 2 ^ 31) (evs : List Ev)
    (s : State) (gab gba : GLink) (h : Cons p s gab gba) (hl : LiveInv s.A)
    (hsm : RunP (fun s => Small p.base s ∧ (U < o p.base s.B.rcv_nxt ∨ 0 < s.B.rcv_wnd.toNat)) s evs)
    (hT2 : T1 + s.D ≤ T2) (ht : Tm IB s) (hUa : U ≤ o p.base s.A.snd_una) (hr : RetG3 p U R T1 IA T2 IB s) :
    RetG3 p U R T1 IA T2 IB (Sys.run s evs) := by
  -- what `retG3_step` needs of the state travels with the chain
  obtain ⟨_, _, _, _, _, hr'⟩ := Cons.run
    (J := fun s => LiveInv s.A ∧ T1 + s.D ≤ T2 ∧ Tm IB s ∧ U ≤ o p.base s.A.snd_una ∧ RetG3 p U R T1 IA T2 IB s)
    (fun _ h => h.1.noWrap)
    (fun s _ _ ev hc hs ⟨hl, hT2, ht, hUa, hr⟩ =>
      ⟨live_step s hl ev, by rw [step_D]; exact hT2, tm_step s IB ht ev,
        Nat.le_trans hUa (una_mono_step hc hs.1.noWrap ev), retG3_step hc hl hs.1 U R T1 IA T2 IB hT hT2 ht hs.2 hUa hr ev⟩)
    evs s gab gba h hsm ⟨hl, hT2, ht, hUa, hr⟩
  exact hr'

theorem retG_done {p : Par} {s : State} {gab gba : GLink} (h : Cons p s gab gba) (hl : LiveInv s.A)
    (U R T1 IA IB : Nat) (hT : R + IA ≤ T1 ∧ T1 < R + 2 ^ 31) (ht : Tm IB s) (h1 : P1G p U R T1 IA s) (evs : List Ev)
    (hsm : RunP (fun s => Small p.base s ∧ (U < o p.base s.B.rcv_nxt ∨ 0 < s.B.rcv_wnd.toNat)) s evs)
    (hnow : T1 + s.D + IB + s.D < (Sys.run s evs).now) :
    U < o p.base (Sys.run s evs).A.snd_una := by
  have hUa : U ≤ o p.base s.A.snd_una := by
    obtain ⟨x, rest, hb, hxU, _⟩ := h1.hd
    rw [(headLive_head hl.1 hb).2, hxU]; exact Nat.le_refl _
  have := retG3_run U R T1 IA (T1 + s.D) IB hT evs s gab gba h hl hsm (Nat.le_refl _) ht hUa (Or.inr h1)
  rcases this with hR2 | hP1
  · rcases hR2 with hR | ⟨hn, _⟩
    · exact hR.done (by rw [run_D]; omega)
    · omega
  · have := hP1.nw; omega

theorem runSmall_runP {p : Par} (U : Nat) (evs : List Ev) (s : State) (gab gba : GLink) (h : Cons p s gab gba)
    (hU : U < o p.base s.B.rcv_nxt) (hsm : RunSmall p.base s evs) :
    RunP (fun s => Small p.base s ∧ (U < o p.base s.B.rcv_nxt ∨ 0 < s.B.rcv_wnd.toNat)) s evs :=
  RunP.mono (fun _ h => ⟨h.1, Or.inl h.2.2⟩) evs s
    (RunP.strengthen (J := fun s => (∃ gab gba, Cons p s gab gba) ∧ U < o p.base s.B.rcv_nxt)
      (fun _ ev hs _ ⟨⟨_, _, hc⟩, hU⟩ =>
        ⟨cons_step hc hs.noWrap ev, Nat.lt_of_lt_of_le hU (rcvNxt_mono_step hc hs.noWrap ev)⟩)
      evs s ((runSmall_iff p.base evs s).mp hsm) ⟨⟨gab, gba, h⟩, hU⟩)

theorem retG3_done {p : Par} {s : State} {gab gba : GLink} (h : Cons p s gab gba) (hl : LiveInv s.A)
    (U R T1 IA IB : Nat) (hT : R + IA ≤ T1 ∧ T1 < R + 2 ^ 31) (ht : Tm IB s) (h1 : P1G p U R T1 IA s)
    (evs : List Ev) (hsm : RunSmallH p.base s evs) (hnow : T1 + s.D + IB + s.D < (Sys.run s evs).now) :
    U < o p.base (Sys.run s evs).A.snd_una :=
  retG_done h hl U R T1 IA IB hT ht h1 evs
    (RunP.mono (fun _ h => ⟨h.1, Or.inr h.2⟩) evs s ((runSmallH_iff p.base evs s).mp hsm)) hnow

theorem retH3_done {p : Par} {s : State} {gab gba : GLink} (h : Cons p s gab gba) (hl : LiveInv s.A)
    (U R T1 IA IB : Nat) (hT : R + IA ≤ T1 ∧ T1 < R + 2 ^ 31) (ht : Tm IB s) (h1 : P1H p U R T1 IA s)
    (evs : List Ev) (hsm : RunSmallH p.base s evs) (hnow : T1 + s.D + IB + s.D < (Sys.run s evs).now) :
    U < o p.base (Sys.run s evs).A.snd_una :=
  retG3_done h hl U R T1 IA IB hT ht h1.toG evs hsm hnow

end KcpVerif.SysC
