import KcpVerif.Lemmas.C11IsoL
import KcpVerif.Lemmas.C01SessRef
/-!
The composition for `C11_isolation`: the listener of `Model/SessIn` with its opaque session state instantiated
by `Model/Sess` sessions with their ghost history (`C01.SessG`), no FEC, any cipher at the gate, the clock an
input of every step:

    kcpInput := fun x d => sessStep x (.input d now)      -- `(Sess.packetInput x.s d now).s` + ghosts
    init     := fun conv => { s := Sess.new conv }         -- `newUDPSession(conv, …)`
    closeFx  := fun x => sessStep x (.update now)          -- `s.kcp.flush(IKCP_FLUSH_FULL)` in `Close`

and any number of client sessions, one per (address, conversation id).  `Inv`: every session object created for an
HONEST address (one whose datagrams are all emitted by its clients) is, with the client of its address and
conversation id, a reachable state of the two-session system of `C01_session_plain` (`Peer`).  `AccOk`: every
index `Accept` has returned or that is still queued is a session object, so that `C11_isolation` speaks about every
accepted session.  `trace`: the listener events a run performs, so that `lrun_obj` applies to it.
-/
namespace KcpVerif.C11Iso
open KcpVerif.SessIn KcpVerif.C01

def world (now : U32) : World SessG :=
  { kcpInput := fun x d => sessStep x (.input d now)
    init := fun conv => { s := Sess.new conv }
    closeFx := fun x => sessStep x (.update now) }

def plain : Cipher := { kind := .nil, dec := id, crc := fun _ => 0, aopen := fun _ _ => none }

theorem gate_plain (d : Bytes) : cryptGate plain d = .ok d := rfl

def inputD (ciph : Cipher) (now : U32) (l : Listener SessG) (dead : Bool) (d : Bytes) (a : String) : Listener SessG :=
  (listenerInputD (world now) ciph l dead d a).l

/-- `Listener.Close` (first call): the model's `closeUnaccepted` -/
def listenerClose (now : U32) (l : Listener SessG) : Listener SessG := SessIn.closeUnaccepted (world now) l

theorem listenerClose_model (now : U32) (l : Listener SessG) (dead : Bool) :
    SessIn.listenerClose (world now) l dead = if dead then l else listenerClose now l := rfl

structure Sys where
  l        : Listener SessG := Listener.empty
  /-- `l.die` closed -/
  dead     : Bool := false
  /-- creation indices returned by Accept so far -/
  accepted : List Nat := []
  /-- the client session of conversation `c` at address `a`, if it has been dialled -/
  clients  : String → U32 → Option SessG := fun _ _ => none

def setClient (cl : String → U32 → Option SessG) (a : String) (c : U32) (g : SessG) : String → U32 → Option SessG :=
  fun a' c' => if a' = a ∧ c' = c then some g else cl a' c'

inductive IEv where
  /-- a client at address `a` dials with a conversation id it has not used before (a reconnect, if
      `a` already has conversations) -/
  | connect (a : String) (c : U32)
  /-- the client of conversation `c` at `a` performs ANY session operation: `WriteBuffers`, `Read`,
      `update`, setters, `packetInput` of ANY bytes (whatever the server, or anybody, sends it) -/
  | client (a : String) (c : U32) (op : SessOp)
  /-- the network hands the listener, with source address `a`, the `i`-th datagram the client of
      conversation `c` at `a` has emitted so far — current or previous conversation, any later time,
      any number of times, in any order, or never.  `wrap` is what the sender's `postProcess` (nonce,
      CRC / Seal, encryption) and the network did to it: the event takes place iff the listener's
      integrity gate opens `wrap d` to `d` (no cipher: `wrap = id`) -/
  | deliver (a : String) (c : U32) (i : Nat) (wrap : Bytes → Bytes) (now : U32)
  /-- ARBITRARY bytes with source address `b`; ignored by the step function when `b` is honest -/
  | forge (b : String) (data : Bytes) (now : U32)
  | accept
  /-- the application closes session `id` (accepted or not, any address) -/
  | close (id : Nat) (now : U32)
  /-- the application or the scheduler operates on session `id`: `Read` (any buffer size),
      `WriteBuffers`, `update`, setters — anything but `packetInput`, which only the listener calls -/
  | sess (id : Nat) (op : SessOp)
  | listenerClose (now : U32)

def step (ciph : Cipher) (honest : String → Bool) (s : Sys) : IEv → Sys
  | .connect a c =>
    match s.clients a c with
    | some _ => s
    | none => { s with clients := setClient s.clients a c { s := Sess.new c } }
  | .client a c op =>
    match s.clients a c with
    | none => s
    | some g => { s with clients := setClient s.clients a c (sessStep g op) }
  | .deliver a c i wrap now =>
    match s.clients a c with
    | none => s
    | some g =>
      match g.wire[i]? with
      | none => s
      | some d => if cryptGate ciph (wrap d) = .ok d then { s with l := inputD ciph now s.l s.dead (wrap d) a } else s
  | .forge b data now => if honest b then s else { s with l := inputD ciph now s.l s.dead data b }
  | .accept =>
    match (SessIn.accept s.l).got with
    | none => s
    | some id => { s with l := (SessIn.accept s.l).l, accepted := s.accepted ++ [id] }
  | .close id now => { s with l := userClose (world now) s.l id }
  | .sess id op => if isSessInput op then s else { s with l := appSess s.l id (fun x => sessStep x op) }
  | .listenerClose now => if s.dead then s else { s with l := listenerClose now s.l, dead := true }

def run (ciph : Cipher) (honest : String → Bool) (s : Sys) (evs : List IEv) : Sys := evs.foldl (step ciph honest) s

def isListenerClose : IEv → Bool
  | .listenerClose _ => true
  | _ => false

def levs (ciph : Cipher) (honest : String → Bool) (s : Sys) : IEv → List (LEv SessG)
  | .connect _ _ => []
  | .client _ _ _ => []
  | .deliver a c i wrap now =>
    match s.clients a c with
    | none => []
    | some g =>
      match g.wire[i]? with
      | none => []
      | some d => if cryptGate ciph (wrap d) = .ok d then [.input (world now) ciph (wrap d) a] else []
  | .forge b data now => if honest b then [] else [.input (world now) ciph data b]
  | .accept => [.accept]
  | .close id now => [.close (world now) id]
  | .sess id op => if isSessInput op then [] else [.app id (fun x => sessStep x op)]
  | .listenerClose _ => []

/-- `P` speaks of: is the event `listenerClose`, its listener events, the state afterwards -/
theorem step_elim (ciph : Cipher) (honest : String → Bool) (s : Sys) {P : Bool → List (LEv SessG) → Sys → Prop}
    (same : ∀ b, P b [] s)
    (conn : ∀ a c, s.clients a c = none →
      P false [] { s with clients := setClient s.clients a c { s := Sess.new c } })
    (cli : ∀ a c g op, s.clients a c = some g →
      P false [] { s with clients := setClient s.clients a c (sessStep g op) })
    (inp : ∀ now d a,
      (honest a = true → ∃ (c : U32) (g : SessG) (i : Nat) (d' : Bytes), s.clients a c = some g ∧ g.wire[i]? = some d' ∧
        cryptGate ciph d = .ok d') →
      P false [.input (world now) ciph d a] { s with l := inputD ciph now s.l s.dead d a })
    (accNone : (SessIn.accept s.l).got = none → P false [.accept] s)
    (acc : ∀ id, (SessIn.accept s.l).got = some id →
      P false [.accept] { s with l := (SessIn.accept s.l).l, accepted := s.accepted ++ [id] })
    (close : ∀ id now, P false [.close (world now) id] { s with l := userClose (world now) s.l id })
    (app : ∀ id op, isSessInput op = false →
      P false [.app id (fun x => sessStep x op)] { s with l := appSess s.l id (fun x => sessStep x op) })
    (lclose : s.dead = false → ∀ now, P true [] { s with l := listenerClose now s.l, dead := true })
    (e : IEv) : P (isListenerClose e) (levs ciph honest s e) (step ciph honest s e) := by
  cases e with
  | connect a c =>
    cases hc : s.clients a c with
    | some g => simp only [step, levs, isListenerClose, hc]; exact same false
    | none => simp only [step, levs, isListenerClose, hc]; exact conn a c hc
  | client a c op =>
    cases hc : s.clients a c with
    | none => simp only [step, levs, isListenerClose, hc]; exact same false
    | some g => simp only [step, levs, isListenerClose, hc]; exact cli a c g op hc
  | deliver a c i wrap now =>
    cases hc : s.clients a c with
    | none => simp only [step, levs, isListenerClose, hc]; exact same false
    | some g =>
      cases hd : g.wire[i]? with
      | none => simp only [step, levs, isListenerClose, hc, hd]; exact same false
      | some d =>
        by_cases hgate : cryptGate ciph (wrap d) = .ok d
        · simp only [step, levs, isListenerClose, hc, hd, if_pos hgate]
          exact inp now (wrap d) a (fun _ => ⟨c, g, i, d, hc, hd, hgate⟩)
        · simp only [step, levs, isListenerClose, hc, hd, if_neg hgate]; exact same false
  | forge b data now =>
    cases hb : honest b with
    | true => simp only [step, levs, isListenerClose, hb, if_true]; exact same false
    | false =>
      simp only [step, levs, isListenerClose, hb, Bool.false_eq_true, if_false]
      exact inp now data b (fun hh => by rw [hb] at hh; cases hh)
  | accept =>
    cases hg : (SessIn.accept s.l).got with
    | none => simp only [step, levs, isListenerClose, hg]; exact accNone hg
    | some id => simp only [step, levs, isListenerClose, hg]; exact acc id hg
  | close id now => exact close id now
  | sess id op =>
    cases hi : isSessInput op with
    | true => simp only [step, levs, isListenerClose, hi, if_true]; exact same false
    | false => simp only [step, levs, isListenerClose, hi, Bool.false_eq_true, if_false]; exact app id op hi
  | listenerClose now =>
    cases hd : s.dead with
    | true => simp only [step, levs, isListenerClose, hd, if_true]; exact same true
    | false => simp only [step, levs, isListenerClose, hd, Bool.false_eq_true, if_false]; exact lclose hd now

/-- `g` and `x` are a reachable state of the two-session system of `C01_session_plain` started from `(a0, b0)` -/
def DPeer (a0 b0 : Sess) (g x : SessG) : Prop := ∃ ops : List SSOp, ssrun ⟨{ s := a0 }, { s := b0 }⟩ ops = ⟨g, x⟩

/-- client `g` and server side `x` of conversation `c`, both dialled fresh -/
def Peer (c : U32) (g x : SessG) : Prop := DPeer (Sess.new c) (Sess.new c) g x

theorem DPeer.a {a0 b0 : Sess} {g x : SessG} (h : DPeer a0 b0 g x) (op : SessOp) : DPeer a0 b0 (sessStep g op) x := by
  obtain ⟨ops, h⟩ := h
  exact ⟨ops ++ [.a op], by rw [ssrun_snoc, h]; rfl⟩

theorem DPeer.b {a0 b0 : Sess} {g x : SessG} (h : DPeer a0 b0 g x) (op : SessOp) (hi : isSessInput op = false) :
    DPeer a0 b0 g (sessStep x op) := by
  obtain ⟨ops, h⟩ := h
  refine ⟨ops ++ [.b op], ?_⟩
  rw [ssrun_snoc, h]
  simp only [ssstep, hi, Bool.false_eq_true, if_false]

theorem DPeer.dlv {a0 b0 : Sess} {g x : SessG} (h : DPeer a0 b0 g x) (i : Nat) (d : Bytes) (now : U32)
    (hd : g.wire[i]? = some d) : DPeer a0 b0 g (sessStep x (.input d now)) := by
  obtain ⟨ops, h⟩ := h
  refine ⟨ops ++ [.dlv i now], ?_⟩
  rw [ssrun_snoc, h]
  simp only [ssstep, hd]

theorem Peer.init (c : U32) (h : List SessOp) : Peer c (sessRun { s := Sess.new c } h) { s := Sess.new c } :=
  ⟨h.map .a, by rw [ssrun_mapA]⟩

/-- the wire format of `Model/Sess`, a hypothesis of the composition; discharged by `sessRun_wire_hdr`
(`Lemmas/C11IsoWire.lean`) -/
def WireOk : Prop :=
  ∀ (c : U32) (ops : List SessOp), ∀ d ∈ (sessRun { s := Sess.new c } ops).wire, GenuineHdr c d

def ObjOk (honest : String → Bool) (cl : String → U32 → Option SessG) (o : SessIn.Sess SessG) : Prop :=
  honest o.addr = true → ∃ g, cl o.addr o.conv = some g ∧ Peer o.conv g o.st

def InvL (honest : String → Bool) (cl : String → U32 → Option SessG) (l : Listener SessG) : Prop :=
  ∀ (j : Nat) (o : SessIn.Sess SessG), l.objs[j]? = some o → ObjOk honest cl o

def InvC (cl : String → U32 → Option SessG) : Prop :=
  ∀ a c g, cl a c = some g → ∃ h, g = sessRun { s := Sess.new c } h

structure Inv (honest : String → Bool) (s : Sys) : Prop where
  wf   : WF s.l
  wf2  : WF2 s.l
  objs : InvL honest s.clients s.l
  cls  : InvC s.clients

theorem inv_init (honest : String → Bool) : Inv honest {} :=
  ⟨WF_empty, WF2_empty, fun j o h => by simp [Listener.empty] at h, fun a c g h => by cases h⟩

theorem InvL_closeSess {honest : String → Bool} {cl : String → U32 → Option SessG} {l : Listener SessG}
    (h : InvL honest cl l) (now : U32) (id : Nat) : InvL honest cl (closeSess (world now) l id) := by
  intro j o' hj hh
  rcases closeSess_obj (world now) l id j o' hj with h1 | ⟨_, o, ho, _, ho'⟩
  · exact h j o' h1 hh
  · rw [ho'] at hh ⊢
    obtain ⟨g, hg, hp⟩ := h id o ho hh
    exact ⟨g, hg, DPeer.b hp (.update now) rfl⟩

theorem InvL_closeAll {honest : String → Bool} {cl : String → U32 → Option SessG} (now : U32) (ids : List Nat)
    (l : Listener SessG) (h : InvL honest cl l) : InvL honest cl (SessIn.closeAll (world now) l ids) :=
  closeAll_inv (P := InvL honest cl) (world now) (fun _ id h => InvL_closeSess h now id) ids l h

theorem genuine_hdr {cl : String → U32 → Option SessG} (hw : WireOk) (hc : InvC cl) {a : String} {c : U32}
    {g : SessG} {i : Nat} {d : Bytes} {hd : Hdr} (hg : cl a c = some g) (hi : g.wire[i]? = some d)
    (hm : minPacket ≤ d.length) (hp : parseHdr d = some hd) : hd.hasConv = true ∧ hd.conv = c := by
  obtain ⟨hist, hgh⟩ := hc a c g hg
  have hmem : d ∈ (sessRun { s := Sess.new c } hist).wire := by
    rw [← hgh]; exact List.mem_of_getElem? hi
  rcases hw c hist d hmem with h1 | ⟨sn, h1⟩
  · omega
  · rw [hp] at h1; cases h1; exact ⟨rfl, rfl⟩

/-- the four ways: nothing / closed / fed (own address AND conversation) / created for `(a, c)` -/
theorem inputD_genuine {cl : String → U32 → Option SessG} {l : Listener SessG}
    (hw : WireOk) (hwf : WF l) (hc : InvC cl) (ciph : Cipher) (now : U32) (dead : Bool)
    (data : Bytes) (a : String) (c : U32) (g : SessG) (i : Nat) (d : Bytes)
    (hg : cl a c = some g) (hi : g.wire[i]? = some d) (hgd : cryptGate ciph data = .ok d)
    (j : Nat) (o' : SessIn.Sess SessG) (hj : (inputD ciph now l dead data a).objs[j]? = some o') :
    l.objs[j]? = some o' ∨
    (∃ o, l.objs[j]? = some o ∧ o' = { o with st := sessStep o.st (.update now), closed := true }) ∨
    (∃ o, l.objs[j]? = some o ∧ o.addr = a ∧ o.conv = c ∧ o' = { o with st := sessStep o.st (.input d now) }) ∨
    (j = l.objs.length ∧
      o' = { conv := c, addr := a, st := sessStep { s := Sess.new c } (.input d now), closed := false }) := by
  rcases listenerInputD_obj (world now) ciph l dead data a j o' hj with h1 | ⟨p, hd, hgate, hm, hp, hf⟩
  · exact Or.inl h1
  · rw [hgd] at hgate; cases hgate
    have hhd := genuine_hdr hw hc hg hi hm hp
    rcases hf with ⟨o, ho, hl, hcv, ho'⟩ | ⟨o, ho, _, _, _, _, _, ho'⟩ | ⟨hjl, _, _, ho'⟩
    · obtain ⟨o2, ho2, hoa, _⟩ := hwf a j hl
      rw [ho] at ho2; cases ho2
      have hco : o.conv = c := by
        rcases hcv with h1 | h1
        · rw [hhd.1] at h1; cases h1
        · rw [← h1]; exact hhd.2
      exact Or.inr (Or.inr (Or.inl ⟨o, ho, hoa, hco, ho'⟩))
    · exact Or.inr (Or.inl ⟨o, ho, ho'⟩)
    · rw [hhd.2] at ho'
      exact Or.inr (Or.inr (Or.inr ⟨hjl, ho'⟩))

theorem InvL_inputD {honest : String → Bool} {cl : String → U32 → Option SessG} {l : Listener SessG}
    (hw : WireOk) (hwf : WF l) (h : InvL honest cl l) (hc : InvC cl) (ciph : Cipher) (now : U32) (dead : Bool)
    (data : Bytes) (a : String)
    (hsrc : honest a = true → ∃ (c : U32) (g : SessG) (i : Nat) (d : Bytes), cl a c = some g ∧ g.wire[i]? = some d ∧
      cryptGate ciph data = .ok d) :
    InvL honest cl (inputD ciph now l dead data a) := by
  intro j o' hj hh
  rcases listenerInputD_obj (world now) ciph l dead data a j o' hj with h1 | ⟨_, _, _, _, _, hf⟩
  · exact h j o' h1 hh
  · -- a changed object belongs to the source address, which is therefore honest
    obtain ⟨c, g, i, d, hg, hi, hgd⟩ := hsrc (by rw [← hf.addr hwf]; exact hh)
    rcases inputD_genuine hw hwf hc ciph now dead data a c g i d hg hi hgd j o' hj with
      h1 | ⟨o, ho, e⟩ | ⟨o, ho, hoa, hoc, e⟩ | ⟨_, e⟩
    · exact h j o' h1 hh
    · rw [e] at hh ⊢
      obtain ⟨g', hg', hpe⟩ := h j o ho hh
      exact ⟨g', hg', DPeer.b hpe (.update now) rfl⟩
    · rw [e] at hh ⊢
      obtain ⟨g', hg', hpe⟩ := h j o ho hh
      have hg2 : cl o.addr o.conv = some g := by rw [hoa, hoc]; exact hg
      rw [hg2] at hg'; cases hg'
      exact ⟨g, hg2, DPeer.dlv hpe i d now hi⟩
    · rw [e]
      obtain ⟨hist, hgh⟩ := hc a c g hg
      have := Peer.init c hist
      rw [← hgh] at this
      exact ⟨g, hg, DPeer.dlv this i d now hi⟩

theorem InvL_setClient_new {honest : String → Bool} {cl : String → U32 → Option SessG} {l : Listener SessG}
    (h : InvL honest cl l) (a : String) (c : U32) (g0 : SessG) (hn : cl a c = none) :
    InvL honest (setClient cl a c g0) l := by
  intro j o ho hh
  obtain ⟨g, hg, hp⟩ := h j o ho hh
  refine ⟨g, ?_, hp⟩
  unfold setClient
  by_cases he : o.addr = a ∧ o.conv = c
  · rw [he.1, he.2, hn] at hg; cases hg
  · rw [if_neg he]; exact hg

theorem InvL_setClient_step {honest : String → Bool} {cl : String → U32 → Option SessG} {l : Listener SessG}
    (h : InvL honest cl l) (a : String) (c : U32) (g : SessG) (op : SessOp) (hg : cl a c = some g) :
    InvL honest (setClient cl a c (sessStep g op)) l := by
  intro j o ho hh
  obtain ⟨g', hg', hp⟩ := h j o ho hh
  unfold setClient
  by_cases he : o.addr = a ∧ o.conv = c
  · rw [if_pos he]
    rw [he.1, he.2, hg] at hg'; cases hg'
    exact ⟨_, rfl, DPeer.a hp op⟩
  · rw [if_neg he]; exact ⟨g', hg', hp⟩

theorem inv_step (ciph : Cipher) {honest : String → Bool} (hw : WireOk) {s : Sys} (h : Inv honest s) (e : IEv) :
    Inv honest (step ciph honest s e) := by
  refine step_elim ciph honest s (P := fun _ _ s' => Inv honest s') (same := fun _ => h) (conn := ?conn)
    (cli := ?cli) (inp := ?inp) (accNone := fun _ => h) (acc := ?acc) (close := ?close) (app := ?app)
    (lclose := ?lclose) e
  case conn =>
    intro a c hc
    refine ⟨h.wf, h.wf2, InvL_setClient_new h.objs a c _ hc, ?_⟩
    intro a' c' g hg
    simp only [setClient] at hg
    by_cases he : a' = a ∧ c' = c
    · rw [if_pos he] at hg; cases hg
      rw [he.2]; exact ⟨[], rfl⟩
    · rw [if_neg he] at hg; exact h.cls a' c' g hg
  case cli =>
    intro a c g op hc
    refine ⟨h.wf, h.wf2, InvL_setClient_step h.objs a c g op hc, ?_⟩
    intro a' c' g' hg
    simp only [setClient] at hg
    by_cases he : a' = a ∧ c' = c
    · rw [if_pos he] at hg; cases hg
      obtain ⟨hist, hh⟩ := h.cls a c g hc
      rw [he.2]
      exact ⟨hist ++ [op], by rw [sessRun_snoc, ← hh]⟩
    · rw [if_neg he] at hg; exact h.cls a' c' g' hg
  case inp =>
    intro now d a hsrc
    exact ⟨WF_listenerInputD _ _ s.l s.dead d a h.wf, WF2_listenerInputD _ _ s.l s.dead d a h.wf h.wf2,
      InvL_inputD hw h.wf h.objs h.cls ciph now s.dead d a hsrc, h.cls⟩
  case acc =>
    intro id _
    refine ⟨WF_accept s.l h.wf, WF2_accept s.l h.wf2, ?_, h.cls⟩
    intro j o ho
    rw [(accept_objs s.l).1] at ho
    exact h.objs j o ho
  case close =>
    intro id now
    exact ⟨WF_userClose _ s.l id h.wf, WF2_closeSess _ s.l id h.wf2, InvL_closeSess h.objs now id, h.cls⟩
  case app =>
    intro id op hi
    refine ⟨WF_modify s.l id _ (fun o => ⟨rfl, rfl⟩) h.wf, WF2_modify s.l id _ (fun o => ⟨rfl, rfl⟩) h.wf2, ?_, h.cls⟩
    intro j o' hj hh
    rcases modifyAt_get (show (modifyAt s.l.objs id _)[j]? = some o' from hj) with ⟨_, hj'⟩ | ⟨hji, o, ho, e'⟩
    · exact h.objs j o' hj' hh
    · subst hji
      rw [e'] at hh ⊢
      obtain ⟨g, hg, hp⟩ := h.objs j o ho hh
      exact ⟨g, hg, DPeer.b hp op hi⟩
  case lclose =>
    intro _ now
    have := WF_closeAll' (world now) s.l.accepts s.l h.wf h.wf2
    exact ⟨this.1, this.2, InvL_closeAll now s.l.accepts s.l h.objs, h.cls⟩

theorem inv_run (ciph : Cipher) {honest : String → Bool} (hw : WireOk) (evs : List IEv) :
    ∀ s : Sys, Inv honest s → Inv honest (run ciph honest s evs) :=
  foldl_inv (fun _ e h => inv_step ciph hw h e) evs

def AccOk (s : Sys) : Prop := ∀ id, id ∈ s.accepted ∨ id ∈ s.l.accepts → id < s.l.objs.length

theorem accOk_inputD {s : Sys} (h : AccOk s) (ciph : Cipher) (now : U32) (d : Bytes) (a : String) :
    AccOk { s with l := inputD ciph now s.l s.dead d a } := by
  intro id hid
  show id < (listenerInputD (world now) ciph s.l s.dead d a).l.objs.length
  have hid : id ∈ s.accepted ∨ id ∈ (listenerInputD (world now) ciph s.l s.dead d a).l.accepts := hid
  rcases listenerInputD_grow (world now) ciph s.l s.dead d a with ⟨_, h1, h2⟩ | ⟨_, h1, h2, _⟩
  · rw [h2]
    rcases hid with hid | hid
    · exact h id (Or.inl hid)
    · exact h id (Or.inr (by rw [← h1]; exact hid))
  · rw [h2]
    rcases hid with hid | hid
    · exact Nat.lt_succ_of_lt (h id (Or.inl hid))
    · have hid' : id ∈ s.l.accepts ++ [s.l.objs.length] := by rw [← h1]; exact hid
      rcases List.mem_append.mp hid' with h3 | h3
      · exact Nat.lt_succ_of_lt (h id (Or.inr h3))
      · rw [List.mem_singleton.mp h3]; exact Nat.lt_succ_self _

theorem accOk_step (ciph : Cipher) (honest : String → Bool) {s : Sys} (h : AccOk s) (e : IEv) :
    AccOk (step ciph honest s e) := by
  refine step_elim ciph honest s (P := fun _ _ s' => AccOk s') (same := fun _ => h) (conn := fun _ _ _ => h)
    (cli := fun _ _ _ _ _ => h) (inp := fun now d a _ => accOk_inputD h ciph now d a) (accNone := fun _ => h)
    (acc := ?acc) (close := ?close) (app := ?app) (lclose := ?lclose) e
  case acc =>
    intro id hg j hj
    rcases accept_cases s.l with ⟨_, e⟩ | ⟨id', rest, hq, e⟩ <;> rw [e] at hg hj ⊢ <;> cases hg
    show j < s.l.objs.length
    rcases hj with hj | hj
    · rcases List.mem_append.mp hj with h1 | h1
      · exact h j (Or.inl h1)
      · rw [List.mem_singleton.mp h1]; exact h id (Or.inr (by rw [hq]; exact List.mem_cons_self ..))
    · exact h j (Or.inr (by rw [hq]; exact List.mem_cons_of_mem _ hj))
  case close =>
    intro id now j hj
    show j < (closeSess (world now) s.l id).objs.length
    rw [closeSess_length]
    rcases hj with hj | hj
    · exact h j (Or.inl hj)
    · exact h j (Or.inr (by rw [← closeSess_accepts (world now) s.l id]; exact hj))
  case app =>
    intro id op _ j hj
    show j < (modifyAt s.l.objs id _).length
    rw [modifyAt_length]
    exact h j hj
  case lclose =>
    intro _ now j hj
    show j < (SessIn.closeAll (world now) s.l s.l.accepts).objs.length
    rw [(closeAll_shape (world now) s.l.accepts s.l).1]
    rcases hj with hj | hj
    · exact h j (Or.inl hj)
    · cases hj

theorem accOk_run (ciph : Cipher) (honest : String → Bool) (evs : List IEv) :
    ∀ s : Sys, AccOk s → AccOk (run ciph honest s evs) :=
  foldl_inv (fun _ e h => accOk_step ciph honest h e) evs

theorem accOk_init : AccOk {} := by
  intro id hid
  rcases hid with h | h <;> cases h

def trace (ciph : Cipher) (honest : String → Bool) : Sys → List IEv → List (LEv SessG)
  | _, [] => []
  | s, e :: rest => levs ciph honest s e ++ trace ciph honest (step ciph honest s e) rest

theorem step_l (ciph : Cipher) (honest : String → Bool) (s : Sys) (e : IEv) (hd : s.dead = false)
    (he : isListenerClose e = false) :
    (step ciph honest s e).l = lrun s.l (levs ciph honest s e) ∧ (step ciph honest s e).dead = false := by
  revert he
  refine step_elim ciph honest s (P := fun b evs s' => b = false → s'.l = lrun s.l evs ∧ s'.dead = false)
    (same := fun _ _ => ⟨rfl, hd⟩) (conn := fun _ _ _ _ => ⟨rfl, hd⟩) (cli := fun _ _ _ _ _ _ => ⟨rfl, hd⟩)
    (inp := ?inp) (accNone := ?accNone) (acc := fun _ _ _ => ⟨rfl, hd⟩) (close := fun _ _ _ => ⟨rfl, hd⟩)
    (app := fun _ _ _ _ => ⟨rfl, hd⟩) (lclose := fun _ _ h => nomatch h) e
  case inp =>
    intro now d a _ _
    refine ⟨?_, hd⟩
    show (listenerInputD (world now) ciph s.l s.dead d a).l = (listenerInput (world now) ciph s.l d a).l
    rw [hd, listenerInputD_false]
  case accNone =>
    intro hg _
    refine ⟨?_, hd⟩
    show s.l = (SessIn.accept s.l).l
    rcases accept_cases s.l with ⟨_, e⟩ | ⟨_, _, _, e⟩ <;> rw [e] at hg ⊢
    cases hg

theorem run_l (ciph : Cipher) (honest : String → Bool) (evs : List IEv) : ∀ s : Sys, s.dead = false →
    (∀ e ∈ evs, isListenerClose e = false) → (run ciph honest s evs).l = lrun s.l (trace ciph honest s evs) := by
  induction evs with
  | nil => intro s _ _; rfl
  | cons e rest ih =>
    intro s hd he
    obtain ⟨h1, h2⟩ := step_l ciph honest s e hd (he e (List.mem_cons_self ..))
    show (run ciph honest (step ciph honest s e) rest).l = _
    rw [ih _ h2 (fun e' h' => he e' (List.mem_cons_of_mem _ h'))]
    show _ = lrun s.l (levs ciph honest s e ++ trace ciph honest (step ciph honest s e) rest)
    rw [lrun_append, h1]

end KcpVerif.C11Iso
