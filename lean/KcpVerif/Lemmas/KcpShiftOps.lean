/-
C12 — shift simulation: `Op`, `step`, `run` over every operation of the core; single steps and whole runs.
-/
import KcpVerif.Lemmas.KcpShiftInput

namespace KcpVerif.Shift
open KcpVerif.Gen KcpVerif.Kcp

theorem any_data_shift {σ : Sigma} {l l' : List Seg} (h : All₂ (SndRel σ) l l') (p : Nat → Bool) :
    l'.any (fun s => p s.data.length) = l.any (fun s => p s.data.length) := by
  induction h with
  | nil => rfl
  | cons hr _ ih => simp only [List.any_cons, hr.data, ih]

theorem setMtu_sim {σ : Sigma} {k k' : Kcp} (h : Sim σ k k') (mtu : Int) :
    Sim σ (setMtu k mtu).1 (setMtu k' mtu).1 ∧ (setMtu k' mtu).2 = (setMtu k mtu).2 := by
  have e := any_data_shift h.snd_buf (fun n => decide ((n : Int) > mtu - (IKCP_OVERHEAD : Int)))
  let R (r r' : Kcp × Int) : Prop := Sim σ r.1 r'.1 ∧ r'.2 = r.2
  unfold setMtu
  refine ite_rel (R := R) Iff.rfl (fun _ => ⟨h, rfl⟩) (fun _ => ?_)
  refine ite_rel (R := R) Iff.rfl (fun _ => ⟨h, rfl⟩) (fun _ => ?_)
  refine ite_rel (R := R) (by rw [h.snd_queue]) (fun _ => ⟨h, rfl⟩) (fun _ => ?_)
  exact ite_rel (R := R) (by simp only [e]) (fun _ => ⟨h, rfl⟩)
    (fun _ => ⟨{ h with mtu := rfl, mss := rfl, bufLen := rfl }, rfl⟩)

theorem noDelay_sim {σ : Sigma} {k k' : Kcp} (h : Sim σ k k') (a b c d : Int) :
    Sim σ (noDelay k a b c d) (noDelay k' a b c d) := by
  unfold noDelay
  extract_lets k1 k2 k3 k1' k2' k3'
  have h1 : Sim σ k1 k1' := ite_rel Iff.rfl (fun _ => { h with nodelay := rfl, rx_minrto := rfl }) (fun _ => h)
  have h2 : Sim σ k2 k2' := ite_rel Iff.rfl (fun _ => { h1 with interval := rfl }) (fun _ => h1)
  have h3 : Sim σ k3 k3' := ite_rel Iff.rfl (fun _ => { h2 with fastresend := rfl }) (fun _ => h2)
  exact ite_rel Iff.rfl (fun _ => { h3 with nocwnd := rfl }) (fun _ => h3)

theorem wndSize_sim {σ : Sigma} {k k' : Kcp} (h : Sim σ k k') (a b : Int) :
    Sim σ (wndSize k a b) (wndSize k' a b) := by
  unfold wndSize
  extract_lets k1 k1'
  have h1 : Sim σ k1 k1' := ite_rel Iff.rfl (fun _ => { h with snd_wnd := rfl }) (fun _ => h)
  exact ite_rel Iff.rfl (fun _ => { h1 with rcv_wnd := rfl }) (fun _ => h1)

theorem waitSnd_sim {σ : Sigma} {k k' : Kcp} (h : Sim σ k k') : waitSnd k' = waitSnd k := by
  unfold waitSnd
  rw [h.snd_queue, All₂.length_eq h.snd_buf]

/-- every operation of the protocol core; `now` is the clock reading of the operation -/
inductive Op
  | send (buf : Bytes)
  | recv (buflen : Nat)
  | peekSize
  | input (data : Bytes) (regular ackNoDelay : Bool) (now : U32)
  | flush (full : Bool) (now : U32)
  | update (now : U32)
  | check (now : U32)
  | setMtu (mtu : Int)
  | noDelay (nodelay interval resend nc : Int)
  | wndSize (snd rcv : Int)
  | waitSnd
deriving Repr, DecidableEq

/-- everything an operation lets its caller (and the network) observe -/
structure Obs where
  ret   : Int := 0                 -- return value (Send, Recv, PeekSize, Input, SetMtu, WaitSnd)
  data  : Bytes := []              -- the bytes delivered by Recv
  outs  : List Bytes := []         -- the datagrams handed to `output`, in order
  time  : Option U32 := none       -- Check: the absolute time of the next Update
  val   : U32 := 0                 -- flush: the returned interval (a duration)
  panic : Bool := false
deriving Repr, DecidableEq

def step (k : Kcp) : Op → Kcp × Obs
  | .send buf => ((send k buf).k, { ret := (send k buf).ret, panic := (send k buf).panic })
  | .recv n => ((recv k n).k, { ret := (recv k n).n, data := (recv k n).data })
  | .peekSize => (k, { ret := peekSize k })
  | .input data regular ackNoDelay now =>
    ((input k data regular ackNoDelay now).k,
     { ret := (input k data regular ackNoDelay now).ret, outs := (input k data regular ackNoDelay now).outs,
       panic := (input k data regular ackNoDelay now).panic })
  | .flush full now =>
    ((flush k full now).k, { outs := (flush k full now).outs, val := (flush k full now).interval,
                             panic := (flush k full now).panic })
  | .update now =>
    ((update k now).k, { outs := (update k now).outs, val := (update k now).interval,
                         panic := (update k now).panic })
  | .check now => (k, { time := some (check k now) })
  | .setMtu mtu => ((setMtu k mtu).1, { ret := (setMtu k mtu).2 })
  | .noDelay a b c d => (noDelay k a b c d, {})
  | .wndSize a b => (wndSize k a b, {})
  | .waitSnd => (k, { ret := (waitSnd k : Int) })

/-- the same operation in the shifted world: incoming datagrams are shifted on the wire,
the clock reading by `t`; nothing else changes (buffers, lengths, configuration values) -/
def shiftOp (σ : Sigma) : Op → Op
  | .input data regular ackNoDelay now => .input (shiftIn σ data) regular ackNoDelay (now + σ.t)
  | .flush full now => .flush full (now + σ.t)
  | .update now => .update (now + σ.t)
  | .check now => .check (now + σ.t)
  | op => op

/-- absolute times are shifted by `t`, durations are equal -/
structure ObsRel (σ : Sigma) (o o' : Obs) : Prop where
  ret   : o'.ret = o.ret
  data  : o'.data = o.data
  outs  : All₂ (OutRel σ) o.outs o'.outs
  time  : o'.time = o.time.map (· + σ.t)
  val   : o'.val = o.val
  panic : o'.panic = o.panic

theorem step_sim {σ : Sigma} {k k' : Kcp} (h : Sim σ k k') (op : Op) :
    Sim σ (step k op).1 (step k' (shiftOp σ op)).1 ∧ ObsRel σ (step k op).2 (step k' (shiftOp σ op)).2 := by
  cases op with
  | send buf =>
    obtain ⟨a, b, c⟩ := send_sim h buf
    simp only [step, shiftOp]
    exact ⟨a, ⟨b, rfl, All₂.nil, rfl, rfl, c⟩⟩
  | recv n =>
    obtain ⟨a, b, c⟩ := recv_sim h n
    simp only [step, shiftOp]
    exact ⟨a, ⟨b, c, All₂.nil, rfl, rfl, rfl⟩⟩
  | peekSize =>
    simp only [step, shiftOp]
    exact ⟨h, ⟨peekSize_sim h, rfl, All₂.nil, rfl, rfl, rfl⟩⟩
  | input data regular ackNoDelay now =>
    have r := input_sim h data regular ackNoDelay now
    simp only [step, shiftOp]
    exact ⟨r.k, ⟨r.ret, rfl, r.outs, rfl, rfl, r.panic⟩⟩
  | flush full now =>
    have r := flush_sim h full now
    simp only [step, shiftOp]
    exact ⟨r.k, ⟨rfl, rfl, r.outs, rfl, r.interval, r.panic⟩⟩
  | update now =>
    have r := update_sim h now
    simp only [step, shiftOp]
    exact ⟨r.k, ⟨rfl, rfl, r.outs, rfl, r.interval, r.panic⟩⟩
  | check now =>
    simp only [step, shiftOp]
    refine ⟨h, ⟨rfl, rfl, All₂.nil, ?_, rfl, rfl⟩⟩
    show some (check k' (now + σ.t)) = some (check k now + σ.t)
    rw [check_sim h]
  | setMtu mtu =>
    obtain ⟨a, b⟩ := setMtu_sim h mtu
    simp only [step, shiftOp]
    exact ⟨a, ⟨b, rfl, All₂.nil, rfl, rfl, rfl⟩⟩
  | noDelay a b c d =>
    simp only [step, shiftOp]
    exact ⟨noDelay_sim h a b c d, ⟨rfl, rfl, All₂.nil, rfl, rfl, rfl⟩⟩
  | wndSize a b =>
    simp only [step, shiftOp]
    exact ⟨wndSize_sim h a b, ⟨rfl, rfl, All₂.nil, rfl, rfl, rfl⟩⟩
  | waitSnd =>
    simp only [step, shiftOp]
    refine ⟨h, ⟨?_, rfl, All₂.nil, rfl, rfl, rfl⟩⟩
    show ((waitSnd k' : Nat) : Int) = (waitSnd k : Int)
    rw [waitSnd_sim h]

def run (k : Kcp) : List Op → Kcp × List Obs
  | [] => (k, [])
  | op :: rest => ((run (step k op).1 rest).1, (step k op).2 :: (run (step k op).1 rest).2)

theorem run_sim {σ : Sigma} {k k' : Kcp} (h : Sim σ k k') (ops : List Op) :
    Sim σ (run k ops).1 (run k' (ops.map (shiftOp σ))).1 ∧
      All₂ (ObsRel σ) (run k ops).2 (run k' (ops.map (shiftOp σ))).2 := by
  induction ops generalizing k k' with
  | nil => exact ⟨h, All₂.nil⟩
  | cons op rest ih =>
    obtain ⟨s1, s2⟩ := step_sim h op
    obtain ⟨r1, r2⟩ := ih s1
    exact ⟨r1, All₂.cons s2 r2⟩

end KcpVerif.Shift
