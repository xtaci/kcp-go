/-
The request phase of the acknowledgement chains.  A PUSH of a segment B has already delivered is on its way to B (a
retransmission whose ACK was lost): B re-acknowledges it, and A's `snd_una` passes everything B has delivered no later
than the arrival of that PUSH plus B's flush interval plus the one-way delay.
-/
import KcpVerif.Lemmas.SysDrainReturn
import KcpVerif.Lemmas.SysRunRules

namespace KcpVerif.SysC
open KcpVerif.Gen KcpVerif.Kcp KcpVerif.Live KcpVerif.Wire KcpVerif.SysW KcpVerif.Sys

-- the unifier otherwise unfolds the whole of `flush` / `input` when it compares two states
attribute [local irreducible] Kcp.flush Kcp.input

/-- 2^30 twice, so that `rcv_nxt + rcv_wnd`, the top of B's window, stays below 2^31 and the wrap-safe window test of a
PUSH reads as a comparison of offsets (`inFrs_push_listed`) -/
def Small (base : U32) (s : State) : Prop :=
  o base s.A.snd_nxt + s.A.snd_queue.length < 2 ^ 30 ∧ s.B.rcv_wnd.toNat < 2 ^ 30

theorem Small.noWrap {base : U32} {s : State} (h : Small base s) : NoWrap base s := by
  unfold NoWrap; have := h.1; omega

theorem inFrs_push_listed (base : U32) (N : Nat) (hN : N < 2 ^ 30) (frs : List Frm) (st : InLoop)
    (h1 : st.k.snd_buf = []) (hall : ∀ fr ∈ frs, DataLike fr ∧ (fr.cmd.toNat = IKCP_CMD_PUSH → o base fr.sn < N))
    (h2 : o base st.k.rcv_nxt ≤ N) (h3 : ∀ x ∈ st.k.rcv_buf, o base x.sn < N) (hp : st.panic = false)
    (hw : st.k.rcv_wnd.toNat < 2 ^ 30) (fr : Frm) (hfr : fr ∈ frs) (hpush : fr.cmd.toNat = IKCP_CMD_PUSH)
    (hin : o base fr.sn < o base st.k.rcv_nxt + st.k.rcv_wnd.toNat) :
    ∃ a ∈ (inFrs true frs st).k.acklist, a.sn = fr.sn := by
  -- the core `st'` that takes the frame in is not behind the first one and has its window
  obtain ⟨st', _, s1, hm⟩ := (inFrs_rcv base N (by omega) frs st h1 hall h2 h3 hp).2.2.2.2.2.2.2 fr hfr
  have hhi := s1.hi
  have hlo := s1.lo
  rw [← s1.rw] at hw hin
  have hsn := (hall fr hfr).2 hpush
  have hwin : itimediff fr.sn (st'.k.rcv_nxt + st'.k.rcv_wnd) < 0 := by
    have e : o base (st'.k.rcv_nxt + st'.k.rcv_wnd) = o base st'.k.rcv_nxt + st'.k.rcv_wnd.toNat := by
      have := o_add base st'.k.rcv_nxt st'.k.rcv_wnd.toNat (by omega)
      unfold u32 at this
      rw [BitVec.ofNat_toNat, BitVec.setWidth_eq] at this
      exact this
    have := itd base fr.sn (st'.k.rcv_nxt + st'.k.rcv_wnd) (by omega) (by rw [e]; omega)
    rw [e] at this
    omega
  have hl : (inFr true st' fr).k.acklist = st'.k.acklist ++ [⟨fr.sn, fr.ts⟩] :=
    inStep_push_acklist _ _ _ _ _ _ _ _ _ _ hpush hwin
  exact ⟨⟨fr.sn, fr.ts⟩, hm.ack _ (by rw [hl]; simp), rfl⟩

/-- B's flush timer: its interval is `I` and its next flush is at most `I` away -/
structure Tm (I : Nat) (s : State) : Prop where
  iv : s.B.interval.toNat = I
  nf : s.nfB ≤ s.now + I

theorem tm_step (s : State) (I : Nat) (ht : Tm I s) (ev : Ev) : Tm I (Sys.step s ev) := by
  refine ⟨by rw [(step_cfg s ev).2.1]; exact ht.iv, ?_⟩
  refine step_cases (P := fun s' => s'.nfB ≤ s'.now + I) s ev ht.nf (fun _ _ => ?_) (fun _ _ => ht.nf) (fun _ _ => ht.nf)
    (fun _ => ht.nf) (fun _ => ?_) (fun _ _ _ _ _ => ht.nf) (fun _ _ _ _ _ => ht.nf)
  · show s.nfB ≤ s.now + 1 + I
    have := ht.nf; omega
  · have hle := flush_interval_le s.B (clk s.now)
    rw [BitVec.le_def, ht.iv] at hle
    show s.now + (s.B.flush true (clk s.now)).interval.toNat ≤ s.now + I
    omega

/-- a PUSH of a segment B has already delivered is on its way to B, arriving by `T2` -/
def PushOld (base : U32) (U T2 : Nat) (s : State) : Prop :=
  U < o base s.B.rcv_nxt ∧ s.now ≤ T2 ∧ ∃ d ∈ s.ab, d.arr ≤ T2 ∧ ∃ frs, d.data = encFrames frs ∧
    (∀ fr ∈ frs, fr.data.length ≤ mtuLimit) ∧
    ∃ fr ∈ frs, fr.cmd.toNat = IKCP_CMD_PUSH ∧ o base fr.sn < o base s.B.rcv_nxt

/-- `n`: the offset of B's `rcv_nxt` -/
structure PushRel (base : U32) (Ow : Kcp → Prop) (Bn : Nat → Prop) (F : Nat → Frm → Prop) : Prop where
  up : ∀ (n n' : Nat) (fr : Frm), n ≤ n' → (Bn n → Bn n') ∧ (F n fr → F n' fr)
  listed : ∀ (k : Kcp) (fr : Frm) (a : Ack), Bn (o base k.rcv_nxt) → F (o base k.rcv_nxt) fr → a ∈ k.acklist →
    a.sn = fr.sn → Ow k

/-- `PushOld`: `U < n`, `sn < n`; `PushHead`: `U ≤ n`, `sn = U` -/
def PushF (Bn : Nat → Prop) (F : Nat → Frm → Prop) (base : U32) (k : Kcp) (fr : Frm) : Prop :=
  fr.cmd.toNat = IKCP_CMD_PUSH ∧ Bn (o base k.rcv_nxt) ∧ F (o base k.rcv_nxt) fr

theorem PushOld.pushed {base : U32} {U T2 : Nat} {s : State} (h : PushOld base U T2 s) :
    Pushed (PushF (fun n => U < n) (fun n fr => o base fr.sn < n) base) T2 s := by
  obtain ⟨q1, q2, d, hd, hda, frs, hdd, hval, fr, hfr, hpush, hF⟩ := h
  exact ⟨q2, d, hd, hda, frs, hdd, hval, fr, hfr, hpush, q1, hF⟩

def Ret2 (p : Par) (Ow : Kcp → Prop) (Rl : Frm → Prop) (Bn : Nat → Prop) (F : Nat → Frm → Prop) (U T2 I : Nat)
    (s : State) : Prop :=
  Ret p Ow Rl U (T2 + I) s ∨ Pushed (PushF Bn F p.base) T2 s

/-- `hw`: the PUSH is inside B's receive window, so B lists it (`inFrs_push_listed`) and owes -/
theorem ret2_step {p : Par} {Ow : Kcp → Prop} {Rl : Frm → Prop} {Bn : Nat → Prop} {F : Nat → Frm → Prop}
    (hOR : OweRel p.base Ow Rl) (hPR : PushRel p.base Ow Bn F) {s : State} {gab gba : GLink} (h : Cons p s gab gba)
    (hsm : Small p.base s) (U T2 I : Nat) (ht : Tm I s)
    (hD : ∀ t0 frs grest, gba = (t0, frs) :: grest → t0 ≤ s.now → (∃ fr ∈ frs, Rl fr) →
      U < o p.base (Sys.step s .dlvA).A.snd_una)
    (hw : ∀ fr, Bn (o p.base s.B.rcv_nxt) → F (o p.base s.B.rcv_nxt) fr →
      o p.base fr.sn < o p.base s.B.rcv_nxt + s.B.rcv_wnd.toNat)
    (hr : Ret2 p Ow Rl Bn F U T2 I s) (ev : Ev) : Ret2 p Ow Rl Bn F U T2 I (Sys.step s ev) := by
  have hnw := hsm.noWrap
  rcases hr with hr | hp
  · exact Or.inl (ret_step hOR h hnw U (T2 + I) hD hr ev)
  · have hB : ∀ t0 frs grest, gab = (t0, frs) :: grest → ∀ fr ∈ frs, PushF Bn F p.base s.B fr →
        Ow (inFrs true frs { k := s.B }).k := by
      rintro t0 frs grest rfl fr hfr ⟨hpush, hb, hF⟩
      have hd0 : ((t0, frs) : Nat × List Frm) ∈ (t0, frs) :: grest := List.mem_cons_self ..
      obtain ⟨a, ha, hsn⟩ := inFrs_push_listed p.base (o p.base s.A.snd_nxt) (by have := hsm.1; omega) frs { k := s.B } h.bsb
        (fun x hx => ⟨(h.fab (t0, frs) hd0 x hx).2.1, (h.fab (t0, frs) hd0 x hx).2.2⟩) h.bub h.bbuf rfl hsm.2
        fr hfr hpush (hw fr hb hF)
      have hlo := (h.inB_loop hnw).mono.nxt
      exact hPR.listed _ fr a ((hPR.up _ _ fr hlo).1 hb) ((hPR.up _ _ fr hlo).2 hF) ha hsn
    rcases pushed_step hOR.toD
        (fun k k' fr ⟨c, hb, hF⟩ hlo => ⟨c, (hPR.up _ _ fr hlo).1 hb, (hPR.up _ _ fr hlo).2 hF⟩)
        h hnw T2 I ht.nf hB ev trivial hp with h1 | h1 | h1
    · exact Or.inr h1
    · exact Or.inl (Or.inr (Or.inl h1))
    · exact Or.inl (Or.inr (Or.inr (by rw [step_D]; exact h1)))

theorem pushRel_old (base : U32) (U : Nat) :
    PushRel base (OweUna base U) (fun n => U < n) (fun n fr => o base fr.sn < n) where
  up := fun _ _ _ hn => ⟨fun h => Nat.lt_of_lt_of_le h hn, fun h => Nat.lt_of_lt_of_le h hn⟩
  listed := fun _ _ _ hb _ ha _ => ⟨hb, List.ne_nil_of_mem ha⟩

/-- `Small` in every state of the run -/
def RunSmall (base : U32) : State → List Ev → Prop
  | s, [] => Small base s
  | s, ev :: rest => Small base s ∧ RunSmall base (Sys.step s ev) rest

theorem runSmall_iff (base : U32) : ∀ (evs : List Ev) (s : State), RunSmall base s evs ↔ RunP (Small base) s evs := by
  intro evs
  induction evs with
  | nil => intro s; exact Iff.rfl
  | cons ev rest ih => intro s; exact and_congr_right fun _ => ih _

theorem ret2_done {p : Par} (U T2 I : Nat) (evs : List Ev) (s : State) (gab gba : GLink) (h : Cons p s gab gba) (ht : Tm I s)
    (hr : Ret2 p (OweUna p.base U) (RelUna p.base U) (fun n => U < n) (fun n fr => o p.base fr.sn < n) U T2 I s)
    (hsm : RunSmall p.base s evs) (hnow : T2 + I + s.D < (Sys.run s evs).now) :
    U < o p.base (Sys.run s evs).A.snd_una := by
  obtain ⟨_, _, hr'⟩ := Cons.run
    (J := fun s => Tm I s ∧ Ret2 p (OweUna p.base U) (RelUna p.base U) (fun n => U < n) (fun n fr => o p.base fr.sn < n) U T2 I s)
    (fun _ h => Small.noWrap h)
    (fun _ _ _ ev hc hsm ⟨ht, hr⟩ => ⟨tm_step _ I ht ev,
      ret2_step (oweRel_una p.base U) (pushRel_old p.base U) hc hsm U T2 I ht (relUna_arrives hc hsm.noWrap U)
        (fun fr _ hF => Nat.lt_of_lt_of_le hF (Nat.le_add_right _ _)) hr ev⟩)
    evs s gab gba h ((runSmall_iff p.base evs s).mp hsm) ⟨ht, hr⟩
  rcases hr' with hR | ⟨hn, _⟩
  · exact hR.done (by rw [run_D]; exact hnow)
  · omega

end KcpVerif.SysC
