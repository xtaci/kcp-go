/-
One round of zero-window probing as a chain of phases with deadlines: `Z0` (A's timer not armed), `ZA` (armed for `P`),
`ZW` (a WASK on its way to B), `ZT` (B owes the answer), `ZR` (a datagram with a non-zero window on its way to A); the
last three are the request, the owing and the answer of the general way back (Lemmas/SysDrainReturn.lean).  `PInv`: an
armed timer is at most `IKCP_PROBE_LIMIT` ahead, which bounds a round from any reachable state.
-/
import KcpVerif.Lemmas.SysDrainProbe

namespace KcpVerif.SysC
open KcpVerif.Gen KcpVerif.Kcp KcpVerif.Live KcpVerif.Wire KcpVerif.SysW KcpVerif.Sys

/- `flush` and `input` are used through their lemmas only; sealed, the elaborator does not unfold them each
time it reduces a projection such as `(flush k full now).k` while comparing two states. -/
attribute [local irreducible] Kcp.flush Kcp.input

/-- `RoomK s.B`, written out -/
def QB (s : State) : Prop := s.B.rcv_queue.length < s.B.rcv_wnd.toNat ∧ s.B.rcv_wnd.toNat < 65536

theorem QB.roomK {s : State} (h : QB s) : RoomK s.B := h

def ZW (T2 : Nat) (s : State) : Prop :=
  s.now ≤ T2 ∧ ∃ d ∈ s.ab, d.arr ≤ T2 ∧ ∃ frs, d.data = encFrames frs ∧ (∀ fr ∈ frs, fr.data.length ≤ mtuLimit) ∧
    ∃ fr ∈ frs, fr.cmd.toNat = IKCP_CMD_WASK

def ZT (T3 : Nat) (s : State) : Prop := s.B.probe &&& u32 IKCP_ASK_TELL ≠ 0 ∧ s.nfB ≤ T3 ∧ s.now ≤ T3

def ZR (T4 : Nat) (s : State) : Prop :=
  s.now ≤ T4 ∧ ∃ d ∈ s.ba, d.arr ≤ T4 ∧ ∃ frs, d.data = encFrames frs ∧ frs ≠ [] ∧ (∀ fr ∈ frs, fr.data = []) ∧
    ∀ fr ∈ frs, fr.wnd ≠ 0

/-- `R` asks a non-zero window of every frame of the answer, because A keeps the window of the last frame it parses -/
theorem oweD_tell (base : U32) :
    OweD base (fun k => k.probe &&& u32 IKCP_ASK_TELL ≠ 0) RoomK (fun g => g ≠ [] ∧ ∀ x ∈ g, x.data = [] ∧ x.wnd ≠ 0) where
  mono := fun _ _ ho hm => hm.tell ho
  side := fun _ _ _ hC => hC.of_flush
  flush := by
    intro K full now ho hC hsb hsq hpan
    obtain ⟨fr, hfr, _⟩ := flush_wins_frame K full now ho
    obtain ⟨g, e1, e2, e3, e4⟩ := emitB K hsb hsq full now hpan fr hfr
    exact ⟨g, e1, fun x hx => by rw [e3 x hx]; simp, e2,
      fun x hx => ⟨e3 x hx, by rw [e4 x hx]; exact hC.wnd_ne⟩⟩

theorem zw_iff (T2 : Nat) (s : State) : ZW T2 s ↔ Pushed (fun _ fr => fr.cmd.toNat = IKCP_CMD_WASK) T2 s := Iff.rfl

theorem zt_iff (T3 : Nat) (s : State) : ZT T3 s ↔ Owed (fun k => k.probe &&& u32 IKCP_ASK_TELL ≠ 0) T3 s := Iff.rfl

theorem zr_iff (T4 : Nat) (s : State) :
    ZR T4 s ↔ Carried (fun g => g ≠ [] ∧ ∀ x ∈ g, x.data = [] ∧ x.wnd ≠ 0) T4 s := by
  constructor
  · rintro ⟨q2, d, hd, hda, frs, hdd, hne, hdat, hwnd⟩
    exact ⟨⟨d, hd, hda, frs, hdd, fun x hx => by rw [hdat x hx]; simp, hne, fun x hx => ⟨hdat x hx, hwnd x hx⟩⟩, q2⟩
  · rintro ⟨⟨d, hd, hda, frs, hdd, _, hne, hx⟩, q2⟩
    exact ⟨q2, d, hd, hda, frs, hdd, hne, fun x hx' => (hx x hx').1, fun x hx' => (hx x hx').2⟩

theorem zB_step {p : Par} {s : State} {gab gba : GLink} (h : Cons p s gab gba) (hnw : NoWrap p.base s)
    (T2 T3 T4 IB : Nat) (ht : Tm IB s) (hT3 : T2 + IB ≤ T3) (hT4 : T3 + s.D ≤ T4) (hQ : QB s) (ev : Ev)
    (hQ' : QB (Sys.step s ev)) (hz : ZW T2 s ∨ ZT T3 s ∨ ZR T4 s) :
    (ZW T2 (Sys.step s ev) ∨ ZT T3 (Sys.step s ev) ∨ ZR T4 (Sys.step s ev)) ∨ (Sys.step s ev).A.rmt_wnd ≠ 0 := by
  have toT : ∀ {T : Nat}, T ≤ T3 → Owed (fun k => k.probe &&& u32 IKCP_ASK_TELL ≠ 0) T (Sys.step s ev) →
      ZT T3 (Sys.step s ev) := fun hT ⟨a, b, c⟩ => (zt_iff ..).mpr ⟨a, by omega, by omega⟩
  have toR : ∀ {T : Nat}, T ≤ T4 → Carried (fun g => g ≠ [] ∧ ∀ x ∈ g, x.data = [] ∧ x.wnd ≠ 0) T (Sys.step s ev) →
      ZR T4 (Sys.step s ev) := fun hT ⟨⟨d, hd, hda, r⟩, hn⟩ => (zr_iff ..).mpr ⟨⟨d, hd, by omega, r⟩, by omega⟩
  rcases hz with hz | hz | hz
  · -- a WASK anywhere in the datagram leaves ASK_TELL set after B's parse loop
    have hB : ∀ t0 frs grest, gab = (t0, frs) :: grest → ∀ fr ∈ frs, fr.cmd.toNat = IKCP_CMD_WASK →
        (inFrs true frs { k := s.B }).k.probe &&& u32 IKCP_ASK_TELL ≠ 0 := by
      intro t0 frs grest hg fr hfr hw
      subst hg
      exact inFrs_tell frs _ (Or.inl ⟨fr, hfr, hw⟩) (h.inB_loop hnw).panic
    rcases pushed_step (F := fun _ fr => fr.cmd.toNat = IKCP_CMD_WASK) (oweD_tell p.base) (fun _ _ _ hf _ => hf) h hnw
      T2 IB ht.nf hB ev hQ'.roomK ((zw_iff ..).mp hz) with h1 | h1 | h1
    · exact Or.inl (Or.inl ((zw_iff ..).mpr h1))
    · exact Or.inl (Or.inr (Or.inl (toT hT3 h1)))
    · exact Or.inl (Or.inr (Or.inr (toR (by omega) h1)))
  · rcases owed_step (oweD_tell p.base) h hnw T3 hQ.roomK ev hQ'.roomK ((zt_iff ..).mp hz) with h1 | h1
    · exact Or.inl (Or.inr (Or.inl ((zt_iff ..).mpr h1)))
    · exact Or.inl (Or.inr (Or.inr (toR hT4 h1)))
  · -- A takes over the window of the last frame
    have hD : ∀ t0 frs grest, gba = (t0, frs) :: grest → t0 ≤ s.now →
        (frs ≠ [] ∧ ∀ x ∈ frs, x.data = [] ∧ x.wnd ≠ 0) → (Sys.step s .dlvA).A.rmt_wnd ≠ 0 := by
      intro t0 frs grest hg hdue hR
      subst hg
      rw [step_dlvA_cons s _ _ h.hba, if_pos hdue]
      refine h.dlvA_cases (P := fun s' => s'.A.rmt_wnd ≠ 0) hnw (fun k1 hk1 _ _ => ?_)
      have hopen : (cwndOnAck k1 s.A.snd_una).rmt_wnd ≠ 0 := by
        rw [(inA_of_cons h hnw k1 hk1).rmt]
        exact inFrs_rmt frs _ (fun x hx => (hR.2 x hx).2) (Or.inl hR.1)
      exact ⟨hopen, by show (flush (cwndOnAck k1 s.A.snd_una) true (clk s.now)).k.rmt_wnd ≠ 0; rw [flush_rmt]; exact hopen⟩
    rcases carried_step (G := fun s' => s'.A.rmt_wnd ≠ 0) h T4 hD ev ((zr_iff ..).mp hz) with h1 | h1
    · exact Or.inl (Or.inr (Or.inr ((zr_iff ..).mpr h1)))
    · exact Or.inr h1

/-- `T1 < … + 2 ^ 31` (here and in `ZA`): the deadline stays in the range in which `itimediff` orders the 32-bit clock -/
def Z0 (IA T0 T1 : Nat) (s : State) : Prop :=
  s.A.probe_wait = 0 ∧ s.nfA ≤ T0 ∧ s.now ≤ T0 ∧ T0 + IKCP_PROBE_INIT + IA ≤ T1 ∧ T1 < s.now + IKCP_PROBE_INIT + 2 ^ 31

def ZA (IA T1 : Nat) (s : State) : Prop :=
  s.A.probe_wait ≠ 0 ∧ s.nfA ≤ T1 ∧ s.now ≤ T1 ∧ ∃ P, s.A.ts_probe = clk P ∧ P + IA ≤ T1 ∧ T1 < P + 2 ^ 31

/-- `nf`: the `flushA` event re-schedules A's next flush, the flush at the end of `Input` does not -/
theorem zA_flushState {p : Par} {s : State} {gab gba : GLink} (h : Cons p s gab gba) (hnw : NoWrap p.base s)
    (IA T0 T1 T2 : Nat) (hiv : s.A.interval.toNat = IA) (h0 : s.A.rmt_wnd = 0) (hT2 : T1 + s.D ≤ T2)
    (hz : Z0 IA T0 T1 s ∨ ZA IA T1 s) (nf : Nat)
    (hnf : nf = s.nfA ∨ nf = s.now + (s.A.flush true (clk s.now)).interval.toNat) :
    ZA IA T1 (afterFlushA s nf) ∨ ZW T2 (afterFlushA s nf) := by
  have hnfA : s.nfA ≤ T1 ∧ s.now ≤ T1 := by
    rcases hz with ⟨_, a, b, c, _⟩ | ⟨_, a, b, _⟩
    · exact ⟨by omega, by omega⟩
    · exact ⟨a, b⟩
  have hcore := zA_flush s.A s.now IA T0 T1 h0 hiv (by
    rcases hz with ⟨a, _, c, d, e⟩ | ⟨a, _, c, d⟩
    · exact Or.inl ⟨a, c, d, e⟩
    · exact Or.inr ⟨a, c, d⟩)
  rcases hcore with ⟨c1, c2, P, c3, c4, c5⟩ | ⟨fr, hfr, hw⟩
  · left
    refine ⟨c1, ?_, hnfA.2, P, c3, c4, c5⟩
    show nf ≤ T1
    rcases hnf with e | e
    · rw [e]; exact hnfA.1
    · rw [e]; exact c2
  · right
    obtain ⟨g, e1, e2, e3⟩ := emitA h hnw fr hfr
    exact ⟨by show s.now ≤ T2; omega, ⟨s.now + s.D, encFrames g⟩, List.mem_append_right _ e1,
      by show s.now + s.D ≤ T2; omega, g, rfl, e3, fr, e2, hw⟩

theorem zA_step {p : Par} {s : State} {gab gba : GLink} (h : Cons p s gab gba) (hnw : NoWrap p.base s)
    (IA T0 T1 T2 : Nat) (hiv : s.A.interval.toNat = IA) (h0 : s.A.rmt_wnd = 0) (hT2 : T1 + s.D ≤ T2)
    (hz : Z0 IA T0 T1 s ∨ ZA IA T1 s) (ev : Ev) :
    ((Z0 IA T0 T1 (Sys.step s ev) ∨ ZA IA T1 (Sys.step s ev)) ∨ ZW T2 (Sys.step s ev)) ∨
      (Sys.step s ev).A.rmt_wnd ≠ 0 := by
  let M : State → Prop := fun s' => ((Z0 IA T0 T1 s' ∨ ZA IA T1 s') ∨ ZW T2 s') ∨ s'.A.rmt_wnd ≠ 0
  have keepZ : ∀ s' : State, s'.A.probe_wait = s.A.probe_wait → s'.A.ts_probe = s.A.ts_probe → s'.nfA = s.nfA →
      s'.now = s.now → Z0 IA T0 T1 s' ∨ ZA IA T1 s' := by
    intro s' e1 e2 e3 e4
    rcases hz with ⟨a, b, c, d, e⟩ | ⟨a, b, c, P, d⟩
    · exact Or.inl ⟨by rw [e1]; exact a, by rw [e3]; exact b, by rw [e4]; exact c, d, by rw [e4]; exact e⟩
    · exact Or.inr ⟨by rw [e1]; exact a, by rw [e3]; exact b, by rw [e4]; exact c, P, by rw [e2]; exact d⟩
  have keep : ∀ s' : State, s'.A.probe_wait = s.A.probe_wait → s'.A.ts_probe = s.A.ts_probe → s'.nfA = s.nfA →
      s'.now = s.now → M s' := fun s' e1 e2 e3 e4 => Or.inl (Or.inl (keepZ s' e1 e2 e3 e4))
  have ofFlush : ∀ {s1 : State} {nf : Nat}, ZA IA T1 (afterFlushA s1 nf) ∨ ZW T2 (afterFlushA s1 nf) →
      M (afterFlushA s1 nf) := by
    intro s1 nf h3
    rcases h3 with h3 | h3
    · exact Or.inl (Or.inl (Or.inr h3))
    · exact Or.inl (Or.inr h3)
  refine cons_cases h hnw ev M (keep s rfl rfl rfl rfl) (fun hq => ?_) (fun b q _ => keep _ rfl rfl rfl rfl)
    (keep _ rfl rfl rfl rfl) (ofFlush (zA_flushState h hnw IA T0 T1 T2 hiv h0 hT2 hz _ (Or.inr rfl)))
    (keep _ rfl rfl rfl rfl) (fun _ _ _ _ _ => keep _ rfl rfl rfl rfl) (fun t0 frs grest K _ _ hK hc1 hnw1 => ?_)
  · have := (quiet_spec hq).2.2.1
    rcases hz with ⟨a, b, c, d, e⟩ | ⟨a, b, c, P, d⟩
    · exact Or.inl (Or.inl (Or.inl ⟨a, b, by show s.now + 1 ≤ T0; omega, d, by show T1 < s.now + 1 + _ + _; omega⟩))
    · exact Or.inl (Or.inl (Or.inr ⟨a, b, by show s.now + 1 ≤ T1; omega, P, d⟩))
  · by_cases hopen : K.rmt_wnd = 0
    · exact ⟨keep _ hK.pw hK.tp rfl rfl, ofFlush (zA_flushState hc1 hnw1 IA T0 T1 T2
        (by show K.interval.toNat = IA; rw [hK.iv]; exact hiv) hopen hT2 (keepZ _ hK.pw hK.tp rfl rfl) s.nfA (Or.inl rfl))⟩
    · exact ⟨Or.inr hopen, Or.inr (by show (flush K true (clk s.now)).k.rmt_wnd ≠ 0; rw [flush_rmt]; exact hopen)⟩

def Zall (IA T0 T1 T2 T3 T4 : Nat) (s : State) : Prop :=
  (Z0 IA T0 T1 s ∨ ZA IA T1 s) ∨ ZW T2 s ∨ ZT T3 s ∨ ZR T4 s

def ProbeHyp (p : Par) (s : State) : Prop := Small p.base s ∧ QB s

theorem z_step {p : Par} {IA IB : Nat} {s : State} (hi : Inv p IA IB s) (hnw : NoWrap p.base s)
    (T0 T1 T2 T3 T4 : Nat) (hT2 : T1 + s.D ≤ T2) (hT3 : T2 + IB ≤ T3) (hT4 : T3 + s.D ≤ T4)
    (hQ : QB s) (ev : Ev) (hQ' : QB (Sys.step s ev)) (h0 : s.A.rmt_wnd = 0) (hz : Zall IA T0 T1 T2 T3 T4 s) :
    Zall IA T0 T1 T2 T3 T4 (Sys.step s ev) ∨ (Sys.step s ev).A.rmt_wnd ≠ 0 := by
  obtain ⟨gab, gba, hc⟩ := hi.cons
  rcases hz with hz | hz
  · rcases zA_step hc hnw IA T0 T1 T2 hi.ta.iv h0 hT2 hz ev with (h1 | h1) | h1
    · exact Or.inl (Or.inl h1)
    · exact Or.inl (Or.inr (Or.inl h1))
    · exact Or.inr h1
  · rcases zB_step hc hnw T2 T3 T4 IB hi.tb hT3 hT4 hQ ev hQ' hz with h1 | h1
    · exact Or.inl (Or.inr h1)
    · exact Or.inr h1

theorem zall_now {IA T0 T1 T2 T3 T4 : Nat} {s : State} (hz : Zall IA T0 T1 T2 T3 T4 s)
    (h12 : T1 ≤ T2) (h23 : T2 ≤ T3) (h34 : T3 ≤ T4) : s.now ≤ T4 := by
  rcases hz with (⟨_, _, c, d, _⟩ | ⟨_, _, c, _⟩) | ⟨c, _⟩ | ⟨_, _, c⟩ | ⟨c, _⟩ <;> omega

theorem probe_round {p : Par} {IA IB : Nat} {s : State} (hi : Inv p IA IB s) (T0 T1 : Nat)
    (hz : Z0 IA T0 T1 s ∨ ZA IA T1 s) (evs : List Ev) (hr : RunP (ProbeHyp p) s evs)
    (hnow : T1 + s.D + IB + s.D < (Sys.run s evs).now) :
    ∃ a b, evs = a ++ b ∧ (Sys.run s a).A.rmt_wnd ≠ 0 ∧ (Sys.run s a).now ≤ T1 + s.D + IB + s.D + 1 := by
  by_cases h0 : s.A.rmt_wnd = 0
  · -- while the window is closed the chain of phases holds, with the invariants and the delay
    obtain ⟨a, b, e, hq, ht⟩ := RunP.reach (Q := fun s' => s'.A.rmt_wnd ≠ 0)
      (Ph := fun s' => (Inv p IA IB s' ∧ s'.D = s.D) ∧ s'.A.rmt_wnd = 0 ∧
        Zall IA T0 T1 (T1 + s.D) (T1 + s.D + IB) (T1 + s.D + IB + s.D) s') (T1 + s.D + IB + s.D)
      (fun s' ev h h' ⟨⟨hi', hD⟩, h0', hz'⟩ => by
        by_cases h1 : (Sys.step s' ev).A.rmt_wnd = 0
        · rcases z_step hi' h.1.noWrap T0 T1 _ _ _ (by rw [hD]; exact Nat.le_refl _) (Nat.le_refl _)
            (by rw [hD]; exact Nat.le_refl _) h.2 ev h'.2 h0' hz' with h2 | h2
          · exact Or.inl ⟨⟨inv_step hi' h.1.noWrap ev, (step_D s' ev).trans hD⟩, h1, h2⟩
          · exact absurd h1 h2
        · exact Or.inr h1)
      (fun s' h => zall_now h.2.2 (by omega) (by omega) (by omega)) evs s hr ⟨⟨hi, rfl⟩, h0, Or.inl hz⟩ hnow
    exact ⟨a, b, e, hq, ht⟩
  · have := zall_now (T2 := T1 + s.D) (T3 := T1 + s.D + IB) (T4 := T1 + s.D + IB + s.D) (Or.inl hz) (by omega) (by omega) (by omega)
    exact ⟨[], evs, rfl, h0, by show s.now ≤ _; omega⟩

theorem npw_le (w : U32) : (nextProbeWait w).toNat ≤ IKCP_PROBE_LIMIT := by
  unfold nextProbeWait
  simp only []
  generalize (if w < u32 IKCP_PROBE_INIT then u32 IKCP_PROBE_INIT else w) = w0
  generalize w0 + w0 / 2 = w1
  by_cases h : w1 > u32 IKCP_PROBE_LIMIT
  · rw [if_pos h]; decide
  · rw [if_neg h]
    unfold u32 IKCP_PROBE_LIMIT at h
    simp only [gt_iff_lt, BitVec.lt_def, BitVec.toNat_ofNat] at h
    unfold IKCP_PROBE_LIMIT
    omega

def PInv (IA : Nat) (s : State) : Prop :=
  s.now ≤ s.nfA ∧
  (s.A.probe_wait = 0 ∨ ∃ P, s.A.ts_probe = clk P ∧ P ≤ s.now + IKCP_PROBE_LIMIT ∧ s.nfA ≤ P + IA)

theorem pinv_flush (K : Kcp) (t IA : Nat) (hIA : IA < 2 ^ 30)
    (hK : K.probe_wait = 0 ∨ ∃ P, K.ts_probe = clk P ∧ P ≤ t + IKCP_PROBE_LIMIT ∧ t ≤ P + IA) :
    (flush K true (clk t)).k.probe_wait = 0 ∨
    ∃ P, (flush K true (clk t)).k.ts_probe = clk P ∧ P ≤ t + IKCP_PROBE_LIMIT ∧ t ≤ P := by
  by_cases h0 : K.rmt_wnd = 0
  · obtain ⟨f0, f1, f2⟩ := flush_probe_closed K true (clk t) h0
    by_cases hw : K.probe_wait = 0
    · right
      obtain ⟨_, e2⟩ := f0 hw
      exact ⟨t + IKCP_PROBE_INIT, by rw [e2, clk_add], by unfold IKCP_PROBE_INIT IKCP_PROBE_LIMIT; omega, by omega⟩
    · rcases hK with hK | ⟨P, zP, z1, z2⟩
      · exact absurd hK hw
      · right
        by_cases hdue : itimediff (clk t) K.ts_probe ≥ 0
        · obtain ⟨_, e2, _⟩ := f2 hw hdue
          refine ⟨t + (nextProbeWait K.probe_wait).toNat, ?_, by have := npw_le K.probe_wait; omega, by omega⟩
          rw [e2, ← clk_add]
          unfold u32
          rw [BitVec.ofNat_toNat, BitVec.setWidth_eq]
        · obtain ⟨_, e2⟩ := f1 hw (by omega)
          have hlt : t < P := clk_before t P (by rw [← zP]; exact hdue) (by omega)
          exact ⟨P, by rw [e2]; exact zP, z1, by omega⟩
  · left
    have hf := flush_probe_timer K true (clk t)
    rw [hf.1, probePhase_open { K with acklist := [] } (clk t) h0]

theorem pinv_step {p : Par} {s : State} {gab gba : GLink} (h : Cons p s gab gba) (hnw : NoWrap p.base s)
    (IA : Nat) (hIA : IA < 2 ^ 30) (hta : TmA IA s) (hpi : PInv IA s) (ev : Ev) : PInv IA (Sys.step s ev) := by
  obtain ⟨hn, hpr⟩ := hpi
  have hK : ∀ K : Kcp, K.probe_wait = s.A.probe_wait → K.ts_probe = s.A.ts_probe →
      (K.probe_wait = 0 ∨ ∃ P, K.ts_probe = clk P ∧ P ≤ s.now + IKCP_PROBE_LIMIT ∧ s.now ≤ P + IA) := by
    intro K e1 e2
    rcases hpr with a | ⟨P, a, b, c⟩
    · exact Or.inl (e1.trans a)
    · exact Or.inr ⟨P, e2.trans a, b, by omega⟩
  have keep : ∀ s' : State, s'.A.probe_wait = s.A.probe_wait → s'.A.ts_probe = s.A.ts_probe → s'.nfA = s.nfA →
      s'.now = s.now → PInv IA s' := by
    intro s' e1 e2 e3 e4
    refine ⟨by rw [e3, e4]; exact hn, ?_⟩
    rcases hpr with a | ⟨P, a, b, c⟩
    · exact Or.inl (e1.trans a)
    · exact Or.inr ⟨P, e2.trans a, by rw [e4]; exact b, by rw [e3]; exact c⟩
  refine cons_cases h hnw ev (PInv IA) (keep s rfl rfl rfl rfl) (fun hq => ?_)
    (fun b q _ => keep _ rfl rfl rfl rfl)
    (keep _ rfl rfl rfl rfl) ?_ (keep _ rfl rfl rfl rfl) (fun _ _ _ _ _ => keep _ rfl rfl rfl rfl)
    (fun t0 frs grest K _ _ hin _ _ => ⟨keep _ hin.pw hin.tp rfl rfl, hn, ?_⟩)
  · have := (quiet_spec hq).2.2.1
    refine ⟨by show s.now + 1 ≤ s.nfA; omega, ?_⟩
    rcases hpr with a | ⟨P, a, b, c⟩
    · exact Or.inl a
    · exact Or.inr ⟨P, a, by show P ≤ s.now + 1 + _; omega, c⟩
  · have hle := flush_interval_le s.A (clk s.now)
    rw [BitVec.le_def, hta.iv] at hle
    refine ⟨by show s.now ≤ s.now + _; omega, ?_⟩
    rcases pinv_flush s.A s.now IA hIA (hK s.A rfl rfl) with a | ⟨P, a, b, c⟩
    · exact Or.inl a
    · exact Or.inr ⟨P, a, b, by show s.now + (s.A.flush true (clk s.now)).interval.toNat ≤ P + IA; omega⟩
  · have := hta.nf
    rcases pinv_flush K s.now IA hIA (hK K hin.pw hin.tp) with a | ⟨P, a, b, c⟩
    · exact Or.inl a
    · exact Or.inr ⟨P, a, b, by show s.nfA ≤ P + IA; omega⟩

theorem pinv_netStep {p : Par} {IA IB : Nat} {s : State} (hi : Inv p IA IB s) (hnw : NoWrap p.base s) (hIA : IA < 2 ^ 30)
    (hpi : PInv IA s) (ev : NetEv) : PInv IA (netStep s ev) := by
  obtain ⟨gab, gba, hc⟩ := hi.cons
  exact netStep_cases (P := PInv IA) s ev (pinv_step hc hnw IA hIA hi.ta hpi) (fun _ _ _ _ => hpi) hpi

theorem inv_pinv_netRun {p : Par} {IA IB : Nat} (hIA : IA < 2 ^ 30) (evs : List NetEv) (s : State) (hi : Inv p IA IB s)
    (hp : PInv IA s) (hr : NetNoWrap p.base s evs) : Inv p IA IB (netRun s evs) ∧ PInv IA (netRun s evs) :=
  NetNoWrap.inv (J := fun s => Inv p IA IB s ∧ PInv IA s)
    (fun _ ev hnw h => ⟨inv_netStep h.1 hnw ev, pinv_netStep h.1 hnw hIA h.2 ev⟩) evs s hr ⟨hi, hp⟩

theorem pinv_init (A B : Kcp) (D t0 : Nat) (ndA ndB : Bool) (h : A.probe_wait = 0) :
    PInv A.interval.toNat (Sys.init A B D t0 ndA ndB) :=
  ⟨by show t0 ≤ t0 + A.interval.toNat; omega, Or.inl h⟩

/-- `IA < 2 ^ 29` (`2 ^ 30` in the lemmas on one flush): the deadlines of a round stay within 2^31 ms of the probe time,
the range in which `itimediff` orders the 32-bit clock -/
theorem probe_opens {p : Par} {IA IB : Nat} (hIA : IA < 2 ^ 29) (D : Nat) :
    Within (ProbeHyp p) (fun _ => True) (IKCP_PROBE_LIMIT + 2 * IA + D + IB + D)
      (fun s => Inv p IA IB s ∧ PInv IA s ∧ s.D = D) (fun s => s.A.rmt_wnd ≠ 0) := by
  intro s evs ⟨hi, ⟨hn, hpr⟩, hD⟩ _ hr hnow
  subst hD
  have hnf := hi.ta.nf
  have hI : IKCP_PROBE_INIT = 500 := rfl
  have hL : IKCP_PROBE_LIMIT = 120000 := rfl
  rw [hL] at hnow hpr ⊢
  by_cases hw : s.A.probe_wait = 0
  · obtain ⟨a, b, e, hq, ht⟩ := probe_round hi (s.now + IA) (s.now + IA + IKCP_PROBE_INIT + IA)
      (Or.inl ⟨hw, hnf, by omega, by omega, by omega⟩) evs hr (by omega)
    exact ⟨a, b, e, hq, by omega⟩
  · rcases hpr with a | ⟨P, a, b, c⟩
    · exact absurd a hw
    · obtain ⟨a', b', e, hq, ht⟩ := probe_round hi 0 (s.now + 120000 + IA)
        (Or.inr ⟨hw, by omega, by omega, P, a, by omega, by omega⟩) evs hr (by omega)
      exact ⟨a', b', e, hq, by omega⟩

instance (p : Par) : DecidablePred (ProbeHyp p) := fun s => by unfold ProbeHyp Small QB; infer_instance

instance netNoWrapDec2 (base : U32) : (s : State) → (evs : List NetEv) → Decidable (NetNoWrap base s evs)
  | s, [] => by unfold NetNoWrap; infer_instance
  | s, ev :: rest => by
    unfold NetNoWrap
    have := netNoWrapDec2 base (netStep s ev) rest
    infer_instance

end KcpVerif.SysC
