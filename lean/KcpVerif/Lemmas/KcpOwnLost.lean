/-
C15 (ownership, protocol core): the ghost list `lost` (buffers held by nobody and never recycled: the
`Get()[:n]` panicked, or `shrink_buf` popped a segment that still held one) never grows in an aligned
core that satisfies the MTU invariant `InvMss` of C10 — `Input` refuses segment lengths above
`mtuLimit` before `parse_data` copies, `Send` slices at most `mss ≤ mtuLimit` bytes, `shrink_buf` pops
only acked segments, which have given their buffer back — so "no leak" holds without exception.
Core Lean only.
-/
import KcpVerif.Lemmas.KcpOwnAligned
import KcpVerif.Lemmas.KcpFlush

namespace KcpVerif.Own
open KcpVerif.Gen KcpVerif.Kcp KcpVerif.Lemmas.KcpFlush

theorem popMsgO_lost (l : List SegO) (g : Ghost) : (popMsgO l g).g.lost = g.lost := by
  induction l generalizing g with
  | nil => rfl
  | cons x rest ih =>
    unfold popMsgO
    split
    · show ((g.use x.buf).recycle x.buf).lost = _
      rw [recycle_lost, use_lost]
    · rw [ih, recycle_lost, use_lost]

theorem mkSegsO_lost (mss : Nat) (stream : Bool) (n : Nat) (buf : Bytes) (g : Ghost) :
    (mkSegsO mss stream n buf g).g.lost = g.lost := by
  induction n generalizing buf g with
  | zero => rfl
  | succ c ih =>
    unfold mkSegsO
    show (mkSegsO mss stream c (buf.drop mss) g.get).g.lost = _
    rw [ih]; rfl

theorem unaO_lost (una : U32) (l : List SegO) (g : Ghost) : (unaO una l g).g.lost = g.lost := by
  induction l generalizing g with
  | nil => rfl
  | cons x rest ih =>
    unfold unaO
    split
    · rw [ih, recycle_lost]
    · rfl

theorem ackLoopO_lost (sn : U32) (l : List SegO) (g : Ghost) : (ackLoopO sn l g).g.lost = g.lost := by
  induction l generalizing g with
  | nil => rfl
  | cons x rest ih =>
    unfold ackLoopO
    split
    · exact recycle_lost _ _
    · split
      · rfl
      · exact ih g

theorem useSent_lost (k : Kcp) (now : U32) (c : Nat) (l : List SegO) (g : Ghost) :
    (useSent k now c l g).lost = g.lost := by
  induction l generalizing g with
  | nil => rfl
  | cons x rest ih =>
    unfold useSent
    rw [ih]
    split
    · exact use_lost _ _
    · rfl

theorem parseDataO_lost (k : Kcp) (s : Seg) (rb rq : List SegO) (g : Ghost) (h : s.data.length ≤ mtuLimit) :
    (parseDataO k s rb rq g).g.lost = g.lost :=
  parseDataO_cases (P := fun d => d.g.lost = g.lost) k s rb rq g rfl rfl (fun hgt => absurd h (Nat.not_le_of_gt hgt)) rfl

theorem dropAckedO_lost (l : List SegO) (g : Ghost) (h : ∀ x ∈ l, SbOk x) : (dropAckedO l g).g.lost = g.lost := by
  induction l generalizing g with
  | nil => rfl
  | cons x rest ih =>
    unfold dropAckedO
    split
    · rename_i ha
      have hn : x.buf = none := (h x (List.mem_cons_self ..)).2 ha
      rw [ih _ (fun z hz => h z (List.mem_cons_of_mem _ hz)), hn]; rfl
    · rfl

theorem unaShrinkO_lost (una : U32) (sb : List SegO) (g : Ghost) (h : ∀ x ∈ sb, SbOk x) :
    (unaShrinkO una sb g).g.lost = g.lost := by
  unfold unaShrinkO
  rw [dropAckedO_lost _ _ (fun x hx => h x (unaO_mem _ _ _ x hx)), unaO_lost]

theorem ackShrinkO_lost (k : Kcp) (sn : U32) (u : SegsG) (h : ∀ x ∈ u.l, SbOk x) :
    (ackShrinkO k sn u).g.lost = u.g.lost := by
  unfold ackShrinkO
  split
  · exact dropAckedO_lost _ _ h
  · rw [dropAckedO_lost _ _ (ackLoopO_sbOk _ _ _ h), ackLoopO_lost]

-- from here on the two stages are used through their lemmas only; opaque, they are not unfolded when two
-- loop states that contain them are compared
attribute [local irreducible] unaShrinkO ackShrinkO

theorem inBodyO_lost (regular : Bool) (data : Bytes) {st : InLoopO} {sq : List SegO} (ha : Aligned (st.toO sq))
    (h : (rd32 data 20).toNat ≤ mtuLimit) :
    (inBodyO regular data st).gh.lost = st.gh.lost := by
  have hul := unaShrinkO_lost (rd32 data 16) st.sb st.gh ha.sb
  have hu : ∀ x ∈ (unaShrinkO (rd32 data 16) st.sb st.gh).l, SbOk x := fun x hx => ha.sb x (unaShrinkO_mem _ _ _ x hx)
  refine inBodyO_cases (P := fun st' => st'.gh.lost = st.gh.lost) regular data st rfl rfl
    (fun _ => ?_) (fun seg hlen _ => ?_) (fun _ => hul)
  · exact (ackShrinkO_lost _ _ _ hu).trans hul
  · exact (parseDataO_lost _ seg _ _ _ (Nat.le_trans hlen h)).trans hul

theorem flushO_lost (o : KcpO) (full : Bool) (now : U32) : (flushO o full now).o.gh.lost = o.gh.lost := by
  unfold flushO
  simp only []
  split
  · exact useSent_lost _ _ _ _ _
  · rfl

theorem updateO_lost (o : KcpO) (now : U32) : (updateO o now).o.gh.lost = o.gh.lost :=
  updateO_preserves (I := fun o' => o'.gh.lost = o.gh.lost) (fun _ _ _ h => h)
    (fun _ _ _ h => (flushO_lost _ _ _).trans h) now rfl

theorem recvO_lost (o : KcpO) (n : Nat) : (recvO o n).o.gh.lost = o.gh.lost :=
  recvO_cases (P := fun o' => o'.gh.lost = o.gh.lost) o n (fun _ => rfl) (fun _ _ => popMsgO_lost _ _)

theorem inputO_lost (o : KcpO) (hs : Sync o) (ha : Aligned o) (data : Bytes) (regular ackNoDelay : Bool) (now : U32) :
    (inputO o data regular ackNoDelay now).o.gh.lost = o.gh.lost :=
  (inputO_preserves (I := fun o' => SyncAl o' ∧ o'.gh.lost = o.gh.lost)
    (fun _ _ e h => ⟨h.1.setK e, h.2⟩) (fun _ _ _ h => ⟨flushO_syncAl h.1 _ _, (flushO_lost _ _ _).trans h.2⟩)
    (fun regular _ data _ hl h => ⟨inBodyO_syncAl regular data h.1, (inBodyO_lost regular data h.1.2 hl).trans h.2⟩)
    data regular ackNoDelay now ⟨⟨hs, ha⟩, rfl⟩).2

theorem sendO_lost {o : KcpO} (h : InvMss o.k) (b : Bytes) : (sendO o b).o.gh.lost = o.gh.lost := by
  have hm := h.mss_le_limit
  have h1 : (sendApp o b (sendExt o.k b)).g.lost = o.gh.lost := by
    unfold sendApp
    split
    · exact use_lost _ _
    · rfl
  refine sendO_cases (P := fun o' => o'.gh.lost = o.gh.lost) o b rfl rfl (fun _ => rfl) (fun _ => h1) (fun hgt _ => ?_)
    (fun n _ => (mkSegsO_lost _ _ n _ _).trans h1)
  have := Nat.min_le_right (b.drop (sendExt o.k b)).length o.k.mss.toNat
  omega

end KcpVerif.Own
