import KcpVerif.Model.Sched
import KcpVerif.Lemmas.Fold
/-!
For C17: the steps of `Model/Sched` as relations, the per-worker invariant `WInv` for both
timer-channel modes, and the invariant `Inv` of the reachable states.
-/
namespace KcpVerif.Sched

def Timer.idle (t : Timer) : Prop := t.armed = none ∧ t.chan = none

/-- a timer that has been Reset and whose value has not been received yet -/
def Timer.live (t : Timer) : Prop :=
  (t.armed.isSome ∧ t.chan = none) ∨ (t.armed = none ∧ t.chan.isSome)

/-- the `when` the code asked for: `armedAt + max 0 (tasks[0].ts - usedNow)` -/
def Worker.whenOk (now : Time) (w : Worker) : Prop :=
  w.heap ≠ [] → ∀ wh, w.timer.armed = some wh →
    wh = w.armedAt + (minTs w.heap - w.usedNow) ∧ w.usedNow ≤ w.armedAt ∧ w.armedAt ≤ now

/-- the state of timer and flag while the worker is outside the Stop/drain/Reset section -/
def Worker.quiet (now : Time) (w : Worker) : Prop :=
  (w.drained = true → w.timer.idle ∧ w.heap = []) ∧
  (w.drained = false → w.timer.live) ∧ w.whenOk now

/-- between `Stop` and the conditional drain: a value is buffered exactly when the drain is going
    to receive -/
structure Worker.stoppedOk (m : Mode) (now : Time) (w : Worker) (n : Time) (st : Bool) : Prop where
  le : n ≤ now
  unarmed : w.timer.armed = none
  sync : m = .sync → w.timer.chan = none
  full : st = false ∧ w.drained = false → w.timer.chan.isSome
  empty : ¬ (st = false ∧ w.drained = false) → w.timer.chan = none

def WInv (m : Mode) (now : Time) (w : Worker) : Prop :=
  (∀ v, w.timer.chan = some v → v ≤ now) ∧
  match w.pc with
  | .select => w.quiet now
  | .gotTask _ => w.quiet now
  | .pushed n => n ≤ now ∧ (w.drained = true → w.timer.idle) ∧ (w.drained = false → w.timer.live)
  | .stopped n st => w.stoppedOk m now n st
  | .reset n => n ≤ now ∧ w.timer.idle
  | .loop v => v ≤ now ∧ w.timer.idle ∧ w.drained = true

theorem WInv.mono {m : Mode} {now now' : Time} {w : Worker} (h : WInv m now w) (hle : now ≤ now') :
    WInv m now' w := by
  obtain ⟨hc, hpc⟩ := h
  refine ⟨fun v hv => Nat.le_trans (hc v hv) hle, ?_⟩
  have hq : ∀ {w : Worker}, w.quiet now → w.quiet now' := by
    intro w ⟨h1, h2, h3⟩
    refine ⟨h1, h2, ?_⟩
    intro hne wh hwh
    obtain ⟨a, b, c⟩ := h3 hne wh hwh
    exact ⟨a, b, Nat.le_trans c hle⟩
  cases hp : w.pc <;> simp only [hp] at hpc ⊢
  · exact hq hpc
  · exact hq hpc
  · exact ⟨Nat.le_trans hpc.1 hle, hpc.2⟩
  · exact { hpc with le := Nat.le_trans hpc.le hle }
  · exact ⟨Nat.le_trans hpc.1 hle, hpc.2⟩
  · exact ⟨Nat.le_trans hpc.1 hle, hpc.2⟩

theorem WInv.init (m : Mode) (t0 : Time) : WInv m t0 (newWorker t0) := by
  refine ⟨by simp [newWorker], ?_⟩
  simp [newWorker, Worker.quiet, Timer.live, Worker.whenOk]

theorem WInv.recvTask {m : Mode} {now : Time} {w : Worker} (t : Task)
    (h : WInv m now w) (hsel : w.pc = .select) : WInv m now { w with pc := .gotTask t } := by
  obtain ⟨hc, hpc⟩ := h
  simp only [hsel] at hpc
  exact ⟨hc, hpc⟩

theorem reset_armed (m : Mode) (t : Timer) (x : Time) : (t.reset m x).armed = some x := by
  cases m <;> rfl

theorem reset_chan_of_idle (m : Mode) (t : Timer) (x : Time) (h : t.chan = none) :
    (t.reset m x).chan = none := by
  cases m <;> simp [Timer.reset, h]

/-- the worker after `timer.Reset(tasks[0].ts - n)` at clock value `now` (lines 124-125 and 133-135) -/
def Worker.rearm (m : Mode) (now : Time) (w : Worker) (n : Time) : Worker :=
  { w with pc := .select, timer := w.timer.reset m (now + (minTs w.heap - n)), drained := false,
           armedAt := now, usedNow := n }

inductive WStep (m : Mode) (now : Time) (w : Worker) : WLabel → WOut → Prop
  | exec {t : Task} (hp : w.pc = .gotTask t) (hlt : t.ts < now) :
      WStep m now w .readNow ⟨{ w with pc := .select }, some t⟩
  | push {t : Task} (hp : w.pc = .gotTask t) (hge : ¬ t.ts < now) :
      WStep m now w .readNow ⟨{ w with pc := .pushed now, heap := t :: w.heap }, none⟩
  | stop {n : Time} (hp : w.pc = .pushed n) :
      WStep m now w .stop
        ⟨{ w with pc := .stopped n (w.timer.stop m).stopped, timer := (w.timer.stop m).timer }, none⟩
  | drainRecv {n v : Time} {st : Bool} (hp : w.pc = .stopped n st) (hc : st = false ∧ w.drained = false)
      (hv : w.timer.chan = some v) : WStep m now w .drain ⟨{ w with pc := .reset n, timer := w.timer.recv }, none⟩
  | drainSkip {n : Time} {st : Bool} (hp : w.pc = .stopped n st) (hc : ¬ (st = false ∧ w.drained = false)) :
      WStep m now w .drain ⟨{ w with pc := .reset n }, none⟩
  | reset {n : Time} (hp : w.pc = .reset n) : WStep m now w .reset ⟨w.rearm m now n, none⟩
  | recvTimer {v : Time} (hp : w.pc = .select) (hv : w.timer.chan = some v) :
      WStep m now w .recvTimer ⟨{ w with pc := .loop v, timer := w.timer.recv, drained := true }, none⟩
  | pop {t : Task} {v : Time} (hp : w.pc = .loop v) (hc : t ∈ w.heap ∧ t.ts = minTs w.heap ∧ t.ts < v) :
      WStep m now w (.pop t) ⟨{ w with heap := w.heap.erase t }, some t⟩
  | loopDone {v : Time} (hp : w.pc = .loop v) (hnil : w.heap = []) :
      WStep m now w .loopEnd ⟨{ w with pc := .select }, none⟩
  | loopArm {v : Time} (hp : w.pc = .loop v) (hne : ¬ w.heap = []) (hge : ¬ minTs w.heap < v) :
      WStep m now w .loopEnd ⟨w.rearm m now v, none⟩
  | fire {v wh : Time} (ha : w.timer.armed = some wh) (hc : wh ≤ now ∧ wh ≤ v ∧ v ≤ now) :
      WStep m now w (.fire v) ⟨{ w with timer := w.timer.fire v }, none⟩

theorem wstep_inv {m : Mode} {now : Time} {w : Worker} {l : WLabel} {out : WOut}
    (hs : wstep m now w l = some out) : WStep m now w l out := by
  cases l <;> (unfold wstep at hs; dsimp only at hs) <;> split at hs <;> try contradiction
  next t hp =>
    split at hs
    · next hlt =>
      cases hs
      exact .exec hp hlt
    · next hlt =>
      cases hs
      exact .push hp hlt
  next n hp =>
    cases hs
    exact .stop hp
  next n st hp =>
    split at hs
    · next hc =>
      split at hs
      · next v hv =>
        cases hs
        exact .drainRecv hp hc hv
      · contradiction
    · next hc =>
      cases hs
      exact .drainSkip hp hc
  next n hp =>
    cases hs
    exact .reset hp
  next hp =>
    split at hs
    · next v hv =>
      cases hs
      exact .recvTimer hp hv
    · contradiction
  next t v hp =>
    split at hs
    · next hc =>
      cases hs
      exact .pop hp hc
    · contradiction
  next v hp =>
    split at hs
    · next hnil =>
      cases hs
      exact .loopDone hp hnil
    · next hnil =>
      split at hs
      · contradiction
      · next hge =>
        cases hs
        exact .loopArm hp hnil hge
  next v wh ha =>
    split at hs
    · next hc =>
      cases hs
      exact .fire ha hc
    · contradiction

theorem WStep.wstep_eq {m : Mode} {now : Time} {w : Worker} {l : WLabel} {out : WOut}
    (h : WStep m now w l out) : wstep m now w l = some out := by
  cases h with
  | exec hp hlt => simp only [wstep, hp, hlt, if_true]
  | push hp hge => simp only [wstep, hp, hge, if_false]
  | stop hp => simp only [wstep, hp]
  | drainRecv hp hc hv => simp only [wstep, hp, hc, hv, and_self, if_true]
  | drainSkip hp hc => simp only [wstep, hp, hc, if_false]
  | reset hp => simp only [wstep, hp, Worker.rearm]
  | recvTimer hp hv => simp only [wstep, hp, hv]
  | pop hp hc => simp only [wstep, hp]; rw [if_pos hc]
  | loopDone hp hnil => simp only [wstep, hp, hnil, if_true]
  | loopArm hp hne hge => simp only [wstep, hp, hne, hge, if_false, Worker.rearm]
  | fire ha hc => simp only [wstep, ha]; rw [if_pos hc]

theorem WStep.isSome {m : Mode} {now : Time} {w : Worker} {l : WLabel} {out : WOut}
    (h : WStep m now w l out) : (wstep m now w l).isSome := by
  rw [h.wstep_eq]; rfl

theorem quiet_fire {now v wh : Time} {w : Worker} (hq : w.quiet now) (ha : w.timer.armed = some wh) :
    ({ w with timer := w.timer.fire v } : Worker).quiet now := by
  obtain ⟨h1, h2, h3⟩ := hq
  cases hd : w.drained
  · have hl := h2 hd
    refine ⟨?_, ?_, ?_⟩
    · intro h; simp at h
    · intro _
      rcases hl with ⟨_, hc⟩ | ⟨hn, _⟩
      · right; simp [Timer.fire, hc]
      · simp [hn] at ha
    · intro _ wh' hwh'; simp [Timer.fire] at hwh'
  · have := (h1 hd).1.1; simp [this] at ha

theorem WInv.rearm {m : Mode} {now n : Time} {w : Worker} (hn : n ≤ now) (hi : w.timer.idle) :
    WInv m now (w.rearm m now n) := by
  have hchan := reset_chan_of_idle m w.timer (now + (minTs w.heap - n)) hi.2
  have harm := reset_armed m w.timer (now + (minTs w.heap - n))
  refine ⟨by simp [Worker.rearm, hchan], ?_⟩
  refine ⟨by simp [Worker.rearm], fun _ => Or.inl ⟨by simp [Worker.rearm, harm], hchan⟩, ?_⟩
  intro _ wh hwh
  simp only [Worker.rearm, harm, Option.some.injEq] at hwh
  exact ⟨hwh.symm, hn, Nat.le_refl _⟩

theorem WInv.pres {m : Mode} {now : Time} {w : Worker} {l : WLabel} {out : WOut}
    (h : WInv m now w) (hs : wstep m now w l = some out) : WInv m now out.w := by
  obtain ⟨hc, hpc⟩ := h
  cases wstep_inv hs with
  | exec hp =>
    simp only [hp] at hpc
    exact ⟨hc, hpc⟩
  | push hp =>
    simp only [hp] at hpc
    exact ⟨hc, Nat.le_refl _, fun hd => (hpc.1 hd).1, hpc.2.1⟩
  | stop hp =>
    simp only [hp] at hpc
    obtain ⟨hn, hdt, hdf⟩ := hpc
    cases m
    · refine ⟨by simp [Timer.stop], ?_⟩
      refine ⟨hn, rfl, fun _ => rfl, ?_, fun _ => rfl⟩
      intro ⟨hst, hd⟩
      rcases hdf hd with ⟨ha, _⟩ | ⟨_, hch⟩
      · simp [Timer.stop, ha] at hst
      · simp [Timer.stop, hch] at hst
    · refine ⟨by simpa [Timer.stop] using hc, ?_⟩
      refine ⟨hn, rfl, fun h => Mode.noConfusion h, ?_, ?_⟩
      · intro ⟨hst, hd⟩
        rcases hdf hd with ⟨ha, _⟩ | ⟨_, hch⟩
        · simp [Timer.stop, ha] at hst
        · exact hch
      · intro hne
        cases hd : w.drained
        · rcases hdf hd with ⟨_, hch⟩ | ⟨ha, _⟩
          · exact hch
          · exact absurd ⟨by simp [Timer.stop, ha], hd⟩ hne
        · exact (hdt hd).2
  | drainRecv hp =>
    simp only [hp] at hpc
    exact ⟨by simp [Timer.recv], hpc.le, hpc.unarmed, rfl⟩
  | drainSkip hp hcond =>
    simp only [hp] at hpc
    exact ⟨hc, hpc.le, hpc.unarmed, hpc.empty hcond⟩
  | reset hp =>
    simp only [hp] at hpc
    exact WInv.rearm hpc.1 hpc.2
  | recvTimer hp hv =>
    simp only [hp] at hpc
    refine ⟨by simp [Timer.recv], hc _ hv, ⟨?_, rfl⟩, rfl⟩
    obtain ⟨h1, h2, _⟩ := hpc
    cases hd : w.drained
    · rcases h2 hd with ⟨_, hch⟩ | ⟨ha, _⟩
      · simp [hch] at hv
      · exact ha
    · exact (h1 hd).1.1
  | pop hp =>
    simp only [hp] at hpc
    exact ⟨hc, by simpa [hp] using hpc⟩
  | loopDone hp hnil =>
    simp only [hp] at hpc
    obtain ⟨_, hi, hd⟩ := hpc
    exact ⟨hc, fun _ => ⟨hi, hnil⟩, fun h => by simp [hd] at h, fun hne => absurd hnil hne⟩
  | loopArm hp =>
    simp only [hp] at hpc
    exact WInv.rearm hpc.1 hpc.2.1
  | fire hwh hcond =>
    refine ⟨?_, ?_⟩
    · intro x hx
      simp only [Timer.fire] at hx
      split at hx
      · cases hx; exact hcond.2.2
      · rename_i y hy; cases hx; exact hc _ hy
    · cases hp : w.pc <;> simp only [hp] at hpc ⊢
      · exact quiet_fire hpc hwh
      · exact quiet_fire hpc hwh
      · obtain ⟨hn, hdt, hdf⟩ := hpc
        refine ⟨hn, ?_, ?_⟩
        · intro hd; have := (hdt hd).1; simp [this] at hwh
        · intro hd
          rcases hdf hd with ⟨_, hch⟩ | ⟨hn', _⟩
          · right; simp [Timer.fire, hch]
          · simp [hn'] at hwh
      · simp [hpc.unarmed] at hwh
      · simp [hpc.2.1] at hwh
      · simp [hpc.2.1.1] at hwh

/-- every execution is guarded by a clock reading that is not newer than the real time -/
theorem wstep_exec_late {m : Mode} {now : Time} {w : Worker} {l : WLabel} {out : WOut} {t : Task}
    (h : WInv m now w) (hs : wstep m now w l = some out) (he : out.exec = some t) : t.ts < now := by
  obtain ⟨_, hpc⟩ := h
  cases wstep_inv hs with
  | exec _ hlt =>
    cases he
    exact hlt
  | pop hp hcond =>
    cases he
    simp only [hp] at hpc
    exact Nat.lt_of_lt_of_le hcond.2.2 hpc.1
  | _ => cases he

theorem minTs_mem : ∀ {h : List Task}, h ≠ [] → ∃ t, t ∈ h ∧ t.ts = minTs h
  | [], hne => absurd rfl hne
  | [t], _ => ⟨t, by simp, rfl⟩
  | t :: u :: rest, _ => by
    obtain ⟨x, hx, hxe⟩ := minTs_mem (h := u :: rest) (by simp)
    simp only [minTs]
    by_cases hle : t.ts ≤ minTs (u :: rest)
    · exact ⟨t, by simp, by rw [Nat.min_def]; simp [hle]⟩
    · exact ⟨x, List.mem_cons_of_mem _ hx, by rw [Nat.min_def]; simp [hle, hxe]⟩

theorem minTs_le : ∀ {h : List Task} {t : Task}, t ∈ h → minTs h ≤ t.ts
  | [], _, ht => by cases ht
  | [u], t, ht => by simp at ht; subst ht; exact Nat.le_refl _
  | u :: v :: rest, t, ht => by
    simp only [minTs]
    rcases List.mem_cons.mp ht with rfl | ht'
    · exact Nat.min_le_left _ _
    · exact Nat.le_trans (Nat.min_le_right _ _) (minTs_le ht')

theorem wstep_held {m : Mode} {now : Time} {w : Worker} {l : WLabel} {out : WOut}
    (hs : wstep m now w l = some out) (a : Task) :
    (held w).count a = (held out.w).count a + out.exec.toList.count a := by
  cases wstep_inv hs with
  | @pop t v hp hcond =>
    simp only [held, hp, Option.toList_some]
    by_cases hat : a = t
    · subst hat
      have := List.count_erase_self (a := a) (l := w.heap)
      have hpos : 0 < w.heap.count a := List.count_pos_iff.mpr hcond.1
      simp; omega
    · have hta : ¬ t = a := fun h => hat h.symm
      simp [List.count_erase_of_ne hat, hta]
  | exec hp => simp [held, hp, List.count_cons]
  | push hp => simp [held, hp, List.count_cons]
  | fire =>
    simp only [held]
    cases w.pc <;> simp
  | _ => simp [held, Worker.rearm, *]

/-- a worker that is not at its `select` has a step of its own other than `fire`: the conditional
    `<-timer.C` never blocks -/
theorem WInv.next {m : Mode} {now : Time} {w : Worker} (h : WInv m now w) (hp : w.pc ≠ .select) :
    ∃ l out, (∀ v, l ≠ .fire v) ∧ WStep m now w l out := by
  obtain ⟨_, hpc⟩ := h
  cases hpc' : w.pc with
  | select => exact absurd hpc' hp
  | gotTask t =>
    by_cases hlt : t.ts < now
    · exact ⟨.readNow, _, by simp, .exec hpc' hlt⟩
    · exact ⟨.readNow, _, by simp, .push hpc' hlt⟩
  | pushed n => exact ⟨.stop, _, by simp, .stop hpc'⟩
  | stopped n st =>
    simp only [hpc'] at hpc
    by_cases hcond : st = false ∧ w.drained = false
    · obtain ⟨v, hv⟩ := Option.isSome_iff_exists.mp (hpc.full hcond)
      exact ⟨.drain, _, by simp, .drainRecv hpc' hcond hv⟩
    · exact ⟨.drain, _, by simp, .drainSkip hpc' hcond⟩
  | reset n => exact ⟨.reset, _, by simp, .reset hpc'⟩
  | loop v =>
    by_cases hnil : w.heap = []
    · exact ⟨.loopEnd, _, by simp, .loopDone hpc' hnil⟩
    · by_cases hlt : minTs w.heap < v
      · obtain ⟨t, ht, hte⟩ := minTs_mem hnil
        exact ⟨.pop t, _, by simp, .pop hpc' ⟨ht, hte, hte ▸ hlt⟩⟩
      · exact ⟨.loopEnd, _, by simp, .loopArm hpc' hnil hlt⟩

inductive Reachable (m : Mode) (k : Nat) (t0 : Time) : State → Prop
  | init : Reachable m k t0 (init k t0)
  | step {s s' : State} {l : Label} : Reachable m k t0 s → step m s l = some s' → Reachable m k t0 s'

inductive SStep (m : Mode) (s : State) : Label → State → Prop
  | tick (d : Nat) : SStep m s (.tick d) { s with now := s.now + d }
  | put {id : TaskId} {ts : Time} (hnew : id ∉ s.sub.map (·.id)) :
      SStep m s (.put id ts)
        { s with sub := { id := id, ts := ts } :: s.sub, pre := s.pre ++ [{ id := id, ts := ts }],
                 pend := s.pend + 1, log := .put id ts s.now :: s.log }
  | notify (hp : ¬ s.pend = 0) : SStep m s .notify { s with pend := s.pend - 1, ntok := true }
  | takeToken (hc : s.ppc = .idle ∧ s.batch = [] ∧ s.ntok = true) :
      SStep m s .takeToken { s with ppc := .gotToken, ntok := false }
  | swap (hg : s.ppc = .gotToken) : SStep m s .swap { s with ppc := .idle, batch := s.pre, pre := [] }
  | handoff {i : Nat} {t : Task} {rest : List Task} {w : Worker} (hidle : s.ppc = .idle)
      (hb : s.batch = t :: rest) (hw : s.ws[i]? = some w) (hsel : w.pc = .select) :
      SStep m s (.handoff i) { s with batch := rest, ws := s.ws.set i { w with pc := .gotTask t } }
  | w {i : Nat} {l : WLabel} {w : Worker} {out : WOut} (hw : s.ws[i]? = some w)
      (ho : wstep m s.now w l = some out) :
      SStep m s (.w i l) (logExec s.now out.exec { s with ws := s.ws.set i out.w })

theorem step_inv {m : Mode} {s s' : State} {l : Label} (h : step m s l = some s') : SStep m s l s' := by
  cases l <;> (unfold step at h; dsimp only at h)
  case tick d =>
    cases h
    exact .tick d
  case put id ts =>
    split at h
    · contradiction
    · next hnew =>
      cases h
      exact .put hnew
  case notify =>
    split at h
    · contradiction
    · next hp =>
      cases h
      exact .notify hp
  case takeToken =>
    split at h
    · next hc =>
      cases h
      exact .takeToken hc
    · contradiction
  case swap =>
    split at h
    · next hg =>
      cases h
      exact .swap hg
    · contradiction
  case handoff i =>
    split at h <;> try contradiction
    next hidle =>
    split at h <;> try contradiction
    next t rest hb =>
    split at h <;> try contradiction
    next w hw =>
    split at h <;> try contradiction
    next w' hr =>
    cases h
    unfold Worker.recvTask at hr
    split at hr <;> cases hr
    next hsel => exact .handoff hidle hb hw hsel
  case w i l =>
    split at h <;> try contradiction
    next w hw =>
    split at h <;> try contradiction
    next out ho =>
    cases h
    exact .w hw ho

theorem SStep.step_eq {m : Mode} {s s' : State} {l : Label} (h : SStep m s l s') : step m s l = some s' := by
  cases h with
  | tick d => rfl
  | put hnew => simp only [step, hnew, if_false]
  | notify hp => simp only [step, hp, if_false]
  | takeToken hc => simp only [step]; rw [if_pos hc]
  | swap hg => simp only [step, hg, if_true]
  | handoff hidle hb hw hsel => simp only [step, hidle, hb, hw, Worker.recvTask, hsel, if_true]
  | w hw ho => simp only [step, hw, ho]

theorem SStep.isSome {m : Mode} {s s' : State} {l : Label} (h : SStep m s l s') : (step m s l).isSome := by
  rw [h.step_eq]; rfl

@[simp] theorem logExec_ws (now : Time) (e : Option Task) (s : State) : (logExec now e s).ws = s.ws := by
  cases e <;> rfl
@[simp] theorem logExec_now (now : Time) (e : Option Task) (s : State) : (logExec now e s).now = s.now := by
  cases e <;> rfl
@[simp] theorem logExec_sub (now : Time) (e : Option Task) (s : State) : (logExec now e s).sub = s.sub := by
  cases e <;> rfl
@[simp] theorem logExec_pre (now : Time) (e : Option Task) (s : State) : (logExec now e s).pre = s.pre := by
  cases e <;> rfl
@[simp] theorem logExec_batch (now : Time) (e : Option Task) (s : State) : (logExec now e s).batch = s.batch := by
  cases e <;> rfl
@[simp] theorem logExec_pend (now : Time) (e : Option Task) (s : State) : (logExec now e s).pend = s.pend := by
  cases e <;> rfl
@[simp] theorem logExec_ntok (now : Time) (e : Option Task) (s : State) : (logExec now e s).ntok = s.ntok := by
  cases e <;> rfl
@[simp] theorem logExec_ppc (now : Time) (e : Option Task) (s : State) : (logExec now e s).ppc = s.ppc := by
  cases e <;> rfl

@[simp] theorem logExec_done_none (now : Time) (s : State) : (logExec now none s).done = s.done := rfl
@[simp] theorem logExec_done_some (now : Time) (t : Task) (s : State) :
    (logExec now (some t) s).done = { task := t, time := now } :: s.done := rfl

/-- every worker satisfies `WInv` at the present clock value -/
def InvW (m : Mode) (s : State) : Prop := ∀ w, w ∈ s.ws → WInv m s.now w

theorem InvW.init (m : Mode) (k : Nat) (t0 : Time) : InvW m (init k t0) := by
  intro w hw
  simp only [Sched.init, List.mem_replicate] at hw
  rw [hw.2]
  exact WInv.init m t0

theorem InvW.step {m : Mode} {s s' : State} {l : Label} (h : InvW m s) (hs : step m s l = some s') :
    InvW m s' := by
  cases step_inv hs with
  | tick d => exact fun w hw => (h w hw).mono (Nat.le_add_right _ _)
  | handoff _ _ hw hsel => exact forall_mem_set h ((h _ (List.mem_of_getElem? hw)).recvTask _ hsel)
  | w hw ho =>
    intro x hx
    simp only [logExec_ws, logExec_now] at hx ⊢
    exact forall_mem_set h ((h _ (List.mem_of_getElem? hw)).pres ho) x hx
  | _ => exact h

theorem count_heldAll (a : Task) (ws : List Worker) :
    (heldAll ws).count a = (ws.map fun w => (held w).count a).sum := by
  simp [heldAll, List.count_flatten, Function.comp_def]

theorem heldAll_count_set {a : Task} {ws : List Worker} {i : Nat} {w w' : Worker} (h : ws[i]? = some w) :
    (heldAll (ws.set i w')).count a + (held w).count a = (heldAll ws).count a + (held w').count a := by
  rw [count_heldAll, count_heldAll]
  exact sum_map_set (fun w => (held w).count a) h

/-- conservation of tasks, counted; the prepend goroutine swaps only with an empty batch -/
def InvC (s : State) : Prop :=
  (∀ a, s.sub.count a =
    s.pre.count a + s.batch.count a + (heldAll s.ws).count a + (s.done.map (·.task)).count a) ∧
  (s.ppc = .gotToken → s.batch = [])

theorem heldAll_replicate_new (k : Nat) (t0 : Time) : heldAll (List.replicate k (newWorker t0)) = [] := by
  induction k with
  | zero => rfl
  | succ n ih => simp [heldAll, List.replicate_succ, held, newWorker]

theorem InvC.init (k : Nat) (t0 : Time) : InvC (init k t0) := by
  refine ⟨fun a => ?_, fun h => rfl⟩
  simp [Sched.init, heldAll_replicate_new]

theorem InvC.step {m : Mode} {s s' : State} {l : Label} (h : InvC s) (hs : step m s l = some s') :
    InvC s' := by
  obtain ⟨hc, hb⟩ := h
  cases step_inv hs with
  | tick d => exact ⟨hc, hb⟩
  | put =>
    refine ⟨fun a => ?_, hb⟩
    have := hc a
    simp only [List.count_cons, List.count_append, List.count_nil]
    omega
  | notify => exact ⟨hc, hb⟩
  | takeToken hcond => exact ⟨hc, fun _ => hcond.2.1⟩
  | swap hg =>
    refine ⟨fun a => ?_, fun h => by cases h⟩
    have := hc a
    simp only [hb hg, List.count_nil] at this ⊢
    omega
  | @handoff i t rest w hidle hbt hw hsel =>
    refine ⟨fun a => ?_, fun h => by simp [hidle] at h⟩
    have := hc a
    have hset := heldAll_count_set (a := a) (w' := { w with pc := .gotTask t }) hw
    have hheld : (held { w with pc := .gotTask t }).count a = (held w).count a + [t].count a := by
      simp [held, hsel, List.count_cons]
    simp only [hbt, List.count_cons, List.count_nil] at this hheld ⊢
    omega
  | @w i l w out hw ho =>
    refine ⟨fun a => ?_, by simpa using hb⟩
    have := hc a
    have hset := heldAll_count_set (a := a) (w' := out.w) hw
    have hheld := wstep_held ho a
    cases he : out.exec with
    | none =>
      simp only [he, Option.toList_none, List.count_nil] at hheld
      simp only [logExec_sub, logExec_pre, logExec_batch, logExec_ws, logExec_done_none]
      omega
    | some t =>
      simp only [he, Option.toList_some] at hheld
      simp only [logExec_sub, logExec_pre, logExec_batch, logExec_ws, logExec_done_some, List.map_cons,
        List.count_cons, List.count_nil] at hheld ⊢
      omega

/-- submitted ids are pairwise different (Put's freshness side condition) -/
def InvI (s : State) : Prop := (s.sub.map (·.id)).Nodup

theorem InvI.step {m : Mode} {s s' : State} {l : Label} (h : InvI s) (hs : step m s l = some s') :
    InvI s' := by
  cases step_inv hs with
  | put hnew => exact List.nodup_cons.mpr ⟨hnew, h⟩
  | w => simpa [InvI] using h
  | _ => exact h

theorem InvC.perm {s : State} (h : InvC s) : s.sub.Perm (pendingTasks s ++ s.done.map (·.task)) := by
  rw [List.perm_iff_count]
  intro a
  have := h.1 a
  simp only [pendingTasks, List.count_append]
  omega

theorem mem_pending_of_held {s : State} {i : Nat} {w : Worker} {t : Task} (hw : s.ws[i]? = some w)
    (ht : t ∈ held w) : t ∈ pendingTasks s :=
  List.mem_append_right _
    (List.mem_flatten.mpr ⟨_, List.mem_map_of_mem (f := held) (List.mem_of_getElem? hw), ht⟩)

theorem InvC.ids_nodup {s : State} (hc : InvC s) (hi : InvI s) :
    ((pendingTasks s).map (·.id) ++ s.done.map (·.task.id)).Nodup := by
  have hn := (hc.perm.map (·.id)).nodup (show (s.sub.map (·.id)).Nodup from hi)
  rw [List.map_append, List.map_map] at hn
  exact hn

theorem InvC.one_place {s : State} (hc : InvC s) (hi : InvI s) {t : Task} (ht : t ∈ s.sub) :
    (pendingTasks s).count t + (s.done.map (·.task)).count t = 1 := by
  have hnd : s.sub.Nodup := List.Pairwise.of_map (·.id) (fun a b h hab => h (hab ▸ rfl)) hi
  have hle : s.sub.count t ≤ 1 := List.nodup_iff_count.mp hnd t
  have hpos : 0 < s.sub.count t := List.count_pos_iff.mpr ht
  have := hc.perm.count_eq t
  simp only [List.count_append] at this ⊢
  omega

/-- never early: every execution is recorded with a past clock value beyond the task's deadline -/
def InvD (s : State) : Prop := ∀ e, e ∈ s.done → e.task.ts < e.time ∧ e.time ≤ s.now

theorem InvD.step {m : Mode} {s s' : State} {l : Label} (hw : InvW m s) (h : InvD s)
    (hs : step m s l = some s') : InvD s' := by
  cases step_inv hs with
  | tick d => exact fun e he => ⟨(h e he).1, Nat.le_trans (h e he).2 (Nat.le_add_right _ _)⟩
  | @w i l w out hwi ho =>
    cases he : out.exec with
    | none => intro e hin; simpa using h e (by simpa [he] using hin)
    | some t =>
      have hlate := wstep_exec_late (hw w (List.mem_of_getElem? hwi)) ho he
      intro e hin
      simp only [logExec_done_some, List.mem_cons, logExec_now] at hin ⊢
      rcases hin with rfl | hin
      · exact ⟨hlate, Nat.le_refl _⟩
      · exact h e hin
  | _ => exact h

/-- no lost wake-up between `Put` and the prepend goroutine -/
def InvH (s : State) : Prop := s.pre ≠ [] → s.ntok = true ∨ s.ppc = .gotToken ∨ 0 < s.pend

theorem InvH.step {m : Mode} {s s' : State} {l : Label} (h : InvH s) (hs : step m s l = some s') :
    InvH s' := by
  cases step_inv hs with
  | put => exact fun _ => Or.inr (Or.inr (Nat.succ_pos _))
  | notify => exact fun _ => Or.inl rfl
  | takeToken => exact fun _ => Or.inr (Or.inl rfl)
  | swap => exact fun hne => absurd rfl hne
  | w => simpa [InvH] using h
  | _ => exact h

theorem obsRun_cons (o : ObsState) (e : Obs) (es : List Obs) :
    obsRun o (e :: es) = match obsStep o e with
      | Except.error why => Except.error why
      | Except.ok o' => obsRun o' es := rfl

theorem obsRun_snoc {o o1 o2 : ObsState} {e : Obs} : ∀ {es : List Obs},
    obsRun o es = .ok o1 → obsStep o1 e = .ok o2 → obsRun o (es ++ [e]) = .ok o2
  | [], h1, h2 => by
    cases h1
    rw [List.nil_append, obsRun_cons, h2]; rfl
  | x :: es, h1, h2 => by
    rw [obsRun_cons] at h1
    rw [List.cons_append, obsRun_cons]
    split at h1 <;> try contradiction
    exact obsRun_snoc h1 h2

theorem find_by_id : ∀ {l : List Task} {t : Task}, (l.map (·.id)).Nodup → t ∈ l →
    l.find? (fun u => u.id == t.id) = some t
  | [], _, _, h => by cases h
  | x :: l, t, hn, h => by
    simp only [List.map_cons, List.nodup_cons] at hn
    rcases List.mem_cons.mp h with rfl | h'
    · simp
    · have hne : ¬ x.id = t.id := by
        intro he; exact hn.1 (he ▸ List.mem_map_of_mem (f := (·.id)) h')
      have hb : (x.id == t.id) = false := by simpa using hne
      simp only [List.find?_cons, hb]
      exact find_by_id hn.2 h'

/-- the acceptor the driver runs on real traces accepts the log and reproduces `sub` and `done` from it -/
def InvL (s : State) : Prop :=
  ∃ o, obsRun ObsState.init s.log.reverse = .ok o ∧ o.clock ≤ s.now ∧ o.sub = s.sub ∧
    o.execd = s.done.map (·.task.id)

theorem InvL.step {m : Mode} {s s' : State} {l : Label} (hw : InvW m s) (hc : InvC s) (hi : InvI s)
    (h : InvL s) (hs : step m s l = some s') : InvL s' := by
  obtain ⟨o, hrun, hclk, hsub, hex⟩ := h
  cases step_inv hs with
  | tick d => exact ⟨o, hrun, Nat.le_trans hclk (Nat.le_add_right _ _), hsub, hex⟩
  | @put id ts hnew =>
    refine ⟨{ o with clock := s.now, sub := { id := id, ts := ts } :: o.sub }, ?_, Nat.le_refl _, by simp [hsub], hex⟩
    simp only [List.reverse_cons]
    refine obsRun_snoc hrun ?_
    simp only [obsStep, Nat.not_lt.mpr hclk, if_false, hsub, hnew]
  | notify | takeToken | swap | handoff => exact ⟨o, hrun, hclk, hsub, hex⟩
  | @w i l w out hwi ho =>
    cases he : out.exec with
    | none => exact ⟨o, hrun, hclk, hsub, hex⟩
    | some t =>
      have hlate := wstep_exec_late (hw w (List.mem_of_getElem? hwi)) ho he
      have hheld := wstep_held ho t
      simp only [he, Option.toList_some, List.count_cons_self] at hheld
      have hpend : t ∈ pendingTasks s := mem_pending_of_held hwi (List.count_pos_iff.mp (by omega))
      have htsub : t ∈ s.sub := hc.perm.mem_iff.mpr (List.mem_append_left _ hpend)
      refine ⟨{ o with clock := s.now, execd := t.id :: o.execd }, ?_, Nat.le_refl _, hsub,
        congrArg (t.id :: ·) hex⟩
      simp only [logExec, List.reverse_cons]
      refine obsRun_snoc hrun ?_
      have hfind := find_by_id hi htsub
      have hnot : t.id ∉ o.execd := fun hin =>
        (List.nodup_append.mp (hc.ids_nodup hi)).2.2 _ (List.mem_map_of_mem (f := (·.id)) hpend) _ (hex ▸ hin) rfl
      simp only [obsStep, Nat.not_lt.mpr hclk, if_false, hsub, hfind, hnot, hlate, if_true]

theorem step_ws_length {m : Mode} {s s' : State} {l : Label} (hs : step m s l = some s') :
    s'.ws.length = s.ws.length := by
  cases step_inv hs with
  | handoff => simp
  | w => simp
  | _ => rfl

/-- fields: `w` workers, `c` conservation, `i` ids, `d` deadlines, `h` hand-off token, `l` log -/
structure Inv (m : Mode) (k : Nat) (s : State) : Prop where
  w : InvW m s
  c : InvC s
  i : InvI s
  d : InvD s
  h : InvH s
  l : InvL s
  len : s.ws.length = k

theorem Inv.init (m : Mode) (k : Nat) (t0 : Time) : Inv m k (init k t0) where
  w := InvW.init m k t0
  c := InvC.init k t0
  i := by simp [InvI, Sched.init]
  d := fun e he => by simp [Sched.init] at he
  h := fun hne => by simp [Sched.init] at hne
  l := ⟨ObsState.init, rfl, Nat.zero_le _, rfl, rfl⟩
  len := by simp [Sched.init]

theorem Inv.step {m : Mode} {k : Nat} {s s' : State} {l : Label} (h : Inv m k s) (hs : step m s l = some s') :
    Inv m k s' :=
  ⟨h.w.step hs, h.c.step hs, h.i.step hs, h.d.step h.w hs, h.h.step hs, h.l.step h.w h.c h.i hs,
    (step_ws_length hs).trans h.len⟩

theorem Reachable.inv {m : Mode} {k : Nat} {t0 : Time} {s : State} (h : Reachable m k t0 s) : Inv m k s := by
  induction h with
  | init => exact Inv.init m k t0
  | step _ hs ih => exact ih.step hs

theorem run_cons (m : Mode) (s : State) (l : Label) (ls : List Label) :
    run m s (l :: ls) = match step m s l with
      | none => none
      | some s' => run m s' ls := rfl

theorem run_cons_eq_some {m : Mode} {s s' : State} {l : Label} {ls : List Label} :
    run m s (l :: ls) = some s' ↔ ∃ s1, step m s l = some s1 ∧ run m s1 ls = some s' := by
  rw [run_cons]
  cases step m s l <;> simp

theorem step_tick (m : Mode) (s : State) (d : Nat) : step m s (.tick d) = some { s with now := s.now + d } := rfl

theorem run_tick_step (m : Mode) (s : State) (d : Nat) (l : Label) :
    run m s [.tick d, l] = step m { s with now := s.now + d } l := by
  rw [run_cons, step_tick]
  dsimp only
  rw [run_cons]
  cases step m { s with now := s.now + d } l <;> rfl

theorem run_tick0_step (m : Mode) (s : State) (l : Label) : run m s [.tick 0, l] = step m s l :=
  run_tick_step m s 0 l

theorem Reachable.run {m : Mode} {k : Nat} {t0 : Time} : ∀ {ls : List Label} {s s' : State},
    Reachable m k t0 s → Sched.run m s ls = some s' → Reachable m k t0 s'
  | [], s, s', h, hr => by cases hr; exact h
  | l :: ls, s, s', h, hr => by
    obtain ⟨s1, hs1, hr⟩ := run_cons_eq_some.mp hr
    exact Reachable.run (h.step hs1) hr

end KcpVerif.Sched
