/-
The general drain.  While A has nothing outstanding and B has taken everything numbered, only the reader changes B's
receive side, so along the prefix of a run before A numbers a segment B's queue is never full, and a segment is numbered
within a probe round and an admission after the old datagrams have left the link to A; then the new head is released:
one stage, from a state where B's queue is not full, with the old datagrams gone by `τ` (`stage_horizon`).  With
`FullHyp` it is the case `τ ≤ now`; under the reader condition only (`FairHyp`) `τ = now + D + 1`, and a stage starts
at a clock tick, where the reader has kept up.
-/
import KcpVerif.Lemmas.SysDrainFull

namespace KcpVerif.SysC
open KcpVerif.Gen KcpVerif.Kcp KcpVerif.Live KcpVerif.Wire KcpVerif.SysW KcpVerif.Sys

attribute [local irreducible] Kcp.flush Kcp.input  -- used through their lemmas only (see SysDrainProbeRound)

theorem inFr_oldB (base : U32) (st : InLoop) (fr : Frm) (hsb : st.k.snd_buf = []) (hrb : st.k.rcv_buf = [])
    (hdl : DataLike fr) (hold : fr.cmd.toNat = IKCP_CMD_PUSH → o base fr.sn < o base st.k.rcv_nxt)
    (hN : o base st.k.rcv_nxt < 2 ^ 31) :
    RcvSame (inFr true st fr).k st.k ∧ (inFr true st fr).k.snd_buf = [] := by
  obtain ⟨hP, _⟩ := inPre_empty fr.wnd fr.una st.k hsb
  have hsame : RcvSame (inPre true fr.wnd fr.una st.k) st.k ∧ (inPre true fr.wnd fr.una st.k).snd_buf = [] := by
    rw [hP]; exact ⟨⟨rfl, rfl, rfl, rfl⟩, rfl⟩
  by_cases hc : fr.cmd.toNat = IKCP_CMD_PUSH
  · have hlt := hold hc
    have hd := itd base fr.sn st.k.rcv_nxt (by omega) hN
    rcases (inFr_push_cases true st fr hc hdl.2 _ rfl).2.2.2 with
      ⟨_, e, _⟩ | ⟨_, ⟨e, _, _⟩ | ⟨_, _, _, x, hx, _⟩ | ⟨_, _, hge, _⟩⟩
    · rw [e]; exact hsame
    · rw [e]; exact hsame
    · rw [hsame.1.1, hrb] at hx; exact absurd hx List.not_mem_nil
    · rw [hsame.1.2.2.1] at hge; omega
  · rw [(inFr_ctl st fr (Or.inr (hdl.1.resolve_left hc))).1,
      if_neg (by rcases hdl.1.resolve_left hc with e | e <;> rw [e] <;> decide)]
    exact ite_ind (P := fun k : Kcp => RcvSame k st.k ∧ k.snd_buf = []) hsame hsame

theorem inFrs_oldB (base : U32) : ∀ (frs : List Frm) (st : InLoop), st.k.snd_buf = [] → st.k.rcv_buf = [] →
    (∀ fr ∈ frs, DataLike fr ∧ (fr.cmd.toNat = IKCP_CMD_PUSH → o base fr.sn < o base st.k.rcv_nxt)) →
    o base st.k.rcv_nxt < 2 ^ 31 → RcvSame (inFrs true frs st).k st.k := by
  intro frs
  induction frs with
  | nil => intro st _ _ _ _; exact ⟨rfl, rfl, rfl, rfl⟩
  | cons fr rest ih =>
    intro st hsb hrb hall hN
    obtain ⟨c1, c2⟩ := hall fr (List.mem_cons_self ..)
    obtain ⟨h1, hsb1⟩ := inFr_oldB base st fr hsb hrb c1 c2 hN
    unfold inFrs
    refine ite_ind (P := fun r : InLoop => RcvSame r.k st.k) h1 ((ih (inFr true st fr) hsb1 (h1.1.trans hrb) (fun x hx => ?_) (by rw [h1.2.2.1]; exact hN)).trans h1)
    obtain ⟨d1, d2⟩ := hall x (List.mem_cons_of_mem _ hx)
    exact ⟨d1, by rw [h1.2.2.1]; exact d2⟩

theorem dlvB_quietB {p : Par} {s : State} {t0 : Nat} {frs0 : List Frm} {grest gba : GLink}
    (h : Cons p s ((t0, frs0) :: grest) gba) (hnw : NoWrap p.base s) (hrb : s.B.rcv_buf = [])
    (hcu : o p.base s.A.snd_nxt ≤ o p.base s.B.rcv_nxt) :
    RcvSame (s.B.input (encFrames frs0) true s.ndB (clk s.now)).k s.B := by
  refine h.dlvB_cases (Q := fun r => RcvSame r.k s.B) hnw ?_ (fun _ => ⟨rfl, rfl, rfl, rfl⟩)
  intro K cw inc hK _ _ _ _ _
  have hd0 : ((t0, frs0) : Nat × List Frm) ∈ (t0, frs0) :: grest := List.mem_cons_self ..
  have hbub := h.bub
  have hN := hnw.nxt_lt
  have hrq : RcvSame K s.B := by
    rw [hK]
    exact inFrs_oldB p.base frs0 { k := s.B } h.bsb hrb (fun fr hfr =>
      ⟨(h.fab (t0, frs0) hd0 fr hfr).2.1, fun hp => by
        have := (h.fab (t0, frs0) hd0 fr hfr).2.2 hp
        show o p.base fr.sn < o p.base s.B.rcv_nxt
        omega⟩) (by show o p.base s.B.rcv_nxt < 2 ^ 31; omega)
  exact ⟨hrq, (flush_rcv K false (clk s.now)).trans hrq⟩

/-- the quiet prefix: A has nothing outstanding and B has taken everything numbered, with room in its queue -/
structure QP (p : Par) (s : State) : Prop where
  idle : s.A.snd_buf = []
  upto : o p.base s.A.snd_nxt ≤ o p.base s.B.rcv_nxt
  room : s.B.rcv_queue.length < s.B.rcv_wnd.toNat

theorem qp_rcvbuf {p : Par} {s : State} {gab gba : GLink} (h : Cons p s gab gba) (hs : SortedB p.base s.B)
    (hq : QP p s) : s.B.rcv_buf = [] := by
  cases hb : s.B.rcv_buf with
  | nil => rfl
  | cons x r =>
    have hx : x ∈ s.B.rcv_buf := by rw [hb]; exact List.mem_cons_self ..
    have h1 := hs.2 x hx
    have h2 := h.bbuf x hx
    have := hq.upto
    omega

theorem qp_step {p : Par} {s : State} {gab gba : GLink} (h : Cons p s gab gba) (hs : Side p.base s)
    (hnw : NoWrap p.base s) (hq : QP p s) (ev : Ev) (hb' : (Sys.step s ev).A.snd_buf = []) :
    QP p (Sys.step s ev) := by
  obtain ⟨gab', gba', hc'⟩ := cons_step h hnw ev
  have hs' := side_step h hnw hs ev
  have hrb := qp_rcvbuf h hs.srt hq
  have hq3 := hq.room
  have h3 : (Sys.step s ev).B.rcv_queue.length < (Sys.step s ev).B.rcv_wnd.toNat := by
    refine cons_cases h hnw ev (fun s' => s'.B.rcv_queue.length < s'.B.rcv_wnd.toNat) hq3 (fun _ => hq3) (fun _ _ _ => hq3)
      ?_ hq3 ?_ (fun t0 frs0 grest hg _ => ?_) (fun _ _ _ _ _ _ _ _ _ => ⟨hq3, hq3⟩)
    · obtain ⟨q, pr, hk, hq⟩ := recv_clean s.B s.B.peekSize.toNat hrb
      show (s.B.recv s.B.peekSize.toNat).k.rcv_queue.length < (s.B.recv s.B.peekSize.toNat).k.rcv_wnd.toNat
      rw [hk]; exact Nat.lt_of_le_of_lt hq hq3
    · obtain ⟨_, a, _, c⟩ := flush_rcv s.B true (clk s.now)
      show (s.B.flush true (clk s.now)).k.rcv_queue.length < (s.B.flush true (clk s.now)).k.rcv_wnd.toNat
      rw [a, c]; exact hq3
    · subst hg
      obtain ⟨_, a, _, c⟩ := dlvB_quietB h hnw hrb hq.upto
      show (s.B.input (encFrames frs0) true s.ndB (clk s.now)).k.rcv_queue.length <
        (s.B.input (encFrames frs0) true s.ndB (clk s.now)).k.rcv_wnd.toNat
      rw [a, c]; exact hq3
  refine ⟨hb', ?_, h3⟩
  have hnb := not_behind hc' hs'.srt hs'.fix h3
  have hcon := hc'.acon.o_nil hb'
  omega

theorem quiet_una_step {p : Par} {s : State} {gab gba : GLink} (h : Cons p s gab gba) (hnw : NoWrap p.base s)
    (hb : s.A.snd_buf = []) (ev : Ev) : (Sys.step s ev).A.snd_una = s.A.snd_una := by
  refine cons_cases h hnw ev (fun s' => s'.A.snd_una = s.A.snd_una) rfl (fun _ => rfl) (fun _ _ _ => rfl) rfl
    (flush_una s.A true (clk s.now)) rfl (fun _ _ _ _ _ => rfl) (fun t0 frs grest K _ _ hK _ _ => ?_)
  · obtain ⟨_, hu, _⟩ := hK.idle hb
    exact ⟨hu, (flush_una K true (clk s.now)).trans hu⟩

theorem fair_full {p : Par} {Rmax IA : Nat} {s : State} (h : FairHyp p Rmax IA s) (hq : QP p s) : FullHyp p Rmax IA s :=
  ⟨h.small, ⟨hq.room, h.wnd.2⟩, h.tmr, h.cfg⟩

theorem qp_prefix {p : Par} {IA IB Rmax : Nat} (evs : List Ev) : ∀ (s : State), Inv p IA IB s → QP p s →
    RunP (FairHyp p Rmax IA) s evs →
    ∃ c d, evs = c ++ d ∧ RunP (fun s => FullHyp p Rmax IA s ∧ QP p s) s c ∧
      (d = [] ∨ ∃ ev d', d = ev :: d' ∧ (Sys.step (Sys.run s c) ev).A.snd_buf ≠ []) := by
  induction evs with
  | nil => intro s _ hq hr; exact ⟨[], [], rfl, ⟨fair_full hr hq, hq⟩, Or.inl rfl⟩
  | cons ev rest ih =>
    intro s hi hq hr
    obtain ⟨gab, gba, hc⟩ := hi.cons
    have hnw := hr.1.1.noWrap
    by_cases hb' : (Sys.step s ev).A.snd_buf = []
    · obtain ⟨c, d, e1, e2, e5⟩ := ih (Sys.step s ev) (inv_step hi hnw ev) (qp_step hc hi.side hnw hq ev hb') hr.2
      exact ⟨ev :: c, d, by rw [e1]; rfl, ⟨⟨fair_full hr.1 hq, hq⟩, e2⟩, e5⟩
    · exact ⟨[], ev :: rest, rfl, ⟨fair_full hr.1 hq, hq⟩, Or.inr ⟨ev, rest, rfl, hb'⟩⟩

theorem quiet_const_run {p : Par} (evs : List Ev) (s : State) (gab gba : GLink) (h : Cons p s gab gba)
    (hr : RunP (fun s => NoWrap p.base s ∧ s.A.snd_buf = []) s evs) (hns : ∀ ev ∈ evs, isSend ev = false) :
    (Sys.run s evs).A.snd_una = s.A.snd_una ∧ (Sys.run s evs).A.snd_queue.length = s.A.snd_queue.length := by
  obtain ⟨⟨g1, g2, hc'⟩, hu⟩ := Cons.run (J := fun s' => s'.A.snd_una = s.A.snd_una) (fun _ hs => hs.1)
    (fun _ _ _ ev hc hs e => (quiet_una_step hc hs.1 hs.2 ev).trans e) evs s gab gba h hr rfl
  refine ⟨hu, ?_⟩
  have hq := qn_run evs s gab gba h ((runNoWrap_iff p.base evs s).mpr (RunP.mono (fun _ h => h.1) evs s hr)) hns
  have c1 := h.acon.o_nil (RunP.head hr).2
  have c2 := hc'.acon.o_nil (RunP.last evs s hr).2
  rw [hu] at c2
  omega

/-- the old datagrams leave (`D + 1`), a probe round, an admission (`2·IA`) -/
def quietLen (IA IB D : Nat) : Nat := (D + 1) + (IKCP_PROBE_LIMIT + 2 * IA + D + IB + D + 1) + 2 * IA

theorem quiet_bounded {p : Par} {IA IB Rmax τ : Nat} (hIA : IA < 2 ^ 29) {s : State} (hi : InvO p IA IB τ s)
    (hq : s.A.snd_queue ≠ []) (evs : List Ev) (hns : ∀ ev ∈ evs, isSend ev = false)
    (hr : RunP (fun s => FullHyp p Rmax IA s ∧ s.A.snd_buf = []) s evs) :
    (Sys.run s evs).now ≤ max s.now τ + (IKCP_PROBE_LIMIT + 2 * IA + s.D + IB + s.D + 1) + 2 * IA := by
  rcases Nat.lt_or_ge (max s.now τ + (IKCP_PROBE_LIMIT + 2 * IA + s.D + IB + s.D + 1) + 2 * IA) (Sys.run s evs).now with hgt | hle
  · exfalso
    obtain ⟨gab, gba, hc⟩ := hi.inv.cons
    obtain ⟨a0, b0, rfl, t0⟩ := run_reaches (max s.now τ) evs s (Nat.le_max_left ..) (by omega)
    obtain ⟨hra0, hrb0⟩ := RunP.split a0 b0 s (RunP.mono (fun _ h => h.1) _ s hr)
    rw [run_append] at hgt
    obtain ⟨a1, b1, rfl, hq1, _⟩ := numbered_within hIA s.D _ b0
      ⟨invO_run (by omega) a0 s hra0 hi, by rw [t0]; exact Nat.le_max_right .., run_D a0 s⟩
      (List.forall_mem_append.mp hns).2 hrb0 (by rw [t0]; omega)
    have he : a0 ++ (a1 ++ b1) = (a0 ++ a1) ++ b1 := (List.append_assoc ..).symm
    obtain ⟨hr01, _⟩ := RunP.split (a0 ++ a1) b1 s (he ▸ hr)
    rw [← run_append] at hq1
    rcases hq1 with h | h
    · exact h (RunP.last _ s hr01).2
    · have hqc := quiet_const_run (a0 ++ a1) s gab gba hc (RunP.mono (fun _ h => ⟨h.1.1.noWrap, h.2⟩) _ s hr01)
        (List.forall_mem_append.mp (he ▸ hns)).1
      rw [h] at hqc
      exact hq (List.length_eq_zero_iff.mp hqc.2.symm)
  · exact hle

def fairStage (Rmax IA IB D : Nat) : Nat := quietLen IA IB D + 1 + (Rmax + IA + D + IB + D)

theorem stage_horizon {p : Par} {IA IB Rmax τ : Nat} (hIA : IA < 2 ^ 29) (hR : Rmax + IA < 2 ^ 31) {s : State}
    (hi : InvO p IA IB τ s) (hqB : s.B.rcv_queue.length < s.B.rcv_wnd.toNat)
    (hw : 0 < s.A.waitSnd) (evs : List Ev) (hns : ∀ ev ∈ evs, isSend ev = false)
    (hr : RunP (FairHyp p Rmax IA) s evs) (hnow : max s.now τ + fullStage Rmax IA IB s.D < (Sys.run s evs).now) :
    o p.base s.A.snd_una < o p.base (Sys.run s evs).A.snd_una := by
  obtain ⟨gab, gba, hc⟩ := hi.inv.cons
  unfold fullStage at hnow
  have hmax := Nat.le_max_left s.now τ
  have hnb := not_behind hc hi.inv.side.srt hi.inv.side.fix hqB
  by_cases hb : s.A.snd_buf = []
  · have hq : s.A.snd_queue ≠ [] := by
      intro hq
      unfold waitSnd at hw
      rw [hb, hq] at hw
      simp at hw
    have hcon := hc.acon.o_nil hb
    obtain ⟨c, d, rfl, e2, e5⟩ := qp_prefix evs s hi.inv ⟨hb, by omega, hqB⟩ hr
    have e3 := (RunP.last c s e2).2
    have hbound := quiet_bounded hIA hi hq c (List.forall_mem_append.mp hns).1 (RunP.mono (fun _ h => ⟨h.1, h.2.idle⟩) c s e2)
    rcases e5 with rfl | ⟨ev, d', rfl, hne⟩
    · rw [List.append_nil] at hnow
      omega
    · -- the event that numbers a segment leaves `snd_una` where it was, and B is not behind it
      obtain ⟨_, hrd⟩ := RunP.split c (ev :: d') s hr
      have hnwc := full_noWrap c s (RunP.mono (fun _ h => h.1) c s e2)
      have hic := inv_run c s hi.inv hnwc
      obtain ⟨gc1, gc2, hcc⟩ := hic.cons
      have hnw2 := hrd.1.small.noWrap
      have hu2 := quiet_una_step hcc hnw2 e3.idle ev
      have hr2 := rcvNxt_mono_step hcc hnw2 ev
      have hconc := hcc.acon.o_nil e3.idle
      have hm := una_mono_run c s gab gba hc hnwc
      have hrun : Sys.run s (c ++ ev :: d') = Sys.run (Sys.step (Sys.run s c) ev) d' := by rw [run_append]; rfl
      have hD2 : (Sys.step (Sys.run s c) ev).D = s.D := (step_D _ ev).trans (run_D c s)
      have hn2 : (Sys.step (Sys.run s c) ev).now ≤ (Sys.run s c).now + 1 := by
        rcases step_now (Sys.run s c) ev with e | e <;> omega
      rw [hrun] at hnow ⊢
      have := head_stage_rb (inv_step hic hnw2 ev) hR hne (by rw [hu2]; have := e3.upto; omega) d' hrd.2 (by rw [hD2]; omega)
      rw [hu2] at this
      omega
  · exact head_stage_rb hi.inv hR hb hnb evs hr (by omega)

theorem stage_full {p : Par} {IA IB Rmax τ : Nat} (hIA : IA < 2 ^ 29) (hR : Rmax + IA < 2 ^ 31) {s : State}
    (hi : InvO p IA IB τ s) (hτ : τ ≤ s.now) (hw : 0 < s.A.waitSnd) (evs : List Ev)
    (hns : ∀ ev ∈ evs, isSend ev = false) (hr : RunP (FullHyp p Rmax IA) s evs)
    (hnow : s.now + fullStage Rmax IA IB s.D < (Sys.run s evs).now) :
    o p.base s.A.snd_una < o p.base (Sys.run s evs).A.snd_una :=
  stage_horizon hIA hR hi (RunP.head hr).qb.1 hw evs hns (RunP.mono full_fair evs s hr)
    (by rw [Nat.max_eq_left hτ]; exact hnow)

theorem stage_fair {p : Par} {IA IB Rmax : Nat} (hIA : IA < 2 ^ 29) (hR : Rmax + IA < 2 ^ 31) {s : State}
    (hi : Inv p IA IB s) (hpi : PInv IA s) (ha : ArrOk s) (hqB : s.B.rcv_queue.length < s.B.rcv_wnd.toNat)
    (hw : 0 < s.A.waitSnd) (evs : List Ev) (hns : ∀ ev ∈ evs, isSend ev = false)
    (hr : RunP (FairHyp p Rmax IA) s evs) (hnow : s.now + fairStage Rmax IA IB s.D < (Sys.run s evs).now) :
    o p.base s.A.snd_una < o p.base (Sys.run s evs).A.snd_una :=
  stage_horizon hIA hR ⟨hi, hpi, ha.ofp⟩ hqB hw evs hns hr (by
    unfold fairStage quietLen at hnow
    unfold fullStage
    rw [Nat.max_eq_right (by omega)]
    omega)

structure FairStart (p : Par) (IA IB : Nat) (s : State) : Prop where
  inv : Inv p IA IB s
  pinv : PInv IA s
  arr : ArrOk s
  room : s.B.rcv_queue.length < s.B.rcv_wnd.toNat

theorem fair_cut {p : Par} {IA IB Rmax : Nat} (hIA : IA < 2 ^ 30) {s : State} (hi : Inv p IA IB s) (hpi : PInv IA s)
    (ha : ArrOk s) (τ : Nat) (evs : List Ev) (hr : RunP (FairHyp p Rmax IA) s evs) (h1 : s.now < τ)
    (h2 : τ ≤ (Sys.run s evs).now) :
    ∃ c b, evs = c ++ b ∧ RunP (FairHyp p Rmax IA) s c ∧ RunP (FairHyp p Rmax IA) (Sys.run s c) b ∧
      (Sys.run s c).now = τ ∧ FairStart p IA IB (Sys.run s c) := by
  obtain ⟨c, b, rfl, hr1, hr2, hτ, s0, hH0, hpk, hB⟩ := tick_cut τ evs s hr h1 h2
  obtain ⟨hi1, hpi1, ha1⟩ := RunP.inv (J := fun s' => Inv p IA IB s' ∧ PInv IA s' ∧ ArrOk s')
    (fun s' ev h _ ⟨hi', hpi', ha'⟩ => by
      obtain ⟨gab, gba, hc⟩ := hi'.cons
      exact ⟨inv_step hi' h.small.noWrap ev, pinv_step hc h.small.noWrap IA hIA hi'.ta hpi' ev, arrOk_step s' ha' ev⟩)
    c s hr1 ⟨hi, hpi, ha⟩
  exact ⟨c, b, rfl, hr1, hr2, hτ, hi1, hpi1, ha1, by rw [hB]; exact hH0.qok hpk⟩

/-- `+ 1` per stage: `stage_full` asks for `<` where `stages` hands over `≤` -/
theorem drain_full_all {p : Par} {IA IB Rmax τ : Nat} (hIA : IA < 2 ^ 29) (hR : Rmax + IA < 2 ^ 31) (n : Nat) (s : State)
    (hi : InvO p IA IB τ s) (hτ : τ ≤ s.now) (hw : s.A.waitSnd ≤ n) (evs : List Ev) (hns : ∀ ev ∈ evs, isSend ev = false)
    (hr : RunP (FullHyp p Rmax IA) s evs) (hnow : s.now + n * (fullStage Rmax IA IB s.D + 1) ≤ (Sys.run s evs).now) :
    (Sys.run s evs).A.waitSnd = 0 := by
  refine stages (I := InvGone p IA IB τ s.D) (fun s' evs hi' hw' hns' hr' hnow' => ?_)
    (fun s' evs hi' hw' hns' hr' => ?_) n s evs ⟨hi, hτ, rfl⟩ hw hns hr hnow
  · obtain ⟨gab, gba, hc⟩ := hi'.inv.inv.cons
    obtain ⟨a, b, rfl, e2⟩ := run_reaches (s'.now + (fullStage Rmax IA IB s.D + 1)) _ s' (by omega) hnow'
    obtain ⟨hra, _⟩ := RunP.split a b s' hr'
    have hnsa := (List.forall_mem_append.mp hns').1
    have hst := stage_full hIA hR hi'.inv hi'.gone hw' a hnsa hra (by rw [hi'.delay]; omega)
    have hw1 := wait_run hc a (full_noWrap a s' hra) hnsa
    exact ⟨a, b, rfl, RunP.inv (invGone_step (by omega)) a s' hra hi', by omega, by omega⟩
  · obtain ⟨gab, gba, hc⟩ := hi'.inv.inv.cons
    exact wait_done hc evs (full_noWrap evs s' hr') hns' hw'

/-- `D + 1` ms for the old datagrams to leave the link to A, then `WaitSnd` stages -/
theorem drain_full_any {p : Par} {IA IB Rmax : Nat} (hIA : IA < 2 ^ 29) (hR : Rmax + IA < 2 ^ 31) {s : State}
    (hi : Inv p IA IB s) (hpi : PInv IA s) (ha : ArrOk s) (evs : List Ev) (hns : ∀ ev ∈ evs, isSend ev = false)
    (hr : RunP (FullHyp p Rmax IA) s evs)
    (hnow : s.now + s.D + 1 + s.A.waitSnd * (fullStage Rmax IA IB s.D + 1) ≤ (Sys.run s evs).now) :
    (Sys.run s evs).A.waitSnd = 0 := by
  obtain ⟨gab, gba, hc⟩ := hi.cons
  obtain ⟨a, b, rfl, e2⟩ := run_reaches (s.now + s.D + 1) evs s (by omega) (by omega)
  obtain ⟨hra, hrb⟩ := RunP.split a b s hr
  obtain ⟨hnsa, hnsb⟩ := List.forall_mem_append.mp hns
  have hw1 := wait_run hc a (full_noWrap a s hra) hnsa
  have hm1 := una_mono_run a s gab gba hc (full_noWrap a s hra)
  rw [run_append] at hnow ⊢
  exact drain_full_all hIA hR s.A.waitSnd (Sys.run s a) (invO_run (by omega) a s hra ⟨hi, hpi, ha.ofp⟩) (by omega) (by omega)
    b hnsb hrb (by rw [run_D a s, e2]; omega)

/-- `+ 2` per stage: one as in `drain_full_all`; the other is slack, the cut at a clock tick does not need it -/
theorem drain_fair_all {p : Par} {IA IB Rmax : Nat} (hIA : IA < 2 ^ 29) (hR : Rmax + IA < 2 ^ 31) (n : Nat) (s : State)
    (hi : FairStart p IA IB s) (hw : s.A.waitSnd ≤ n) (evs : List Ev) (hns : ∀ ev ∈ evs, isSend ev = false)
    (hr : RunP (FairHyp p Rmax IA) s evs)
    (hnow : s.now + n * (fairStage Rmax IA IB s.D + 2) ≤ (Sys.run s evs).now) : (Sys.run s evs).A.waitSnd = 0 := by
  refine stages (I := fun s' => FairStart p IA IB s' ∧ s'.D = s.D) (fun s' evs ⟨hi', hD⟩ hw' hns' hr' hnow' => ?_)
    (fun s' evs ⟨hi', _⟩ hw' hns' hr' => ?_) n s evs ⟨hi, rfl⟩ hw hns hr hnow
  · obtain ⟨gab, gba, hc⟩ := hi'.inv.cons
    obtain ⟨c, b, rfl, hr1, _, hnow1, hi1⟩ :=
      fair_cut (by omega) hi'.inv hi'.pinv hi'.arr (s'.now + (fairStage Rmax IA IB s.D + 2)) _ hr' (by omega) hnow'
    have hns1 := (List.forall_mem_append.mp hns').1
    have hst := stage_fair hIA hR hi'.inv hi'.pinv hi'.arr hi'.room hw' c hns1 hr1 (by rw [hnow1, hD]; omega)
    have hw1 := wait_run hc c (fair_noWrap c s' hr1) hns1
    exact ⟨c, b, rfl, ⟨hi1, (run_D c s').trans hD⟩, by omega, by omega⟩
  · obtain ⟨gab, gba, hc⟩ := hi'.inv.cons
    exact wait_done hc evs (fair_noWrap evs s' hr') hns' hw'

/-- one more millisecond for the first clock tick, at which B's queue is not full -/
theorem drain_fair_any {p : Par} {IA IB Rmax : Nat} (hIA : IA < 2 ^ 29) (hR : Rmax + IA < 2 ^ 31) {s : State}
    (hi : Inv p IA IB s) (hpi : PInv IA s) (ha : ArrOk s) (evs : List Ev) (hns : ∀ ev ∈ evs, isSend ev = false)
    (hr : RunP (FairHyp p Rmax IA) s evs)
    (hnow : s.now + 1 + s.A.waitSnd * (fairStage Rmax IA IB s.D + 2) ≤ (Sys.run s evs).now) :
    (Sys.run s evs).A.waitSnd = 0 := by
  obtain ⟨gab, gba, hc⟩ := hi.cons
  obtain ⟨c, b, rfl, hr1, hr2, hnow1, hi1⟩ := fair_cut (by omega) hi hpi ha (s.now + 1) evs hr (by omega) (by omega)
  obtain ⟨hns1, hns2⟩ := List.forall_mem_append.mp hns
  have hw1 := wait_run hc c (fair_noWrap c s hr1) hns1
  have hm1 := una_mono_run c s gab gba hc (fair_noWrap c s hr1)
  rw [run_append] at hnow ⊢
  exact drain_fair_all hIA hR s.A.waitSnd (Sys.run s c) hi1 (by omega) b hns2 hr2 (by rw [run_D c s, hnow1]; omega)

/-- a Boolean form of `FairHyp`, for the reason said at `fullChk` -/
def fairChk (base : U32) (Rmax IA : Nat) (s : State) : Bool :=
  decide (o base s.A.snd_nxt + s.A.snd_queue.length < 2 ^ 30 ∧ s.B.rcv_wnd.toNat < 2 ^ 30) &&
  decide (0 < s.B.rcv_wnd.toNat ∧ s.B.rcv_wnd.toNat < 65536) &&
  decide (s.B.peekSize < 0 → s.B.rcv_queue.length < s.B.rcv_wnd.toNat) && tmrChk Rmax IA s &&
  decide (s.A.snd_wnd ≠ 0 ∧ s.A.snd_wnd.toNat < 2 ^ 31)

def runFairChk (base : U32) (Rmax IA : Nat) : State → List Ev → Bool
  | s, [] => fairChk base Rmax IA s
  | s, ev :: rest => fairChk base Rmax IA s && runFairChk base Rmax IA (Sys.step s ev) rest

theorem fairChk_sound (p : Par) (Rmax IA : Nat) (s : State) (h : fairChk p.base Rmax IA s = true) : FairHyp p Rmax IA s := by
  unfold fairChk at h
  simp only [Bool.and_eq_true, decide_eq_true_eq] at h
  exact ⟨h.1.1.1.1, h.1.1.1.2, h.1.1.2, tmrChk_sound Rmax IA s h.1.2, h.2⟩

theorem runFairChk_sound (p : Par) (Rmax IA : Nat) : ∀ (evs : List Ev) (s : State), runFairChk p.base Rmax IA s evs = true →
    RunP (FairHyp p Rmax IA) s evs :=
  RunP.of_chk (c := fairChk p.base Rmax IA) (fairChk_sound p Rmax IA) (fun _ => rfl) (fun _ _ _ => rfl)

end KcpVerif.SysC
