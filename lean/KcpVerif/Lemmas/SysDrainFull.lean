/-
The parts of one stage of the drain with a non-empty send queue: `|snd_queue| + snd_nxt` is constant without `Send`;
the run hypotheses `FullHyp` (B's queue never full) and `FairHyp` (the reader condition only); the invariants with the
time `τ` by which the old datagrams have left the link to A (`InvO`; `ArrOk` gives `τ = now + D + 1`); a probe round and
an admission number a segment.
-/
import KcpVerif.Lemmas.SysDrainAdmit

namespace KcpVerif.SysC
open KcpVerif.Gen KcpVerif.Kcp KcpVerif.Sys

attribute [local irreducible] Kcp.flush Kcp.input  -- used through their lemmas only (see SysDrainProbeRound)

theorem qn_step {p : Par} {s : State} {gab gba : GLink} (h : Cons p s gab gba) (hnw : NoWrap p.base s)
    (ev : Ev) (hev : isSend ev = false) :
    (Sys.step s ev).A.snd_queue.length + o p.base (Sys.step s ev).A.snd_nxt =
      s.A.snd_queue.length + o p.base s.A.snd_nxt := by
  refine cons_cases h hnw ev (fun s' => s'.A.snd_queue.length + o p.base s'.A.snd_nxt =
      s.A.snd_queue.length + o p.base s.A.snd_nxt) rfl (fun _ => rfl) (fun b q he => ?_) rfl
    (flush_qn p.base s.A (clk s.now) hnw) rfl (fun _ _ _ _ _ => rfl) (fun t0 frs grest K _ _ hK _ hnw1 => ?_)
  · rw [he] at hev
    exact absurd hev (by simp [isSend])
  · have e : K.snd_queue.length + o p.base K.snd_nxt = s.A.snd_queue.length + o p.base s.A.snd_nxt := by
      rw [hK.nxt, hK.sq]
    exact ⟨e, (flush_qn p.base K (clk s.now) hnw1).trans e⟩

theorem qn_run {p : Par} (evs : List Ev) (s : State) (gab gba : GLink) (h : Cons p s gab gba)
    (hr : RunNoWrap p.base s evs) (hns : ∀ ev ∈ evs, isSend ev = false) :
    (Sys.run s evs).A.snd_queue.length + o p.base (Sys.run s evs).A.snd_nxt =
      s.A.snd_queue.length + o p.base s.A.snd_nxt :=
  (RunP.invOn (J := fun s' => (∃ gab gba, Cons p s' gab gba) ∧
      s'.A.snd_queue.length + o p.base s'.A.snd_nxt = s.A.snd_queue.length + o p.base s.A.snd_nxt)
    (fun _ ev he hnw _ ⟨⟨_, _, hc⟩, e⟩ => ⟨cons_step hc hnw ev, (qn_step hc hnw ev he).trans e⟩) evs s hns
    ((runNoWrap_iff p.base evs s).mp hr) ⟨⟨gab, gba, h⟩, rfl⟩).2

theorem wait_run {p : Par} {s : State} {gab gba : GLink} (h : Cons p s gab gba) (evs : List Ev)
    (hr : RunNoWrap p.base s evs) (hns : ∀ ev ∈ evs, isSend ev = false) :
    (Sys.run s evs).A.waitSnd + o p.base (Sys.run s evs).A.snd_una = s.A.waitSnd + o p.base s.A.snd_una := by
  obtain ⟨g1, g2, hc'⟩ := cons_run evs s gab gba h hr
  have h1 := qn_run evs s gab gba h hr hns
  have h2 := hc'.acon.2
  have h3 := h.acon.2
  unfold waitSnd
  omega

theorem wait_done {p : Par} {s : State} {gab gba : GLink} (h : Cons p s gab gba) (evs : List Ev)
    (hr : RunNoWrap p.base s evs) (hns : ∀ ev ∈ evs, isSend ev = false) (hw : s.A.waitSnd = 0) :
    (Sys.run s evs).A.waitSnd = 0 := by
  have h1 := wait_run h evs hr hns
  have h2 := una_mono_run evs s gab gba h hr
  omega

def FullHyp (p : Par) (Rmax IA : Nat) (s : State) : Prop :=
  Small p.base s ∧ QB s ∧ TmrOk Rmax IA s ∧ CfgA s.A

def FairHyp (p : Par) (Rmax IA : Nat) (s : State) : Prop :=
  Small p.base s ∧ (0 < s.B.rcv_wnd.toNat ∧ s.B.rcv_wnd.toNat < 65536) ∧ QOk s ∧ TmrOk Rmax IA s ∧ CfgA s.A

section
variable {p : Par} {Rmax IA : Nat} {s : State}
theorem FullHyp.small (h : FullHyp p Rmax IA s) : Small p.base s := h.1
theorem FullHyp.qb (h : FullHyp p Rmax IA s) : QB s := h.2.1
theorem FullHyp.tmr (h : FullHyp p Rmax IA s) : TmrOk Rmax IA s := h.2.2.1
theorem FullHyp.cfg (h : FullHyp p Rmax IA s) : CfgA s.A := h.2.2.2
theorem FairHyp.small (h : FairHyp p Rmax IA s) : Small p.base s := h.1
theorem FairHyp.wnd (h : FairHyp p Rmax IA s) : 0 < s.B.rcv_wnd.toNat ∧ s.B.rcv_wnd.toNat < 65536 := h.2.1
theorem FairHyp.qok (h : FairHyp p Rmax IA s) : QOk s := h.2.2.1
theorem FairHyp.tmr (h : FairHyp p Rmax IA s) : TmrOk Rmax IA s := h.2.2.2.1
theorem FairHyp.cfg (h : FairHyp p Rmax IA s) : CfgA s.A := h.2.2.2.2
end

theorem fair_noWrap {p : Par} {Rmax IA : Nat} (evs : List Ev) (s : State) (h : RunP (FairHyp p Rmax IA) s evs) :
    RunNoWrap p.base s evs :=
  (runNoWrap_iff p.base evs s).mpr (RunP.mono (fun _ h => h.small.noWrap) evs s h)

theorem fair_smallH {p : Par} {Rmax IA : Nat} (evs : List Ev) (s : State) (h : RunP (FairHyp p Rmax IA) s evs) :
    RunSmallH p.base s evs :=
  runP_smallH p.base evs s (RunP.mono (fun _ h => ⟨h.small, h.wnd.1⟩) evs s h)

theorem head_stage_rb {p : Par} {IA IB Rmax : Nat} {s : State} (hi : Inv p IA IB s) (hR : Rmax + IA < 2 ^ 31)
    (hb : s.A.snd_buf ≠ []) (hrb : o p.base s.A.snd_una ≤ o p.base s.B.rcv_nxt) (evs : List Ev)
    (hr : RunP (FairHyp p Rmax IA) s evs)
    (hnow : s.now + Rmax + IA + s.D + IB + s.D < (Sys.run s evs).now) :
    o p.base s.A.snd_una < o p.base (Sys.run s evs).A.snd_una :=
  head_released hi hR (RunP.head hr).tmr hb hrb evs (fair_smallH evs s hr) hnow

theorem full_fair {p : Par} {Rmax IA : Nat} (s : State) (h : FullHyp p Rmax IA s) : FairHyp p Rmax IA s :=
  ⟨h.small, ⟨by have := h.qb.1; omega, h.qb.2⟩, fun _ => h.qb.1, h.tmr, h.cfg⟩

theorem full_noWrap {p : Par} {Rmax IA : Nat} (evs : List Ev) (s : State) (h : RunP (FullHyp p Rmax IA) s evs) :
    RunNoWrap p.base s evs :=
  fair_noWrap evs s (RunP.mono full_fair evs s h)

structure InvO (p : Par) (IA IB τ : Nat) (s : State) : Prop where
  inv : Inv p IA IB s
  pinv : PInv IA s
  old : OFp τ s

theorem invO_step {p : Par} {IA IB Rmax τ : Nat} (hIA : IA < 2 ^ 30) (s : State) (ev : Ev) (h : FullHyp p Rmax IA s)
    (h' : FullHyp p Rmax IA (Sys.step s ev)) (hi : InvO p IA IB τ s) : InvO p IA IB τ (Sys.step s ev) := by
  obtain ⟨gab, gba, hc⟩ := hi.inv.cons
  have hi' := inv_step hi.inv h.small.noWrap ev
  obtain ⟨gab', gba', hc'⟩ := hi'.cons
  exact ⟨hi', pinv_step hc h.small.noWrap IA hIA hi.inv.ta hi.pinv ev, ofp_step hc h.small.noWrap τ h.qb ev h'.qb hc'.np hi.old⟩

theorem invO_run {p : Par} {IA IB Rmax τ : Nat} (hIA : IA < 2 ^ 30) (evs : List Ev) (s : State)
    (hr : RunP (FullHyp p Rmax IA) s evs) (hi : InvO p IA IB τ s) : InvO p IA IB τ (Sys.run s evs) :=
  RunP.inv (invO_step hIA) evs s hr hi

/-- the old datagrams are gone (`τ ≤ now`), and the delay is named -/
structure InvGone (p : Par) (IA IB τ D : Nat) (s : State) : Prop where
  inv : InvO p IA IB τ s
  gone : τ ≤ s.now
  delay : s.D = D

theorem invGone_step {p : Par} {IA IB Rmax τ D : Nat} (hIA : IA < 2 ^ 30) (s : State) (ev : Ev) (h : FullHyp p Rmax IA s)
    (h' : FullHyp p Rmax IA (Sys.step s ev)) (hi : InvGone p IA IB τ D s) : InvGone p IA IB τ D (Sys.step s ev) :=
  ⟨invO_step hIA s ev h h' hi.inv, by rcases step_now s ev with e | e <;> have := hi.gone <;> omega,
    (step_D s ev).trans hi.delay⟩

theorem adm_within {p : Par} {IA IB Rmax τ : Nat} (hIA : IA < 2 ^ 30) (D : Nat) :
    Within (FullHyp p Rmax IA) (fun ev => isSend ev = false) (2 * IA)
      (fun s => InvGone p IA IB τ D s ∧ s.A.snd_buf = [] ∧ s.A.snd_queue ≠ [] ∧ s.A.rmt_wnd ≠ 0)
      (fun s => s.A.snd_buf ≠ []) := by
  intro s evs ⟨hi, hb, hq, h0⟩ hns hr hnow
  exact RunP.reachOn (Q := fun s' => s'.A.snd_buf ≠ [])
    (Ph := fun s' => AdmPh (s.now + IA) (s.now + 2 * IA) s' ∧ InvGone p IA IB τ D s' ∧ s'.A.snd_buf = [] ∧
      s'.A.snd_queue ≠ [] ∧ s'.A.rmt_wnd ≠ 0) (s.now + 2 * IA)
    (fun s' ev hev h h' ⟨hph, hi', hb', hq', h0'⟩ => by
      obtain ⟨gab, gba, hc⟩ := hi'.inv.inv.cons
      have hnw := h.small.noWrap
      have hf := hi'.inv.old.fresh hi'.gone
      rcases adm_core hc hnw IA _ _ (by omega) hi'.inv.inv.ta.iv hb' hq' h0' hf h.cfg hph ev hev with ⟨c1, c2, c3⟩ | c
      · exact Or.inl ⟨c3, invGone_step hIA s' ev h h' hi', c1, c2, rmt_keep_step hc hnw hf h0' ev⟩
      · exact Or.inr c)
    (fun s' h => by rcases h.1 with ⟨_, b⟩ | ⟨_, _, b⟩ <;> omega) evs s hns hr
    ⟨Or.inl ⟨hi.inv.inv.ta.nf, by omega⟩, hi, hb, hq, h0⟩ hnow

theorem numbered_within {p : Par} {IA IB Rmax τ : Nat} (hIA : IA < 2 ^ 29) (D : Nat) :
    Within (FullHyp p Rmax IA) (fun ev => isSend ev = false) ((IKCP_PROBE_LIMIT + 2 * IA + D + IB + D) + 1 + 2 * IA)
      (InvGone p IA IB τ D) (fun s => s.A.snd_buf ≠ [] ∨ s.A.snd_queue = []) := by
  -- the probe round, with the invariants carried to the state in which the window is seen open
  have hprobe : Within (FullHyp p Rmax IA) (fun ev => isSend ev = false) (IKCP_PROBE_LIMIT + 2 * IA + D + IB + D)
      (InvGone p IA IB τ D) (fun s => InvGone p IA IB τ D s ∧ s.A.rmt_wnd ≠ 0) :=
    Within.carry (fun s ev _ => invGone_step (by omega) s ev) (fun _ h => h)
      (((probe_opens hIA D).hyp (fun _ h => ⟨h.small, h.qb⟩) (fun _ _ => trivial)).mono (Nat.le_refl _)
        (fun _ h => ⟨h.inv.inv, h.inv.pinv, h.delay⟩) (fun _ h => h))
  -- then the admission, unless a segment is numbered already or nothing is queued
  have hadm : Within (FullHyp p Rmax IA) (fun ev => isSend ev = false) (2 * IA)
      (fun s => InvGone p IA IB τ D s ∧ s.A.rmt_wnd ≠ 0) (fun s => s.A.snd_buf ≠ [] ∨ s.A.snd_queue = []) :=
    Within.cases (fun s => s.A.snd_buf = [] ∧ s.A.snd_queue ≠ [])
      ((adm_within (by omega) D).mono (Nat.le_refl _) (fun _ h => ⟨h.1.1, h.2.1, h.2.2, h.1.2⟩) (fun _ h => Or.inl h))
      (Within.refl _ (fun s h => by
        by_cases hb : s.A.snd_buf = []
        · exact Or.inr (Classical.not_not.mp fun hq => h.2 ⟨hb, hq⟩)
        · exact Or.inl hb))
  exact hprobe.trans hadm

/-- the length of one stage of the general drain: a probe round, an admission, a progress step -/
def fullStage (Rmax IA IB D : Nat) : Nat :=
  (IKCP_PROBE_LIMIT + 2 * IA + D + IB + D + 1) + (2 * IA + 1) + (Rmax + IA + D + IB + D)

theorem freshBa_nil (s : State) (h : s.ba = []) : FreshBa s := by
  intro d hd; rw [h] at hd; simp at hd

/-- a Boolean form of `FullHyp` for the examples: `TmrOk` hides an `∃ R`, which `tmrChk` computes -/
def fullChk (base : U32) (Rmax IA : Nat) (s : State) : Bool :=
  decide (o base s.A.snd_nxt + s.A.snd_queue.length < 2 ^ 30 ∧ s.B.rcv_wnd.toNat < 2 ^ 30) &&
  decide (s.B.rcv_queue.length < s.B.rcv_wnd.toNat ∧ s.B.rcv_wnd.toNat < 65536) && tmrChk Rmax IA s &&
  decide (s.A.snd_wnd ≠ 0 ∧ s.A.snd_wnd.toNat < 2 ^ 31)

def runFullChk (base : U32) (Rmax IA : Nat) : State → List Ev → Bool
  | s, [] => fullChk base Rmax IA s
  | s, ev :: rest => fullChk base Rmax IA s && runFullChk base Rmax IA (Sys.step s ev) rest

theorem fullChk_sound (p : Par) (Rmax IA : Nat) (s : State) (h : fullChk p.base Rmax IA s = true) : FullHyp p Rmax IA s := by
  unfold fullChk at h
  simp only [Bool.and_eq_true, decide_eq_true_eq] at h
  exact ⟨h.1.1.1, h.1.1.2, tmrChk_sound Rmax IA s h.1.2, h.2⟩

theorem runFullChk_sound (p : Par) (Rmax IA : Nat) : ∀ (evs : List Ev) (s : State), runFullChk p.base Rmax IA s evs = true →
    RunP (FullHyp p Rmax IA) s evs :=
  RunP.of_chk (c := fullChk p.base Rmax IA) (fullChk_sound p Rmax IA) (fun _ => rfl) (fun _ _ _ => rfl)

def ArrOk (s : State) : Prop := ∀ d ∈ s.ba, d.arr ≤ s.now + s.D

theorem arrOk_step (s : State) (h : ArrOk s) (ev : Ev) : ArrOk (Sys.step s ev) := by
  have app : ∀ outs : List Bytes, ∀ d ∈ s.ba ++ stamp (s.now + s.D) outs, d.arr ≤ s.now + s.D := by
    intro outs d hd
    rcases List.mem_append.mp hd with h1 | h1
    · exact h d h1
    · obtain ⟨o, _, rfl⟩ := List.mem_map.mp h1
      exact Nat.le_refl _
  refine step_cases (P := ArrOk) s ev h (fun _ _ d hd => ?_) (fun _ _ => h) (fun _ _ => h) (fun _ => h) (fun _ => app _)
    (fun _ _ _ _ _ => app _) (fun d' rest _ hba _ d hd => h d (by rw [hba]; exact List.mem_cons_of_mem _ hd))
  have := h d hd
  show d.arr ≤ s.now + 1 + s.D
  omega

theorem arrOk_netStep (s : State) (h : ArrOk s) (ev : NetEv) : ArrOk (netStep s ev) :=
  netStep_cases (P := ArrOk) s ev (arrOk_step s h) (fun _ _ _ hba d hd => h d (hba d hd)) h

theorem arrOk_netRun (evs : List NetEv) : ∀ (s : State), ArrOk s → ArrOk (netRun s evs) :=
  foldl_inv (fun s ev h => arrOk_netStep s h ev) evs

theorem arrOk_init (A B : Kcp) (D t0 : Nat) (ndA ndB : Bool) : ArrOk (Sys.init A B D t0 ndA ndB) := by
  intro d hd
  have : (Sys.init A B D t0 ndA ndB).ba = [] := rfl
  rw [this] at hd; simp at hd

theorem ArrOk.ofp {s : State} (h : ArrOk s) : OFp (s.now + s.D + 1) s :=
  fun d hd => Or.inr ⟨by have := h d hd; omega, by omega⟩

end KcpVerif.SysC
