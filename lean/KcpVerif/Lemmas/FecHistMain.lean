/-
C07 over whole histories: completeness.  Up to the `d`-th distinct packet of a group that stays within
the horizon the decoder holds exactly the distinct packets so far; the `d`-th call returns the absent
data packets, earlier calls nothing; afterwards nothing, as long as fewer than `d` packets of the group
follow (with `d` or more the emptied shard set re-fills: `C07_refill_reemits_*`).  And `feed_ghost`: on
genuine histories a new decoder IS the ghost machine, outputs included — what it returns is `outs`,
computed from the ghosts `track` alone, no codec, no shard sets.
-/
import KcpVerif.Lemmas.FecHistHorizon

namespace KcpVerif.Lemmas.FecHist
open KcpVerif.Fec KcpVerif.Lemmas.FecSpec KcpVerif.Lemmas.FecDec

section Main
variable {C : CodecNew}

theorem hinv_run (grp : Family) :
    ∀ (hist : List Bytes) (dec : Decoder), HInv C grp dec →
      (∀ q ∈ hist, GenuinePkt C grp dec.d dec.p q) →
      HInv C grp (run C dec hist) ∧ (run C dec hist).d = dec.d ∧ (run C dec hist).p = dec.p ∧
      (run C dec hist).n = dec.n ∧
      horizonOf (run C dec hist) = curAfter dec.n (horizonOf dec) (hist.map (sidOf dec.n)) := by
  intro hist dec hI hgen
  have h := foldl_rel (f := fun (st : Decoder) q => (st.decode C q).st)
    (g := fun c q => some (nextNewest dec.n c (sidOf dec.n q)))
    (R := fun st c => HInv C grp st ∧ st.d = dec.d ∧ st.p = dec.p ∧ st.n = dec.n ∧ horizonOf st = c)
    hist (fun st c q hq ⟨h1, h2, h3, h4, h5⟩ => by
      obtain ⟨a1, a2, a3, a4, a5⟩ := hinv_step grp st h1 q (by rw [h2, h3]; exact hgen q hq)
      exact ⟨a1, a2.trans h2, a3.trans h3, a4.trans h4, by rw [a5, h4, h5]⟩)
    dec (horizonOf dec) ⟨hI, rfl, rfl, rfl, rfl⟩
  unfold curAfter
  rw [List.foldl_map]
  exact h

variable {G : Group}

/-- `h0`: after it nothing is held for `G`; `seg`: the group within the horizon, fewer than `d`
    distinct packets -/
theorem hist_any_k (hC : Lawful C) (grp : Family) (hG : G.WF)
    (hgrp : grp (G.base / u32 G.n) = some G) (dec : Decoder) (hI : HInv C grp dec)
    (hd : G.d = dec.d) (hp : G.p = dec.p) (got0 : List Nat) (hgh0 : Ghost G got0)
    (hset0 : held (G.base / u32 G.n) dec = got0.map (G.packet C))
    (h0 seg : List Bytes) (hgen0 : ∀ q ∈ h0, GenuinePkt C grp G.d G.p q)
    (hgen : ∀ q ∈ seg, GenuinePkt C grp G.d G.p q)
    (hempty : track G.n G.d (G.base / u32 G.n) (horizonOf dec) got0 h0 = [])
    (hhor : within G.n (G.base / u32 G.n)
      (curAfter G.n (horizonOf dec) (h0.map (sidOf G.n))) false seg = true)
    (hlt : (gIdx G.n (G.base / u32 G.n) [] seg).length < G.d) :
    held (G.base / u32 G.n) (run C dec (h0 ++ seg))
      = (gIdx G.n (G.base / u32 G.n) [] seg).map (G.packet C) ∧
    ∀ j, j < G.n →
      ((run C dec (h0 ++ seg)).decode C (G.packet C j)).recovered
        = (if j ∉ gIdx G.n (G.base / u32 G.n) [] seg ∧
              (gIdx G.n (G.base / u32 G.n) [] seg).length + 1 = G.d
           then missing G (gIdx G.n (G.base / u32 G.n) [] seg ++ [j]) else []) ∧
      ((run C dec (h0 ++ seg)).decode C (G.packet C j)).panic = false := by
  have hall : ∀ q ∈ h0 ++ seg, GenuinePkt C grp G.d G.p q := by
    intro q hq
    rcases List.mem_append.1 hq with h | h
    · exact hgen0 q h
    · exact hgen q h
  have htr : track G.n G.d (G.base / u32 G.n) (horizonOf dec) got0 (h0 ++ seg)
      = gIdx G.n (G.base / u32 G.n) [] seg := by
    rw [track_append, hempty]
    exact track_within _ _ _ seg _ false [] hhor (fun h => absurd rfl h) hlt
  obtain ⟨_, _, _, _, hT, _⟩ := run_track grp hG hgrp (h0 ++ seg) dec got0 hI hd hp hgh0 hset0 hall
  rw [htr] at hT
  refine ⟨hT, ?_⟩
  intro j hj
  have := step_out hC grp hG hgrp dec got0 hI hd hp hgh0 hset0 (h0 ++ seg) hall j hj
  rw [htr] at this
  exact this

theorem hist_before_k (hC : Lawful C) (grp : Family) (hG : G.WF)
    (hgrp : grp (G.base / u32 G.n) = some G) (dec : Decoder) (hI : HInv C grp dec)
    (hd : G.d = dec.d) (hp : G.p = dec.p) (got0 : List Nat) (hgh0 : Ghost G got0)
    (hset0 : held (G.base / u32 G.n) dec = got0.map (G.packet C))
    (h0 s1 s2 : List Bytes) (i : Nat) (hi : i < G.n)
    (hgen0 : ∀ q ∈ h0, GenuinePkt C grp G.d G.p q)
    (hgen : ∀ q ∈ s1 ++ G.packet C i :: s2, GenuinePkt C grp G.d G.p q)
    (hempty : track G.n G.d (G.base / u32 G.n) (horizonOf dec) got0 h0 = [])
    (hhor : within G.n (G.base / u32 G.n)
      (curAfter G.n (horizonOf dec) (h0.map (sidOf G.n))) false (s1 ++ G.packet C i :: s2) = true)
    (hlt : (gIdx G.n (G.base / u32 G.n) [] (s1 ++ G.packet C i :: s2)).length < G.d) :
    ((run C dec (h0 ++ s1)).decode C (G.packet C i)).recovered = [] := by
  have hsid := sidOf_packet (C := C) hG i hi
  have hpos := posOf_packet (C := C) hG i hi
  have hlen : (gIdx G.n (G.base / u32 G.n) [] s1).length
      + (if i ∈ gIdx G.n (G.base / u32 G.n) [] s1 then 0 else 1) < G.d := by
    rw [gIdx_append] at hlt
    simp only [gIdx, hsid, hpos, true_and] at hlt
    split
    · have := gIdx_length_ge G.n (G.base / u32 G.n) s1 []
      rename_i hmem
      rw [if_neg (fun h => h hmem)] at hlt
      have := gIdx_length_ge G.n (G.base / u32 G.n) s2 (gIdx G.n (G.base / u32 G.n) [] s1)
      omega
    · rename_i hmem
      rw [if_pos hmem] at hlt
      have := gIdx_length_ge G.n (G.base / u32 G.n) s2 (gIdx G.n (G.base / u32 G.n) [] s1 ++ [i])
      simp only [List.length_append, List.length_singleton] at this
      omega
  have h1 := (hist_any_k hC grp hG hgrp dec hI hd hp got0 hgh0 hset0 h0 s1 hgen0
    (fun q hq => hgen q (List.mem_append_left _ hq)) hempty (within_append _ _ _ _ _ _ hhor)
    (by split at hlen <;> omega)).2 i hi
  rw [h1.1, if_neg]
  intro ⟨hnot, hl⟩
  rw [if_neg hnot] at hlen
  omega

theorem hist_after_k (hC : Lawful C) (grp : Family) (hG : G.WF)
    (hgrp : grp (G.base / u32 G.n) = some G) (dec : Decoder) (hI : HInv C grp dec)
    (hd : G.d = dec.d) (hp : G.p = dec.p) (got0 : List Nat) (hgh0 : Ghost G got0)
    (hset0 : held (G.base / u32 G.n) dec = got0.map (G.packet C))
    (h0 r1 r2 : List Bytes) (i : Nat) (hi : i < G.n)
    (hgen0 : ∀ q ∈ h0, GenuinePkt C grp G.d G.p q)
    (hgen : ∀ q ∈ r1 ++ G.packet C i :: r2, GenuinePkt C grp G.d G.p q)
    (hempty : track G.n G.d (G.base / u32 G.n) (horizonOf dec) got0 h0 = [])
    (hfew : ((r1 ++ G.packet C i :: r2).filter
      (fun q => sidOf G.n q == G.base / u32 G.n)).length < G.d) :
    ((run C dec (h0 ++ r1)).decode C (G.packet C i)).recovered = [] := by
  have hall : ∀ q ∈ h0 ++ r1, GenuinePkt C grp G.d G.p q := by
    intro q hq
    rcases List.mem_append.1 hq with h | h
    · exact hgen0 q h
    · exact hgen q (List.mem_append_left _ h)
  have h1 := (step_out hC grp hG hgrp dec got0 hI hd hp hgh0 hset0 (h0 ++ r1) hall i hi).1
  rw [h1, if_neg]
  intro ⟨_, hl⟩
  rw [track_append, hempty] at hl
  have hle := track_length_le G.n G.d (G.base / u32 G.n) r1
    (curAfter G.n (horizonOf dec) (h0.map (sidOf G.n))) []
  have hsid := sidOf_packet (C := C) hG i hi
  simp only [List.filter_append, List.filter_cons, hsid, beq_self_eq_true, if_true,
    List.length_append, List.length_cons] at hfew
  simp only [List.length_nil, Nat.zero_add] at hle
  omega

/-- what the call on `q` returns after the history `pre` fed to a new decoder, from the ghost of
    `q`'s group alone -/
def outAt (grp : Family) (n d : Nat) (pre : List Bytes) (q : Bytes) : List Bytes :=
  match grp (sidOf n q) with
  | some G =>
    if posOf n q ∉ track n d (sidOf n q) none [] pre ∧
        (track n d (sidOf n q) none [] pre).length + 1 = d
    then missing G (track n d (sidOf n q) none [] pre ++ [posOf n q]) else []
  | none => []

/-- everything returned along `hist` after `pre` -/
def outs (grp : Family) (n d : Nat) : List Bytes → List Bytes → List Bytes
  | _, [] => []
  | pre, q :: rest => outAt grp n d pre q ++ outs grp n d (pre ++ [q]) rest

theorem outAt_packet (grp : Family) (hG : G.WF) (hgrp : grp (G.base / u32 G.n) = some G)
    (pre : List Bytes) (j : Nat) (hj : j < G.n) :
    outAt grp G.n G.d pre (G.packet C j) =
      if j ∉ track G.n G.d (G.base / u32 G.n) none [] pre ∧
          (track G.n G.d (G.base / u32 G.n) none [] pre).length + 1 = G.d
      then missing G (track G.n G.d (G.base / u32 G.n) none [] pre ++ [j]) else [] := by
  unfold outAt
  rw [sidOf_packet hG j hj, posOf_packet hG j hj, hgrp]

theorem call_ghost (hC : Lawful C) (grp : Family) (d p : Nat) (dec : Decoder)
    (hnew : Decoder.new C d p = some dec) (pre : List Bytes) (q : Bytes)
    (hpre : ∀ x ∈ pre, GenuinePkt C grp d p x) (hq : GenuinePkt C grp d p q) :
    ((feed C dec pre).1.decode C q).recovered = outAt grp (d + p) d pre q := by
  obtain ⟨G, j, hgrp, hG, hGd, hGp, hj, rfl⟩ := hq
  obtain ⟨hI, hd, hp, hs⟩ := hinv_new (C := C) grp d p dec hnew
  have hn : d + p = G.n := by rw [Group.n, hGd, hGp]
  have hz : horizonOf dec = none := hs ▸ rfl
  have hheld : held (G.base / u32 G.n) dec = ([] : List Nat).map (G.packet C) := hs ▸ rfl
  have h := (step_out hC grp hG hgrp dec [] hI (hGd.trans hd.symm) (hGp.trans hp.symm) (Ghost.nil hG)
    hheld pre (by rw [hGd, hGp]; exact hpre) j hj).1
  rw [run_eq_feed, hz] at h
  rw [hn, ← hGd, outAt_packet grp hG hgrp pre j hj]
  exact h

theorem feed_ghost (hC : Lawful C) (grp : Family) (d p : Nat) (dec : Decoder)
    (hnew : Decoder.new C d p = some dec) :
    ∀ (rest pre : List Bytes), (∀ x ∈ pre ++ rest, GenuinePkt C grp d p x) →
      (feed C dec (pre ++ rest)).2 = (feed C dec pre).2 ++ outs grp (d + p) d pre rest := by
  intro rest
  induction rest with
  | nil => intro pre _; rw [List.append_nil]; exact (List.append_nil _).symm
  | cons q rest ih =>
    intro pre hgen
    have e : pre ++ q :: rest = (pre ++ [q]) ++ rest := by rw [List.append_assoc]; rfl
    have hstep : (feed C dec (pre ++ [q])).2
        = (feed C dec pre).2 ++ ((feed C dec pre).1.decode C q).recovered := by
      unfold feed; rw [List.foldl_append]; rfl
    rw [e, ih (pre ++ [q]) (by rw [← e]; exact hgen), hstep,
      call_ghost hC grp d p dec hnew pre q (fun x hx => hgen x (List.mem_append_left _ hx))
        (hgen q (List.mem_append_right _ (List.mem_cons_self ..))), List.append_assoc]
    rfl

theorem outs_sound (grp : Family) (d p : Nat) :
    ∀ (rest pre : List Bytes), (∀ q ∈ rest, GenuinePkt C grp d p q) →
      ∀ r ∈ outs grp (d + p) d pre rest,
        ∃ G : Group, grp (G.base / u32 G.n) = some G ∧ G.WF ∧ G.d = d ∧ G.p = p ∧
          (∃ j, j < G.n ∧ G.packet C j ∈ rest) ∧ Original G r := by
  intro rest
  induction rest with
  | nil => intro _ _ r hr; cases hr
  | cons q rest ih =>
    intro pre hgen r hr
    rcases List.mem_append.1 hr with hr | hr
    · obtain ⟨G, j, hgrp, hG, hGd, hGp, hj, rfl⟩ := hgen q (List.mem_cons_self ..)
      have hn : d + p = G.n := by rw [Group.n, hGd, hGp]
      rw [hn, ← hGd, outAt_packet grp hG hgrp pre j hj] at hr
      split at hr
      · obtain ⟨k, h1, _, h3, h4⟩ := mem_missing hG _ r hr
        exact ⟨G, hgrp, hG, hGd, hGp, ⟨j, hj, List.mem_cons_self ..⟩, k, h1, h3, h4⟩
      · cases hr
    · obtain ⟨G, h1, h2, h3, h4, ⟨j, hj, hm⟩, h5⟩ :=
        ih _ (fun q hq => hgen q (List.mem_cons_of_mem _ hq)) r hr
      exact ⟨G, h1, h2, h3, h4, ⟨j, hj, List.mem_cons_of_mem _ hm⟩, h5⟩

theorem dec_sound (hC : Lawful C) (grp : Family) (d p : Nat) (dec : Decoder)
    (hnew : Decoder.new C d p = some dec) (pkts : List Bytes)
    (hgen : ∀ q ∈ pkts, GenuinePkt C grp d p q) :
    ∀ r ∈ (feed C dec pkts).2,
      ∃ G : Group, grp (G.base / u32 G.n) = some G ∧ G.WF ∧ G.d = d ∧ G.p = p ∧
        (∃ j, j < G.n ∧ G.packet C j ∈ pkts) ∧ Original G r := by
  have h := feed_ghost hC grp d p dec hnew pkts [] hgen
  rw [List.nil_append] at h
  rw [h]
  exact outs_sound grp d p pkts [] hgen

theorem genuine_each {grp : Family} {d p : Nat} (l : List { q : Bytes // GenuinePkt C grp d p q }) :
    ∀ q ∈ l.map (·.1), GenuinePkt C grp d p q := by
  intro q hq
  obtain ⟨x, _, rfl⟩ := List.mem_map.1 hq
  exact x.2

theorem genuine_own (hG : G.WF) (js : List Nat) (hjs : ∀ j ∈ js, j < G.n) :
    ∀ x ∈ js.map (G.packet C), GenuinePkt C (fun _ => some G) G.d G.p x := by
  intro x hx
  obtain ⟨j, hj, rfl⟩ := List.mem_map.1 hx
  exact ⟨G, j, rfl, hG, rfl, rfl, hjs j hj, rfl⟩

theorem feed_own (hC : Lawful C) (hG : G.WF) (dec : Decoder)
    (hnew : Decoder.new C G.d G.p = some dec) (js : List Nat) (hjs : ∀ j ∈ js, j < G.n) :
    (feed C dec (js.map (G.packet C))).2
      = outs (fun _ => some G) G.n G.d [] (js.map (G.packet C)) := by
  have h := feed_ghost hC (fun _ => some G) G.d G.p dec hnew (js.map (G.packet C)) []
    (genuine_own hG js hjs)
  rw [List.nil_append] at h
  exact h

theorem track_own (hG : G.WF) :
    ∀ (l got : List Nat) (cur : Option (BitVec 32)), (∀ c, cur = some c → c = G.base / u32 G.n) →
      (got ++ l).Pairwise (· ≠ ·) → (∀ i ∈ l, i < G.n) → (got ++ l).length < G.d →
      track G.n G.d (G.base / u32 G.n) cur got (l.map (G.packet C)) = got ++ l := by
  intro l
  induction l with
  | nil => intro got _ _ _ _ _; exact (List.append_nil got).symm
  | cons j tl ih =>
    intro got cur hcur hnd hb hlen
    have hj := hb j (List.mem_cons_self ..)
    have hjn : j ∉ got :=
      fun h => (List.pairwise_append.1 hnd).2.2 j h j (List.mem_cons_self ..) rfl
    have e : got ++ j :: tl = (got ++ [j]) ++ tl := by rw [List.append_assoc]; rfl
    have hnw : nextNewest G.n cur (G.base / u32 G.n) = G.base / u32 G.n := by
      cases cur with
      | none => rfl
      | some c => rw [hcur c rfl]; exact nextNewest_of_alive _ _ _ (alive_self _ _)
    have hstep : trackStep G.n G.d (G.base / u32 G.n) cur got (G.packet C j) = got ++ [j] := by
      unfold trackStep
      rw [sidOf_packet hG j hj, posOf_packet hG j hj, if_pos rfl, if_neg hjn, hnw, alive_self,
        if_pos rfl, if_neg]
      rw [e, List.length_append, List.length_append, List.length_singleton] at hlen
      omega
    rw [List.map_cons, track, hstep, sidOf_packet hG j hj, hnw, e]
    exact ih _ _ (fun c h => (Option.some.inj h).symm) (e ▸ hnd)
      (fun i hi => hb i (List.mem_cons_of_mem _ hi)) (e ▸ hlen)

theorem outs_own (hG : G.WF) :
    ∀ (rest pre : List Nat), rest ≠ [] → (pre ++ rest).Pairwise (· ≠ ·) →
      (∀ i ∈ pre ++ rest, i < G.n) → (pre ++ rest).length = G.d →
      outs (fun _ => some G) G.n G.d (pre.map (G.packet C)) (rest.map (G.packet C))
        = missing G (pre ++ rest) := by
  intro rest
  induction rest with
  | nil => intro _ h; exact absurd rfl h
  | cons j tl ih =>
    intro pre _ hnd hb hlen
    have hj : j < G.n := hb j (List.mem_append_right _ (List.mem_cons_self ..))
    have hjn : j ∉ pre :=
      fun h => (List.pairwise_append.1 hnd).2.2 j h j (List.mem_cons_self ..) rfl
    have e : pre ++ j :: tl = (pre ++ [j]) ++ tl := by rw [List.append_assoc]; rfl
    have hlen' : pre.length + (tl.length + 1) = G.d := by
      rw [← hlen, List.length_append, List.length_cons]
    have htr : track G.n G.d (G.base / u32 G.n) none [] (pre.map (G.packet C)) = pre := by
      have := track_own (C := C) hG pre [] none (fun c h => nomatch h)
        (List.pairwise_append.1 hnd).1 (fun i hi => hb i (List.mem_append_left _ hi)) (by
          rw [List.nil_append]; omega)
      rw [List.nil_append] at this
      exact this
    rw [List.map_cons, outs, outAt_packet _ hG rfl _ j hj, htr]
    cases tl with
    | nil =>
      rw [if_pos ⟨hjn, by simpa using hlen'⟩]
      exact List.append_nil _
    | cons j' tl' =>
      rw [if_neg (fun h => by have := h.2; simp only [List.length_cons] at hlen'; omega),
        List.nil_append, e]
      have := ih (pre ++ [j]) (List.cons_ne_nil _ _) (e ▸ hnd) (e ▸ hb) (e ▸ hlen)
      rw [List.map_append] at this
      exact this

/-- regression for finding D13: no hypothesis on where the group lies in the id space (ids ≥ 2^31
    included) -/
theorem fresh_decoder_anywhere (hC : Lawful C) (hG : G.WF) (dec : Decoder)
    (hnew : Decoder.new C G.d G.p = some dec)
    (idxs : List Nat) (hnd : idxs.Pairwise (· ≠ ·)) (hb : ∀ i ∈ idxs, i < G.n)
    (hlen : idxs.length = G.d) :
    (feed C dec (idxs.map (G.packet C))).2 = missing G idxs := by
  rw [feed_own hC hG dec hnew idxs hb]
  exact outs_own hG idxs [] (fun h => by rw [h] at hlen; exact absurd hlen.symm (Nat.ne_of_gt hG.d_pos))
    hnd hb hlen

end Main

namespace Example

def grpAt (d p id : Nat) (pls : List Bytes) : Group :=
  { d := d, p := p, base := BitVec.ofNat 32 (id * (d + p)), payloads := pls }

def a0 := grpAt 2 1 0 [[1, 2, 3], [4]]
def a3 := grpAt 2 1 3 [[7], [8, 9]]
def a4 := grpAt 2 1 4 [[7], [8, 9]]
def b0 := grpAt 1 1 0 [[5, 6]]
def c0 := grpAt 2 2 0 [[1], [2, 3]]

theorem a0_wf : a0.WF := ⟨by decide, by decide, by decide, by decide, by decide, by decide, by decide⟩
theorem a3_wf : a3.WF := ⟨by decide, by decide, by decide, by decide, by decide, by decide, by decide⟩
theorem a4_wf : a4.WF := ⟨by decide, by decide, by decide, by decide, by decide, by decide, by decide⟩
theorem b0_wf : b0.WF := ⟨by decide, by decide, by decide, by decide, by decide, by decide, by decide⟩
theorem c0_wf : c0.WF := ⟨by decide, by decide, by decide, by decide, by decide, by decide, by decide⟩

def fam : FecDec.Family := fun id => if id = 0 then some a0 else if id = 3 then some a3 else none

theorem fam0 : fam (a0.base / u32 a0.n) = some a0 := by
  show (if a0.base / u32 a0.n = 0 then some a0 else _) = some a0
  rw [if_pos (by decide)]

theorem fam3 : fam (a3.base / u32 a3.n) = some a3 := by
  show (if a3.base / u32 a3.n = 0 then some a0 else if a3.base / u32 a3.n = 3 then some a3 else none)
    = some a3
  rw [if_neg (by decide), if_pos (by decide)]

theorem gen0 (j : Nat) (hj : j < 3) : FecDec.GenuinePkt rsNew fam 2 1 (a0.packet rsNew j) :=
  ⟨a0, j, fam0, a0_wf, rfl, rfl, hj, rfl⟩

theorem gen3 (j : Nat) (hj : j < 3) : FecDec.GenuinePkt rsNew fam 2 1 (a3.packet rsNew j) :=
  ⟨a3, j, fam3, a3_wf, rfl, rfl, hj, rfl⟩

/-- groups 0 and 4: one more than `maxShardSets` apart -/
def famF : FecDec.Family := fun id => if id = 0 then some a0 else some a4

theorem genF0 (j : Nat) (hj : j < 3) : FecDec.GenuinePkt rsNew famF 2 1 (a0.packet rsNew j) :=
  ⟨a0, j, if_pos (by decide), a0_wf, rfl, rfl, hj, rfl⟩

theorem genF4 (j : Nat) (hj : j < 3) : FecDec.GenuinePkt rsNew famF 2 1 (a4.packet rsNew j) :=
  ⟨a4, j, if_neg (by decide), a4_wf, rfl, rfl, hj, rfl⟩

/-- the LAST 2/1 group before the id wrap: `paws = 2^32 − 1`, ids `paws − 3 … paws − 1`, shard id
    `L − 1 = 1431655764` -/
def z : Group := { d := 2, p := 1, base := 4294967292, payloads := [[1], [2, 3]] }

theorem z_wf : z.WF := ⟨by decide, by decide, by decide, by decide, by decide, by decide, by decide⟩

def famW : FecDec.Family :=
  fun id => if id = 0 then some a0 else if id = 1431655764 then some z else none

theorem famW0 : famW (a0.base / u32 a0.n) = some a0 := by
  show (if a0.base / u32 a0.n = 0 then some a0 else _) = some a0
  rw [if_pos (by decide)]

theorem famWz : famW (z.base / u32 z.n) = some z := by
  show (if z.base / u32 z.n = 0 then some a0
    else if z.base / u32 z.n = 1431655764 then some z else none) = some z
  rw [if_neg (by decide), if_pos (by decide)]

theorem genW0 (j : Nat) (hj : j < 3) : FecDec.GenuinePkt rsNew famW 2 1 (a0.packet rsNew j) :=
  ⟨a0, j, famW0, a0_wf, rfl, rfl, hj, rfl⟩

theorem genz (j : Nat) (hj : j < 3) : FecDec.GenuinePkt rsNew famW 2 1 (z.packet rsNew j) :=
  ⟨z, j, famWz, z_wf, rfl, rfl, hj, rfl⟩

end Example

end KcpVerif.Lemmas.FecHist

namespace KcpVerif.Lemmas.FecDec.Example
open KcpVerif.Fec KcpVerif.Lemmas.FecSpec KcpVerif.Lemmas.FecHist

example (C : CodecNew) (hC : Lawful C) (dec : Decoder) (h : Decoder.new C 2 1 = some dec) :
    ∀ r ∈ (feed C dec [exG.packet C 2, exG.packet C 2, exG.packet C 0, exG.packet C 1]).2,
      r = [5, 0, 1, 2, 3] ∨ r = [3, 0, 4, 0, 0] := by
  intro r hr
  obtain ⟨G, hg, _, _, _, _, k, hk, hrk, _⟩ := dec_sound hC exGrp 2 1 dec h
    [exG.packet C 2, exG.packet C 2, exG.packet C 0, exG.packet C 1] (by
      intro q hq
      simp only [List.mem_cons, List.mem_nil_iff, or_false] at hq
      rcases hq with rfl | rfl | rfl | rfl <;> exact exGenuine C _ (by decide)) r hr
  have hGe : G = exG := by
    unfold exGrp at hg
    split at hg
    · cases hg; rfl
    · cases hg
  subst hGe
  have hk2 : k = 0 ∨ k = 1 := by
    have : exG.d = 2 := rfl
    omega
  rcases hk2 with rfl | rfl
  · left; rw [hrk]; decide
  · right; rw [hrk]; decide

example (C : CodecNew) (hC : Lawful C) (dec : Decoder) (h : Decoder.new C 2 1 = some dec) :
    (feed C dec ([2, 1].map (exHigh.packet C))).2 = [[5, 0, 1, 2, 3]] := by
  rw [fresh_decoder_anywhere hC exHigh_wf dec h [2, 1] (by decide) (by decide) rfl]
  decide

example (C : CodecNew) (hC : Lawful C) (dec : Decoder) (h : Decoder.new C 2 1 = some dec) :
    ((feed C dec ([2, 1].map (exHigh.packet C))).2).map trim = [some [1, 2, 3]] := by
  rw [fresh_decoder_anywhere hC exHigh_wf dec h [2, 1] (by decide) (by decide) rfl, missing_trim exHigh_wf]
  decide

end KcpVerif.Lemmas.FecDec.Example
