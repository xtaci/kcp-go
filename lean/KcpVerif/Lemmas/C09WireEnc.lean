/-
C09 `wire_reassembles`: the two header encoders are the same function — `Kcp.encodeHdr` (over `KcpVerif.le32` of
Model/Wrap), which the core's `flush` writes, and `Wire.encodeSeg` (over `Wire.le32`), which the specification decoder
inverts.  A frame `Wire.Frm` (Lemmas/KcpWire.lean) is a `Wire.Seg` with `cmd`, `frg` as `BitVec 8` instead of `UInt8`;
`toSeg` bridges that.  The file never opens the namespace `Wire`: both `le32`s would be in scope.
-/
import KcpVerif.Lemmas.Wire
import KcpVerif.Lemmas.SysWire

namespace KcpVerif.C09W
open KcpVerif.Gen KcpVerif.Kcp

def toSeg (fr : Wire.Frm) : Wire.Seg :=
  { conv := fr.conv, cmd := UInt8.ofNat fr.cmd.toNat, frg := UInt8.ofNat fr.frg.toNat, wnd := fr.wnd, ts := fr.ts,
    sn := fr.sn, una := fr.una, data := fr.data }

/-- what the specification decoder must return for a frame: the 24-byte header and the payload -/
def specOf (fr : Wire.Frm) : Wire.SegHdr × Bytes := ((toSeg fr).hdr, fr.data)

theorem le32_agree (x : BitVec 32) : Wire.le32 x = KcpVerif.le32 x := rfl

theorem le16_agree (x : BitVec 16) : Wire.le16 x = KcpVerif.le16 x := rfl

theorem encoders_agree (conv : U32) (cmd frg : BitVec 8) (wnd : BitVec 16) (ts sn una : U32) (data : Bytes) :
    Wire.encodeSeg ⟨conv, UInt8.ofNat cmd.toNat, UInt8.ofNat frg.toNat, wnd, ts, sn, una, data⟩ =
      Kcp.encodeHdr conv cmd frg wnd ts sn una data.length := rfl

theorem encFrame_eq (fr : Wire.Frm) : Wire.encFrame fr = Wire.encodeSegFull (toSeg fr) := rfl

theorem encFrames_eq (frs : List Wire.Frm) : Wire.encFrames frs = Wire.encodeSegs (frs.map toSeg) := by
  induction frs with
  | nil => rfl
  | cons fr rest ih =>
    rw [SysW.encFrames_cons, ih, encFrame_eq, List.map_cons, Wire.encodeSegs_cons]
    rfl

/-- sequence numbers counted from 0: the `i`-th is `i` as long as the numbering has not wrapped -/
theorem toNat_zero_add_ofNat {i : Nat} (h : i < 2 ^ 32) : ((0 : U32) + BitVec.ofNat 32 i).toNat = i := by
  rw [BitVec.toNat_add, BitVec.toNat_ofNat, Nat.mod_eq_of_lt h]
  show (0 + i) % 2 ^ 32 = i
  rw [Nat.zero_add, Nat.mod_eq_of_lt h]

theorem u8_toNat_of_bv8 (c : BitVec 8) : (UInt8.ofNat c.toNat).toNat = c.toNat := by
  have := c.isLt
  simp only [UInt8.toNat_ofNat']
  omega

theorem toSeg_wf (fr : Wire.Frm) (hc : Live.validCmd fr.cmd) (hl : fr.data.length < 4294967296) : (toSeg fr).WF := by
  refine ⟨?_, hl⟩
  rw [Wire.cmdKnown_iff]
  show ((UInt8.ofNat fr.cmd.toNat).toNat == 81 || (UInt8.ofNat fr.cmd.toNat).toNat == 82
    || (UInt8.ofNat fr.cmd.toNat).toNat == 83 || (UInt8.ofNat fr.cmd.toNat).toNat == 84) = true
  rw [u8_toNat_of_bv8]
  unfold Live.validCmd IKCP_CMD_PUSH IKCP_CMD_ACK IKCP_CMD_WASK IKCP_CMD_WINS at hc
  rcases hc with h | h | h | h <;> simp [h]

theorem toSegs_wf (frs : List Wire.Frm) (hv : ∀ fr ∈ frs, Live.validCmd fr.cmd ∧ fr.data.length < 4294967296) :
    ∀ s ∈ frs.map toSeg, s.WF := by
  intro s hs
  obtain ⟨fr, hfr, rfl⟩ := List.mem_map.mp hs
  exact toSeg_wf fr (hv fr hfr).1 (hv fr hfr).2

theorem decode_encFrames (frs : List Wire.Frm) (hne : frs ≠ [])
    (hv : ∀ fr ∈ frs, Live.validCmd fr.cmd ∧ fr.data.length < 4294967296) :
    Wire.Spec.decode (Wire.encFrames frs) = some (frs.map specOf) := by
  rw [encFrames_eq, Wire.decode_encodeSegs (frs.map toSeg) (by simpa using hne) (toSegs_wf frs hv), List.map_map]
  rfl

def segsLen (l : List (Wire.SegHdr × Bytes)) : Nat := (l.map fun x => IKCP_OVERHEAD + x.2.length).sum

theorem encFrames_length (frs : List Wire.Frm) : (Wire.encFrames frs).length = segsLen (frs.map specOf) := by
  induction frs with
  | nil => rfl
  | cons fr rest ih =>
    rw [SysW.encFrames_cons, List.length_append, ih, SysW.encFrame_length]
    simp [segsLen, specOf]

end KcpVerif.C09W
