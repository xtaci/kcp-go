/-
`Decoder.decode` of `Model/Fec` taken apart once, for every file about the decoder: the guards
(`decode_cases`), the part behind them in terms of the packets `held` for a shard id and of the
horizon (`place_eq`), the shard sets, `pawsOf`, the signed comparison.  The declarations are in the
namespaces `FecHist` (`sidOf`, `nextNewest`, `horizonOf`, `age`, `alive`, `run`) and `FecDec` (the rest).
-/
import KcpVerif.Model.Fec
import KcpVerif.Lemmas.Serial
import KcpVerif.Lemmas.Fold

namespace KcpVerif.Lemmas.FecHist
open KcpVerif.Fec KcpVerif.Gen KcpVerif.AutoTune

/-- `getShardId(in.seqid())` -/
def sidOf (n : Nat) (q : Bytes) : BitVec 32 := seqid q / u32 n

/-- `newestShardId` after a packet of shard id `sid` has been placed; `cur = none` when no shard set
    exists (the horizon is then anchored at this packet) -/
def nextNewest (n : Nat) (cur : Option (BitVec 32)) (sid : BitVec 32) : BitVec 32 :=
  match cur with
  | none => sid
  | some nw => if itimediff (sid * u32 n) (nw * u32 n) > 0 then sid else nw

def horizonOf (dec : Decoder) : Option (BitVec 32) :=
  if dec.sets.isEmpty then none else some dec.newest

/-- `_itimediff(newestShardId*shardSize, shardId*shardSize)` -/
def age (n : Nat) (nw id : BitVec 32) : Int := itimediff (nw * u32 n) (id * u32 n)

/-- `discardShards` keeps the shard set `id` iff `0 ≤ age ≤ maxShardSets·n`; `maxShardSets = 3`
    (fec.go:58) comes through `Generated` -/
def alive (n : Nat) (nw id : BitVec 32) : Bool :=
  decide (0 ≤ age n nw id) && decide (age n nw id ≤ ((maxShardSets * n : Nat) : Int))

def run (C : CodecNew) (dec : Decoder) (pkts : List Bytes) : Decoder :=
  pkts.foldl (fun st q => (st.decode C q).st) dec

theorem run_nil (C : CodecNew) (dec : Decoder) : run C dec [] = dec := rfl

theorem run_cons (C : CodecNew) (dec : Decoder) (q : Bytes) (rest : List Bytes) :
    run C dec (q :: rest) = run C (dec.decode C q).st rest := rfl

theorem run_append (C : CodecNew) (dec : Decoder) (a b : List Bytes) :
    run C dec (a ++ b) = run C (run C dec a) b := by
  unfold run; rw [List.foldl_append]

theorem run_take_succ (C : CodecNew) (dec : Decoder) (pkts : List Bytes) (j : Nat)
    (hj : j < pkts.length) :
    run C dec (pkts.take (j + 1)) = ((run C dec (pkts.take j)).decode C pkts[j]).st := by
  rw [List.take_succ_eq_append_getElem hj, run_append]
  rfl

theorem run_take_add (C : CodecNew) (dec : Decoder) (pkts : List Bytes) (a b : Nat) :
    run C dec (pkts.take (a + b)) = run C (run C dec (pkts.take a)) ((pkts.drop a).take b) := by
  rw [List.take_add, run_append]

/-- what `newFECDecoder(d, p)` returns for an accepted ratio -/
def Example.fresh (C : CodecNew) (d p : Nat) : Decoder :=
  { d := d, p := p, n := d + p, paws := pawsOf (d + p), newest := 0, shouldTune := false,
    tune := Tune.init, sets := [], codec := C d p }

end KcpVerif.Lemmas.FecHist

namespace KcpVerif.Lemmas.FecDec
open KcpVerif.Fec KcpVerif.Gen KcpVerif.AutoTune KcpVerif.Lemmas.FecHist

/-- the part of `Decoder.decode` behind the three guards (short packet, id ≥ paws, retune) -/
def place (dec1 : Decoder) (inp : Bytes) : DecOut :=
  let seq := seqid inp
  let shardId := seq / u32 dec1.n
  let base := if dec1.sets.isEmpty then shardId else dec1.newest
  let set := (lookup shardId dec1.sets).getD { id := shardId, pkts := [] }
  if set.pkts.any (fun q => seqid q == seq) then { st := { dec1 with newest := base }, recovered := [] }
  else
    let pkts := set.pkts ++ [inp]
    let full := decide (pkts.length ≥ dec1.d)
    let recovered := if full then recover dec1 pkts else []
    let sets := store { id := shardId, pkts := if full then [] else pkts } dec1.sets
    let newest :=
      if itimediff (shardId * u32 dec1.n) (base * u32 dec1.n) > 0 then shardId else base
    { st := { dec1 with sets := discard dec1.n newest sets, newest := newest }, recovered := recovered,
      panic := decide (inp.length > mtuLimit) || (full && recoverPanics dec1 pkts) }

/-- `dec` after the `Sample` call of `decode` -/
def sampled (dec : Decoder) (inp : Bytes) : Decoder :=
  { dec with tune := dec.tune.sample (flag inp == typeData) (seqid inp) }

theorem decode_eq (C : CodecNew) (dec : Decoder) (inp : Bytes) :
    dec.decode C inp =
      if inp.length < fecHeaderSize then { st := dec, recovered := [], panic := true }
      else if (seqid inp).toNat ≥ (sampled dec inp).paws.toNat then
        { st := sampled dec inp, recovered := [] }
      else if (mismatch (sampled dec inp) inp || (sampled dec inp).shouldTune) = true then
        { st := retune C (sampled dec inp) (seqid inp), recovered := [] }
      else place (sampled dec inp) inp := rfl

theorem decode_cases (C : CodecNew) (dec : Decoder) (inp : Bytes) :
    (inp.length < fecHeaderSize ∧ dec.decode C inp = { st := dec, recovered := [], panic := true }) ∨
    (fecHeaderSize ≤ inp.length ∧ dec.paws.toNat ≤ (seqid inp).toNat ∧
      dec.decode C inp = { st := sampled dec inp, recovered := [] }) ∨
    (fecHeaderSize ≤ inp.length ∧ (seqid inp).toNat < dec.paws.toNat ∧
      (mismatch dec inp || dec.shouldTune) = true ∧
      dec.decode C inp = { st := retune C (sampled dec inp) (seqid inp), recovered := [] }) ∨
    (fecHeaderSize ≤ inp.length ∧ (seqid inp).toNat < dec.paws.toNat ∧
      (mismatch dec inp || dec.shouldTune) = false ∧
      dec.decode C inp = place (sampled dec inp) inp) := by
  rw [decode_eq]
  by_cases h1 : inp.length < fecHeaderSize
  · exact Or.inl ⟨h1, if_pos h1⟩
  · by_cases h2 : (seqid inp).toNat ≥ (sampled dec inp).paws.toNat
    · exact Or.inr (Or.inl ⟨Nat.le_of_not_lt h1, h2, (if_neg h1).trans (if_pos h2)⟩)
    · by_cases h3 : (mismatch (sampled dec inp) inp || (sampled dec inp).shouldTune) = true
      · exact Or.inr (Or.inr (Or.inl ⟨Nat.le_of_not_lt h1, Nat.lt_of_not_le h2, h3,
          (if_neg h1).trans ((if_neg h2).trans (if_pos h3))⟩))
      · exact Or.inr (Or.inr (Or.inr ⟨Nat.le_of_not_lt h1, Nat.lt_of_not_le h2,
          Bool.eq_false_iff.2 h3, (if_neg h1).trans ((if_neg h2).trans (if_neg h3))⟩))

def held (sid : BitVec 32) (dec : Decoder) : List Bytes :=
  ((lookup sid dec.sets).getD { id := sid, pkts := [] }).pkts

theorem itimediff_self (x : BitVec 32) : itimediff x x = 0 := by
  simp [itimediff]

/-- `n`, `d` are the decoder's shard size and data count under the caller's names: rewriting
    `dec1.n` afterwards would also rewrite the fields of the record -/
theorem place_eq (dec1 : Decoder) (inp : Bytes) {n d : Nat} (hn : dec1.n = n) (hd : dec1.d = d) :
    place dec1 inp =
      if (held (sidOf n inp) dec1).any (fun q => seqid q == seqid inp) then
        { st := { dec1 with newest := (horizonOf dec1).getD (sidOf n inp) }, recovered := [] }
      else
        { st := { dec1 with
                  sets := discard n (nextNewest n (horizonOf dec1) (sidOf n inp))
                    (store ⟨sidOf n inp,
                      if (held (sidOf n inp) dec1).length + 1 ≥ d then []
                      else held (sidOf n inp) dec1 ++ [inp]⟩ dec1.sets),
                  newest := nextNewest n (horizonOf dec1) (sidOf n inp) },
          recovered := if (held (sidOf n inp) dec1).length + 1 ≥ d
            then recover dec1 (held (sidOf n inp) dec1 ++ [inp]) else [],
          panic := decide (inp.length > mtuLimit) ||
            (decide ((held (sidOf n inp) dec1).length + 1 ≥ d) &&
              recoverPanics dec1 (held (sidOf n inp) dec1 ++ [inp])) } := by
  subst hn hd
  unfold place held horizonOf nextNewest sidOf
  cases dec1.sets.isEmpty with
  | true =>
    -- no set: the base is the packet's own id, and the id compared with itself is not ahead
    simp only [↓reduceIte, Option.getD_none, ite_self, List.length_append, List.length_singleton,
      decide_eq_true_eq]
  | false =>
    -- the base is `newest`: both sides are the same `if`
    simp only [Bool.false_eq_true, ↓reduceIte, Option.getD_some, List.length_append,
      List.length_singleton, decide_eq_true_eq]

/-- a fact about `decode` is proved branch by branch, each under its guards -/
theorem decode_ind (C : CodecNew) (dec : Decoder) (inp : Bytes) {P : DecOut → Prop}
    (short : inp.length < fecHeaderSize → P { st := dec, recovered := [], panic := true })
    (drop : fecHeaderSize ≤ inp.length → dec.paws.toNat ≤ (seqid inp).toNat →
      P { st := sampled dec inp, recovered := [] })
    (tune : fecHeaderSize ≤ inp.length → (seqid inp).toNat < dec.paws.toNat →
      (mismatch dec inp || dec.shouldTune) = true →
      P { st := retune C (sampled dec inp) (seqid inp), recovered := [] })
    (place : fecHeaderSize ≤ inp.length → (seqid inp).toNat < dec.paws.toNat →
      (mismatch dec inp || dec.shouldTune) = false → P (place (sampled dec inp) inp)) :
    P (dec.decode C inp) := by
  rcases decode_cases C dec inp with ⟨h, e⟩ | ⟨h1, h2, e⟩ | ⟨h1, h2, h3, e⟩ | ⟨h1, h2, h3, e⟩
  · rw [e]; exact short h
  · rw [e]; exact drop h1 h2
  · rw [e]; exact tune h1 h2 h3
  · rw [e]; exact place h1 h2 h3

/-- the three ways through the tuning branch: no valid period, the decoder's own ratio, a new ratio -/
theorem retune_cases (C : CodecNew) (dec : Decoder) (seq : BitVec 32) :
    (¬ (0 < dec.tune.findPeriod true ∧ 0 < dec.tune.findPeriod false ∧
          dec.tune.findPeriod true + dec.tune.findPeriod false < 256) ∧
      retune C dec seq = { dec with shouldTune := true }) ∨
    ((0 < dec.tune.findPeriod true ∧ 0 < dec.tune.findPeriod false ∧
          dec.tune.findPeriod true + dec.tune.findPeriod false < 256) ∧
      ((dec.tune.findPeriod true = dec.d ∧ dec.tune.findPeriod false = dec.p ∧
          retune C dec seq = { dec with shouldTune := false }) ∨
       ((dec.tune.findPeriod true ≠ dec.d ∨ dec.tune.findPeriod false ≠ dec.p) ∧
          retune C dec seq =
            { dec with d := (dec.tune.findPeriod true).toNat, p := (dec.tune.findPeriod false).toNat,
                       n := (dec.tune.findPeriod true).toNat + (dec.tune.findPeriod false).toNat,
                       paws := pawsOf ((dec.tune.findPeriod true).toNat + (dec.tune.findPeriod false).toNat),
                       sets := [],
                       codec := C (dec.tune.findPeriod true).toNat (dec.tune.findPeriod false).toNat,
                       shouldTune := false,
                       newest := seq / u32 ((dec.tune.findPeriod true).toNat +
                         (dec.tune.findPeriod false).toNat) }))) := by
  unfold retune
  dsimp only
  by_cases hv : 0 < dec.tune.findPeriod true ∧ 0 < dec.tune.findPeriod false ∧
      dec.tune.findPeriod true + dec.tune.findPeriod false < 256
  · rw [if_pos hv]
    refine Or.inr ⟨hv, ?_⟩
    by_cases hne : dec.tune.findPeriod true ≠ dec.d ∨ dec.tune.findPeriod false ≠ dec.p
    · rw [if_pos hne]; exact Or.inr ⟨hne, rfl⟩
    · rw [if_neg hne]
      exact Or.inl ⟨Decidable.not_not.mp fun h => hne (Or.inl h),
        Decidable.not_not.mp fun h => hne (Or.inr h), rfl⟩
  · rw [if_neg hv]; exact Or.inl ⟨hv, rfl⟩

theorem retune_tune (C : CodecNew) (dec : Decoder) (seq : BitVec 32) :
    (retune C dec seq).tune = dec.tune := by
  rcases retune_cases C dec seq with ⟨_, e⟩ | ⟨_, ⟨_, _, e⟩ | ⟨_, e⟩⟩ <;> rw [e]

/-- the auto-tune ring sees every packet that carries a header -/
theorem decode_tune (C : CodecNew) (dec : Decoder) (q : Bytes) (hlen : fecHeaderSize ≤ q.length) :
    (dec.decode C q).st.tune = dec.tune.sample (flag q == typeData) (seqid q) := by
  refine decode_ind C dec q (P := fun o => o.st.tune = dec.tune.sample (flag q == typeData) (seqid q))
    (fun h => absurd hlen (Nat.not_le.2 h)) (fun _ _ => rfl) (fun _ _ _ => retune_tune ..) (fun _ _ _ => ?_)
  rw [place_eq _ _ rfl rfl]
  split <;> rfl

theorem mismatch_eq_false {dec : Decoder} {inp : Bytes}
    (h : (posOf dec.n inp < dec.d ∧ flag inp = typeData) ∨
      (¬ posOf dec.n inp < dec.d ∧ flag inp = typeParity)) : mismatch dec inp = false := by
  unfold mismatch
  rcases h with ⟨h1, h2⟩ | ⟨h1, h2⟩
  · rw [if_pos h1, h2]; rfl
  · rw [if_neg h1, h2]; rfl

theorem mismatch_eq_true {dec : Decoder} {inp : Bytes}
    (h : ¬ ((posOf dec.n inp < dec.d ∧ flag inp = typeData) ∨
      (¬ posOf dec.n inp < dec.d ∧ flag inp = typeParity)))
    (hf : flag inp = typeData ∨ flag inp = typeParity) : mismatch dec inp = true := by
  unfold mismatch
  by_cases h1 : posOf dec.n inp < dec.d
  · rw [if_pos h1]
    rcases hf with hf | hf
    · exact absurd (Or.inl ⟨h1, hf⟩) h
    · rw [hf]; rfl
  · rw [if_neg h1]
    rcases hf with hf | hf
    · rw [hf]; rfl
    · exact absurd (Or.inr ⟨h1, hf⟩) h

theorem decode_keeps (C : CodecNew) (dec : Decoder) (inp : Bytes)
    (h : (mismatch dec inp || dec.shouldTune) = false) :
    (dec.decode C inp).st.d = dec.d ∧ (dec.decode C inp).st.p = dec.p ∧
    (dec.decode C inp).st.n = dec.n ∧ (dec.decode C inp).st.paws = dec.paws ∧
    (dec.decode C inp).st.codec = dec.codec ∧
    (dec.decode C inp).st.shouldTune = dec.shouldTune := by
  refine decode_ind C dec inp (P := fun o => o.st.d = dec.d ∧ o.st.p = dec.p ∧ o.st.n = dec.n ∧
      o.st.paws = dec.paws ∧ o.st.codec = dec.codec ∧ o.st.shouldTune = dec.shouldTune)
    (fun _ => ⟨rfl, rfl, rfl, rfl, rfl, rfl⟩) (fun _ _ => ⟨rfl, rfl, rfl, rfl, rfl, rfl⟩)
    (fun _ _ h3 => Bool.noConfusion (h3.symm.trans h)) (fun _ _ _ => ?_)
  rw [place_eq _ _ rfl rfl]
  split <;> exact ⟨rfl, rfl, rfl, rfl, rfl, rfl⟩

/-! `Decoder.new`, `held` and `horizonOf` through their lemmas -/

theorem Decoder.new_eq (C : CodecNew) (d p : Nat) (dec : Decoder) :
    Decoder.new C d p = some dec ↔ (0 < d ∧ 0 < p ∧ d + p ≤ 256) ∧ dec = Example.fresh C d p := by
  unfold Decoder.new
  by_cases hc : d = 0 ∨ p = 0 ∨ d + p > 256
  · rw [if_pos hc]
    exact ⟨fun h => (by cases h), fun h => absurd h.1 (by omega)⟩
  · rw [if_neg hc]
    exact ⟨fun h => ⟨by omega, (Option.some.inj h).symm⟩, fun h => h.2 ▸ rfl⟩

theorem horizonOf_fresh (C : CodecNew) (d p : Nat) : horizonOf (Example.fresh C d p) = none := rfl

theorem held_fresh (C : CodecNew) (d p : Nat) (g : BitVec 32) : held g (Example.fresh C d p) = [] := rfl

theorem horizonOf_of_mem {dec : Decoder} {s : ShardSet} (h : s ∈ dec.sets) :
    horizonOf dec = some dec.newest := by
  unfold horizonOf
  cases hd : dec.sets with
  | nil => rw [hd] at h; cases h
  | cons _ _ => rfl

/-- the `uint16(len(...))` of the size field (fec.go, `fecEncoder.encode`) never truncates -/
theorem mtuLimit_lt_65536 : mtuLimit < 65536 := by decide

theorem maxBody_eq : ∀ (pkts : List Bytes),
    maxBody pkts = (pkts.map fun q => (body q).length).foldr max 0
  | [] => rfl
  | q :: rest => by rw [maxBody, List.map_cons, List.foldr_cons, maxBody_eq rest]

theorem maxBody_le (L : Nat) (pkts : List Bytes) (h : ∀ q ∈ pkts, (body q).length ≤ L) :
    maxBody pkts ≤ L := by
  rw [maxBody_eq]
  apply foldr_max_le
  intro x hx
  obtain ⟨q, hq, rfl⟩ := List.mem_map.1 hx
  exact h q hq

theorem le_maxBody (pkts : List Bytes) (q : Bytes) (h : q ∈ pkts) :
    (body q).length ≤ maxBody pkts := by
  rw [maxBody_eq]
  exact le_foldr_max _ _ (List.mem_map.2 ⟨q, h, rfl⟩)

theorem maxBody_bound (pkts : List Bytes) (h : ∀ q ∈ pkts, q.length ≤ mtuLimit) :
    maxBody pkts + fecHeaderSize ≤ mtuLimit := by
  have := maxBody_le (mtuLimit - fecHeaderSize) pkts (fun q hq => by
    have := h q hq
    simp only [body, List.length_drop]
    omega)
  have : fecHeaderSize ≤ mtuLimit := by decide
  omega

theorem recoverPanics_false (dec : Decoder) (pkts : List Bytes) (h : ∀ q ∈ pkts, q.length ≤ mtuLimit) :
    recoverPanics dec pkts = false := by
  have := maxBody_bound pkts h
  unfold recoverPanics
  rw [Bool.and_eq_false_iff]
  right
  simp only [decide_eq_false_iff_not, gt_iff_lt, Nat.not_lt]
  exact this

theorem lookup_some (id : BitVec 32) (s : ShardSet) :
    ∀ (l : List ShardSet), lookup id l = some s → s ∈ l ∧ s.id = id := by
  intro l
  induction l with
  | nil => intro h; cases h
  | cons t rest ih =>
    intro h
    simp only [lookup] at h
    split at h
    · rename_i ht
      cases h
      exact ⟨List.mem_cons_self .., by simpa using ht⟩
    · obtain ⟨h1, h2⟩ := ih h
      exact ⟨List.mem_cons_of_mem _ h1, h2⟩

theorem held_cases (g : BitVec 32) (dec : Decoder) :
    (lookup g dec.sets = none ∧ held g dec = []) ∨
    ∃ s ∈ dec.sets, s.id = g ∧ held g dec = s.pkts := by
  unfold held
  cases hl : lookup g dec.sets with
  | none => exact Or.inl ⟨rfl, rfl⟩
  | some s => exact Or.inr ⟨s, (lookup_some _ _ _ hl).1, (lookup_some _ _ _ hl).2, rfl⟩

theorem horizonOf_of_held {g : BitVec 32} {dec : Decoder} (h : held g dec ≠ []) :
    horizonOf dec = some dec.newest := by
  rcases held_cases g dec with ⟨_, e⟩ | ⟨s, hs, _, _⟩
  · exact absurd e h
  · exact horizonOf_of_mem hs

theorem mem_store (s x : ShardSet) : ∀ (l : List ShardSet), x ∈ store s l → x = s ∨ x ∈ l := by
  intro l
  induction l with
  | nil => intro h; simp only [store, List.mem_singleton] at h; exact Or.inl h
  | cons t rest ih =>
    intro h
    simp only [store] at h
    split at h
    · rcases List.mem_cons.1 h with h | h
      · exact Or.inl h
      · exact Or.inr (List.mem_cons_of_mem _ h)
    · rcases List.mem_cons.1 h with h | h
      · exact Or.inr (h ▸ List.mem_cons_self ..)
      · rcases ih h with h | h
        · exact Or.inl h
        · exact Or.inr (List.mem_cons_of_mem _ h)

theorem store_distinct (s : ShardSet) : ∀ (l : List ShardSet),
    l.Pairwise (fun a b => a.id ≠ b.id) → (store s l).Pairwise (fun a b => a.id ≠ b.id) := by
  intro l
  induction l with
  | nil => intro _; simp [store]
  | cons t rest ih =>
    intro h
    rw [List.pairwise_cons] at h
    simp only [store]
    split
    · rename_i ht
      have ht : t.id = s.id := by simpa using ht
      rw [List.pairwise_cons]
      exact ⟨fun x hx => ht ▸ h.1 x hx, h.2⟩
    · rename_i ht
      have ht : t.id ≠ s.id := by simpa using ht
      rw [List.pairwise_cons]
      refine ⟨?_, ih h.2⟩
      intro x hx
      rcases mem_store s x rest hx with hx | hx
      · rw [hx]; exact ht
      · exact h.1 x hx

theorem lookup_store (id : BitVec 32) (pk : List Bytes) :
    ∀ (l : List ShardSet), lookup id (store ⟨id, pk⟩ l) = some ⟨id, pk⟩ := by
  intro l
  induction l with
  | nil => simp [store, lookup]
  | cons t rest ih =>
    simp only [store]
    cases ht : (t.id == id) with
    | true => simp only [if_true, lookup, beq_self_eq_true]
    | false => simp only [Bool.false_eq_true, if_false, lookup, ht]; exact ih

theorem lookup_store_ne (g : BitVec 32) (s : ShardSet) (h : s.id ≠ g) :
    ∀ (l : List ShardSet), lookup g (store s l) = lookup g l := by
  intro l
  induction l with
  | nil =>
    have : (s.id == g) = false := by simpa using h
    simp [store, lookup, this]
  | cons t rest ih =>
    simp only [store]
    cases ht : (t.id == s.id) with
    | true =>
      have hts : t.id = s.id := by simpa using ht
      have h1 : (s.id == g) = false := by simpa using h
      have h2 : (t.id == g) = false := by rw [hts]; exact h1
      simp only [if_true, lookup, h1, h2, Bool.false_eq_true, if_false]
    | false =>
      simp only [Bool.false_eq_true, if_false, lookup]
      rw [ih]

theorem mem_store_self (s : ShardSet) (l : List ShardSet) : s ∈ store s l :=
  (lookup_some s.id s _ (lookup_store s.id s.pkts l)).1

theorem mem_store_of_mem (s x : ShardSet) (hne : x.id ≠ s.id) :
    ∀ (l : List ShardSet), x ∈ l → x ∈ store s l := by
  intro l
  induction l with
  | nil => intro h; cases h
  | cons t rest ih =>
    intro h
    simp only [store]
    split
    · rename_i ht
      have ht : t.id = s.id := by simpa using ht
      rcases List.mem_cons.1 h with h | h
      · exact absurd (h ▸ ht) hne
      · exact List.mem_cons_of_mem _ h
    · rcases List.mem_cons.1 h with h | h
      · exact h ▸ List.mem_cons_self ..
      · exact List.mem_cons_of_mem _ (ih h)

theorem alive_iff (n : Nat) (nw id : BitVec 32) :
    alive n nw id = true ↔ 0 ≤ itimediff (nw * u32 n) (id * u32 n) ∧
      itimediff (nw * u32 n) (id * u32 n) ≤ ((maxShardSets * n : Nat) : Int) := by
  unfold alive age
  rw [Bool.and_eq_true, decide_eq_true_eq, decide_eq_true_eq]

theorem discard_eq_filter (n : Nat) (nw : BitVec 32) (sets : List ShardSet) :
    discard n nw sets = sets.filter (fun s => alive n nw s.id) := by
  unfold Fec.discard
  apply List.filter_congr
  intro s _
  -- "not too old and not negative" is "between 0 and the bound"
  unfold alive age
  rw [Bool.eq_iff_iff]
  simp only [Bool.not_eq_true', Bool.or_eq_false_iff, decide_eq_false_iff_not, Bool.and_eq_true,
    decide_eq_true_eq, gt_iff_lt, Int.not_lt]
  exact ⟨fun ⟨h1, h2⟩ => ⟨h2, h1⟩, fun ⟨h1, h2⟩ => ⟨h2, h1⟩⟩

theorem mem_discard_iff (n : Nat) (nw : BitVec 32) (sets : List ShardSet) (s : ShardSet) :
    s ∈ discard n nw sets ↔ s ∈ sets ∧ alive n nw s.id = true := by
  rw [discard_eq_filter, List.mem_filter]

theorem discard_distinct (n : Nat) (nw : BitVec 32) (l : List ShardSet)
    (h : l.Pairwise (fun a b => a.id ≠ b.id)) :
    (discard n nw l).Pairwise (fun a b => a.id ≠ b.id) := by
  unfold Fec.discard
  exact h.filter _

theorem lookup_filter_id (id : BitVec 32) (p : BitVec 32 → Bool) :
    ∀ (l : List ShardSet),
      lookup id (l.filter (fun s => p s.id)) = if p id then lookup id l else none := by
  intro l
  induction l with
  | nil => simp [lookup]
  | cons t rest ih =>
    cases ht : (t.id == id) with
    | true =>
      have hid : t.id = id := by simpa using ht
      cases hp : p id with
      | true =>
        have : p t.id = true := by rw [hid]; exact hp
        simp only [List.filter_cons, this, if_true, lookup, ht]
      | false =>
        have : p t.id = false := by rw [hid]; exact hp
        simp only [List.filter_cons, this, Bool.false_eq_true, if_false]
        rw [ih, hp]; rfl
    | false =>
      cases hpt : p t.id with
      | true => simp only [List.filter_cons, hpt, if_true, lookup, ht, Bool.false_eq_true, if_false]; exact ih
      | false => simp only [List.filter_cons, hpt, Bool.false_eq_true, if_false, lookup, ht]; exact ih

theorem lookup_discard (n : Nat) (nw g : BitVec 32) (sets : List ShardSet) :
    lookup g (discard n nw sets) = if alive n nw g then lookup g sets else none := by
  rw [discard_eq_filter]
  exact lookup_filter_id g (alive n nw) sets

theorem age_self (n : Nat) (x : BitVec 32) : age n x x = 0 := itimediff_self _

theorem alive_self (n : Nat) (x : BitVec 32) : alive n x x = true := by
  unfold alive
  rw [age_self, decide_eq_true (Int.le_refl 0), decide_eq_true (Int.natCast_nonneg _)]
  rfl

/-- `0 ≤ int32(a − b)` implies `int32(b − a) ≤ 0` -/
theorem not_ahead_of_alive (n : Nat) (nw id : BitVec 32) (h : alive n nw id = true) :
    ¬ (itimediff (id * u32 n) (nw * u32 n) > 0) := by
  unfold alive age at h
  simp only [Bool.and_eq_true, decide_eq_true_eq] at h
  have h0 := h.1
  unfold itimediff at h0 ⊢
  generalize nw * u32 n = a at h0 ⊢
  generalize id * u32 n = b at h0 ⊢
  simp only [BitVec.toInt_eq_toNat_cond, BitVec.toNat_sub] at h0 ⊢
  have := a.isLt
  have := b.isLt
  split at h0 <;> split <;> omega

theorem nextNewest_of_alive (n : Nat) (nw g : BitVec 32) (h : alive n nw g = true) :
    nextNewest n (some nw) g = nw :=
  if_neg (not_ahead_of_alive n nw g h)

theorem u32_toNat {n : Nat} (hn : n ≤ 256) : (u32 n).toNat = n := by
  simp only [u32, BitVec.toNat_ofNat]; omega

theorem mul_u32 {n : Nat} (hn : n ≤ 256) (x : BitVec 32) (h : x.toNat * n < 2 ^ 32) :
    (x * u32 n).toNat = x.toNat * n := by
  rw [BitVec.toNat_mul, u32_toNat hn, Nat.mod_eq_of_lt h]

theorem pawsOf_toNat (n : Nat) : (pawsOf n).toNat = 0xffffffff / n * n := by
  have h := Nat.div_mul_le_self 0xffffffff n
  simp only [pawsOf, BitVec.toNat_ofNat]
  omega

theorem paws_multiple (n : Nat) : (pawsOf n).toNat % n = 0 := by
  rw [pawsOf_toNat n]; exact Nat.mul_mod_left _ _

theorem paws_lt (n : Nat) : (pawsOf n).toNat < 2 ^ 32 := (pawsOf n).isLt

theorem paws_gap {n : Nat} (hn : 0 < n) : 2 ^ 32 - (pawsOf n).toNat ≤ n := by
  rw [pawsOf_toNat n]
  have h1 := Nat.div_add_mod 0xffffffff n
  have h2 := Nat.mod_lt 0xffffffff hn
  rw [Nat.mul_comm] at h1
  omega

theorem paws_pos {n : Nat} (hn : 0 < n) (hn' : n ≤ 256) : n ≤ (pawsOf n).toNat := by
  have := paws_gap hn
  omega

theorem paws_large {n : Nat} (hn : 0 < n) (hn' : n ≤ 256) : 2 ^ 32 - 256 ≤ (pawsOf n).toNat := by
  have := paws_gap hn
  omega

theorem rep_mul {n : Nat} (hn : n ≤ 256) (x : BitVec 32) (h : x.toNat * n < 2 ^ 32) :
    Serial.Rep (x * u32 n) ((x.toNat * n : Nat) : Int) :=
  mul_u32 hn x h ▸ Serial.Rep.self (x * u32 n)

theorem rep_wrap {a : BitVec 32} {z : Int} (h : Serial.Rep a z) : Serial.Rep a (z - 2 ^ 32) := by
  unfold Serial.Rep at h ⊢; omega

/-- `Serial.toInt_sub_rep` for the `_itimediff` of `Model/AutoTune` -/
theorem itimediff_coord {a b : BitVec 32} {za zb : Int} (ha : Serial.Rep a za) (hb : Serial.Rep b zb)
    (h1 : -2 ^ 31 ≤ za - zb) (h2 : za - zb < 2 ^ 31) : itimediff a b = za - zb :=
  Serial.toInt_sub_rep ha hb h1 h2

end KcpVerif.Lemmas.FecDec

namespace KcpVerif.Lemmas.FecHist
open KcpVerif.Fec

theorem lookup_of_mem (g : BitVec 32) : ∀ (l : List ShardSet) (s : ShardSet), s ∈ l → s.id = g →
    lookup g l ≠ none := by
  intro l
  induction l with
  | nil => intro s h; cases h
  | cons t rest ih =>
    intro s hs hid
    simp only [lookup]
    split
    · simp
    · rename_i ht
      rcases List.mem_cons.1 hs with h | h
      · subst h; simp [hid] at ht
      · exact ih s h hid

end KcpVerif.Lemmas.FecHist
