import KcpVerif.Lemmas.SessIn
/-!
The listener for any session state `σ`, object by object.  `Fate` lists all that one `Listener.packetInput`
can do to the object at an index.  Under `WF` and its converse `WF2` the table is determined by the objects.
Seen from one session the listener is the one-session machine `sessOf`: the object after a history is a
function of the object before and of the events that concern it (`lrun_obj`, behind `C11_no_cross_stall`).
-/
namespace KcpVerif.C11Iso
open KcpVerif.Gen KcpVerif.SessIn

variable {σ : Type}

theorem closeSess_obj (w : World σ) (l : Listener σ) (id j : Nat) (o' : Sess σ)
    (h : (closeSess w l id).objs[j]? = some o') :
    l.objs[j]? = some o' ∨
    (j = id ∧ ∃ o, l.objs[id]? = some o ∧ o.closed = false ∧ o' = { o with st := w.closeFx o.st, closed := true }) := by
  rcases closeSess_cases w l id with e | ⟨o, ho, hc, e⟩ <;> rw [e] at h
  · exact Or.inl h
  · rcases modifyAt_get h with ⟨_, h1⟩ | ⟨hj, x, hx, e'⟩
    · exact Or.inl h1
    · rw [ho] at hx; cases hx
      exact Or.inr ⟨hj, o, ho, hc, e'⟩

theorem tryCreateD_obj (w : World σ) (l : Listener σ) (dead : Bool) (p : Bytes) (a : String) (h : Hdr)
    (old : Option Nat) (j : Nat) (o' : Sess σ) (hj : (tryCreateD w l dead p a h old).l.objs[j]? = some o') :
    l.objs[j]? = some o' ∨
    (j = l.objs.length ∧ h.hasConv = true ∧ l.accepts.length < acceptBacklog ∧
      o' = { conv := h.conv, addr := a, st := w.kcpInput (w.init h.conv) p, closed := false }) := by
  rcases tryCreateD_cases w l dead p a h old with ⟨_, e⟩ | ⟨_, _, e⟩ | ⟨hc, hr, _, e⟩ <;> rw [e] at hj
  · exact Or.inl hj
  · exact Or.inl hj
  · rcases getElem?_snoc hj with h1 | ⟨h1, e'⟩
    · exact Or.inl h1
    · exact Or.inr ⟨h1, hc, hr, e'⟩

/-- fed / closed / fresh: what a datagram from `a` can do to the object at `j`, other than nothing -/
def Fate (w : World σ) (l : Listener σ) (p : Bytes) (a : String) (h : Hdr) (j : Nat) (o' : Sess σ) : Prop :=
  (∃ o, l.objs[j]? = some o ∧ lookup l.table a = some j ∧ (h.hasConv = false ∨ h.conv = o.conv) ∧
      o' = { o with st := w.kcpInput o.st p }) ∨
  (∃ o, l.objs[j]? = some o ∧ lookup l.table a = some j ∧ o.closed = false ∧ h.hasConv = true ∧ h.conv ≠ o.conv ∧
      h.sn = 0 ∧ o' = { o with st := w.closeFx o.st, closed := true }) ∨
  (j = l.objs.length ∧ h.hasConv = true ∧ l.accepts.length < acceptBacklog ∧
      o' = { conv := h.conv, addr := a, st := w.kcpInput (w.init h.conv) p, closed := false })

/-- what `Listener.packetInput` makes of a datagram: dropped before the header switch (too short), or
conversation `c` -/
def GenuineHdr (c : BitVec 32) (d : Bytes) : Prop :=
  d.length < minPacket ∨ ∃ sn, parseHdr d = some ⟨true, c, sn⟩

theorem Fate.addr {w : World σ} {l : Listener σ} {p : Bytes} {a : String} {h : Hdr} {j : Nat} {o' : Sess σ}
    (hwf : WF l) (hf : Fate w l p a h j o') : o'.addr = a := by
  rcases hf with ⟨o, ho, hl, _, e⟩ | ⟨o, ho, hl, _, _, _, _, e⟩ | ⟨_, _, _, e⟩
  · obtain ⟨o2, ho2, hoa, _⟩ := hwf a j hl
    rw [ho] at ho2; cases ho2; rw [e]; exact hoa
  · obtain ⟨o2, ho2, hoa, _⟩ := hwf a j hl
    rw [ho] at ho2; cases ho2; rw [e]; exact hoa
  · rw [e]

theorem listenerInputD_obj (w : World σ) (c : Cipher) (l : Listener σ) (dead : Bool) (data : Bytes) (a : String)
    (j : Nat) (o' : Sess σ) (hj : (listenerInputD w c l dead data a).l.objs[j]? = some o') :
    l.objs[j]? = some o' ∨
    ∃ p h, cryptGate c data = .ok p ∧ minPacket ≤ p.length ∧ parseHdr p = some h ∧ Fate w l p a h j o' := by
  revert hj
  refine listenerInputD_ind w c l dead data a
    (P := fun r => r.l.objs[j]? = some o' → l.objs[j]? = some o' ∨
      ∃ p h, cryptGate c data = .ok p ∧ minPacket ≤ p.length ∧ parseHdr p = some h ∧ Fate w l p a h j o')
    (fun _ hj => Or.inl hj) ?fresh ?route ?reset
  case fresh =>
    intro p h hG _ hj
    rcases tryCreateD_obj w l dead p a h none j o' hj with h1 | h1
    · exact Or.inl h1
    · exact Or.inr ⟨p, h, hG.ok, hG.min, hG.hdr, Or.inr (Or.inr h1)⟩
  case route =>
    intro p h id o hG hl ho hcv hj
    rcases modifyAt_get hj with ⟨_, h1⟩ | ⟨hji, x, hx, e'⟩
    · exact Or.inl h1
    · subst hji
      rw [ho] at hx; cases hx
      exact Or.inr ⟨p, h, hG.ok, hG.min, hG.hdr, Or.inl ⟨o, ho, hl, hcv, e'⟩⟩
  case reset =>
    intro p h id o hG hl ho ⟨hc, hne, hsn⟩ hj
    rcases tryCreateD_obj w (closeSess w l id) dead p a h (some id) j o' hj with h1 | h1
    · rcases closeSess_obj w l id j o' h1 with h2 | ⟨h2, o2, ho2, hc2, ho'⟩
      · exact Or.inl h2
      · subst h2
        rw [ho] at ho2; cases ho2
        exact Or.inr ⟨p, h, hG.ok, hG.min, hG.hdr, Or.inr (Or.inl ⟨o, ho, hl, hc2, hc, hne, hsn, ho'⟩)⟩
    · rw [closeSess_length, closeSess_accepts] at h1
      exact Or.inr ⟨p, h, hG.ok, hG.min, hG.hdr, Or.inr (Or.inr h1)⟩

theorem listenerInput_obj (w : World σ) (c : Cipher) (l : Listener σ) (data : Bytes) (a : String) (j : Nat)
    (o' : Sess σ) (hj : (listenerInput w c l data a).l.objs[j]? = some o') :
    l.objs[j]? = some o' ∨
    ∃ p h, cryptGate c data = .ok p ∧ minPacket ≤ p.length ∧ parseHdr p = some h ∧ Fate w l p a h j o' := by
  rw [← listenerInputD_false] at hj
  exact listenerInputD_obj w c l false data a j o' hj

/-- the converse of `WF`: an open object is the one its address is mapped to -/
def WF2 (l : Listener σ) : Prop :=
  ∀ id o, l.objs[id]? = some o → o.closed = false → lookup l.table o.addr = some id

theorem WF2_empty : WF2 (Listener.empty : Listener σ) := by
  intro id o h; simp [Listener.empty] at h

theorem WF2_closeSess (w : World σ) (l : Listener σ) (id : Nat) (h2 : WF2 l) : WF2 (closeSess w l id) := by
  rcases closeSess_cases w l id with e | ⟨o, ho, hc, e⟩ <;> rw [e]
  · exact h2
  · intro j oj hj hjc
    rcases modifyAt_get hj with ⟨hji, hj⟩ | ⟨_, _, _, e'⟩
    · have h3 := h2 j oj hj hjc
      have hne : oj.addr ≠ o.addr := by
        intro e
        rw [e, h2 id o ho hc] at h3
        cases h3; exact hji rfl
      show lookup (unmap l.table o.addr) oj.addr = some j
      rw [lookup_unmap, if_neg hne]; exact h3
    · rw [e'] at hjc; cases hjc

theorem WF2_tryCreateD (w : World σ) (l : Listener σ) (dead : Bool) (p : Bytes) (a : String) (h : Hdr)
    (old : Option Nat) (hn : lookup l.table a = none) (h2 : WF2 l) : WF2 (tryCreateD w l dead p a h old).l := by
  rcases tryCreateD_cases w l dead p a h old with ⟨_, e⟩ | ⟨_, _, e⟩ | ⟨_, _, _, e⟩ <;> rw [e]
  · exact h2
  · exact h2
  · intro j oj hj hjc
    rcases getElem?_snoc hj with hj | ⟨h1, e'⟩
    · have h3 := h2 j oj hj hjc
      have hne : oj.addr ≠ a := by intro e; rw [e, hn] at h3; cases h3
      have hne' : ¬ a = oj.addr := fun e => hne e.symm
      simp only [lookup, hne', if_false, lookup_unmap, hne]
      exact h3
    · rw [h1, e']
      simp only [lookup, if_true]

theorem WF2_modify (l : Listener σ) (id : Nat) (g : Sess σ → Sess σ)
    (hg : ∀ o, (g o).addr = o.addr ∧ (g o).closed = o.closed) (h2 : WF2 l) :
    WF2 { l with objs := modifyAt l.objs id g } := by
  intro j oj hj hjc
  rcases modifyAt_get hj with ⟨_, hj⟩ | ⟨hji, o, ho, e'⟩
  · exact h2 j oj hj hjc
  · subst hji
    rw [e'] at hjc ⊢
    rw [(hg o).1]
    exact h2 j o ho ((hg o).2.symm.trans hjc)

theorem closeSess_unmapped (w : World σ) (l : Listener σ) (id : Nat) (a : String) (hwf : WF l)
    (hl : lookup l.table a = some id) : lookup (closeSess w l id).table a = none := by
  obtain ⟨o, ho, hoa, hoc⟩ := hwf a id hl
  rw [closeSess_open w l id o ho hoc]
  show lookup (unmap l.table o.addr) a = none
  rw [lookup_unmap, if_pos hoa.symm]

theorem WF2_listenerInputD (w : World σ) (c : Cipher) (l : Listener σ) (dead : Bool) (data : Bytes) (a : String)
    (hwf : WF l) (h2 : WF2 l) : WF2 (listenerInputD w c l dead data a).l := by
  exact listenerInputD_ind (P := fun r => WF2 r.l) w c l dead data a (fun _ => h2)
    (fun p h _ hl => WF2_tryCreateD w l dead p a h none hl h2)
    (fun _ _ id _ _ _ _ _ => WF2_modify l id _ (fun o => ⟨rfl, rfl⟩) h2)
    (fun p h id _ _ hl _ _ =>
      WF2_tryCreateD w _ dead p a h _ (closeSess_unmapped w l id a hwf hl) (WF2_closeSess w l id h2))

/-- a datagram (any world = any clock, any cipher, bytes, source), an Accept, the application closing
session `id`, any operation `f` of the application or the scheduler on session `id` (Read, Write, update, setters) -/
inductive LEv (σ : Type) where
  | input (w : World σ) (c : Cipher) (data : Bytes) (a : String)
  | accept
  | close (w : World σ) (id : Nat)
  | app (id : Nat) (f : σ → σ)

def appSess (l : Listener σ) (id : Nat) (f : σ → σ) : Listener σ :=
  { l with objs := modifyAt l.objs id (fun o => { o with st := f o.st }) }

def lstep (l : Listener σ) : LEv σ → Listener σ
  | .input w c data a => (listenerInput w c l data a).l
  | .accept => (accept l).l
  | .close w id => userClose w l id
  | .app id f => appSess l id f

def lrun (l : Listener σ) (evs : List (LEv σ)) : Listener σ := evs.foldl lstep l

theorem lrun_append (l : Listener σ) (a b : List (LEv σ)) : lrun l (a ++ b) = lrun (lrun l a) b := by
  unfold lrun; rw [List.foldl_append]

def concerns (a : String) (id : Nat) : LEv σ → Bool
  | .input _ _ _ x => decide (x = a)
  | .accept => false
  | .close _ i => decide (i = id)
  | .app i _ => decide (i = id)

theorem accept_objs (l : Listener σ) : (accept l).l.objs = l.objs ∧ (accept l).l.table = l.table := by
  rcases accept_cases l with ⟨_, e⟩ | ⟨_, _, _, e⟩ <;> rw [e] <;> exact ⟨rfl, rfl⟩

theorem WF2_accept (l : Listener σ) (h : WF2 l) : WF2 (accept l).l := by
  intro id o ho hc
  rw [(accept_objs l).2]
  rw [(accept_objs l).1] at ho
  exact h id o ho hc

theorem WF_lstep (l : Listener σ) (e : LEv σ) (h : WF l) : WF (lstep l e) := by
  cases e with
  | input w c data a => exact WF_listenerInput w c l data a h
  | accept => exact WF_accept l h
  | close w id => exact WF_userClose w l id h
  | app id f => exact WF_modify l id _ (fun o => ⟨rfl, rfl⟩) h

theorem WF2_lstep (l : Listener σ) (e : LEv σ) (h : WF l) (h2 : WF2 l) : WF2 (lstep l e) := by
  cases e with
  | input w c data a =>
    show WF2 (listenerInput w c l data a).l
    rw [← listenerInputD_false]
    exact WF2_listenerInputD w c l false data a h h2
  | accept => exact WF2_accept l h2
  | close w id => exact WF2_closeSess w l id h2
  | app id f => exact WF2_modify l id _ (fun o => ⟨rfl, rfl⟩) h2

theorem WF_lrun (evs : List (LEv σ)) (l : Listener σ) (h : WF l) (h2 : WF2 l) : WF (lrun l evs) ∧ WF2 (lrun l evs) :=
  foldl_inv (P := fun l => WF l ∧ WF2 l) (fun l e h => ⟨WF_lstep l e h.1, WF2_lstep l e h.1 h.2⟩) evs l ⟨h, h2⟩

theorem mapped_iff {l : Listener σ} (h : WF l) (h2 : WF2 l) (a : String) (id : Nat) :
    lookup l.table a = some id ↔ ∃ o, l.objs[id]? = some o ∧ o.addr = a ∧ o.closed = false :=
  ⟨h a id, fun ⟨o, ho, ha, hc⟩ => ha ▸ h2 id o ho hc⟩

theorem mapped_congr {l l' : Listener σ} (h : WF l) (h2 : WF2 l) (h' : WF l') (h2' : WF2 l') {id : Nat}
    (ho : l'.objs[id]? = l.objs[id]?) (a : String) :
    lookup l'.table a = some id ↔ lookup l.table a = some id := by
  rw [mapped_iff h h2, mapped_iff h' h2', ho]

def fedAfter (w : World σ) (p : Bytes) (h : Hdr) (o : Sess σ) : Sess σ :=
  if !h.hasConv || h.conv = o.conv then { o with st := w.kcpInput o.st p }
  else if h.sn ≠ 0 then o
  else { o with st := w.closeFx o.st, closed := true }

/-- what a datagram from its own address does to the open session `o`: `listenerInputD` without the table
and the other objects -/
def fedBy (w : World σ) (c : Cipher) (data : Bytes) (o : Sess σ) : Sess σ :=
  match cryptGate c data with
  | .ok p =>
    if p.length < minPacket then o
    else match parseHdr p with
      | none => o
      | some h => fedAfter w p h o
  | _ => o

theorem fedBy_of_gate {w : World σ} {c : Cipher} {data : Bytes} {o : Sess σ}
    (h : ∀ p, cryptGate c data = .ok p → p.length < minPacket ∨ parseHdr p = none) : fedBy w c data o = o := by
  unfold fedBy
  cases hg : cryptGate c data with
  | short => rfl
  | csum => rfl
  | ok p =>
    rcases h p hg with h1 | h1
    · simp only [if_pos h1]
    · simp only [h1, ite_self]

theorem fedBy_after_gate {w : World σ} {c : Cipher} {data p : Bytes} {h : Hdr} {o : Sess σ}
    (hg : cryptGate c data = .ok p) (hm : minPacket ≤ p.length) (hp : parseHdr p = some h) :
    fedBy w c data o = fedAfter w p h o := by
  unfold fedBy
  rw [hg]
  simp only [if_neg (Nat.not_lt.mpr hm), hp]

theorem fedAfter_addr (w : World σ) (p : Bytes) (h : Hdr) (o : Sess σ) : (fedAfter w p h o).addr = o.addr :=
  ite_ind (P := fun x : Sess σ => x.addr = o.addr) rfl (ite_ind (P := fun x : Sess σ => x.addr = o.addr) rfl rfl)

theorem fedBy_addr (w : World σ) (c : Cipher) (data : Bytes) (o : Sess σ) : (fedBy w c data o).addr = o.addr := by
  rcases gate_dichotomy c data with hs | ⟨p, h, hg, hm, hp⟩
  · rw [fedBy_of_gate hs]
  · rw [fedBy_after_gate hg hm hp, fedAfter_addr]

theorem input_obj (w : World σ) (c : Cipher) (l : Listener σ) (dead : Bool) (data : Bytes) (a : String)
    (id : Nat) (o : Sess σ) (hl : lookup l.table a = some id) (ho : l.objs[id]? = some o) (hc : o.closed = false) :
    (listenerInputD w c l dead data a).l.objs[id]? = some (fedBy w c data o) := by
  rcases gate_dichotomy c data with hs | ⟨p, h, hg, hm, hp⟩
  · rw [listenerInputD_same_of_gate w c l dead data a hs, fedBy_of_gate hs]
    exact ho
  · rw [listenerInputD_after_gate w c l dead data p a h hg hm hp, hl, fedBy_after_gate hg hm hp]
    simp only [ho]
    -- the listener and the one-session machine test the same conditions
    unfold fedAfter
    refine ite_rel' (fun (r : LStep σ) x => r.l.objs[id]? = some x) Iff.rfl ?_
      (ite_rel' (fun (r : LStep σ) x => r.l.objs[id]? = some x) Iff.rfl ho ?_)
    · show (modifyAt l.objs id _)[id]? = _
      rw [getElem?_modifyAt, if_pos rfl, ho]
      rfl
    · rw [tryCreateD_objs w _ dead p a h _ id (by rw [closeSess_length]; exact lt_of_getElem? ho),
        closeSess_open w l id o ho hc]
      show (modifyAt l.objs id _)[id]? = _
      rw [getElem?_modifyAt, if_pos rfl, ho]
      rfl

/-- the one-session machine.  A closed object is no longer mapped (`WF`): a datagram from its address goes to
its successor and leaves it as it is, although `concerns` still counts it. -/
def sessOf (o : Sess σ) : LEv σ → Sess σ
  | .input w c data _ => if o.closed then o else fedBy w c data o
  | .accept => o
  | .close w _ => if o.closed then o else { o with st := w.closeFx o.st, closed := true }
  | .app _ f => { o with st := f o.st }

theorem sessOf_addr (o : Sess σ) (e : LEv σ) : (sessOf o e).addr = o.addr := by
  cases e with
  | input w c data x =>
    show (if o.closed then o else fedBy w c data o).addr = _
    cases o.closed with
    | true => rfl
    | false => exact fedBy_addr w c data o
  | accept => rfl
  | close w i =>
    show (if o.closed then o else { o with st := w.closeFx o.st, closed := true }).addr = _
    cases o.closed <;> rfl
  | app i f => rfl

theorem lstep_obj {l : Listener σ} (hwf : WF l) (hwf2 : WF2 l) {id : Nat} {o : Sess σ} (ho : l.objs[id]? = some o)
    (e : LEv σ) : (lstep l e).objs[id]? = some (if concerns o.addr id e then sessOf o e else o) := by
  have hid := lt_of_getElem? ho
  -- `x` is mapped to `id` only if it is the address of `o` and `o` is open
  have hmap : ∀ x, lookup l.table x = some id → o.addr = x ∧ o.closed = false := by
    intro x hl
    obtain ⟨o', ho', hxa, hoc⟩ := hwf x id hl
    rw [ho] at ho'; cases ho'
    exact ⟨hxa, hoc⟩
  cases e with
  | input w c data x =>
    show (listenerInput w c l data x).l.objs[id]? = _
    by_cases hl : lookup l.table x = some id
    · obtain ⟨hx, hoc⟩ := hmap x hl
      rw [← listenerInputD_false, input_obj w c l false data x id o hl ho hoc]
      simp only [concerns, hx, decide_true, if_true, sessOf, hoc, Bool.false_eq_true, if_false]
    · rw [← listenerInputD_false, frameD_objects w c l false data x id hid hl, ho]
      by_cases hx : x = o.addr
      · have hoc : o.closed = true := by
          cases hoc : o.closed with
          | true => rfl
          | false => exact absurd (hx ▸ hwf2 id o ho hoc) hl
        simp only [concerns, hx, decide_true, if_true, sessOf, hoc]
      · simp only [concerns, hx, decide_false, Bool.false_eq_true, if_false]
  | accept => show (accept l).l.objs[id]? = _; rw [(accept_objs l).1, ho]; rfl
  | close w i =>
    show (closeSess w l i).objs[id]? = _
    by_cases hi : i = id
    · subst hi
      simp only [concerns, decide_true, if_true, sessOf]
      cases hoc : o.closed with
      | true => rw [closeSess_closed w l i o ho hoc, ho]; rfl
      | false =>
        rw [closeSess_open w l i o ho hoc]
        simp only [getElem?_modifyAt, if_true, ho, Option.map_some, Bool.false_eq_true, if_false]
    · rw [closeSess_objs w l i id (fun e => hi e.symm), ho]
      simp only [concerns, hi, decide_false, Bool.false_eq_true, if_false]
  | app i f =>
    show (modifyAt l.objs i _)[id]? = _
    rw [getElem?_modifyAt, ho]
    by_cases hi : i = id
    · subst hi; simp only [concerns, decide_true, if_true, sessOf, Option.map_some]
    · simp only [concerns, hi, decide_false, Bool.false_eq_true, if_false, if_neg (fun e : id = i => hi e.symm)]

theorem lrun_obj {id : Nat} (evs : List (LEv σ)) : ∀ (l : Listener σ) (o : Sess σ), WF l → WF2 l →
    l.objs[id]? = some o → (lrun l evs).objs[id]? = some ((evs.filter (concerns o.addr id)).foldl sessOf o) := by
  induction evs with
  | nil => intro l o _ _ ho; exact ho
  | cons e rest ih =>
    intro l o hwf hwf2 ho
    have h := ih (lstep l e) _ (WF_lstep l e hwf) (WF2_lstep l e hwf hwf2) (lstep_obj hwf hwf2 ho e)
    show (lrun (lstep l e) rest).objs[id]? = _
    rw [h]
    cases hc : concerns o.addr id e with
    | true => rw [if_pos rfl, sessOf_addr, List.filter_cons_of_pos hc]; rfl
    | false => rw [if_neg Bool.false_ne_true, List.filter_cons_of_neg (by simp [hc])]

theorem WF_closeAll' (w : World σ) (ids : List Nat) : ∀ l : Listener σ, WF l → WF2 l →
    WF (SessIn.closeAll w l ids) ∧ WF2 (SessIn.closeAll w l ids) :=
  fun l h h2 => closeAll_inv (P := fun l => WF l ∧ WF2 l) w
    (fun l id h => ⟨WF_closeSess w l id h.1, WF2_closeSess w l id h.2⟩) ids l ⟨h, h2⟩

theorem closeSess_table_other (w : World σ) (l : Listener σ) (i id : Nat) (a : String) (h2 : WF2 l) (hi : i ≠ id) :
    lookup (closeSess w l i).table a = some id ↔ lookup l.table a = some id := by
  rcases closeSess_cases w l i with e | ⟨o, ho, hc, e⟩ <;> rw [e]
  show lookup (unmap l.table o.addr) a = some id ↔ _
  rw [lookup_unmap]
  by_cases ha : a = o.addr
  · rw [if_pos ha, ha, h2 i o ho hc]
    constructor
    · intro e; cases e
    · intro e; cases e; exact absurd rfl hi
  · rw [if_neg ha]

theorem closeAll_lookup (w : World σ) (ids : List Nat) (l : Listener σ) (h2 : WF2 l) (id : Nat) (a : String)
    (hid : id ∉ ids) : lookup (SessIn.closeAll w l ids).table a = some id ↔ lookup l.table a = some id :=
  (closeAll_eq_foldl w ids l ▸ foldl_inv_mem
    (P := fun l' => WF2 l' ∧ (lookup l'.table a = some id ↔ lookup l.table a = some id)) ids
    (fun l' i hi h => ⟨WF2_closeSess w l' i h.1,
      (closeSess_table_other w l' i id a h.1 (fun e => hid (e ▸ hi))).trans h.2⟩) l ⟨h2, Iff.rfl⟩).2

theorem closeSess_keeps_closed (w : World σ) (l : Listener σ) (i j : Nat) (o : Sess σ)
    (ho : l.objs[j]? = some o) (hc : o.closed = true) :
    ∃ o', (closeSess w l i).objs[j]? = some o' ∧ o'.closed = true := by
  have hlt : j < (closeSess w l i).objs.length := by rw [closeSess_length]; exact lt_of_getElem? ho
  refine ⟨(closeSess w l i).objs[j], List.getElem?_eq_getElem hlt, ?_⟩
  rcases closeSess_obj w l i j _ (List.getElem?_eq_getElem hlt) with h1 | ⟨_, o2, _, _, e⟩
  · rw [ho] at h1; cases h1; exact hc
  · rw [e]

theorem closeAll_keeps_closed (w : World σ) (ids : List Nat) (l : Listener σ) (j : Nat) (o : Sess σ)
    (ho : l.objs[j]? = some o) (hc : o.closed = true) :
    ∃ o', (SessIn.closeAll w l ids).objs[j]? = some o' ∧ o'.closed = true :=
  closeAll_inv (P := fun l => ∃ o', l.objs[j]? = some o' ∧ o'.closed = true) w
    (fun l i ⟨o1, h1, c1⟩ => closeSess_keeps_closed w l i j o1 h1 c1) ids l ⟨o, ho, hc⟩

theorem closeSess_self (w : World σ) (l : Listener σ) (j : Nat) (hlt : j < l.objs.length) :
    ∃ o', (closeSess w l j).objs[j]? = some o' ∧ o'.closed = true := by
  have ho : l.objs[j]? = some l.objs[j] := List.getElem?_eq_getElem hlt
  generalize l.objs[j] = o at ho
  cases hc : o.closed with
  | true => rw [closeSess_closed w l j o ho hc]; exact ⟨o, ho, hc⟩
  | false =>
    rw [closeSess_open w l j o ho hc]
    exact ⟨{ o with st := w.closeFx o.st, closed := true },
      by simp only [getElem?_modifyAt, if_true, ho, Option.map_some], rfl⟩

theorem closeAll_closed (w : World σ) (ids : List Nat) : ∀ (l : Listener σ) (j : Nat), j ∈ ids → j < l.objs.length →
    ∃ o', (SessIn.closeAll w l ids).objs[j]? = some o' ∧ o'.closed = true := by
  induction ids with
  | nil => intro l j hj; cases hj
  | cons i rest ih =>
    intro l j hj hlt
    show ∃ o', (SessIn.closeAll w (closeSess w l i) rest).objs[j]? = some o' ∧ _
    rcases List.mem_cons.mp hj with hji | hj'
    · -- closed by this `Close`, and it stays closed
      subst hji
      obtain ⟨o1, h1, c1⟩ := closeSess_self w l j hlt
      exact closeAll_keeps_closed w rest _ j o1 h1 c1
    · exact ih _ j hj' (by rw [closeSess_length]; exact hlt)

end KcpVerif.C11Iso
