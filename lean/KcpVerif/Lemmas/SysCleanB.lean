/-
Clean path, receiver side.  An in-order PUSH that finds room in the receive queue is acknowledged, queued at once and
advances `rcv_nxt`; an endpoint with nothing to send flushes only ACK and probe frames.
-/
import KcpVerif.Lemmas.SysCleanA

namespace KcpVerif.SysC
open KcpVerif.Gen KcpVerif.Kcp KcpVerif.Live KcpVerif.Wire KcpVerif.SysW

theorem inPre_empty (wnd : BitVec 16) (una : U32) (k : Kcp) (h : k.snd_buf = []) :
    inPre true wnd una k = { k with rmt_wnd := wnd.setWidth 32, snd_buf := [], snd_una := k.snd_nxt } ∧
    inCnt true wnd una k = 0 := by
  constructor
  · rw [inPre_true _ _ _ (by rw [h]; intro x hx; simp at hx), h]; rfl
  · unfold inCnt parseUna
    simp only [↓reduceIte]
    rw [h]; rfl

theorem itimediff_self (x : U32) : itimediff x x = 0 := by unfold itimediff; simp

theorem next_in_window {sn nxt : U32} (hsn : sn = nxt) (wnd : U32) (h0 : 0 < wnd.toNat) (hw : wnd.toNat < 2 ^ 31) :
    itimediff sn (nxt + wnd) < 0 ∧ itimediff sn nxt ≥ 0 := by
  rw [hsn, (Serial.itimediff_add_self nxt wnd hw).2, itimediff_self]
  omega

theorem parseData_inorder (k : Kcp) (s : Seg) (hrb : k.rcv_buf = []) (hsn : s.sn = k.rcv_nxt)
    (hroom : k.rcv_queue.length < k.rcv_wnd.toNat) (hw : k.rcv_wnd.toNat < 2 ^ 31) (hl : s.data.length ≤ mtuLimit) :
    parseData k s = ⟨{ k with rcv_buf := [], rcv_queue := k.rcv_queue ++ [s], rcv_nxt := k.rcv_nxt + 1 }, false, false⟩ := by
  obtain ⟨hneg, hge⟩ := next_in_window hsn k.rcv_wnd (by omega) hw
  refine Kcp.parseData_cases (P := fun r => r = _) k s (fun h => ?_) (fun _ h => ?_) (fun _ _ h => ?_) (fun _ _ _ => ?_)
  · rcases h with h | h <;> omega
  · rw [hrb] at h; cases h
  · omega
  · rw [hrb]
    unfold moveReady heapInsert
    simp only []
    unfold moveLoop
    rw [if_pos ⟨hsn, hroom⟩]
    unfold moveLoop
    rfl

theorem inFr_push (st : InLoop) (fr : Frm) (hsb : st.k.snd_buf = []) (hrb : st.k.rcv_buf = [])
    (hc : fr.cmd.toNat = IKCP_CMD_PUSH) (hsn : fr.sn = st.k.rcv_nxt)
    (hroom : st.k.rcv_queue.length < st.k.rcv_wnd.toNat) (hw : st.k.rcv_wnd.toNat < 2 ^ 31)
    (hl : fr.data.length ≤ mtuLimit) :
    ∃ seg, inFr true st fr =
      { st with k := { st.k with rmt_wnd := fr.wnd.setWidth 32, snd_buf := [], snd_una := st.k.snd_nxt,
                                 acklist := st.k.acklist ++ [⟨fr.sn, fr.ts⟩], rcv_buf := [],
                                 rcv_queue := st.k.rcv_queue ++ [seg], rcv_nxt := st.k.rcv_nxt + 1 },
                panic := false } ∧ seg.data.length ≤ mtuLimit := by
  obtain ⟨hpre, hcnt⟩ := inPre_empty fr.wnd fr.una st.k hsb
  have hnA : ¬ fr.cmd.toNat = IKCP_CMD_ACK := by rw [hc]; decide
  obtain ⟨hneg, hge⟩ := next_in_window hsn st.k.rcv_wnd (by omega) hw
  refine ⟨pushSeg fr.conv fr.cmd fr.frg fr.wnd fr.ts fr.sn fr.una fr.data, ?_, hl⟩
  unfold inFr
  rw [inStep_eq, if_neg hnA, if_pos hc, hpre, hcnt]
  simp only []
  rw [if_pos hneg, if_pos hge]
  rw [parseData_inorder _ _ ?_ ?_ ?_ ?_ ?_]
  · simp
  · exact hrb
  · exact hsn
  · exact hroom
  · exact hw
  · exact hl

theorem inFr_probe (st : InLoop) (fr : Frm) (hsb : st.k.snd_buf = [])
    (hc : fr.cmd.toNat = IKCP_CMD_WASK ∨ fr.cmd.toNat = IKCP_CMD_WINS) :
    ∃ pr, inFr true st fr =
      { st with k := { st.k with rmt_wnd := fr.wnd.setWidth 32, snd_buf := [], snd_una := st.k.snd_nxt, probe := pr } } := by
  obtain ⟨hpre, hcnt⟩ := inPre_empty fr.wnd fr.una st.k hsb
  unfold inFr
  rw [inStep_eq, if_neg (probe_ne_ack hc), if_neg (probe_ne_push hc), hpre, hcnt]
  split
  · exact ⟨st.k.probe ||| u32 IKCP_ASK_TELL, by simp⟩
  · exact ⟨st.k.probe, by simp⟩

def pushes (frs : List Frm) : List Frm := frs.filter (fun fr => decide (fr.cmd.toNat = IKCP_CMD_PUSH))

theorem pushes_cons_push {fr : Frm} (rest : List Frm) (h : fr.cmd.toNat = IKCP_CMD_PUSH) :
    pushes (fr :: rest) = fr :: pushes rest := by
  unfold pushes; rw [List.filter_cons_of_pos (by simpa using h)]

theorem pushes_cons_other {fr : Frm} (rest : List Frm) (h : ¬ fr.cmd.toNat = IKCP_CMD_PUSH) :
    pushes (fr :: rest) = pushes rest := by
  unfold pushes; rw [List.filter_cons_of_neg (by simpa using h)]

theorem pushes_append (a b : List Frm) : pushes (a ++ b) = pushes a ++ pushes b := by simp [pushes]

/-- the frames A sends on a clean path -/
def DataLike (fr : Frm) : Prop :=
  (fr.cmd.toNat = IKCP_CMD_PUSH ∨ fr.cmd.toNat = IKCP_CMD_WASK ∨ fr.cmd.toNat = IKCP_CMD_WINS) ∧
  fr.data.length ≤ mtuLimit

theorem inFrs_dataLike (base : U32) (frs : List Frm) : ∀ (st : InLoop),
    st.k.snd_buf = [] → st.k.rcv_buf = [] → (∀ fr ∈ frs, DataLike fr) →
    (pushes frs).map (fun fr => o base fr.sn) = List.range' (o base st.k.rcv_nxt) (pushes frs).length →
    o base st.k.rcv_nxt + (pushes frs).length < 2 ^ 32 →
    st.k.rcv_queue.length + (pushes frs).length ≤ st.k.rcv_wnd.toNat → st.k.rcv_wnd.toNat < 2 ^ 31 →
    st.panic = false →
    ∃ rw su pr q, (inFrs true frs st).k =
        { st.k with rmt_wnd := rw, snd_buf := [], snd_una := su, probe := pr,
                    acklist := st.k.acklist ++ (pushes frs).map (fun fr => ⟨fr.sn, fr.ts⟩), rcv_buf := [],
                    rcv_queue := st.k.rcv_queue ++ q, rcv_nxt := st.k.rcv_nxt + u32 (pushes frs).length } ∧
      q.length = (pushes frs).length ∧ (∀ x ∈ q, x.data.length ≤ mtuLimit) ∧
      (inFrs true frs st).flushSeg = st.flushSeg ∧ (inFrs true frs st).updRtt = st.updRtt ∧
      (inFrs true frs st).panic = false ∧ (inFrs true frs st).ret = st.ret := by
  induction frs with
  | nil =>
    intro st hsb hrb _ _ _ _ _ hp
    refine ⟨st.k.rmt_wnd, st.k.snd_una, st.k.probe, [], ?_, rfl, by simp, rfl, rfl, hp, rfl⟩
    simp only [inFrs, pushes, List.filter_nil, List.map_nil, List.append_nil, List.length_nil]
    have : st.k.rcv_nxt + u32 0 = st.k.rcv_nxt := by simp [u32]
    rw [this]
    have e : ({ st.k with snd_buf := st.k.snd_buf, rcv_buf := st.k.rcv_buf } : Kcp) =
        { st.k with snd_buf := [], rcv_buf := [] } := by rw [hsb, hrb]
    exact e
  | cons fr rest ih =>
    intro st hsb hrb hd hio hbd hroom hw hp
    have hdl := hd fr (List.mem_cons_self ..)
    by_cases hc : fr.cmd.toNat = IKCP_CMD_PUSH
    · have hpu := pushes_cons_push rest hc
      rw [hpu] at hio hbd
      simp only [List.map_cons, List.length_cons, List.range'_succ, List.cons.injEq] at hio hbd
      have hs := o_succ base st.k.rcv_nxt (by omega)
      rw [hpu, List.length_cons] at hroom
      obtain ⟨seg, he, hseg⟩ := inFr_push st fr hsb hrb hc (o_inj base _ _ hio.1) (by omega) hw hdl.2
      unfold inFrs
      rw [if_neg (by rw [he]; simp)]
      obtain ⟨rw2, su2, pr2, q2, hk2, hq2, hq2l, hf2, hu2, hp2, hr2⟩ := ih (inFr true st fr)
        (by rw [he]) (by rw [he]) (fun x hx => hd x (List.mem_cons_of_mem _ hx))
        (by rw [he]; show _ = List.range' (o base (st.k.rcv_nxt + 1)) _; rw [hs]; exact hio.2)
        (by rw [he]; show o base (st.k.rcv_nxt + 1) + _ < _; rw [hs]; omega)
        (by rw [he]; simp only [List.length_append, List.length_cons, List.length_nil]; omega)
        (by rw [he]; exact hw) (by rw [he])
      refine ⟨rw2, su2, pr2, seg :: q2, ?_, by rw [hpu]; simp [hq2], ?_, by rw [hf2, he], by rw [hu2, he],
        hp2, by rw [hr2, he]⟩
      · rw [hk2, he, hpu]
        simp only [List.map_cons, List.length_cons, List.append_assoc, List.cons_append, List.nil_append, u32_succ]
        have : st.k.rcv_nxt + 1 + u32 (pushes rest).length = st.k.rcv_nxt + (u32 (pushes rest).length + 1) := by
          rw [BitVec.add_assoc, BitVec.add_comm 1]
        rw [this]
      · intro x hx
        rcases List.mem_cons.mp hx with rfl | hx
        · exact hseg
        · exact hq2l x hx
    · have hpu := pushes_cons_other rest hc
      rw [hpu] at hio hbd hroom
      obtain ⟨pr, he⟩ := inFr_probe st fr hsb (hdl.1.resolve_left hc)
      unfold inFrs
      rw [if_neg (by rw [he, hp]; simp)]
      obtain ⟨rw2, su2, pr2, q2, hk2, hq2, hq2l, hf2, hu2, hp2, hr2⟩ := ih (inFr true st fr)
        (by rw [he]) (by rw [he]; exact hrb) (fun x hx => hd x (List.mem_cons_of_mem _ hx))
        (by rw [he]; exact hio) (by rw [he]; exact hbd) (by rw [he]; exact hroom) (by rw [he]; exact hw)
        (by rw [he]; exact hp)
      refine ⟨rw2, su2, pr2, q2, ?_, by rw [hpu]; exact hq2, hq2l, by rw [hf2, he], by rw [hu2, he], hp2,
        by rw [hr2, he]⟩
      rw [hk2, he, hpu]

theorem flush_empty (k : Kcp) (full : Bool) (now : U32) (hsb : k.snd_buf = []) (hsq : k.snd_queue = []) :
    flushFrs k full now = ackFrsOf k ++ probeFrs k now ∧
    ∃ pw tp st ss cw inc, (flush k full now).k =
      { k with acklist := [], probe_wait := pw, ts_probe := tp, probe := 0, snd_queue := [], snd_buf := [],
               state := st, ssthresh := ss, cwnd := cw, incr := inc } := by
  have had : flAd k now = ⟨[], [], k.snd_nxt, 0⟩ := by rw [flAd_eq, hsq, hsb]; rfl
  have hdone : (flX k full now).done = [] := by rw [flX_done, had]; rfl
  constructor
  · unfold flushFrs pushFrs
    rw [had]
    cases full <;> simp
  · obtain ⟨pw, tp, st, ss, cw, inc, hk⟩ := flush_frame k full now
    refine ⟨pw, tp, st, ss, cw, inc, ?_⟩
    rw [hk, hdone, had]

/-- every frame such an endpoint flushes: a control frame without payload that carries `una = rcv_nxt` and the window
computed at the start, an ACK being for a listed entry -/
theorem flushFrs_idle (k : Kcp) (full : Bool) (now : U32) (hsb : k.snd_buf = []) (hsq : k.snd_queue = []) :
    ∀ fr ∈ flushFrs k full now, fr.conv = k.conv ∧ fr.data = [] ∧
      (fr.cmd.toNat = IKCP_CMD_ACK ∨ fr.cmd.toNat = IKCP_CMD_WASK ∨ fr.cmd.toNat = IKCP_CMD_WINS) ∧
      fr.una = k.rcv_nxt ∧ fr.wnd = wndUnused k ∧ (fr.cmd.toNat = IKCP_CMD_ACK → (⟨fr.sn, fr.ts⟩ : Ack) ∈ k.acklist) := by
  intro fr hfr
  have hw := flushFrs_wnd k full now fr hfr
  rw [(flush_empty k full now hsb hsq).1] at hfr
  rcases List.mem_append.mp hfr with hin | hin
  · obtain ⟨e1, e2, e3, e4, e5⟩ := ackFrsOf_mem k fr hin
    exact ⟨e1, e4, Or.inl e2, e3, hw, fun _ => e5⟩
  · obtain ⟨e1, e2, e3, e4⟩ := probeFrs_mem k now fr hin
    exact ⟨e1, e4, Or.inr e2, e3, hw, fun hc => absurd hc (probe_ne_ack e2)⟩

end KcpVerif.SysC
