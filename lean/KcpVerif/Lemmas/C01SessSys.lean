/-
A session (`Model/Sess.lean`, configuration without cipher and FEC) with ghost history, for `C01_session_plain`:
`SessG` (`rd` bytes returned by `Read`, `wr` bytes accepted by `WriteBuffers`, `log` contents numbered so far,
`wire` datagrams emitted, `dead`); `sessStep`, one call of `WriteBuffers` / `Read` / `update` / `packetInput` / a
setter, defined with the functions of `Model/Sess.lean` (the model the `sess` component ties to real sessions); and the
two-session system `SessSys`: a writer `A` and a reader `B` joined by a network that can only replay what `A` has emitted.
-/
import KcpVerif.Model.Sess
import KcpVerif.Lemmas.KcpSend
import KcpVerif.Lemmas.Ite

namespace KcpVerif.C01
open KcpVerif.Kcp KcpVerif.Recv KcpVerif.Send

structure SessG where
  s    : Sess
  rd   : Bytes := []
  wr   : Bytes := []
  log  : List Content := []
  wire : List Bytes := []
  dead : Bool := false

inductive SessOp where
  /-- one admitted-or-blocked pass of `WriteBuffers(v)` at clock `now` -/
  | write (v : List Bytes) (now : U32)
  /-- one pass of `Read(b)` with `len(b) = blen` -/
  | read (blen : Nat)
  /-- the scheduled `update()` -/
  | update (now : U32)
  /-- `packetInput(d)` (no cipher, no FEC) -/
  | input (d : Bytes) (now : U32)
  | setWriteDelay (b : Bool)
  | setAckNoDelay (b : Bool)
  /-- `SetNoDelay`: the core setter it calls, any arguments -/
  | noDelay (a b c d : Int)
  /-- `SetWindowSize`, likewise -/
  | wndSize (a b : Int)
  /-- `SetMtu`, likewise -/
  | setMtu (mtu : Int)

def sessStep (x : SessG) (op : SessOp) : SessG :=
  if x.dead then x else
  match op with
  | .write v now =>
    if (x.s.writeBuffers v now).panic then { x with dead := true } else
    if (x.s.writeBuffers v now).blocked then x else
    { x with s := (x.s.writeBuffers v now).s, wr := x.wr ++ v.flatten,
             log := x.log ++ admitted (Sess.sendAll v x.s.k).k (x.s.writeBuffers v now).s.k,
             wire := x.wire ++ (x.s.writeBuffers v now).outs }
  | .read blen => { x with s := (x.s.read blen).s, rd := x.rd ++ (x.s.read blen).data }
  | .update now =>
    if (x.s.update now).panic then { x with dead := true } else
    { x with s := { x.s with k := (x.s.update now).k }, log := x.log ++ admitted x.s.k (x.s.update now).k,
             wire := x.wire ++ (x.s.update now).outs }
  | .input d now =>
    if (x.s.packetInput d now).panic then { x with dead := true } else
    { x with s := (x.s.packetInput d now).s, log := x.log ++ admitted x.s.k (x.s.packetInput d now).s.k,
             wire := x.wire ++ (x.s.packetInput d now).outs }
  | .setWriteDelay b => { x with s := { x.s with writeDelay := b } }
  | .setAckNoDelay b => { x with s := { x.s with ackNoDelay := b } }
  | .noDelay a b c d => { x with s := { x.s with k := noDelay x.s.k a b c d } }
  | .wndSize a b => { x with s := { x.s with k := wndSize x.s.k a b } }
  | .setMtu mtu => { x with s := { x.s with k := (setMtu x.s.k mtu).1 } }

/-- the five setters of a session -/
inductive SessSet (s : Sess) : SessOp → Sess → Prop
  | writeDelay (b : Bool) : SessSet s (.setWriteDelay b) { s with writeDelay := b }
  | ackNoDelay (b : Bool) : SessSet s (.setAckNoDelay b) { s with ackNoDelay := b }
  | noDelay (a b c d : Int) : SessSet s (.noDelay a b c d) { s with k := noDelay s.k a b c d }
  | wndSize (a b : Int) : SessSet s (.wndSize a b) { s with k := wndSize s.k a b }
  | setMtu (m : Int) : SessSet s (.setMtu m) { s with k := (setMtu s.k m).1 }

/-- the ways a session step can go: nothing happens (dead session, blocked `WriteBuffers`); the session dies of a panic;
`WriteBuffers`, `Read`, `update` or `packetInput` takes effect; a setter does -/
theorem sessStep_cases {P : SessG → Prop} (x : SessG) (op : SessOp)
    (same : (x.dead = true ∨ ∃ v now, op = .write v now ∧ (x.s.writeBuffers v now).blocked = true) → P x)
    (die : P { x with dead := true })
    (write : ∀ v now, op = .write v now → (x.s.writeBuffers v now).panic = false →
      (x.s.writeBuffers v now).blocked = false →
      P { x with s := (x.s.writeBuffers v now).s, wr := x.wr ++ v.flatten,
                 log := x.log ++ admitted (Sess.sendAll v x.s.k).k (x.s.writeBuffers v now).s.k,
                 wire := x.wire ++ (x.s.writeBuffers v now).outs })
    (read : ∀ blen, op = .read blen → P { x with s := (x.s.read blen).s, rd := x.rd ++ (x.s.read blen).data })
    (update : ∀ now, op = .update now → (x.s.update now).panic = false →
      P { x with s := { x.s with k := (x.s.update now).k }, log := x.log ++ admitted x.s.k (x.s.update now).k,
                 wire := x.wire ++ (x.s.update now).outs })
    (input : ∀ d now, op = .input d now → (x.s.packetInput d now).panic = false →
      P { x with s := (x.s.packetInput d now).s, log := x.log ++ admitted x.s.k (x.s.packetInput d now).s.k,
                 wire := x.wire ++ (x.s.packetInput d now).outs })
    (set : ∀ s', SessSet x.s op s' → P { x with s := s' }) : P (sessStep x op) := by
  unfold sessStep
  refine ite_cases (fun hd => same (Or.inl hd)) (fun _ => ?_)
  cases op with
  | write v now =>
    exact ite_cases (fun _ => die) fun hp => ite_cases (fun hb => same (Or.inr ⟨v, now, rfl, hb⟩)) fun hb =>
      write v now rfl (by simpa using hp) (by simpa using hb)
  | read blen => exact read blen rfl
  | update now => exact ite_cases (fun _ => die) fun hp => update now rfl (by simpa using hp)
  | input d now => exact ite_cases (fun _ => die) fun hp => input d now rfl (by simpa using hp)
  | setWriteDelay b => exact set _ (.writeDelay b)
  | setAckNoDelay b => exact set _ (.ackNoDelay b)
  | noDelay a b c d => exact set _ (.noDelay a b c d)
  | wndSize a b => exact set _ (.wndSize a b)
  | setMtu m => exact set _ (.setMtu m)

def sessRun (x : SessG) (ops : List SessOp) : SessG := ops.foldl sessStep x

theorem sessRun_snoc (x : SessG) (h : List SessOp) (op : SessOp) : sessRun x (h ++ [op]) = sessStep (sessRun x h) op := by
  unfold sessRun; rw [List.foldl_append]; rfl

structure SessSys where
  A : SessG
  B : SessG

inductive SSOp where
  /-- `A` performs any session operation (including `packetInput` of arbitrary bytes) -/
  | a (op : SessOp)
  /-- `B` performs any session operation other than `packetInput` -/
  | b (op : SessOp)
  /-- the network delivers to `B` the `i`-th datagram `A` has emitted so far -/
  | dlv (i : Nat) (now : U32)

def isSessInput : SessOp → Bool
  | .input .. => true
  | _ => false

def ssstep (s : SessSys) : SSOp → SessSys
  | .a op => { s with A := sessStep s.A op }
  | .b op => if isSessInput op then s else { s with B := sessStep s.B op }
  | .dlv i now =>
    match s.A.wire[i]? with
    | some d => { s with B := sessStep s.B (.input d now) }
    | none => s

def ssrun (s : SessSys) (ops : List SSOp) : SessSys := ops.foldl ssstep s

theorem ssstep_cases {P : SessSys → Prop} (s : SessSys) (op : SSOp) (same : P s)
    (a : ∀ o, P { s with A := sessStep s.A o }) (b : ∀ o, isSessInput o = false → P { s with B := sessStep s.B o })
    (dlv : ∀ d ∈ s.A.wire, ∀ now, P { s with B := sessStep s.B (.input d now) }) : P (ssstep s op) := by
  cases op with
  | a o => exact a o
  | b o => exact ite_cases (fun _ => same) (fun h => b o (by simpa using h))
  | dlv i now =>
    show P (match s.A.wire[i]? with
      | some d => { s with B := sessStep s.B (.input d now) }
      | none => s)
    cases hd : s.A.wire[i]? with
    | none => exact same
    | some d => exact dlv d (List.mem_of_getElem? hd) now

theorem ssrun_snoc (s : SessSys) (ops : List SSOp) (e : SSOp) : ssrun s (ops ++ [e]) = ssstep (ssrun s ops) e := by
  unfold ssrun; rw [List.foldl_append]; rfl

theorem ssrun_mapA (h : List SessOp) : ∀ s : SessSys, ssrun s (h.map .a) = { s with A := sessRun s.A h } := by
  induction h with
  | nil => intro s; rfl
  | cons op rest ih => intro s; exact ih _

def aOps : List SSOp → List SessOp
  | [] => []
  | .a op :: rest => op :: aOps rest
  | .b _ :: rest => aOps rest
  | .dlv _ _ :: rest => aOps rest

theorem ssrun_A (ops : List SSOp) : ∀ s : SessSys, (ssrun s ops).A = sessRun s.A (aOps ops) := by
  induction ops with
  | nil => intro s; rfl
  | cons op rest ih =>
    intro s
    show (ssrun (ssstep s op) rest).A = _
    rw [ih]
    cases op with
    | a op => rfl
    | b op => exact ite_ind (P := fun s' : SessSys => sessRun s'.A (aOps rest) = sessRun s.A (aOps rest)) rfl rfl
    | dlv i now =>
      show sessRun (match s.A.wire[i]? with
        | some d => { s with B := sessStep s.B (.input d now) }
        | none => s).A (aOps rest) = sessRun s.A (aOps rest)
      cases s.A.wire[i]? <;> rfl

end KcpVerif.C01
