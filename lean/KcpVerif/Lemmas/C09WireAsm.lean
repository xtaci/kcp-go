/-
C09 `wire_reassembles`: what the specification's reassembler `Wire.Spec.reassemble` computes
on any collection of genuine segments.

`L` is a list of contents `(frg, payload)`; a decoded segment `x` is *genuine* for `L` (`SegGen`) when,
if it is a PUSH, its `(frg, payload)` is entry `sn` of `L`.  For ANY list `all` of genuine segments —
any order, duplicates (retransmissions), ACK/probe segments in between, segments missing — the walk
of the reassembler over `sn = 0, 1, 2, …` consumes exactly the first `n` entries of `L` for some
`n ≤ |L|` all of which are present, and returns the messages `grp (L.take n)` (`C01.grp`: cut at
every `frg = 0`, an unfinished tail is not delivered).
-/
import KcpVerif.Lemmas.C09WireEnc
import KcpVerif.Lemmas.C01Grp

namespace KcpVerif.C09W
open KcpVerif.Gen KcpVerif.Recv KcpVerif.C01

abbrev DSeg := Wire.SegHdr × Bytes

/-- a PUSH segment carries entry `sn` of `L` -/
def SegGen (L : List Content) (x : DSeg) : Prop :=
  x.1.cmd.toNat = 81 → L[x.1.sn.toNat]? = some (BitVec.ofNat 8 x.1.frg.toNat, x.2)

/-- a PUSH segment with sequence number `i` is among `all` -/
def Avail (all : List DSeg) (i : Nat) : Prop := ∃ x ∈ all, x.1.cmd.toNat = 81 ∧ x.1.sn.toNat = i

theorem findSn_some {all : List DSeg} {n : Nat} {x : DSeg} (h : Wire.Spec.findSn n all = some x) :
    x ∈ all ∧ x.1.cmd.toNat = 81 ∧ x.1.sn.toNat = n := by
  induction all with
  | nil => cases h
  | cons y ys ih =>
    unfold Wire.Spec.findSn at h
    split at h
    · rename_i hy
      cases h
      exact ⟨List.mem_cons_self .., hy.1, hy.2⟩
    · obtain ⟨h1, h2⟩ := ih h
      exact ⟨List.mem_cons_of_mem _ h1, h2⟩

theorem findSn_none {all : List DSeg} {n : Nat} (h : Wire.Spec.findSn n all = none) : ¬ Avail all n := by
  induction all with
  | nil => rintro ⟨x, hx, _⟩; cases hx
  | cons y ys ih =>
    unfold Wire.Spec.findSn at h
    split at h
    · cases h
    · rename_i hy
      rintro ⟨x, hx, h1, h2⟩
      rcases List.mem_cons.mp hx with h3 | h3
      · rw [h3] at h1 h2; exact hy ⟨h1, h2⟩
      · exact ih h ⟨x, h3, h1, h2⟩

/-- the message-level mirror of `Wire.Spec.reassembleFrom`: whole messages, in order -/
def asmFrom (all : List DSeg) : Nat → Nat → List Bytes → Bytes → List Bytes
  | 0, _, done, _ => done
  | fuel + 1, sn, done, pending =>
    match Wire.Spec.findSn sn all with
    | none => done
    | some x =>
      if x.1.frg.toNat = 0 then asmFrom all fuel (sn + 1) (done ++ [pending ++ x.2]) []
      else asmFrom all fuel (sn + 1) done (pending ++ x.2)

/-- the messages one direction of a connection carries, from all segments seen on the wire -/
def reassembleMsgs (all : List DSeg) : List Bytes := asmFrom all all.length 0 [] []

theorem reassembleFrom_flatten (all : List DSeg) : ∀ (fuel sn : Nat) (done : List Bytes) (pending : Bytes),
    Wire.Spec.reassembleFrom all fuel sn done.flatten pending = (asmFrom all fuel sn done pending).flatten := by
  intro fuel
  induction fuel with
  | zero => intro sn done pending; rfl
  | succ fuel ih =>
    intro sn done pending
    unfold Wire.Spec.reassembleFrom asmFrom
    cases Wire.Spec.findSn sn all with
    | none => rfl
    | some x =>
      simp only []
      split
      · rw [← ih]; simp [List.append_assoc]
      · rw [← ih]

theorem reassemble_eq_flatten (all : List DSeg) : Wire.Spec.reassemble all = (reassembleMsgs all).flatten :=
  reassembleFrom_flatten all all.length 0 [] []

theorem bv8_zero_iff (m : Nat) (hm : m < 256) : BitVec.ofNat 8 m = 0 ↔ m = 0 := by
  constructor
  · intro h
    have := congrArg BitVec.toNat h
    simp at this
    omega
  · intro h; rw [h]; rfl

/-- The walk stops at `n`.  `n ≤ sn + fuel` and the last clause tell "stopped at a gap" (`n` is not available) from
"ran out of fuel" (`n = sn + fuel`); the pigeonhole `avail_length` below excludes the second for `fuel = |all|`. -/
theorem asmFrom_spec (L : List Content) (all : List DSeg) (hg : ∀ x ∈ all, SegGen L x) :
    ∀ (fuel sn : Nat) (done : List Bytes) (pending : Bytes), sn ≤ L.length →
      ∃ n, sn ≤ n ∧ n ≤ L.length ∧ n ≤ sn + fuel ∧
        asmFrom all fuel sn done pending = done ++ grpAux pending ((L.take n).drop sn) ∧
        (∀ i, sn ≤ i → i < n → Avail all i) ∧ (n < sn + fuel → ¬ Avail all n) := by
  intro fuel
  induction fuel with
  | zero =>
    intro sn done pending hsn
    exact ⟨sn, Nat.le_refl _, hsn, Nat.le_refl _, by simp [asmFrom, grpAux], fun i h1 h2 => by omega, fun h => by omega⟩
  | succ fuel ih =>
    intro sn done pending hsn
    unfold asmFrom
    cases hf : Wire.Spec.findSn sn all with
    | none =>
      exact ⟨sn, Nat.le_refl _, hsn, by omega, by simp [grpAux], fun i h1 h2 => by omega, fun _ => findSn_none hf⟩
    | some x =>
      obtain ⟨hx, hcmd, hxsn⟩ := findSn_some hf
      have hgen := hg x hx hcmd
      rw [hxsn] at hgen
      obtain ⟨hlt, hLsn⟩ := List.getElem?_eq_some_iff.mp hgen
      have hav : Avail all sn := ⟨x, hx, hcmd, hxsn⟩
      have hcons : ∀ n, sn + 1 ≤ n → n ≤ L.length →
          (L.take n).drop sn = (BitVec.ofNat 8 x.1.frg.toNat, x.2) :: (L.take n).drop (sn + 1) := by
        intro n h1 h2
        have hl : sn < (L.take n).length := by rw [List.length_take]; omega
        rw [List.drop_eq_getElem_cons hl, List.getElem_take, hLsn]
      have hext : ∀ n, (∀ i, sn + 1 ≤ i → i < n → Avail all i) → ∀ i, sn ≤ i → i < n → Avail all i := by
        intro n h5 i hi1 hi2
        rcases Nat.eq_or_lt_of_le hi1 with h7 | h7
        · rw [← h7]; exact hav
        · exact h5 i h7 hi2
      simp only []
      split
      · rename_i hz
        obtain ⟨n, h1, h2, h3, h4, h5, h6⟩ := ih (sn + 1) (done ++ [pending ++ x.2]) [] hlt
        refine ⟨n, by omega, h2, by omega, ?_, ?_, fun h => h6 (by omega)⟩
        · rw [h4, hcons n h1 h2, grpAux_zero _ _ _ (by
            show BitVec.ofNat 8 x.1.frg.toNat = 0
            rw [hz]; rfl)]
          simp
        · exact hext n h5
      · rename_i hz
        obtain ⟨n, h1, h2, h3, h4, h5, h6⟩ := ih (sn + 1) done (pending ++ x.2) hlt
        refine ⟨n, by omega, h2, by omega, ?_, ?_, fun h => h6 (by omega)⟩
        · rw [h4, hcons n h1 h2, grpAux_ne _ _ _ (by
            show BitVec.ofNat 8 x.1.frg.toNat ≠ 0
            intro h0
            exact hz ((bv8_zero_iff _ x.1.frg.toNat_lt).mp h0))]
        · exact hext n h5

/-- pigeonhole: `n` different sequence numbers need `n` segments -/
theorem avail_length (all : List DSeg) : ∀ n, (∀ i, i < n → Avail all i) → n ≤ all.length := by
  intro n
  induction n generalizing all with
  | zero => intro _; exact Nat.zero_le _
  | succ n ih =>
    intro h
    obtain ⟨x, hx, _, hxn⟩ := h n (Nat.lt_succ_self n)
    have h2 : ∀ i, i < n → Avail (all.erase x) i := by
      intro i hi
      obtain ⟨y, hy, hc, hyn⟩ := h i (by omega)
      have hne : y ≠ x := by intro e; rw [e] at hyn; omega
      exact ⟨y, (List.mem_erase_of_ne hne).mpr hy, hc, hyn⟩
    have := ih (all.erase x) h2
    rw [List.length_erase_of_mem hx] at this
    have hpos : 0 < all.length := List.length_pos_of_mem hx
    omega

theorem reassembleMsgs_spec (L : List Content) (all : List DSeg) (hg : ∀ x ∈ all, SegGen L x) :
    ∃ n, n ≤ L.length ∧ reassembleMsgs all = grp (L.take n) ∧ (∀ i, i < n → Avail all i) ∧
      (n < L.length → ¬ Avail all n) := by
  obtain ⟨n, _, h2, h3, h4, h5, h6⟩ := asmFrom_spec L all hg all.length 0 [] [] (Nat.zero_le _)
  refine ⟨n, h2, by simpa [reassembleMsgs, grp] using h4, fun i hi => h5 i (Nat.zero_le _) hi, fun hlt hav => ?_⟩
  by_cases hfuel : n < 0 + all.length
  · exact h6 hfuel hav
  · -- the fuel ran out: `n = |all|`, but `n + 1` different sequence numbers are present
    have : n + 1 ≤ all.length := avail_length all (n + 1) (fun i hi => by
      rcases Nat.eq_or_lt_of_le (Nat.le_of_lt_succ hi) with h7 | h7
      · rw [h7]; exact hav
      · exact h5 i (Nat.zero_le _) h7)
    omega

theorem bytesOf_take_prefix' (X : List Content) (n : Nat) : bytesOf (X.take n) <+: bytesOf X :=
  bytesOf_take_prefix X n

theorem specOf_segGen {L : List Content} {fr : Wire.Frm} (hL : L.length ≤ 2 ^ 32)
    (hpush : fr.cmd.toNat = IKCP_CMD_PUSH → ∃ i, fr.sn = 0 + BitVec.ofNat 32 i ∧ L[i]? = some (fr.frg, fr.data)) :
    SegGen L (specOf fr) := by
  intro hcmd
  have hcmd' : fr.cmd.toNat = IKCP_CMD_PUSH := by
    have : (UInt8.ofNat fr.cmd.toNat).toNat = 81 := hcmd
    rw [u8_toNat_of_bv8] at this
    exact this
  obtain ⟨i, h1, h2⟩ := hpush hcmd'
  have hlt := lt_of_getElem? h2
  have hsn : fr.sn.toNat = i := by rw [h1]; exact toNat_zero_add_ofNat (by omega)
  show L[fr.sn.toNat]? = some (BitVec.ofNat 8 (UInt8.ofNat fr.frg.toNat).toNat, fr.data)
  rw [hsn, h2, Kcp.ofNat_byte]

end KcpVerif.C09W
