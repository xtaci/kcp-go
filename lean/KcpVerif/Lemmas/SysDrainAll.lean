/-
The induction of C02 over the outstanding segments (the writer has stopped and the send queue is empty): every stage
is one progress step started at a clock tick, where the reader has emptied the receive queue.  With an empty queue
no event other than `Send` numbers a new segment, so once `snd_una` has passed the last numbered one nothing waits.
-/
import KcpVerif.Lemmas.SysDrainOrder
import KcpVerif.Lemmas.SysProgress

namespace KcpVerif.SysC
open KcpVerif.Kcp KcpVerif.Live KcpVerif.SysW KcpVerif.Sys

-- the unifier otherwise unfolds the whole of `flush` / `input` when it compares two states
attribute [local irreducible] Kcp.flush Kcp.input

theorem cons_run {p : Par} (evs : List Ev) (s : State) (gab gba : GLink) (h : Cons p s gab gba)
    (hr : RunNoWrap p.base s evs) : ∃ gab' gba', Cons p (Sys.run s evs) gab' gba' :=
  (Cons.run (J := fun _ => True) (fun _ h => h) (fun _ _ _ _ _ _ _ => trivial) evs s gab gba h
    ((runNoWrap_iff p.base evs s).mp hr) trivial).1

theorem run_reaches_tick (τ : Nat) : ∀ (evs : List Ev) (s : State), s.now < τ → τ ≤ (Sys.run s evs).now →
    ∃ a b, evs = a ++ Ev.tick :: b ∧ quiet (Sys.run s a) = true ∧ (Sys.run s a).now + 1 = τ := by
  intro evs
  induction evs with
  | nil => intro s h1 h2; have : (Sys.run s []).now = s.now := rfl; omega
  | cons ev rest ih =>
    intro s h1 h2
    by_cases hn : (Sys.step s ev).now = s.now
    · obtain ⟨a, b, e1, e2, e3⟩ := ih (Sys.step s ev) (by omega) h2
      exact ⟨ev :: a, b, by rw [e1]; rfl, e2, e3⟩
    · obtain ⟨rfl, hq⟩ := step_now_tick s ev hn
      by_cases hτ : s.now + 1 = τ
      · exact ⟨[], rest, rfl, hq, hτ⟩
      · have hn1 : (Sys.step s .tick).now = s.now + 1 := by
          rcases step_now s .tick with e | e
          · exact absurd e hn
          · exact e
        obtain ⟨a, b, e1, e2, e3⟩ := ih (Sys.step s .tick) (by omega) h2
        exact ⟨.tick :: a, b, by rw [e1]; rfl, e2, e3⟩

theorem tick_B (s : State) : (Sys.step s .tick).B = s.B := by
  rw [step_tick]
  split <;> rfl

theorem quiet_peek (s : State) (h : quiet s = true) : s.B.peekSize < 0 := by
  unfold quiet at h
  simp only [Bool.and_eq_true, decide_eq_true_eq] at h
  exact h.2

/-- `s0`: the state the tick to `τ` starts from; the scheduler ticks only when the reader has nothing to read -/
theorem tick_cut {H : State → Prop} (τ : Nat) (evs : List Ev) (s : State) (hr : RunP H s evs) (h1 : s.now < τ)
    (h2 : τ ≤ (Sys.run s evs).now) :
    ∃ c b, evs = c ++ b ∧ RunP H s c ∧ RunP H (Sys.run s c) b ∧ (Sys.run s c).now = τ ∧
      ∃ s0, H s0 ∧ s0.B.peekSize < 0 ∧ (Sys.run s c).B = s0.B := by
  obtain ⟨a, b, rfl, hqt, hτ⟩ := run_reaches_tick τ evs s h1 h2
  have he' : a ++ Ev.tick :: b = (a ++ [Ev.tick]) ++ b := by rw [List.append_assoc]; rfl
  rw [he'] at hr
  obtain ⟨hr1, hr2⟩ := RunP.split (a ++ [Ev.tick]) b s hr
  have hrun1 : Sys.run s (a ++ [Ev.tick]) = Sys.step (Sys.run s a) .tick := by rw [run_append]; rfl
  refine ⟨a ++ [Ev.tick], b, he', hr1, hr2, ?_, Sys.run s a, RunP.last a s (RunP.split a [Ev.tick] s hr1).1,
    quiet_peek _ hqt, by rw [hrun1, tick_B]⟩
  rw [hrun1, step_tick, if_pos hqt]
  exact hτ

/-- `Tm` for A's flush timer -/
structure TmA (I : Nat) (s : State) : Prop where
  iv : s.A.interval.toNat = I
  nf : s.nfA ≤ s.now + I

theorem tmA_step (s : State) (I : Nat) (ht : TmA I s) (ev : Ev) : TmA I (Sys.step s ev) := by
  refine ⟨by rw [(step_cfg s ev).1.1]; exact ht.iv, ?_⟩
  refine step_cases (P := fun s' => s'.nfA ≤ s'.now + I) s ev ht.nf (fun _ _ => ?_) (fun _ _ => ht.nf) (fun _ _ => ht.nf)
    (fun _ => ?_) (fun _ => ht.nf) (fun _ _ _ _ _ => ht.nf) (fun _ _ _ _ _ => ht.nf)
  · show s.nfA ≤ s.now + 1 + I
    have := ht.nf; omega
  · have hle := flush_interval_le s.A (clk s.now)
    rw [BitVec.le_def, ht.iv] at hle
    show s.now + (s.A.flush true (clk s.now)).interval.toNat ≤ s.now + I
    omega

/-- what every event of the closed system keeps from two fresh cores on: consistency, the side invariants of the two
cores, both flush timers -/
structure Inv (p : Par) (IA IB : Nat) (s : State) : Prop where
  cons : ∃ gab gba, Cons p s gab gba
  side : Side p.base s
  ta : TmA IA s
  tb : Tm IB s

theorem inv_step {p : Par} {IA IB : Nat} {s : State} (h : Inv p IA IB s) (hnw : NoWrap p.base s) (ev : Ev) :
    Inv p IA IB (Sys.step s ev) := by
  obtain ⟨gab, gba, hc⟩ := h.cons
  obtain ⟨gab', gba', hc'⟩ := cons_step hc hnw ev
  exact ⟨⟨gab', gba', hc'⟩, side_step hc hnw h.side ev, tmA_step s IA h.ta ev, tm_step s IB h.tb ev⟩

theorem inv_run {p : Par} {IA IB : Nat} (evs : List Ev) (s : State) (h : Inv p IA IB s) (hr : RunNoWrap p.base s evs) :
    Inv p IA IB (Sys.run s evs) :=
  RunP.inv (J := Inv p IA IB) (fun _ ev hnw _ h => inv_step h hnw ev) evs s ((runNoWrap_iff p.base evs s).mp hr) h

theorem Inv.delivered {p : Par} {IA IB : Nat} {s : State} (hi : Inv p IA IB s) (hw : s.A.waitSnd = 0)
    (hq : s.B.rcv_queue.length < s.B.rcv_wnd.toNat) : s.B.rcv_nxt = s.A.snd_nxt := by
  obtain ⟨gab, gba, hc⟩ := hi.cons
  unfold Kcp.waitSnd at hw
  have hnb := not_behind hc hi.side.srt hi.side.fix hq
  have hcon := hc.acon.2
  have hbub := hc.bub
  exact o_inj p.base _ _ (by omega)

/-- the head's retransmission timer is at most `Rmax` ms ahead (and not a wrap behind) -/
def TmrOk (Rmax IA : Nat) (s : State) : Prop :=
  ∀ x rest, s.A.snd_buf = x :: rest → x.xmit = 0 ∨ (x.xmit ≠ 0 ∧ ∃ R, x.resendts = clk R ∧ R ≤ s.now + Rmax ∧
    s.now + Rmax + IA < R + 2 ^ 31)

/-- a reader with nothing to read has not left the receive queue full; a hypothesis on the run, derived nowhere
(it can fail for a fragmented message longer than the window) -/
def QOk (s : State) : Prop := s.B.peekSize < 0 → s.B.rcv_queue.length < s.B.rcv_wnd.toNat

/-- the hypotheses on each state of a draining run: small numbers and an open receive window, the head's timer at most
`Rmax` ahead, a reader that keeps B's queue from staying full -/
def DrainHyp (p : Par) (Rmax IA : Nat) (s : State) : Prop :=
  (Small p.base s ∧ 0 < s.B.rcv_wnd.toNat) ∧ TmrOk Rmax IA s ∧ QOk s

theorem una_mono_run {p : Par} (evs : List Ev) (s : State) (gab gba : GLink) (h : Cons p s gab gba)
    (hr : RunNoWrap p.base s evs) : o p.base s.A.snd_una ≤ o p.base (Sys.run s evs).A.snd_una :=
  (Cons.run (J := fun s' => o p.base s.A.snd_una ≤ o p.base s'.A.snd_una) (fun _ h => h)
    (fun _ _ _ ev hc hnw hm => Nat.le_trans hm (una_mono_step hc hnw ev)) evs s gab gba h
    ((runNoWrap_iff p.base evs s).mp hr) (Nat.le_refl _)).2

/-- the head of A's send buffer, with B not behind it, is released within one stage -/
theorem head_released {p : Par} {IA IB Rmax : Nat} {s : State} (hi : Inv p IA IB s) (hR : Rmax + IA < 2 ^ 31)
    (ht : TmrOk Rmax IA s) (hb : s.A.snd_buf ≠ []) (hrb : o p.base s.A.snd_una ≤ o p.base s.B.rcv_nxt) (evs : List Ev)
    (hsm : RunSmallH p.base s evs) (hnow : s.now + Rmax + IA + s.D + IB + s.D < (Sys.run s evs).now) :
    o p.base s.A.snd_una < o p.base (Sys.run s evs).A.snd_una := by
  obtain ⟨gab, gba, hc⟩ := hi.cons
  cases hbb : s.A.snd_buf with
  | nil => exact absurd hbb hb
  | cons x rest =>
    rw [(headLive_head hi.side.live.1 hbb).2] at hrb ⊢
    -- the head's timer: not sent yet (any time will do), or armed for `R`
    obtain ⟨R, hx, hR1, hR2⟩ : ∃ R, (x.xmit = 0 ∨ (x.xmit ≠ 0 ∧ x.resendts = clk R)) ∧ R ≤ s.now + Rmax ∧
        s.now + Rmax + IA < R + 2 ^ 31 := by
      rcases ht x rest hbb with h0 | ⟨h0, R, e, a, b⟩
      · exact ⟨s.now, Or.inl h0, by omega, by omega⟩
      · exact ⟨R, Or.inr ⟨h0, e⟩, a, b⟩
    exact retG3_done hc hi.side.live (o p.base x.sn) R (s.now + Rmax + IA) IA IB (by omega) hi.tb
      ⟨⟨x, rest, hbb, rfl, hx⟩, hi.ta.iv, by have := hi.ta.nf; omega, by omega, hrb⟩ evs hsm (by omega)

theorem drain_stage {p : Par} {IA IB Rmax : Nat} {s : State} (hi : Inv p IA IB s) (hR : Rmax + IA < 2 ^ 31)
    (hq : s.B.rcv_queue.length < s.B.rcv_wnd.toNat) (n : Nat) (hlen : s.A.snd_buf.length ≤ n + 1)
    (evs : List Ev) (hr : RunP (DrainHyp p Rmax IA) s evs)
    (hnow : s.now + Rmax + IA + s.D + IB + s.D < (Sys.run s evs).now) :
    (Sys.run s evs).A.snd_buf.length ≤ n + (o p.base (Sys.run s evs).A.snd_nxt - o p.base s.A.snd_nxt) := by
  obtain ⟨gab, gba, hc⟩ := hi.cons
  have hsm : RunSmallH p.base s evs := runP_smallH p.base evs s (RunP.mono (fun _ h => h.1) evs s hr)
  obtain ⟨g1, g2, hc'⟩ := cons_run evs s gab gba hc (runSmallH_noWrap p.base evs s hsm)
  have hcon' := hc'.acon.2
  have hcon := hc.acon.2
  by_cases hb : s.A.snd_buf = []
  · have := una_mono_run evs s gab gba hc (runSmallH_noWrap p.base evs s hsm)
    have := hc.acon.o_nil hb
    omega
  · have := head_released hi hR (RunP.head hr).2.1 hb (not_behind hc hi.side.srt hi.side.fix hq) evs hsm hnow
    omega

def stageLen (Rmax IA IB D : Nat) : Nat := Rmax + IA + D + IB + D + 1

theorem drain_done {p : Par} {IA IB : Nat} {s : State} (hi : Inv p IA IB s) (hlen : s.A.snd_buf.length = 0)
    (hsq : s.A.snd_queue = []) (evs : List Ev) (hns : ∀ ev ∈ evs, isSend ev = false) (hrn : RunNoWrap p.base s evs) :
    (Sys.run s evs).A.waitSnd = 0 := by
  obtain ⟨gab, gba, hc⟩ := hi.cons
  obtain ⟨i1, i2⟩ := idle_run evs s hsq hns
  obtain ⟨g1, g2, hc'⟩ := cons_run evs s gab gba hc hrn
  have hmono := una_mono_run evs s gab gba hc hrn
  have h0 := hc.acon.2
  have h1 := hc'.acon.2
  rw [i2] at h1
  have : (Sys.run s evs).A.snd_buf.length = 0 := by omega
  unfold waitSnd
  rw [i1, this]; rfl

theorem drain_all {p : Par} {IA IB Rmax : Nat} (hR : Rmax + IA < 2 ^ 31) : ∀ (n : Nat) (s : State), Inv p IA IB s →
    s.B.rcv_queue.length < s.B.rcv_wnd.toNat → s.A.snd_buf.length ≤ n → s.A.snd_queue = [] →
    ∀ evs : List Ev, (∀ ev ∈ evs, isSend ev = false) → RunP (DrainHyp p Rmax IA) s evs →
    s.now + n * stageLen Rmax IA IB s.D ≤ (Sys.run s evs).now → (Sys.run s evs).A.waitSnd = 0 := by
  intro n s hi hq hlen hsq evs hns hr hnow
  have noWrap : ∀ (evs : List Ev) (s : State), RunP (DrainHyp p Rmax IA) s evs → RunNoWrap p.base s evs :=
    fun evs s hr => runSmallH_noWrap p.base evs s (runP_smallH p.base evs s (RunP.mono (fun _ h => h.1) evs s hr))
  refine stages (H := DrainHyp p Rmax IA) (E := fun ev => isSend ev = false) (L := stageLen Rmax IA IB s.D)
    (I := fun s' => Inv p IA IB s' ∧ s'.B.rcv_queue.length < s'.B.rcv_wnd.toNat ∧ s'.A.snd_queue = [] ∧ s'.D = s.D)
    (fun s' evs ⟨hi', hq', hsq', hD⟩ hw' hns' hr' hnow' => ?_) (fun s' evs ⟨hi', _, hsq', _⟩ hw' hns' hr' => ?_)
    n s evs ⟨hi, hq, hsq, rfl⟩ (by unfold waitSnd; rw [hsq]; exact hlen) hns hr hnow
  · -- a stage ends at the clock tick `stageLen` later: the reader has emptied B's queue, the head is released
    have hpos : 0 < stageLen Rmax IA IB s.D := by unfold stageLen; omega
    obtain ⟨c, b, he, hr1, _, hnow1, s0, h0, hpk, hB⟩ :=
      tick_cut (s'.now + stageLen Rmax IA IB s.D) evs s' hr' (by omega) hnow'
    have hns1 : ∀ ev ∈ c, isSend ev = false := fun ev hev => hns' ev (by rw [he]; exact List.mem_append_left _ hev)
    have hrn1 := noWrap _ s' hr1
    obtain ⟨gab, gba, hc⟩ := hi'.cons
    obtain ⟨i1, i2⟩ := idle_run c s' hsq' hns1
    unfold waitSnd at hw' ⊢
    rw [hsq', List.length_nil] at hw'
    have hst := drain_stage hi' hR hq' (s'.A.snd_buf.length - 1) (by omega) c hr1
      (by rw [hnow1, hD]; unfold stageLen; omega)
    rw [i2] at hst
    exact ⟨c, b, he, ⟨inv_run _ s' hi' hrn1, by rw [hB]; exact h0.2.2 hpk, i1, (run_D _ s').trans hD⟩, by omega,
      by rw [i1, hsq']; simp only [List.length_nil]; omega⟩
  · unfold waitSnd at hw'
    rw [hsq', List.length_nil] at hw'
    exact drain_done hi' (by omega) hsq' evs hns' (noWrap evs s' hr')

theorem inv_init (A B : Kcp) (D t0 : Nat) (ndA ndB : Bool) (h : ConsInit A B) :
    Inv ⟨A.snd_nxt, A.conv, 0, 0, 0⟩ A.interval.toNat B.interval.toNat (Sys.init A B D t0 ndA ndB) :=
  ⟨⟨[], [], cons_init A B D t0 ndA ndB h⟩, side_init A B D t0 ndA ndB h, ⟨rfl, Nat.le_refl _⟩, ⟨rfl, Nat.le_refl _⟩⟩

theorem inv_netStep {p : Par} {IA IB : Nat} {s : State} (h : Inv p IA IB s) (hnw : NoWrap p.base s) (ev : NetEv) :
    Inv p IA IB (netStep s ev) := by
  obtain ⟨gab, gba, hc⟩ := h.cons
  exact ⟨cons_netStep hc hnw ev, side_netStep hc hnw h.side ev,
    netStep_cases (P := TmA IA) s ev (tmA_step s IA h.ta) (fun _ _ _ _ => ⟨h.ta.iv, h.ta.nf⟩) h.ta,
    netStep_cases (P := Tm IB) s ev (tm_step s IB h.tb) (fun _ _ _ _ => ⟨h.tb.iv, h.tb.nf⟩) h.tb⟩

theorem inv_netRun {p : Par} {IA IB : Nat} (evs : List NetEv) (s : State) (h : Inv p IA IB s)
    (hr : NetNoWrap p.base s evs) : Inv p IA IB (netRun s evs) :=
  NetNoWrap.inv (fun _ ev hnw h => inv_netStep h hnw ev) evs s hr h

/-! a Boolean check of the run hypotheses, for the examples -/

def tmrChk (Rmax IA : Nat) (s : State) : Bool :=
  match s.A.snd_buf with
  | [] => true
  | x :: _ => x.xmit == 0 ||
    decide ((x.resendts - clk s.now).toNat ≤ Rmax ∧ Rmax + IA < 2 ^ 31) ||
    decide ((clk s.now - x.resendts).toNat ≤ s.now ∧ Rmax + IA + (clk s.now - x.resendts).toNat < 2 ^ 31)

theorem tmrChk_sound (Rmax IA : Nat) (s : State) (h : tmrChk Rmax IA s = true) : TmrOk Rmax IA s := by
  intro x rest hb
  unfold tmrChk at h
  rw [hb] at h
  simp only [Bool.or_eq_true, beq_iff_eq, decide_eq_true_eq] at h
  by_cases h0 : x.xmit = 0
  · exact Or.inl h0
  · right
    refine ⟨h0, ?_⟩
    rcases h with (h | ⟨h1, h2⟩) | ⟨h1, h2⟩
    · exact absurd h h0
    · refine ⟨s.now + (x.resendts - clk s.now).toNat, ?_, by omega, by omega⟩
      apply BitVec.eq_of_toNat_eq
      have := x.resendts.isLt
      unfold clk
      simp only [BitVec.toNat_ofNat, BitVec.toNat_sub]
      omega
    · refine ⟨s.now - (clk s.now - x.resendts).toNat, ?_, by omega, by omega⟩
      apply BitVec.eq_of_toNat_eq
      have := x.resendts.isLt
      unfold clk at h1 ⊢
      simp only [BitVec.toNat_ofNat, BitVec.toNat_sub] at h1 ⊢
      omega

def drainChk (base : U32) (Rmax IA : Nat) (s : State) : Bool :=
  decide (o base s.A.snd_nxt + s.A.snd_queue.length < 2 ^ 30 ∧ s.B.rcv_wnd.toNat < 2 ^ 30) &&
  decide (0 < s.B.rcv_wnd.toNat) && tmrChk Rmax IA s &&
  decide (s.B.peekSize < 0 → s.B.rcv_queue.length < s.B.rcv_wnd.toNat)

def runChk (base : U32) (Rmax IA : Nat) : State → List Ev → Bool
  | s, [] => drainChk base Rmax IA s
  | s, ev :: rest => drainChk base Rmax IA s && runChk base Rmax IA (Sys.step s ev) rest

theorem drainChk_sound (p : Par) (Rmax IA : Nat) (s : State) (h : drainChk p.base Rmax IA s = true) : DrainHyp p Rmax IA s := by
  unfold drainChk at h
  simp only [Bool.and_eq_true, decide_eq_true_eq] at h
  exact ⟨⟨h.1.1.1, h.1.1.2⟩, tmrChk_sound Rmax IA s h.1.2, h.2⟩

theorem runChk_sound (p : Par) (Rmax IA : Nat) : ∀ (evs : List Ev) (s : State), runChk p.base Rmax IA s evs = true →
    RunP (DrainHyp p Rmax IA) s evs :=
  RunP.of_chk (c := drainChk p.base Rmax IA) (drainChk_sound p Rmax IA) (fun _ => rfl) (fun _ _ _ => rfl)

end KcpVerif.SysC
