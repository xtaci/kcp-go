/-
The probe bits and the probe timer of C03: ASK_TELL across the parse loop, what a flush does with the bits and the
timer (the WINS and WASK headers, the back-off), and the effective window under a closed remote window.
Core Lean only.
-/
import KcpVerif.Lemmas.KcpLiveFlush
import KcpVerif.Lemmas.KcpSteps

namespace KcpVerif.Live
open KcpVerif.Gen KcpVerif.Kcp

theorem tell_iff (x : U32) : x &&& u32 IKCP_ASK_TELL ≠ 0 ↔ x.getLsbD 1 = true := by
  simp only [u32, IKCP_ASK_TELL]
  rw [show BitVec.ofNat 32 2 = BitVec.twoPow 32 1 from by decide, BitVec.and_twoPow]
  cases h : x.getLsbD 1
  · simp
  · simp; decide

theorem tell_or (x : U32) : (x ||| u32 IKCP_ASK_TELL) &&& u32 IKCP_ASK_TELL ≠ 0 := by
  rw [tell_iff, BitVec.getLsbD_or]
  simp only [u32, IKCP_ASK_TELL]
  rw [show (BitVec.ofNat 32 2).getLsbD 1 = true from by decide, Bool.or_true]

theorem tell_or_any (x y : U32) (h : x &&& u32 IKCP_ASK_TELL ≠ 0) : (x ||| y) &&& u32 IKCP_ASK_TELL ≠ 0 := by
  rw [tell_iff] at h ⊢
  rw [BitVec.getLsbD_or, h, Bool.true_or]

section
variable (regular : Bool) (conv : U32) (cmd frg : BitVec 8) (wnd : BitVec 16) (ts sn una : U32)
  (payload : Bytes) (st : InLoop)

theorem inStep_probe :
    (inStep regular conv cmd frg wnd ts sn una payload st).k.probe =
      if cmd.toNat = IKCP_CMD_WASK then st.k.probe ||| u32 IKCP_ASK_TELL else st.k.probe := by
  refine inStep_cases
    (P := fun x => x.probe = if cmd.toNat = IKCP_CMD_WASK then st.k.probe ||| u32 IKCP_ASK_TELL else st.k.probe)
    (Q := fun x => x.probe = st.k.probe) regular conv cmd frg wnd ts sn una payload st
    (by obtain ⟨sb, su, e⟩ := inPre_frame regular wnd una st.k; rw [e]) ?_ ?_ ?_ ?_ ?_ ?_
  · intro a k q
    obtain ⟨b, u, e⟩ := ackPath_shape k sn ts
    rw [if_neg (by rw [a]; decide), e]; exact q
  · intro p k q _ _
    obtain ⟨rq, rb, rn, e⟩ := parseData_shape { k with acklist := k.acklist ++ [⟨sn, ts⟩] }
      (pushSeg conv cmd frg wnd ts sn una payload)
    rw [if_neg (by rw [p]; decide), e]; exact q
  · intro p k q _ _; rw [if_neg (by rw [p]; decide)]; exact q
  · intro p k q _; rw [if_neg (by rw [p]; decide)]; exact q
  · intro w k q; rw [if_pos w, ← q]
  · intro _ _ w k q; rw [if_neg w]; exact q

end

theorem tell_steps : Kcp.LoopSteps (fun a b => a.probe &&& u32 IKCP_ASK_TELL ≠ 0 → b.probe &&& u32 IKCP_ASK_TELL ≠ 0) :=
  .of_shapes (fun _ h => h) (fun f g h => g (f h)) (fun _ _ h => h) (fun _ _ _ h => h) (fun _ _ h => h)
    (fun _ _ _ _ h => h) (fun k _ => tell_or k.probe)

theorem inputLoop_tell_mono (regular : Bool) (fuel : Nat) (data : Bytes) (st : InLoop)
    (h : st.k.probe &&& u32 IKCP_ASK_TELL ≠ 0) :
    (inputLoop regular fuel data st).k.probe &&& u32 IKCP_ASK_TELL ≠ 0 :=
  tell_steps.loop regular fuel data st h

theorem probePhase_probe (k : Kcp) (now : U32) :
    (probePhase k now).probe = k.probe ∨ (probePhase k now).probe = k.probe ||| u32 IKCP_ASK_SEND :=
  probePhase_cases (P := fun x => x.probe = k.probe ∨ x.probe = k.probe ||| u32 IKCP_ASK_SEND) k now
    (fun _ => Or.inl rfl) (fun _ _ => Or.inl rfl) (fun _ _ _ => Or.inr rfl) (fun _ _ _ => Or.inl rfl)

/-- a header written (after making space) at a point from which the buffer only grows to the end of the
flush is in the output of a flush that does not panic -/
theorem hdr_on_wire {f : Fl} {k : Kcp} {full : Bool} {now : U32} (hdr : Bytes)
    (hg : Fl.Grow ((f.makeSpace IKCP_OVERHEAD).putHdr hdr) (flF5 k full now)) (hp : (flush k full now).panic = false) :
    ∃ pre post, (flush k full now).outs.flatten = pre ++ hdr ++ post := by
  rw [flush_panic] at hp
  have hw := Fl.putHdr_wire _ _ (hg.noPanic hp)
  rw [Fl.makeSpace_wire] at hw
  obtain ⟨post, hpost⟩ := hg.keeps hw.1
  exact ⟨_, post, by rw [flush_wire, hpost]⟩

/-- the guard of the WINS header: phase 2 can only add ASK_SEND, phase 3a does not write `probe` -/
theorem flF3a_tell (k : Kcp) (now : U32) (h : k.probe &&& u32 IKCP_ASK_TELL ≠ 0) :
    (flF3a k now).k.probe &&& u32 IKCP_ASK_TELL ≠ 0 := by
  rw [flF3a_k, flF2_k]
  rcases probePhase_probe { k with acklist := [] } now with e | e
  · rw [e]; exact h
  · rw [e]; exact tell_or_any _ _ h

theorem flush_wins (k : Kcp) (full : Bool) (now : U32) (h : k.probe &&& u32 IKCP_ASK_TELL ≠ 0) :
    (flush k full now).k.probe = 0 ∧
    ((flush k full now).panic = false → ∃ pre post, (flush k full now).outs.flatten =
      pre ++ encodeHdr k.conv (BitVec.ofNat 8 IKCP_CMD_WINS) 0 (wndUnused k) (flAck k).sc.ts (flAck k).sc.sn k.rcv_nxt 0
        ++ post) := by
  constructor
  · obtain ⟨_, _, _, _, _, _, hk⟩ := flush_frame k full now
    rw [hk]
  · have hg := grow_F3b_end k full now
    obtain ⟨pw, tp, pr, hpp⟩ := probePhase_shape { k with acklist := [] } now
    have hconv : (flF3a k now).k.conv = k.conv := by rw [flF3a_k, flF2_k, hpp]
    unfold flF3b at hg
    rw [if_pos (flF3a_tell k now h), hconv] at hg
    exact hdr_on_wire _ hg

theorem send_bit (x : U32) : (x ||| u32 IKCP_ASK_SEND) &&& u32 IKCP_ASK_SEND ≠ 0 := by
  simp only [u32, IKCP_ASK_SEND]
  rw [show BitVec.ofNat 32 1 = BitVec.twoPow 32 0 from by decide, BitVec.and_twoPow, BitVec.getLsbD_or]
  rw [show (BitVec.twoPow 32 0).getLsbD 0 = true from by decide, Bool.or_true]
  simp only [↓reduceIte]
  decide

theorem flush_probe_timer (k : Kcp) (full : Bool) (now : U32) :
    (flush k full now).k.probe_wait = (probePhase { k with acklist := [] } now).probe_wait ∧
    (flush k full now).k.ts_probe = (probePhase { k with acklist := [] } now).ts_probe := by
  obtain ⟨_, _, _, _, e⟩ := flush_frame_probe k full now
  rw [e]; exact ⟨rfl, rfl⟩

theorem flush_pw (k : Kcp) (full : Bool) (now : U32) :
    (flush k full now).k.probe_wait = 0 ∨ (flush k full now).k.probe_wait = u32 IKCP_PROBE_INIT ∨
    (flush k full now).k.probe_wait = nextProbeWait k.probe_wait ∨ (flush k full now).k.probe_wait = k.probe_wait := by
  rw [(flush_probe_timer k full now).1]
  exact probePhase_cases (P := fun x => x.probe_wait = 0 ∨ x.probe_wait = u32 IKCP_PROBE_INIT ∨
      x.probe_wait = nextProbeWait k.probe_wait ∨ x.probe_wait = k.probe_wait) { k with acklist := [] } now
    (fun _ => Or.inl rfl) (fun _ _ => Or.inr (Or.inl rfl)) (fun _ _ _ => Or.inr (Or.inr (Or.inl rfl)))
    (fun _ _ _ => Or.inr (Or.inr (Or.inr rfl)))

/-- the guard of the WASK header: a due probe timer sets ASK_SEND in phase 2 -/
theorem flF2_send (k : Kcp) (now : U32) (h0 : k.rmt_wnd = 0) (h1 : k.probe_wait ≠ 0)
    (h2 : itimediff now k.ts_probe ≥ 0) : (flF2 k now).k.probe &&& u32 IKCP_ASK_SEND ≠ 0 := by
  rw [flF2_k, probePhase_fire { k with acklist := [] } now h0 h1 h2]; exact send_bit _

theorem umin_zero (a : U32) : (if a ≤ 0 then a else 0) = 0 := by
  by_cases h : a ≤ 0
  · rw [if_pos h]; exact BitVec.le_zero_iff.mp h
  · rw [if_neg h]

theorem effWnd_zero (k : Kcp) (h : k.rmt_wnd = 0) : effWnd k = 0 := by
  unfold effWnd
  rw [h, umin_zero, umin_zero]
  exact ite_self _

end KcpVerif.Live
