/-
The operations of the protocol core as a labelled transition system (`Op`, `step`, `run`), and `flush` and `Send`
seen from the state they start in, on top of the stages of `KcpStages` and `KcpLiveFlush`.
Core Lean only.
-/
import KcpVerif.Lemmas.KcpSteps
import KcpVerif.Lemmas.KcpLiveFlush

namespace KcpVerif.Kcp
open KcpVerif.Gen

/-- every state-changing entry point of the core, with arbitrary arguments -/
inductive Op where
  | send (buffer : Bytes)
  | recv (buflen : Nat)
  | input (data : Bytes) (regular ackNoDelay : Bool) (now : U32)
  | flush (full : Bool) (now : U32)
  | update (now : U32)
  | setMtu (mtu : Int)
  | noDelay (nodelay interval resend nc : Int)
  | wndSize (snd rcv : Int)
  | setStream (v : U32)
deriving Repr

/-- the state after an operation (return values, output and panic flags dropped: the invariants
are proved for the state the model returns in EVERY case, also next to a `panic` flag) -/
def step (k : Kcp) : Op → Kcp
  | .send b => (k.send b).k
  | .recv n => (k.recv n).k
  | .input d reg nd now => (k.input d reg nd now).k
  | .flush full now => (k.flush full now).k
  | .update now => (k.update now).k
  | .setMtu m => (k.setMtu m).1
  | .noDelay a b c d => k.noDelay a b c d
  | .wndSize s r => k.wndSize s r
  | .setStream v => { k with stream := v }

def run (k : Kcp) (ops : List Op) : Kcp := ops.foldl step k

@[simp] theorem run_nil (k : Kcp) : run k [] = k := rfl
@[simp] theorem run_cons (k : Kcp) (op : Op) (ops : List Op) : run k (op :: ops) = run (step k op) ops := rfl

/-- each hypothesis left to its default asks that `P`, a plain predicate on fields, does not read what that
operation writes -/
theorem inv_step {P : Kcp → Prop} {ok : Kcp → Op → Prop} (hs : Steps (fun a b => P a → P b))
    (k : Kcp) (op : Op) (hok : ok k op) (h : P k)
    (hsend : ∀ k b, P k → P (send k b).k := by
      intro k b h; obtain ⟨q, e⟩ := send_shape k b; rw [e]; exact h)
    (hrecv : ∀ k n, P k → P (recv k n).k := by
      intro k n h; obtain ⟨q, b, x, p, e⟩ := recv_shape k n; rw [e]; exact h)
    (hmtu : ∀ k m, P k → P (setMtu k m).1 := by
      intro k m h; obtain ⟨a, b, c, e⟩ := setMtu_shape k m; rw [e]; exact h)
    (hnd : ∀ k nd iv rs nc, P k → P (noDelay k nd iv rs nc) := by
      intro k nd iv rs nc h; obtain ⟨a, b, c, d, e', e⟩ := noDelay_shape k nd iv rs nc; rw [e]; exact h)
    (hwnd : ∀ k s r, ok k (.wndSize s r) → P k → P (wndSize k s r) := by
      intro k s r _ h; obtain ⟨sw, rw', e⟩ := wndSize_shape k s r; rw [e]; exact h)
    (hstream : ∀ k v, P k → P { k with stream := v } := by intro k v h; exact h) :
    P (step k op) := by
  cases op with
  | send b => exact hsend k b h
  | recv n => exact hrecv k n h
  | input d r a now => exact hs.input k d r a now h
  | flush full now => exact hs.flush k full now h
  | update now => exact hs.update k now h
  | setMtu m => exact hmtu k m h
  | noDelay nd iv rs nc => exact hnd k nd iv rs nc h
  | wndSize s r => exact hwnd k s r hok h
  | setStream v => exact hstream k v h

/-- a fresh core whose sequence numbers start anywhere (the real code starts at 0; the
generalisation covers every wrap-around position) -/
def start (conv snd0 rcv0 : U32) : Kcp := { Kcp.new conv with snd_una := snd0, snd_nxt := snd0, rcv_nxt := rcv0 }

/-! ### `flush`: the stages are `Live`'s (`KcpLiveFlush`); what phase 4 and phase 5 are given -/

/-- `min(snd_wnd, rmt_wnd)` -/
def cw0 (k : Kcp) : U32 := if k.snd_wnd ≤ k.rmt_wnd then k.snd_wnd else k.rmt_wnd

/-- the window of phase 4: `cw0` and, with congestion control, `cwnd` -/
def effCwnd (k : Kcp) : U32 :=
  if k.nocwnd = 0 then (if k.cwnd ≤ cw0 k then k.cwnd else cw0 k) else cw0 k

/-- phase 4: admission from `snd_queue` into `snd_buf` under the effective window -/
def flushAd (k : Kcp) (now : U32) : AdmitRes :=
  admitSegs k.conv k.snd_una (effCwnd k) now k.snd_queue k.snd_buf k.snd_nxt 0

def resentOf (k : Kcp) : U32 := if k.fastresend.sle 0 then 0xFFFFFFFF#32 else k.fastresend

/-- the retransmission decision of phase 5: (needsend, segment', change+, lost+) -/
def xmitDec (k : Kcp) (now resent : U32) (newSegs : Nat) (s : Seg) : Bool × Seg × Nat × Nat :=
  if s.xmit = 0 then (true, { s with rto := k.rx_rto, resendts := now + k.rx_rto }, 0, 0)
  else if s.fastack ≥ resent ∧ s.fastack ≠ 0xFFFFFFFF#32 then
    (true, { s with fastack := 0xFFFFFFFF#32, rto := k.rx_rto, resendts := now + k.rx_rto }, 1, 0)
  else if s.fastack > 0 ∧ s.fastack ≠ 0xFFFFFFFF#32 ∧ newSegs = 0 then
    (true, { s with fastack := 0xFFFFFFFF#32, rto := k.rx_rto, resendts := now + k.rx_rto }, 1, 0)
  else if itimediff now s.resendts ≥ 0 then
    let rto' := if k.nodelay = 0 then s.rto + k.rx_rto else s.rto + k.rx_rto / 2
    (true, { s with rto := rto', fastack := 0, resendts := now + rto' }, 0, 1)
  else (false, s, 0, 0)

def xmitStamp (needsend : Bool) (s1 : Seg) (now : U32) (wnd : BitVec 16) (una : U32) : Seg :=
  if needsend then { s1 with xmit := s1.xmit + 1, ts := now, wnd := wnd, una := una } else s1

/-- `xmitOne` with the decision as one value; `Live.xmitOne_eq` says the same through `cause` and `segAfter`
(`xmitStamp_xmitDec` relates the two) -/
protected theorem xmitOne_eq (now resent : U32) (wnd : BitVec 16) (una : U32) (n : Nat) (st : XmitSt) (s : Seg) :
    xmitOne now resent wnd una n st s =
      if s.acked then { st with done := st.done ++ [s] } else
      let r := xmitDec st.f.k now resent n s
      let s2 := xmitStamp r.1 r.2.1 now wnd una
      { f := if r.1 then Live.emit st.f s2 else st.f, done := st.done ++ [s2],
        change := st.change + r.2.2.1, lost := st.lost + r.2.2.2, next := Live.nextUpd now s2 st.next } := by
  unfold xmitOne xmitDec xmitStamp Live.emit Live.nextUpd
  rfl

theorem effWnd_eq (k : Kcp) : Live.effWnd k = effCwnd k := rfl

/-- the two descriptions of `xmitOne` leave the same segment in `done` -/
theorem xmitStamp_xmitDec (k : Kcp) (now resent : U32) (wnd : BitVec 16) (una : U32) (n : Nat) (s : Seg)
    (ha : s.acked = false) :
    xmitStamp (xmitDec k now resent n s).1 (xmitDec k now resent n s).2.1 now wnd una =
      Live.segAfter now resent wnd una n k.rx_rto k.nodelay s := by
  have hn : ¬ s.acked = true := by rw [ha]; exact Bool.false_ne_true
  have h := (Kcp.xmitOne_eq now resent wnd una n { f := { k := k }, next := 0 } s).symm.trans
    (Live.xmitOne_eq now resent wnd una n { f := { k := k }, next := 0 } s)
  rw [if_neg hn, if_neg hn] at h
  exact List.head_eq_of_cons_eq (List.append_cancel_left (congrArg XmitSt.done h))

theorem xmitDec_sn (k : Kcp) (now resent : U32) (n : Nat) (s : Seg) : (xmitDec k now resent n s).2.1.sn = s.sn := by
  let P (r : Bool × Seg × Nat × Nat) : Prop := r.2.1.sn = s.sn
  show P (xmitDec k now resent n s)
  unfold xmitDec
  exact ite_ind rfl (ite_ind rfl (ite_ind rfl (ite_ind rfl rfl)))

theorem xmitStamp_sn (b : Bool) (s : Seg) (now : U32) (wnd : BitVec 16) (una : U32) :
    (xmitStamp b s now wnd una).sn = s.sn := by
  unfold xmitStamp; split <;> rfl

/-- phases 1–3 write nothing that admission reads -/
theorem flAd_flushAd (k : Kcp) (now : U32) : Live.flAd k now = flushAd k now := Live.flAd_eq k now

theorem flF4_snd_buf (k : Kcp) (now : U32) : (Live.flF4 k now).k.snd_buf = (flushAd k now).buf := by
  obtain ⟨pw, tp, h4⟩ := Live.flF4_frame k now
  rw [h4, flAd_flushAd]

theorem flF4_resentOf (k : Kcp) (now : U32) : Live.resentOf (Live.flF4 k now).k = resentOf k :=
  Live.resentOf_flF4 k now

/-- the state before phase 6 as a record literal, so that its projections reduce by `rfl` -/
theorem flush_stages (k : Kcp) (full : Bool) (now : U32) :
    ∃ pw tp st, (flush k full now).k =
      phase6 { k with acklist := [], probe_wait := pw, ts_probe := tp, probe := 0, snd_queue := (flushAd k now).queue,
                      snd_buf := (Live.flX k full now).done, snd_nxt := (flushAd k now).nxt, state := st }
        (effCwnd k) (resentOf k) (Live.flX k full now).change (Live.flX k full now).lost := by
  obtain ⟨pw, tp, h4⟩ := Live.flF4_frame k now
  have heff : Live.effWnd (Live.flF3 k now).k = effCwnd k := Live.effWnd_flF3 k now
  refine ⟨pw, tp, (Live.flX k full now).f.k.state, ?_⟩
  rw [Live.flush_eq]
  simp only []
  rw [heff, flF4_resentOf]
  unfold Live.flF5
  simp only []
  rw [(Live.ext_X k full now).k, h4, flAd_flushAd]

/-- `Live.flush_frame` with phase 4 named from the state `flush` starts in; of the send buffer only the sequence numbers -/
theorem flush_k (k : Kcp) (full : Bool) (now : U32) :
    ∃ pw tp st ss cw inc done,
      (flush k full now).k = { k with acklist := [], probe_wait := pw, ts_probe := tp, probe := 0,
                                      snd_queue := (flushAd k now).queue, snd_buf := done,
                                      snd_nxt := (flushAd k now).nxt, state := st,
                                      ssthresh := ss, cwnd := cw, incr := inc } ∧
      done.map (·.sn) = (flushAd k now).buf.map (·.sn) := by
  obtain ⟨pw, tp, st, ss, cw, inc, e⟩ := Live.flush_frame k full now
  have hs := Live.flush_snd_buf_key (key := (·.sn)) (fun _ _ _ _ _ _ _ _ => rfl) k full now
  rw [e, flAd_flushAd] at hs
  exact ⟨pw, tp, st, ss, cw, inc, _, by rw [e, flAd_flushAd], hs⟩

/-- stream mode: how many bytes are appended to the last queued segment -/
def sendExt (k : Kcp) (buffer : Bytes) : Nat :=
  if k.stream ≠ 0 then
    match k.snd_queue.getLast? with
    | some s => if s.data.length < k.mss.toNat then min buffer.length (k.mss.toNat - s.data.length) else 0
    | none => 0
  else 0

def sendPanic1 (k : Kcp) (ext : Nat) : Bool :=
  match k.snd_queue.getLast? with
  | some s => decide (ext > 0 ∧ s.data.length + ext > mtuLimit)
  | none => false

def sendQ1 (k : Kcp) (buffer : Bytes) (ext : Nat) : List Seg :=
  if ext > 0 then
    match k.snd_queue.getLast? with
    | some s => setLast k.snd_queue { s with data := s.data ++ buffer.take ext }
    | none => k.snd_queue
  else k.snd_queue

def sendCount (buf : Bytes) (mss : Nat) : Nat := if buf.length ≤ mss then 1 else (buf.length + mss - 1) / mss

def sendNew (k : Kcp) (buf : Bytes) : List Seg :=
  mkSegs k.mss.toNat (k.stream ≠ 0)
    (if sendCount buf k.mss.toNat = 0 then 1 else sendCount buf k.mss.toNat) buf

theorem send_eq (k : Kcp) (buffer : Bytes) :
    send k buffer =
      if buffer.length = 0 then ⟨k, -1, false⟩ else
      if sendCount (buffer.drop (sendExt k buffer)) k.mss.toNat > 255 then
        ⟨k, -2, false⟩ else
      if sendPanic1 k (sendExt k buffer) then ⟨k, 0, true⟩ else
      if k.stream ≠ 0 ∧ (buffer.drop (sendExt k buffer)).length = 0 then
        ⟨{ k with snd_queue := sendQ1 k buffer (sendExt k buffer) }, 0, false⟩ else
      if min (buffer.drop (sendExt k buffer)).length k.mss.toNat > mtuLimit then
        ⟨{ k with snd_queue := sendQ1 k buffer (sendExt k buffer) }, 0, true⟩ else
      ⟨{ k with snd_queue := sendQ1 k buffer (sendExt k buffer) ++ sendNew k (buffer.drop (sendExt k buffer)) }, 0, false⟩ := rfl

theorem step_cases (k : Kcp) (op : Op) :
    (∃ d reg nd now, op = .input d reg nd now) ∨ (∃ full now, op = .flush full now) ∨ (∃ now, op = .update now) ∨
    ((step k op).cwnd = k.cwnd ∧ (step k op).snd_buf = k.snd_buf ∧ (step k op).snd_nxt = k.snd_nxt) := by
  cases op with
  | input d reg nd now => exact Or.inl ⟨d, reg, nd, now, rfl⟩
  | flush full now => exact Or.inr (Or.inl ⟨full, now, rfl⟩)
  | update now => exact Or.inr (Or.inr (Or.inl ⟨now, rfl⟩))
  | send b =>
    obtain ⟨q, e⟩ := send_shape k b
    exact Or.inr (Or.inr (Or.inr (by rw [show step k (.send b) = _ from e]; exact ⟨rfl, rfl, rfl⟩)))
  | recv n =>
    obtain ⟨q, b, x, p, e⟩ := recv_shape k n
    exact Or.inr (Or.inr (Or.inr (by rw [show step k (.recv n) = _ from e]; exact ⟨rfl, rfl, rfl⟩)))
  | setMtu m =>
    obtain ⟨a, b, c, e⟩ := setMtu_shape k m
    exact Or.inr (Or.inr (Or.inr (by rw [show step k (.setMtu m) = _ from e]; exact ⟨rfl, rfl, rfl⟩)))
  | noDelay a b c d =>
    obtain ⟨_, _, _, _, _, e⟩ := noDelay_shape k a b c d
    exact Or.inr (Or.inr (Or.inr (by rw [show step k (.noDelay a b c d) = _ from e]; exact ⟨rfl, rfl, rfl⟩)))
  | wndSize s r =>
    obtain ⟨_, _, e⟩ := wndSize_shape k s r
    exact Or.inr (Or.inr (Or.inr (by rw [show step k (.wndSize s r) = _ from e]; exact ⟨rfl, rfl, rfl⟩)))
  | setStream v => exact Or.inr (Or.inr (Or.inr ⟨rfl, rfl, rfl⟩))

end KcpVerif.Kcp
