/-
What an ARBITRARY genuine frame from the receiver (a stale or fresh `una`, an ACK for any segment the receiver has)
does to the send buffer (C02/C03 Tier 2): it stays contiguous and tagged, only segments the receiver has get flagged
or released.  On a contiguous buffer `shrink_buf` is a `drop` that moves `snd_una` by the number dropped, so the same
walk says how far `snd_una` moves: at least to the frame's `una`, and past an acknowledged head.
-/
import KcpVerif.Lemmas.SysDrainGen

namespace KcpVerif.SysC
open KcpVerif.Gen KcpVerif.Kcp KcpVerif.Live KcpVerif.Wire KcpVerif.SysW

/-- element-wise relation between a send buffer and what `parse_ack` / `parse_fastack` leave of it -/
def MarkRel (sn : U32) : List Seg → List Seg → Prop
  | [], [] => True
  | x :: l, x' :: l' =>
    (x'.sn = x.sn ∧ x'.conv = x.conv ∧ x'.cmd = x.cmd ∧ x'.data.length ≤ x.data.length ∧
      (x'.acked = true → x.acked = true ∨ x.sn = sn)) ∧ MarkRel sn l l'
  | _, _ => False

theorem MarkRel.refl (sn : U32) : ∀ l, MarkRel sn l l
  | [] => trivial
  | _ :: l => ⟨⟨rfl, rfl, rfl, Nat.le_refl _, fun h => Or.inl h⟩, MarkRel.refl sn l⟩

theorem MarkRel.trans {sn : U32} : ∀ {a b c : List Seg}, MarkRel sn a b → MarkRel sn b c → MarkRel sn a c
  | [], [], [], _, _ => trivial
  | x :: a, y :: b, z :: c, h1, h2 =>
    ⟨⟨h2.1.1.trans h1.1.1, h2.1.2.1.trans h1.1.2.1, h2.1.2.2.1.trans h1.1.2.2.1,
      Nat.le_trans h2.1.2.2.2.1 h1.1.2.2.2.1, fun hz => by
        rcases h2.1.2.2.2.2 hz with h | h
        · exact h1.1.2.2.2.2 h
        · exact Or.inr (by rw [← h1.1.1]; exact h)⟩, MarkRel.trans h1.2 h2.2⟩
  | [], [], _ :: _, _, h2 => h2.elim
  | [], _ :: _, _, h1, _ => h1.elim
  | _ :: _, [], _, h1, _ => h1.elim
  | _ :: _, _ :: _, [], _, h2 => h2.elim

theorem MarkRel.facts {sn : U32} : ∀ {l l' : List Seg}, MarkRel sn l l' →
    l'.map (fun x => x.sn) = l.map (fun x => x.sn) ∧
    (∀ x' ∈ l', ∃ x ∈ l, x'.sn = x.sn ∧ x'.conv = x.conv ∧ x'.cmd = x.cmd ∧ (x'.acked = true → x.acked = true ∨ x.sn = sn))
  | [], [], _ => ⟨rfl, fun x hx => by simp at hx⟩
  | x :: l, x' :: l', h => by
    obtain ⟨i1, i2⟩ := MarkRel.facts h.2
    refine ⟨by simp only [List.map_cons, h.1.1, i1], fun y hy => ?_⟩
    rcases List.mem_cons.mp hy with rfl | hy
    · exact ⟨x, List.mem_cons_self .., h.1.1, h.1.2.1, h.1.2.2.1, h.1.2.2.2.2⟩
    · obtain ⟨z, hz, r⟩ := i2 y hy
      exact ⟨z, List.mem_cons_of_mem _ hz, r⟩
  | [], _ :: _, h => h.elim
  | _ :: _, [], h => h.elim

theorem ackLoop_rel (sn : U32) : ∀ l, MarkRel sn l (ackLoop sn l) := by
  intro l
  induction l with
  | nil => exact trivial
  | cons s rest ih =>
    unfold ackLoop
    split
    · rename_i h
      exact ⟨⟨rfl, rfl, rfl, by simp, fun _ => Or.inr h.symm⟩, MarkRel.refl sn rest⟩
    · split
      · exact MarkRel.refl sn _
      · exact ⟨⟨rfl, rfl, rfl, Nat.le_refl _, fun h => Or.inl h⟩, ih⟩

theorem fastLoop_rel (sn0 sn ts fr : U32) : ∀ l, MarkRel sn0 l (fastLoop sn ts fr l).buf := by
  intro l
  induction l with
  | nil => exact trivial
  | cons s rest ih =>
    unfold fastLoop
    split
    · exact MarkRel.refl sn0 _
    · split
      · exact ⟨⟨rfl, rfl, rfl, Nat.le_refl _, fun h => Or.inl h⟩, ih⟩
      · exact ⟨⟨rfl, rfl, rfl, Nat.le_refl _, fun h => Or.inl h⟩, ih⟩

theorem parseAck_rel (k : Kcp) (sn : U32) :
    ∃ b, parseAck k sn = { k with snd_buf := b } ∧ MarkRel sn k.snd_buf b := by
  unfold parseAck
  split
  · exact ⟨k.snd_buf, rfl, MarkRel.refl sn _⟩
  · exact ⟨_, rfl, ackLoop_rel sn _⟩

theorem parseFastack_rel (sn0 : U32) (k : Kcp) (sn ts : U32) :
    ∃ b, (parseFastack k sn ts).1 = { k with snd_buf := b } ∧ MarkRel sn0 k.snd_buf b := by
  unfold parseFastack
  split
  · exact ⟨k.snd_buf, rfl, MarkRel.refl sn0 _⟩
  · exact ⟨_, rfl, fastLoop_rel sn0 sn ts _ _⟩

/-- `n2`: the flagged heads that `shrink_buf` discards after the first `n` were dropped -/
theorem shrink_contig (base : U32) (k : Kcp) (n : Nat) (hn : n ≤ k.snd_buf.length) (hc : Contig base k) :
    ∃ n2 su, n + n2 ≤ k.snd_buf.length ∧ (∀ x ∈ (k.snd_buf.drop n).take n2, x.acked = true) ∧
      shrinkBuf { k with snd_buf := k.snd_buf.drop n } = { k with snd_buf := k.snd_buf.drop (n + n2), snd_una := su } ∧
      o base su = o base k.snd_una + (n + n2) ∧
      Contig base { k with snd_buf := k.snd_buf.drop (n + n2), snd_una := su } := by
  obtain ⟨n2, hn2, e2, ha2⟩ : ∃ n2, n2 ≤ (k.snd_buf.drop n).length ∧ dropAcked (k.snd_buf.drop n) = (k.snd_buf.drop n).drop n2 ∧
      ∀ x ∈ (k.snd_buf.drop n).take n2, x.acked = true :=
    ⟨_, ackedCount_le _, dropAcked_eq_drop _, ackedCount_take _⟩
  rw [List.length_drop] at hn2
  have eD : dropAcked (k.snd_buf.drop n) = k.snd_buf.drop (n + n2) := by rw [e2, List.drop_drop]
  obtain ⟨hsu, hcon⟩ := hc.drop (m := n + n2) (by omega)
  refine ⟨n2, _, by omega, ha2, ?_, hsu, hcon⟩
  rw [shrinkBuf_eq]
  simp only [eD]

/-- `hasP`: what the receiver has -/
structure SndOk (base conv : U32) (hasP : U32 → Prop) (k : Kcp) : Prop where
  con : Contig base k
  tag : BufTagged conv k.snd_buf
  akd : ∀ x ∈ k.snd_buf, x.acked = true → hasP x.sn
  rel : ∀ sn, o base sn < o base k.snd_una → hasP sn

def SndShape (k k' : Kcp) : Prop :=
  ∃ rw sb su pr, k' = { k with rmt_wnd := rw, snd_buf := sb, snd_una := su, probe := pr }

theorem SndShape.refl (k : Kcp) : SndShape k k := ⟨k.rmt_wnd, k.snd_buf, k.snd_una, k.probe, rfl⟩

theorem SndShape.trans {a b c : Kcp} (h1 : SndShape a b) (h2 : SndShape b c) : SndShape a c := by
  obtain ⟨r1, s1, u1, p1, e1⟩ := h1
  obtain ⟨r2, s2, u2, p2, e2⟩ := h2
  exact ⟨r2, s2, u2, p2, by rw [e2, e1]⟩

theorem SndOk.mark {base conv : U32} {hasP : U32 → Prop} {k : Kcp} (h : SndOk base conv hasP k) {sn : U32} {b : List Seg}
    (hm : MarkRel sn k.snd_buf b) (hs : hasP sn) : SndOk base conv hasP { k with snd_buf := b } := by
  obtain ⟨f1, f2⟩ := hm.facts
  have hmap : b.map (fun x => o base x.sn) = k.snd_buf.map (fun x => o base x.sn) := by
    have := congrArg (List.map (o base)) f1
    simpa [List.map_map, Function.comp_def] using this
  have hlen : b.length = k.snd_buf.length := by
    have := congrArg List.length f1
    simpa using this
  refine ⟨⟨?_, ?_⟩, ?_, ?_, h.rel⟩
  · show b.map _ = List.range' (o base k.snd_una) b.length
    rw [hmap, hlen]; exact h.con.1
  · show o base k.snd_una + b.length = o base k.snd_nxt
    rw [hlen]; exact h.con.2
  · intro x' hx'
    obtain ⟨x, hx, e1, e2, e3, _⟩ := f2 x' hx'
    rw [e2, e3]; exact h.tag x hx
  · intro x' hx' ha
    obtain ⟨x, hx, e1, _, _, e4⟩ := f2 x' hx'
    rcases e4 ha with h1 | h1
    · rw [e1]; exact h.akd x hx h1
    · rw [e1, h1]; exact hs

theorem SndOk.shrink' {base conv : U32} {hasP : U32 → Prop} {k : Kcp} (h : SndOk base conv hasP k)
    (n : Nat) (hn : n ≤ k.snd_buf.length) (hpre : ∀ x ∈ k.snd_buf.take n, hasP x.sn) :
    SndOk base conv hasP (shrinkBuf { k with snd_buf := k.snd_buf.drop n }) ∧
    o base k.snd_una + n ≤ o base (shrinkBuf { k with snd_buf := k.snd_buf.drop n }).snd_una ∧
    SndShape k (shrinkBuf { k with snd_buf := k.snd_buf.drop n }) := by
  obtain ⟨n2, su, hm, hacc, e, hsu, hcon⟩ := shrink_contig base k n hn h.con
  rw [e]
  have hlen := h.con.2
  refine ⟨⟨hcon, fun x hx => h.tag x (List.mem_of_mem_drop hx),
    fun x hx ha => h.akd x (List.mem_of_mem_drop hx) ha, ?_⟩, by show _ ≤ o base su; omega, ⟨k.rmt_wnd, _, su, k.probe, rfl⟩⟩
  · show ∀ sn, o base sn < o base su → hasP sn
    rw [hsu]
    intro sn hsn
    by_cases hlt : o base sn < o base k.snd_una
    · exact h.rel sn hlt
    · have hmem : o base sn ∈ (k.snd_buf.take (n + n2)).map (fun x => o base x.sn) := by
        rw [List.map_take, h.con.1, List.take_range'_of_length_ge hm]
        exact List.mem_range'_1.mpr ⟨by omega, hsn⟩
      obtain ⟨x, hx, hxs⟩ := List.mem_map.mp hmem
      rw [← o_inj base _ _ hxs]
      rw [List.take_add] at hx
      rcases List.mem_append.mp hx with hx | hx
      · exact hpre x hx
      · exact h.akd x (List.mem_of_mem_drop (List.mem_of_mem_take hx)) (hacc x hx)

theorem SndOk.shrink {base conv : U32} {hasP : U32 → Prop} {k : Kcp} (h : SndOk base conv hasP k)
    (hN : o base k.snd_nxt < 2 ^ 31) (n : Nat) (hn : n ≤ k.snd_buf.length) (hpre : ∀ x ∈ k.snd_buf.take n, hasP x.sn) :
    SndOk base conv hasP (shrinkBuf { k with snd_buf := k.snd_buf.drop n }) ∧
    o base k.snd_una ≤ o base (shrinkBuf { k with snd_buf := k.snd_buf.drop n }).snd_una ∧
    SndShape k (shrinkBuf { k with snd_buf := k.snd_buf.drop n }) := by
  obtain ⟨a1, a2, a3⟩ := h.shrink' n hn hpre
  exact ⟨a1, Nat.le_trans (Nat.le_add_right _ _) a2, a3⟩

theorem inFr_ctl (st : InLoop) (fr : Frm)
    (hcmd : fr.cmd.toNat = IKCP_CMD_ACK ∨ fr.cmd.toNat = IKCP_CMD_WASK ∨ fr.cmd.toNat = IKCP_CMD_WINS) :
    (inFr true st fr).k =
      (if fr.cmd.toNat = IKCP_CMD_ACK then
        (parseFastack (shrinkBuf (parseAck (inPre true fr.wnd fr.una st.k) fr.sn)) fr.sn fr.ts).1
      else if fr.cmd.toNat = IKCP_CMD_WASK then
        { inPre true fr.wnd fr.una st.k with probe := (inPre true fr.wnd fr.una st.k).probe ||| u32 IKCP_ASK_TELL }
      else inPre true fr.wnd fr.una st.k) ∧
    (inFr true st fr).panic = st.panic ∧ (inFr true st fr).ret = st.ret := by
  unfold inFr
  rw [inStep_eq]
  by_cases hA : fr.cmd.toNat = IKCP_CMD_ACK
  · rw [if_pos hA, if_pos hA]; exact ⟨rfl, rfl, rfl⟩
  · have hP' : ¬ fr.cmd.toNat = IKCP_CMD_PUSH := probe_ne_push (hcmd.resolve_left hA)
    rw [if_neg hA, if_neg hP', if_neg hA]
    by_cases hW : fr.cmd.toNat = IKCP_CMD_WASK
    · rw [if_pos hW, if_pos hW]; exact ⟨rfl, rfl, rfl⟩
    · rw [if_neg hW, if_neg hW]; exact ⟨rfl, rfl, rfl⟩

/-- the frame releases the segment with offset `U` when it reaches A -/
def Rel (base : U32) (U : Nat) (fr : Frm) : Prop :=
  U < o base fr.una ∨ (fr.cmd.toNat = IKCP_CMD_ACK ∧ o base fr.sn = U)

theorem shrinkBuf_acked_head (k : Kcp) (x : Seg) (rest : List Seg) (hb : k.snd_buf = x :: rest) (ha : x.acked = true) :
    shrinkBuf k = shrinkBuf { k with snd_buf := k.snd_buf.drop 1 } := by
  rw [shrinkBuf_eq, shrinkBuf_eq]
  have e : dropAcked k.snd_buf = dropAcked (k.snd_buf.drop 1) := by
    rw [hb]; simp only [List.drop_succ_cons, List.drop_zero]
    rw [dropAcked, if_pos ha]
  simp only [e]

theorem ack_head_release (base : U32) (P : Kcp) (hc : Contig base P) (hh : HeadLive P) (hN : o base P.snd_nxt < 2 ^ 31)
    (sn : U32) (hsn : o base sn = o base P.snd_una) (hne : o base P.snd_una < o base P.snd_nxt) :
    o base P.snd_una < o base (shrinkBuf (parseAck P sn)).snd_una := by
  cases hb : P.snd_buf with
  | nil =>
    exfalso
    have := hc.2
    rw [hb] at this
    simp at this
    omega
  | cons x rest =>
    unfold HeadLive at hh
    rw [hb] at hh
    have hsx : sn = x.sn := by rw [← hh.2]; exact o_inj base _ _ hsn
    have hpa : parseAck P sn = { P with snd_buf := { x with acked := true, data := [] } :: rest } := by
      unfold parseAck
      have h1 : ¬ (itimediff sn P.snd_una < 0 ∨ itimediff sn P.snd_nxt ≥ 0) := by
        have e1 := itd base sn P.snd_una (by omega) (by omega)
        have e2 := itd base sn P.snd_nxt (by omega) hN
        omega
      rw [if_neg h1, hb]
      unfold ackLoop
      rw [if_pos hsx]
    rw [hpa]
    have hcon : Contig base ({ P with snd_buf := { x with acked := true, data := [] } :: rest } : Kcp) := by
      have := hc
      unfold Contig at this ⊢
      rw [hb] at this
      exact this
    rw [shrinkBuf_acked_head _ { x with acked := true, data := [] } rest rfl rfl]
    obtain ⟨n2, su, _, _, e, hsu, _⟩ := shrink_contig base
      ({ P with snd_buf := { x with acked := true, data := [] } :: rest } : Kcp) 1 (by simp) hcon
    rw [e]
    show _ < o base su
    rw [hsu]
    show o base P.snd_una < o base P.snd_una + (1 + n2)
    omega

theorem inFr_snd (base conv : U32) (hasP : U32 → Prop) (st : InLoop) (fr : Frm)
    (h : SndOk base conv hasP st.k) (hN : o base st.k.snd_nxt < 2 ^ 31)
    (hcmd : fr.cmd.toNat = IKCP_CMD_ACK ∨ fr.cmd.toNat = IKCP_CMD_WASK ∨ fr.cmd.toNat = IKCP_CMD_WINS)
    (hu : o base fr.una ≤ o base st.k.snd_nxt) (huna : ∀ sn, o base sn < o base fr.una → hasP sn)
    (hack : fr.cmd.toNat = IKCP_CMD_ACK → hasP fr.sn ∧ o base fr.sn < o base st.k.snd_nxt) :
    SndOk base conv hasP (inFr true st fr).k ∧ SndShape st.k (inFr true st fr).k ∧
    o base st.k.snd_una ≤ o base (inFr true st fr).k.snd_una ∧
    o base fr.una ≤ o base (inFr true st fr).k.snd_una ∧
    (fr.cmd.toNat = IKCP_CMD_ACK → o base fr.sn ≤ o base st.k.snd_una → o base fr.sn < o base (inFr true st fr).k.snd_una) ∧
    (inFr true st fr).panic = st.panic ∧ (inFr true st fr).ret = st.ret := by
  have hK1 : SndOk base conv hasP { st.k with rmt_wnd := fr.wnd.setWidth 32 } := ⟨h.con, h.tag, h.akd, h.rel⟩
  have hpre : ∀ x ∈ st.k.snd_buf.take (unaCount fr.una st.k.snd_buf), hasP x.sn := by
    intro x hx
    have h1 := unaCount_take fr.una st.k.snd_buf x hx
    have h2 := h.con.mem (List.mem_of_mem_take hx)
    have := itd base fr.una x.sn (by omega) (by omega)
    exact huna x.sn (by omega)
  obtain ⟨p1, p2, p3⟩ := hK1.shrink' (unaCount fr.una st.k.snd_buf) (unaCount_le _ _) hpre
  have hP : inPre true fr.wnd fr.una st.k =
      shrinkBuf { ({ st.k with rmt_wnd := fr.wnd.setWidth 32 } : Kcp) with
        snd_buf := st.k.snd_buf.drop (unaCount fr.una st.k.snd_buf) } := rfl
  rw [← hP] at p1 p2 p3
  have p2 : o base st.k.snd_una + unaCount fr.una st.k.snd_buf ≤ o base (inPre true fr.wnd fr.una st.k).snd_una := p2
  have p4 : o base fr.una ≤ o base (inPre true fr.wnd fr.una st.k).snd_una := by
    by_cases hst : o base fr.una ≤ o base st.k.snd_una
    · omega
    · have hcnt := unaCount_contig base fr.una st.k.snd_buf (o base st.k.snd_una) h.con.1 (by omega)
        (by have := h.con.2; omega) (by have := h.con.2; omega)
      omega
  have hshape0 : SndShape st.k (inPre true fr.wnd fr.una st.k) := by
    obtain ⟨r, sb, su, pr, e⟩ := p3
    exact ⟨r, sb, su, pr, by rw [e]⟩
  have hnxP : (inPre true fr.wnd fr.una st.k).snd_nxt = st.k.snd_nxt := by
    obtain ⟨r, sb, su, pr, e⟩ := hshape0
    rw [e]
  have hhl : HeadLive (inPre true fr.wnd fr.una st.k) := by unfold inPre; exact shrinkBuf_headLive _
  obtain ⟨hk, hpr⟩ := inFr_ctl st fr hcmd
  rw [hk]
  generalize inPre true fr.wnd fr.una st.k = P at p1 p2 p4 hshape0 hnxP hhl
  by_cases hA : fr.cmd.toNat = IKCP_CMD_ACK
  · rw [if_pos hA]
    obtain ⟨b, eb, mb⟩ := parseAck_rel P fr.sn
    have q1 : SndOk base conv hasP { P with snd_buf := b } := p1.mark mb (hack hA).1
    obtain ⟨s1, s2, s3⟩ := q1.shrink' 0 (Nat.zero_le _) (fun x hx => by simp at hx)
    have e0 : shrinkBuf { ({ P with snd_buf := b } : Kcp) with snd_buf := ({ P with snd_buf := b } : Kcp).snd_buf.drop 0 } =
        shrinkBuf (parseAck P fr.sn) := by rw [eb]; rfl
    rw [e0] at s1 s2 s3
    have s2 : o base P.snd_una ≤ o base (shrinkBuf (parseAck P fr.sn)).snd_una := s2
    obtain ⟨b2, eb2, mb2⟩ := parseFastack_rel fr.sn (shrinkBuf (parseAck P fr.sn)) fr.sn fr.ts
    rw [eb2]
    refine ⟨s1.mark mb2 (hack hA).1, ?_, ?_, ?_, fun _ hle => ?_, hpr.1, hpr.2⟩
    · have hs1 : SndShape P { P with snd_buf := b } := ⟨P.rmt_wnd, b, P.snd_una, P.probe, rfl⟩
      have hs2 : SndShape (shrinkBuf (parseAck P fr.sn)) { shrinkBuf (parseAck P fr.sn) with snd_buf := b2 } :=
        ⟨_, b2, _, _, rfl⟩
      exact ((hshape0.trans hs1).trans s3).trans hs2
    · show _ ≤ o base (shrinkBuf (parseAck P fr.sn)).snd_una
      omega
    · show _ ≤ o base (shrinkBuf (parseAck P fr.sn)).snd_una
      omega
    · show _ < o base (shrinkBuf (parseAck P fr.sn)).snd_una
      -- beyond the prologue's `snd_una` already, or the ACK is for the live head
      by_cases hgt : o base fr.sn < o base P.snd_una
      · omega
      · have := ack_head_release base P p1.con hhl (by rw [hnxP]; exact hN) fr.sn (by omega)
          (by rw [hnxP]; have := (hack hA).2; omega)
        omega
  · rw [if_neg hA]
    split
    · exact ⟨⟨p1.con, p1.tag, p1.akd, p1.rel⟩, hshape0.trans ⟨P.rmt_wnd, P.snd_buf, P.snd_una, _, rfl⟩,
        by show _ ≤ o base P.snd_una; omega, p4, fun hc => absurd hc hA, hpr.1, hpr.2⟩
    · exact ⟨p1, hshape0, by omega, p4, fun hc => absurd hc hA, hpr.1, hpr.2⟩

def AckOk (base : U32) (hasP : U32 → Prop) (nxt : U32) (fr : Frm) : Prop :=
  (fr.cmd.toNat = IKCP_CMD_ACK ∨ fr.cmd.toNat = IKCP_CMD_WASK ∨ fr.cmd.toNat = IKCP_CMD_WINS) ∧
  o base fr.una ≤ o base nxt ∧ (∀ sn, o base sn < o base fr.una → hasP sn) ∧
  (fr.cmd.toNat = IKCP_CMD_ACK → hasP fr.sn ∧ o base fr.sn < o base nxt)

theorem inFrs_snd (base conv : U32) (hasP : U32 → Prop) (frs : List Frm) (st : InLoop)
    (h : SndOk base conv hasP st.k) (hN : o base st.k.snd_nxt < 2 ^ 31) (hp : st.panic = false)
    (hall : ∀ fr ∈ frs, AckOk base hasP st.k.snd_nxt fr) :
    SndOk base conv hasP (inFrs true frs st).k ∧ SndShape st.k (inFrs true frs st).k ∧
    o base st.k.snd_una ≤ o base (inFrs true frs st).k.snd_una ∧
    (∀ fr ∈ frs, o base fr.una ≤ o base (inFrs true frs st).k.snd_una) ∧
    (∀ U, U ≤ o base st.k.snd_una → (∃ fr ∈ frs, Rel base U fr) → U < o base (inFrs true frs st).k.snd_una) ∧
    (inFrs true frs st).panic = false ∧ (inFrs true frs st).ret = st.ret := by
  -- one frame, at any core of the loop: `snd_nxt` is still the first one's
  have one := fun (st' : InLoop)
      (hi : SndOk base conv hasP st'.k ∧ st'.k.snd_nxt = st.k.snd_nxt ∧ st'.panic = false) (fr : Frm) (hfr : fr ∈ frs) =>
    inFr_snd base conv hasP st' fr hi.1 (by rw [hi.2.1]; exact hN) (hall fr hfr).1 (by rw [hi.2.1]; exact (hall fr hfr).2.1)
      (hall fr hfr).2.2.1 (by rw [hi.2.1]; exact (hall fr hfr).2.2.2)
  obtain ⟨⟨a1, _, a3⟩, ⟨b1, b2, b3⟩, c⟩ := inFrs_inv
    (I := fun st' => SndOk base conv hasP st'.k ∧ st'.k.snd_nxt = st.k.snd_nxt ∧ st'.panic = false)
    (R := fun a b => SndShape a.k b.k ∧ o base a.k.snd_una ≤ o base b.k.snd_una ∧ b.ret = a.ret)
    (fun _ h => h.2.2) (fun _ _ => ⟨SndShape.refl _, Nat.le_refl _, rfl⟩)
    (fun ⟨x1, x2, x3⟩ ⟨y1, y2, y3⟩ => ⟨x1.trans y1, Nat.le_trans x2 y2, y3.trans x3⟩) frs st
    (fun st' fr hfr hi => by
      obtain ⟨k1, k2, k3, _, _, k6, k7⟩ := one st' hi fr hfr
      obtain ⟨r, sb, su, pr, e⟩ := k2
      exact ⟨⟨k1, by rw [e]; exact hi.2.1, by rw [k6]; exact hi.2.2⟩, ⟨r, sb, su, pr, e⟩, k3, k7⟩)
    ⟨h, rfl, hp⟩
  refine ⟨a1, b1, b2, fun fr hfr => ?_, fun U hU ⟨fr, hfr, hrel⟩ => ?_, a3, b3⟩
  · obtain ⟨st', hi, _, j⟩ := c fr hfr
    exact Nat.le_trans (one st' hi fr hfr).2.2.2.1 j.2.1
  · obtain ⟨st', hi, j0, j⟩ := c fr hfr
    obtain ⟨_, _, _, k4, k5, _⟩ := one st' hi fr hfr
    have := j0.2.1
    have := j.2.1
    rcases hrel with hr | ⟨hA, hsn⟩
    · omega
    · have := k5 hA (by omega); omega

end KcpVerif.SysC
