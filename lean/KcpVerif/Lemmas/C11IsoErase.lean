import KcpVerif.Lemmas.C11IsoSys
/-!
The listener is parametric in the session state: listeners that differ only in the states of their
sessions, related by `R`, in worlds whose three functions respect `R`, perform related steps (`LRel.input`).

Instance, erasure of the ghost history: the listener model instantiated with `σ := Sess` itself,

    kcpInput := fun s d => (Sess.packetInput s d now).s     init := Sess.new
    closeFx  := fun s => { s with k := (Sess.update s now).k }

(`worldS`), and the ghost instantiation `world` (`σ := SessG`) perform the same run: as long as no ghost
session is flagged `dead` (a slice-bounds panic of the core model — the real process would have crashed),
erasing the ghost fields gives the literal run.  `R x y` here: `x` is dead or its session component is `y`.
-/
namespace KcpVerif.C11Iso
open KcpVerif.Gen KcpVerif.SessIn KcpVerif.C01

def worldS (now : U32) : World Sess :=
  { kcpInput := fun s d => (s.packetInput d now).s
    init := Sess.new
    closeFx := fun s => { s with k := (s.update now).k } }

/-- a session operation on a plain `Model/Sess` session (what `sessStep` does to the `s` field) -/
def plainStep (s : Sess) : SessOp → Sess
  | .write v now => if (s.writeBuffers v now).blocked then s else (s.writeBuffers v now).s
  | .read blen => (s.read blen).s
  | .update now => { s with k := (s.update now).k }
  | .input d now => (s.packetInput d now).s
  | .setWriteDelay b => { s with writeDelay := b }
  | .setAckNoDelay b => { s with ackNoDelay := b }
  | .noDelay a b c d => { s with k := Kcp.noDelay s.k a b c d }
  | .wndSize a b => { s with k := Kcp.wndSize s.k a b }
  | .setMtu mtu => { s with k := (Kcp.setMtu s.k mtu).1 }

theorem sessStep_erase (x : SessG) (op : SessOp) :
    (sessStep x op).dead = false → x.dead = false ∧ (sessStep x op).s = plainStep x.s op :=
  sessStep_cases (P := fun x' => x'.dead = false → x.dead = false ∧ x'.s = plainStep x.s op) x op
    (fun hs hd => ⟨hd, by
      rcases hs with h | ⟨v, now, rfl, hb⟩
      · rw [h] at hd; cases hd
      · simp only [plainStep, hb, if_true]⟩)
    nofun
    (fun v now e _ hb hd => ⟨hd, by subst e; simp only [plainStep, hb, Bool.false_eq_true, if_false]⟩)
    (fun _ e hd => ⟨hd, by subst e; rfl⟩) (fun _ e _ hd => ⟨hd, by subst e; rfl⟩)
    (fun _ _ e _ hd => ⟨hd, by subst e; rfl⟩) (fun s' t hd => ⟨hd, by cases t <;> rfl⟩)

section
variable {σ τ : Type} (R : σ → τ → Prop)

structure SRel (o : SessIn.Sess σ) (o' : SessIn.Sess τ) : Prop where
  conv : o'.conv = o.conv
  addr : o'.addr = o.addr
  closed : o'.closed = o.closed
  st : R o.st o'.st

structure LRel (l : Listener σ) (m : Listener τ) : Prop where
  table : m.table = l.table
  accepts : m.accepts = l.accepts
  len : m.objs.length = l.objs.length
  get : ∀ (j : Nat) (o : SessIn.Sess σ), l.objs[j]? = some o → ∃ o', m.objs[j]? = some o' ∧ SRel R o o'

structure WRel (w : World σ) (w' : World τ) : Prop where
  input : ∀ x y p, R x y → R (w.kcpInput x p) (w'.kcpInput y p)
  init : ∀ c, R (w.init c) (w'.init c)
  close : ∀ x y, R x y → R (w.closeFx x) (w'.closeFx y)

variable {R} {w : World σ} {w' : World τ} {l : Listener σ} {m : Listener τ}

theorem LRel.get_none (h : LRel R l m) {j : Nat} (ho : l.objs[j]? = none) : m.objs[j]? = none := by
  rw [List.getElem?_eq_none_iff] at ho ⊢
  rw [h.len]
  exact ho

theorem LRel.modify (h : LRel R l m) (id : Nat) (G : SessIn.Sess σ → SessIn.Sess σ)
    (G' : SessIn.Sess τ → SessIn.Sess τ) (hG : ∀ o o', SRel R o o' → SRel R (G o) (G' o'))
    (t t' : List (String × Nat)) (ht : t' = t) :
    LRel R { objs := modifyAt l.objs id G, table := t, accepts := l.accepts }
      { objs := modifyAt m.objs id G', table := t', accepts := m.accepts } := by
  refine ⟨ht, h.accepts, by simp only [modifyAt_length]; exact h.len, ?_⟩
  intro j o hj
  show ∃ o', (modifyAt m.objs id G')[j]? = some o' ∧ _
  rw [getElem?_modifyAt]
  rcases modifyAt_get hj with ⟨hji, hj⟩ | ⟨hji, o0, ho, e⟩
  · rw [if_neg hji]
    exact h.get j o hj
  · obtain ⟨o', ho', hr⟩ := h.get id o0 ho
    rw [if_pos hji, hji, ho', e]
    exact ⟨G' o', rfl, hG _ _ hr⟩

theorem LRel.push (h : LRel R l m) (o : SessIn.Sess σ) (o' : SessIn.Sess τ) (hr : SRel R o o')
    (t : List (String × Nat)) (q : List Nat) :
    LRel R { objs := l.objs ++ [o], table := t, accepts := q } { objs := m.objs ++ [o'], table := t, accepts := q } := by
  refine ⟨rfl, rfl, by simp only [List.length_append, List.length_cons, List.length_nil, h.len], ?_⟩
  intro j x hj
  rcases getElem?_snoc hj with hj | ⟨h1, e'⟩
  · obtain ⟨x', hx', hr'⟩ := h.get j x hj
    exact ⟨x', getElem?_append_of_some hx' _, hr'⟩
  · refine ⟨o', ?_, e' ▸ hr⟩
    show (m.objs ++ [o'])[j]? = some o'
    rw [h1, ← h.len, List.getElem?_append_right (Nat.le_refl _), Nat.sub_self]
    rfl

theorem LRel.close (hw : WRel R w w') (h : LRel R l m) (id : Nat) :
    LRel R (closeSess w l id) (closeSess w' m id) := by
  cases ho : l.objs[id]? with
  | none => rw [closeSess_none w l id ho, closeSess_none w' m id (h.get_none ho)]; exact h
  | some o =>
    obtain ⟨o', ho', hc, ha, hcl, hr⟩ := h.get id o ho
    cases hc' : o.closed with
    | true => rw [closeSess_closed w l id o ho hc', closeSess_closed w' m id o' ho' (hcl.trans hc')]; exact h
    | false =>
      rw [closeSess_open w l id o ho hc', closeSess_open w' m id o' ho' (hcl.trans hc')]
      refine h.modify id _ _ (fun x x' hx => ?_) _ _ ?_
      · exact ⟨hx.conv, hx.addr, rfl, hw.close _ _ hx.st⟩
      · rw [h.table, ha]

theorem LRel.tail (hw : WRel R w w') (h : LRel R l m) (dead : Bool) (p : Bytes) (a : String) (hd : Hdr)
    (old : Option Nat) : LRel R (tryCreateD w l dead p a hd old).l (tryCreateD w' m dead p a hd old).l := by
  have hq : m.accepts.length = l.accepts.length := by rw [h.accepts]
  cases hc : hd.hasConv with
  | false => rw [tryCreateD_noconv w l dead p a hd old hc, tryCreateD_noconv w' m dead p a hd old hc]; exact h
  | true =>
    rcases Nat.lt_or_ge l.accepts.length acceptBacklog with hroom | hfull
    · cases dead with
      | true =>
        rw [tryCreateD_dead w l p a hd old hc hroom, tryCreateD_dead w' m p a hd old hc (hq ▸ hroom)]
        exact h
      | false =>
        rw [tryCreateD_room w l p a hd old hc hroom, tryCreateD_room w' m p a hd old hc (hq ▸ hroom),
          h.accepts, h.len, h.table]
        exact h.push _ _ ⟨rfl, rfl, rfl, hw.input _ _ _ (hw.init _)⟩ _ _
    · rw [tryCreateD_full w l dead p a hd old hc hfull, tryCreateD_full w' m dead p a hd old hc (hq ▸ hfull)]
      exact h

theorem LRel.input (hw : WRel R w w') (h : LRel R l m) (c : Cipher) (dead : Bool) (data : Bytes) (a : String) :
    LRel R (listenerInputD w c l dead data a).l (listenerInputD w' c m dead data a).l := by
  rcases gate_dichotomy c data with hs | ⟨p, hd, hg, hm, hp⟩
  · rw [listenerInputD_same_of_gate w c l dead data a hs, listenerInputD_same_of_gate w' c m dead data a hs]
    exact h
  · rw [listenerInputD_after_gate w c l dead data p a hd hg hm hp,
      listenerInputD_after_gate w' c m dead data p a hd hg hm hp, h.table]
    cases hl : lookup l.table a with
    | none => exact h.tail hw dead p a hd none
    | some id =>
      simp only []
      cases ho : l.objs[id]? with
      | none => rw [h.get_none ho]; exact h
      | some o =>
        obtain ⟨o', ho', hc, _, _, _⟩ := h.get id o ho
        rw [ho']
        simp only []
        rw [hc]
        refine ite_rel' (fun (r : LStep σ) (r' : LStep τ) => LRel R r.l r'.l) Iff.rfl ?_
          (ite_rel' (fun (r : LStep σ) (r' : LStep τ) => LRel R r.l r'.l) Iff.rfl h
            ((h.close hw id).tail hw dead p a hd (some id)))
        refine h.modify id _ _ (fun x x' hx => ?_) _ _ rfl
        exact ⟨hx.conv, hx.addr, hx.closed, hw.input _ _ _ hx.st⟩

end

def er (o : SessIn.Sess SessG) : SessIn.Sess Sess := { conv := o.conv, addr := o.addr, st := o.st.s, closed := o.closed }

def erL (l : Listener SessG) : Listener Sess := { objs := l.objs.map er, table := l.table, accepts := l.accepts }

def Live (l : Listener SessG) : Prop := ∀ (j : Nat) (o : SessIn.Sess SessG), l.objs[j]? = some o → o.st.dead = false

def Er (x : SessG) (y : Sess) : Prop := x.dead = false → x.s = y

theorem Er.step {x : SessG} {y : Sess} (h : Er x y) (op : SessOp) : Er (sessStep x op) (plainStep y op) := by
  intro hd
  obtain ⟨hx, hs⟩ := sessStep_erase x op hd
  rw [hs, h hx]

theorem world_er (now : U32) : WRel Er (world now) (worldS now) :=
  ⟨fun _ _ p h => h.step (.input p now), fun _ _ => rfl, fun _ _ h => h.step (.update now)⟩

theorem erL_rel (l : Listener SessG) : LRel Er l (erL l) := by
  refine ⟨rfl, rfl, List.length_map .., fun j o ho => ⟨er o, ?_, rfl, rfl, rfl, fun _ => rfl⟩⟩
  show (l.objs.map er)[j]? = _
  rw [List.getElem?_map, ho]
  rfl

theorem erL_of_rel {l : Listener SessG} {m : Listener Sess} (h : LRel Er l m) (hl : Live l) : erL l = m := by
  cases m with
  | mk mo mt ma =>
    have e : l.objs.map er = mo := by
      apply List.ext_getElem?
      intro j
      rw [List.getElem?_map]
      cases ho : l.objs[j]? with
      | none => exact (h.get_none ho).symm
      | some o =>
        obtain ⟨o', ho', hc, ha, hcl, hr⟩ := h.get j o ho
        have ho'' : mo[j]? = some o' := ho'
        rw [ho'']
        cases o'
        cases hc
        cases ha
        cases hcl
        cases hr (hl j o ho)
        rfl
    show ({ objs := l.objs.map er, table := l.table, accepts := l.accepts } : Listener Sess) = _
    rw [e, ← h.table, ← h.accepts]

/-- the listener events `LEv` with the clock in place of the world and a session operation in place of a function -/
inductive GEv where
  | input (c : Cipher) (data : Bytes) (a : String) (now : U32)
  | accept
  | close (id : Nat) (now : U32)
  | sess (id : Nat) (op : SessOp)

/-- the ghost instantiation (`σ := SessG`, `world`) -/
def gstep (l : Listener SessG) : GEv → Listener SessG
  | .input c data a now => (listenerInput (world now) c l data a).l
  | .accept => (accept l).l
  | .close id now => userClose (world now) l id
  | .sess id op => appSess l id (fun x => sessStep x op)

/-- the literal instantiation (`σ := Sess`, `worldS`, the `Model/Sess` functions) -/
def pstep (l : Listener Sess) : GEv → Listener Sess
  | .input c data a now => (listenerInput (worldS now) c l data a).l
  | .accept => (accept l).l
  | .close id now => userClose (worldS now) l id
  | .sess id op => appSess l id (fun s => plainStep s op)

def LiveRun : Listener SessG → List GEv → Prop
  | l, [] => Live l
  | l, e :: rest => Live l ∧ LiveRun (gstep l e) rest

theorem er_step {l : Listener SessG} {m : Listener Sess} (h : LRel Er l m) (e : GEv) :
    LRel Er (gstep l e) (pstep m e) := by
  cases e with
  | input c data a now =>
    show LRel Er (listenerInput (world now) c l data a).l (listenerInput (worldS now) c m data a).l
    rw [← listenerInputD_false, ← listenerInputD_false]
    exact h.input (world_er now) c false data a
  | accept =>
    show LRel Er (accept l).l (accept m).l
    unfold accept
    rw [h.accepts]
    cases l.accepts with
    | nil => exact h
    | cons id rest => exact ⟨h.table, rfl, h.len, h.get⟩
  | close id now => exact h.close (world_er now) id
  | sess id op =>
    refine h.modify id _ _ (fun x x' hx => ?_) _ _ h.table
    exact ⟨hx.conv, hx.addr, hx.closed, hx.st.step op⟩

end KcpVerif.C11Iso
