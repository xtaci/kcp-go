/-
C12 — a shift `σ = (a, b, t, u)`:
* `a` is added to the endpoint's own SEND sequence space (`snd_una`, `snd_nxt`, `sn` of `snd_buf`
  entries, `sn` and `una` of incoming ACKs, `una` of every incoming segment),
* `b` to its RECEIVE space (`rcv_nxt`, `sn` of `rcv_buf` / `rcv_queue` / `acklist` entries, `sn` of
  incoming PUSHes, `una` of every outgoing header, `sn` of outgoing ACKs),
* `t` to its own clock (`now`, `resendts`, `ts_probe`, `ts_flush`, `ts` of outgoing PUSH and of
  incoming ACK),
* `u` to the peer's clock (`ts` of incoming PUSH, of `acklist`, of outgoing ACK).

`Sim σ k k'` is "k' is k shifted by σ": equality up to σ on every field, except on fields that
are dead where they may differ:
* `ts_flush` while `updated = 0` (`new` initialises it with the literal `IKCP_INTERVAL`),
* `ts_probe` while `probe_wait = 0` (reset to the literal 0),
* `una` of a `snd_buf` entry while its `xmit = 0` (never transmitted: still the literal 0 of
  `newSegment`; overwritten at the first transmission, never read before).
`ts` of a `snd_buf` entry is the clock at admission (flush phase 4) and is related unconditionally.
-/
import KcpVerif.Lemmas.KcpShape

namespace KcpVerif.Shift
open KcpVerif.Gen KcpVerif.Kcp

structure Sigma where
  a : U32
  b : U32
  t : U32
  u : U32
deriving Repr, DecidableEq

theorem sub_shift (x y c : U32) : (x + c) - (y + c) = x - y := by
  rw [BitVec.sub_eq_iff_eq_add, ← BitVec.add_assoc, BitVec.sub_add_cancel]

theorem itd_shift (x y c : U32) : itimediff (x + c) (y + c) = itimediff x y := by
  unfold itimediff
  rw [sub_shift]

theorem eq_shift (x y c : U32) : (x + c = y + c) ↔ x = y := BitVec.add_left_inj c

theorem add_shift (x d c : U32) : (x + c) + d = (x + d) + c := by
  rw [BitVec.add_assoc, BitVec.add_comm c d, ← BitVec.add_assoc]

theorem succ_shift (x c : U32) : (x + c) + 1 = (x + 1) + c := add_shift x 1 c

theorem itd_shift_add (x y d c : U32) : itimediff (x + c) ((y + c) + d) = itimediff x (y + d) := by
  rw [add_shift y d c, itd_shift]

-- core Lean has no `Forall₂`

inductive All₂ {α β} (R : α → β → Prop) : List α → List β → Prop
  | nil : All₂ R [] []
  | cons {a b l₁ l₂} : R a b → All₂ R l₁ l₂ → All₂ R (a :: l₁) (b :: l₂)

theorem All₂.length_eq {α β} {R : α → β → Prop} {l : List α} {l' : List β}
    (h : All₂ R l l') : l.length = l'.length := by
  induction h with
  | nil => rfl
  | cons _ _ ih => simp only [List.length_cons, ih]

theorem All₂.imp {α β} {R S : α → β → Prop} (hRS : ∀ a b, R a b → S a b) {l : List α} {l' : List β}
    (h : All₂ R l l') : All₂ S l l' := by
  induction h with
  | nil => exact All₂.nil
  | cons hr _ ih => exact All₂.cons (hRS _ _ hr) ih

theorem All₂.append {α β} {R : α → β → Prop} {l₁ l₂ : List α} {l₁' l₂' : List β}
    (h₁ : All₂ R l₁ l₁') (h₂ : All₂ R l₂ l₂') :
    All₂ R (l₁ ++ l₂) (l₁' ++ l₂') := by
  induction h₁ with
  | nil => exact h₂
  | cons hr _ ih => exact All₂.cons hr ih

theorem All₂.drop {α β} {R : α → β → Prop} {l : List α} {l' : List β}
    (h : All₂ R l l') (n : Nat) : All₂ R (l.drop n) (l'.drop n) := by
  induction h generalizing n with
  | nil => simp only [List.drop_nil]; exact All₂.nil
  | cons hr ht ih =>
    cases n with
    | zero => exact All₂.cons hr ht
    | succ n => exact ih n

theorem All₂.single {α β} {R : α → β → Prop} {x : α} {y : β} (h : R x y) :
    All₂ R [x] [y] := All₂.cons h All₂.nil

/-- an entry of `rcv_buf` / `rcv_queue` is a received PUSH -/
def shRcv (σ : Sigma) (s : Seg) : Seg :=
  { s with sn := s.sn + σ.b, ts := s.ts + σ.u, una := s.una + σ.a }

def shAck (σ : Sigma) (x : Ack) : Ack := ⟨x.sn + σ.b, x.ts + σ.u⟩

/-- `una` is related only once the entry has been transmitted, so `k'.snd_buf` is not a `map` of `k.snd_buf`: the
send-side loops are walked by induction over `All₂ (SndRel σ)`, not by the `_map` forms of `Lemmas/KcpLoops` -/
structure SndRel (σ : Sigma) (s s' : Seg) : Prop where
  conv     : s'.conv = s.conv
  cmd      : s'.cmd = s.cmd
  frg      : s'.frg = s.frg
  wnd      : s'.wnd = s.wnd
  rto      : s'.rto = s.rto
  xmit     : s'.xmit = s.xmit
  fastack  : s'.fastack = s.fastack
  acked    : s'.acked = s.acked
  data     : s'.data = s.data
  sn       : s'.sn = s.sn + σ.a
  resendts : s'.resendts = s.resendts + σ.t
  ts       : s'.ts = s.ts + σ.t
  una      : s.xmit ≠ 0 → s'.una = s.una + σ.b

def shSnd (σ : Sigma) (s : Seg) : Seg :=
  { s with sn := s.sn + σ.a, resendts := s.resendts + σ.t,
           ts := s.ts + σ.t,
           una := if s.xmit = 0 then s.una else s.una + σ.b }

theorem sndRel_shSnd (σ : Sigma) (s : Seg) : SndRel σ s (shSnd σ s) := by
  constructor
  case una => exact fun h => if_neg h
  all_goals rfl

/-- segments waiting in `snd_queue` have never been transmitted (`Send` creates them with `xmit = 0`) -/
def Fresh (l : List Seg) : Prop := ∀ s ∈ l, s.xmit = 0

structure Sim (σ : Sigma) (k k' : Kcp) : Prop where
  conv       : k'.conv = k.conv
  mtu        : k'.mtu = k.mtu
  mss        : k'.mss = k.mss
  state      : k'.state = k.state
  ssthresh   : k'.ssthresh = k.ssthresh
  rx_rttvar  : k'.rx_rttvar = k.rx_rttvar
  rx_srtt    : k'.rx_srtt = k.rx_srtt
  rx_rto     : k'.rx_rto = k.rx_rto
  rx_minrto  : k'.rx_minrto = k.rx_minrto
  snd_wnd    : k'.snd_wnd = k.snd_wnd
  rcv_wnd    : k'.rcv_wnd = k.rcv_wnd
  rmt_wnd    : k'.rmt_wnd = k.rmt_wnd
  cwnd       : k'.cwnd = k.cwnd
  incr       : k'.incr = k.incr
  probe      : k'.probe = k.probe
  probe_wait : k'.probe_wait = k.probe_wait
  interval   : k'.interval = k.interval
  nodelay    : k'.nodelay = k.nodelay
  updated    : k'.updated = k.updated
  dead_link  : k'.dead_link = k.dead_link
  fastresend : k'.fastresend = k.fastresend
  nocwnd     : k'.nocwnd = k.nocwnd
  stream     : k'.stream = k.stream
  bufLen     : k'.bufLen = k.bufLen
  snd_queue  : k'.snd_queue = k.snd_queue
  snd_una    : k'.snd_una = k.snd_una + σ.a
  snd_nxt    : k'.snd_nxt = k.snd_nxt + σ.a
  rcv_nxt    : k'.rcv_nxt = k.rcv_nxt + σ.b
  ts_probe   : k.probe_wait ≠ 0 → k'.ts_probe = k.ts_probe + σ.t
  ts_flush   : k.updated ≠ 0 → k'.ts_flush = k.ts_flush + σ.t
  rcv_queue  : k'.rcv_queue = k.rcv_queue.map (shRcv σ)
  rcv_buf    : k'.rcv_buf = k.rcv_buf.map (shRcv σ)
  acklist    : k'.acklist = k.acklist.map (shAck σ)
  snd_buf    : All₂ (SndRel σ) k.snd_buf k'.snd_buf
  fresh      : Fresh k.snd_queue

def shiftK (σ : Sigma) (k : Kcp) : Kcp :=
  { k with snd_una := k.snd_una + σ.a, snd_nxt := k.snd_nxt + σ.a, rcv_nxt := k.rcv_nxt + σ.b,
           ts_probe := if k.probe_wait = 0 then k.ts_probe else k.ts_probe + σ.t,
           ts_flush := if k.updated = 0 then k.ts_flush else k.ts_flush + σ.t,
           rcv_queue := k.rcv_queue.map (shRcv σ), rcv_buf := k.rcv_buf.map (shRcv σ),
           acklist := k.acklist.map (shAck σ), snd_buf := k.snd_buf.map (shSnd σ) }

theorem All₂.map_shSnd (σ : Sigma) (l : List Seg) : All₂ (SndRel σ) l (l.map (shSnd σ)) := by
  induction l with
  | nil => exact All₂.nil
  | cons s t ih => exact All₂.cons (sndRel_shSnd σ s) ih

theorem sim_shiftK (σ : Sigma) (k : Kcp) (hf : Fresh k.snd_queue) : Sim σ k (shiftK σ k) := by
  constructor
  case ts_probe => exact fun h => if_neg h
  case ts_flush => exact fun h => if_neg h
  case snd_buf => exact All₂.map_shSnd σ k.snd_buf
  case fresh => exact hf
  all_goals rfl

/-- `o'` is the datagram (or partial buffer) `o` shifted by `σ`, piece by piece.  `sn` and `ts` of a WASK / WINS
header are dead (copied from the scratch header of flush: those of the last ACK written in the same call,
else 0; the receiver never reads them) and are not related. -/
inductive OutRel (σ : Sigma) : Bytes → Bytes → Prop
  | nil : OutRel σ [] []
  | seg {x x' : Bytes} (conv : U32) (cmd frg : BitVec 8) (wnd : BitVec 16) (ts sn una : U32) (len : Nat) :
      OutRel σ x x' →
      OutRel σ (x ++ encodeHdr conv cmd frg wnd ts sn una len)
               (x' ++ encodeHdr conv cmd frg wnd (ts + σ.t) (sn + σ.a) (una + σ.b) len)
  | ack {x x' : Bytes} (conv : U32) (wnd : BitVec 16) (ts sn una : U32) :
      OutRel σ x x' →
      OutRel σ (x ++ encodeHdr conv (BitVec.ofNat 8 IKCP_CMD_ACK) 0 wnd ts sn una 0)
               (x' ++ encodeHdr conv (BitVec.ofNat 8 IKCP_CMD_ACK) 0 wnd (ts + σ.u) (sn + σ.b) (una + σ.b) 0)
  | probe {x x' : Bytes} (conv : U32) (cmd : BitVec 8) (wnd : BitVec 16) (ts sn ts' sn' una : U32) :
      (cmd = BitVec.ofNat 8 IKCP_CMD_WASK ∨ cmd = BitVec.ofNat 8 IKCP_CMD_WINS) →
      OutRel σ x x' →
      OutRel σ (x ++ encodeHdr conv cmd 0 wnd ts sn una 0)
               (x' ++ encodeHdr conv cmd 0 wnd ts' sn' (una + σ.b) 0)
  | data {x x' : Bytes} (d : Bytes) : OutRel σ x x' → OutRel σ (x ++ d) (x' ++ d)

theorem OutRel.length_eq {σ : Sigma} {x x' : Bytes} (h : OutRel σ x x') : x.length = x'.length := by
  induction h with
  | nil => rfl
  | seg _ _ _ _ _ _ _ _ _ ih => simp only [List.length_append, encodeHdr_length, ih]
  | ack _ _ _ _ _ _ ih => simp only [List.length_append, encodeHdr_length, ih]
  | probe _ _ _ _ _ _ _ _ _ _ ih => simp only [List.length_append, encodeHdr_length, ih]
  | data _ _ ih => simp only [List.length_append, ih]

end KcpVerif.Shift
