/-
Admission: a full flush of a sender with nothing outstanding, something queued and an open effective window numbers a
segment.  What B writes while its receive queue is not full carries a non-zero window, so the link to A holds such
fresh datagrams and old ones that are gone by a time `τ` (`OFp`); once only fresh ones are left a non-zero `rmt_wnd`
stays non-zero.
-/
import KcpVerif.Lemmas.SysDrainProbeRound

namespace KcpVerif.SysC
open KcpVerif.Gen KcpVerif.Kcp KcpVerif.Live KcpVerif.Wire KcpVerif.SysW KcpVerif.Sys

attribute [local irreducible] Kcp.flush Kcp.input  -- used through their lemmas only (see SysDrainProbeRound)

theorem itd_open (u c : U32) (h1 : c ≠ 0) (h2 : c.toNat < 2 ^ 31) : ¬ itimediff u (u + c) ≥ 0 := by
  have hc : c.toNat ≠ 0 := fun h => h1 (BitVec.eq_of_toNat_eq h)
  rw [Serial.itimediff_rep (Serial.Rep.self u) (Serial.Rep.add (Serial.Rep.self u) (Serial.Rep.self c)) (by omega) (by omega)]
  omega

theorem effWnd_open (k : Kcp) (h1 : k.nocwnd ≠ 0 ∨ k.cwnd ≠ 0) (h2 : k.rmt_wnd ≠ 0) (h3 : k.snd_wnd ≠ 0)
    (h4 : k.snd_wnd.toNat < 2 ^ 31) : effWnd k ≠ 0 ∧ (effWnd k).toNat < 2 ^ 31 := by
  refine ⟨?_, by have := effWnd_le k; omega⟩
  -- a minimum of non-zero windows
  have hm : (if k.snd_wnd ≤ k.rmt_wnd then k.snd_wnd else k.rmt_wnd) ≠ 0 := ite_ind (P := fun x : U32 => x ≠ 0) h3 h2
  unfold effWnd
  exact ite_cases (P := fun x : U32 => x ≠ 0)
    (fun hn => ite_ind (P := fun x : U32 => x ≠ 0) (h1.resolve_left fun h => h hn) hm) (fun _ => hm)

theorem flush_cwnd_pos (K : Kcp) (full : Bool) (now : U32) :
    (flush K full now).k.nocwnd ≠ 0 ∨ (flush K full now).k.cwnd ≠ 0 := by
  have hnc : (flush K full now).k.nocwnd = K.nocwnd := by
    obtain ⟨pw, tp, st, ss, cw, inc, hk⟩ := flush_frame K full now
    rw [hk]
  by_cases hn : K.nocwnd = 0
  · right
    rw [flush_eq] at hnc ⊢
    simp only [] at hnc ⊢
    generalize (flF5 K full now).k = k5 at hnc ⊢
    generalize (flX K full now).change = ch at hnc ⊢
    generalize (flX K full now).lost = lo at hnc ⊢
    generalize effWnd (flF3 K now).k = cw at hnc ⊢
    generalize resentOf (flF4 K now).k = rs at hnc ⊢
    have h5 : k5.nocwnd = 0 := by
      obtain ⟨ss, c, inc, h6⟩ := phase6_shape k5 cw rs ch lo
      rw [h6] at hnc
      exact hnc.trans hn
    have h1 := phase6_ge k5 cw rs ch lo h5
    exact fun e => absurd (e ▸ h1) (by decide)
  · exact Or.inl (by rw [hnc]; exact hn)

theorem flush_admits (K : Kcp) (now : U32) (hb : K.snd_buf = []) (hq : K.snd_queue ≠ []) (hun : K.snd_nxt = K.snd_una)
    (h1 : K.nocwnd ≠ 0 ∨ K.cwnd ≠ 0) (h2 : K.rmt_wnd ≠ 0) (h3 : K.snd_wnd ≠ 0) (h4 : K.snd_wnd.toNat < 2 ^ 31) :
    (flush K true now).k.snd_buf ≠ [] := by
  obtain ⟨ho, hlt⟩ := effWnd_open K h1 h2 h3 h4
  have had : (flAd K now).buf ≠ [] := by
    rw [flAd_eq, hb, hun]
    cases hqq : K.snd_queue with
    | nil => exact absurd hqq hq
    | cons s rest =>
      unfold admitSegs
      rw [if_neg (itd_open _ _ ho hlt)]
      obtain ⟨m, _, e⟩ := admitSegs_eq K.conv K.snd_una (effWnd K) now rest
        ([] ++ [{ s with conv := K.conv, cmd := BitVec.ofNat 8 IKCP_CMD_PUSH, sn := K.snd_una, ts := now, resendts := now }])
        (K.snd_una + 1) (0 + 1)
      rw [e]
      simp
  rw [flush_snd_buf]
  exact fun h => had (List.map_eq_nil_iff.mp h)

theorem flush_qn (base : U32) (K : Kcp) (now : U32) (hnw : o base K.snd_nxt + K.snd_queue.length < 2 ^ 31) :
    (flush K true now).k.snd_queue.length + o base (flush K true now).k.snd_nxt =
      K.snd_queue.length + o base K.snd_nxt := by
  obtain ⟨m, hm, eq, _, en, _⟩ := flush_snd K true now
  rw [eq, en, List.length_drop, o_add base K.snd_nxt m (by omega)]
  omega

theorem flush_none (K : Kcp) (now : U32) (hb' : (flush K true now).k.snd_buf = []) :
    (flush K true now).k.snd_queue = K.snd_queue := by
  obtain ⟨m, hm, eq, eb, _, _⟩ := flush_snd K true now
  have hl := congrArg List.length eb
  rw [hb', List.length_map, List.length_append, stampSegs_length, List.length_take, List.length_nil] at hl
  rw [eq, show m = 0 by omega]
  rfl

def FreshD (d : Dgram) : Prop := ∃ frs, d.data = encFrames frs ∧ (∀ fr ∈ frs, fr.data = []) ∧ ∀ fr ∈ frs, fr.wnd ≠ 0

/-- `∀ d ∈ s.ba, FreshD d`, written out -/
def FreshBa (s : State) : Prop :=
  ∀ d ∈ s.ba, ∃ frs, d.data = encFrames frs ∧ (∀ fr ∈ frs, fr.data = []) ∧ ∀ fr ∈ frs, fr.wnd ≠ 0

theorem inB_outs {p : Par} {s : State} {t0 : Nat} {frs0 : List Frm} {grest gba : GLink}
    (h : Cons p s ((t0, frs0) :: grest) gba) (hnw : NoWrap p.base s)
    (hp : (s.B.input (encFrames frs0) true s.ndB (clk s.now)).panic = false)
    (hQ : RoomK (s.B.input (encFrames frs0) true s.ndB (clk s.now)).k) (t : Nat) :
    ∀ o ∈ (s.B.input (encFrames frs0) true s.ndB (clk s.now)).outs, FreshD ⟨t, o⟩ := by
  refine h.dlvB_cases (Q := fun r => r.panic = false → RoomK r.k → ∀ o ∈ r.outs, FreshD ⟨t, o⟩) hnw ?_
    (fun _ _ _ o ho => absurd ho (List.not_mem_nil)) hp hQ
  intro K cw inc hK _ _ _ hsb hsq
  refine ⟨fun _ _ o ho => absurd ho (List.not_mem_nil), fun hp hQ o ho => ?_⟩
  obtain ⟨g, e1, e2, e3⟩ := emitB_all K hsb hsq false (clk s.now) hp o ho
  exact ⟨g, e1, e2, fun x hx => by rw [e3 x hx]; exact hQ.of_flush.wnd_ne⟩

def OFp (τ : Nat) (s : State) : Prop := ∀ d ∈ s.ba, FreshD d ∨ (d.arr < τ ∧ s.now < τ)

theorem OFp.fresh {τ : Nat} {s : State} (h : OFp τ s) (hτ : τ ≤ s.now) : FreshBa s :=
  fun d hd => (h d hd).resolve_right (by omega)

theorem ofp_step {p : Par} {s : State} {gab gba : GLink} (h : Cons p s gab gba) (hnw : NoWrap p.base s) (τ : Nat)
    (hQ : QB s) (ev : Ev) (hQ' : QB (Sys.step s ev)) (hp' : (Sys.step s ev).panic = false) (hof : OFp τ s) :
    OFp τ (Sys.step s ev) := by
  let M : State → Prop := fun s' => QB s' → s'.panic = false → OFp τ s'
  suffices hM : M (Sys.step s ev) from hM hQ' hp'
  have keep : ∀ s' : State, (∀ d ∈ s'.ba, d ∈ s.ba) → s'.now = s.now → M s' := fun s' hsub e2 _ _ d hd => by
    rw [e2]; exact hof d (hsub d hd)
  have app : ∀ (s' : State) (outs : List Bytes), s'.ba = s.ba ++ stamp (s.now + s.D) outs → s'.now = s.now →
      (∀ o ∈ outs, FreshD ⟨s.now + s.D, o⟩) → OFp τ s' := by
    intro s' outs e1 e2 hout d hd
    rw [e1] at hd
    rcases List.mem_append.mp hd with hd1 | hd1
    · rw [e2]; exact hof d hd1
    · obtain ⟨o, ho, rfl⟩ := List.mem_map.mp hd1
      exact Or.inl (hout o ho)
  refine cons_cases h hnw ev M (keep s (fun _ hd => hd) rfl) (fun hq _ _ d hd => ?_) (fun b q _ => keep _ (fun _ hd => hd) rfl)
    (keep _ (fun _ hd => hd) rfl) (keep _ (fun _ hd => hd) rfl) (fun _ _ => ?_) (fun t0 frs0 grest hg _ hQ' hp' => ?_)
    (fun t0 frs grest K hg _ _ _ _ => ?_)
  · -- the clock moves only when nothing is due: an old datagram is still ahead
    rcases hof d hd with hf | ⟨h1, _⟩
    · exact Or.inl hf
    · have := (quiet_spec hq).2.1 d hd
      exact Or.inr ⟨h1, by show s.now + 1 < τ; omega⟩
  · obtain ⟨hpan, _, _⟩ := Total.flush_total h.bK true (clk s.now)
    refine app _ (s.B.flush true (clk s.now)).outs rfl rfl (fun o ho => ?_)
    obtain ⟨g, e1, e2, e3⟩ := emitB_all s.B h.bsb h.bsq true (clk s.now) hpan o ho
    exact ⟨g, e1, e2, fun x hx => by rw [e3 x hx]; exact hQ.roomK.wnd_ne⟩
  · subst hg
    exact app _ (s.B.input (encFrames frs0) true s.ndB (clk s.now)).outs rfl rfl
      (inB_outs h hnw (Bool.or_eq_false_iff.mp hp').2 hQ'.roomK _)
  · have hsub : ∀ x ∈ encL grest, x ∈ s.ba := fun x hx => by
      rw [h.hba, hg]; exact List.mem_cons_of_mem _ hx
    exact ⟨keep _ hsub rfl, keep _ hsub rfl⟩

theorem rmt_inA {p : Par} {s : State} {t0 : Nat} {frs : List Frm} {gab grest : GLink}
    (h : Cons p s gab ((t0, frs) :: grest)) (hf : FreshBa s) (h0 : s.A.rmt_wnd ≠ 0) {K : Kcp} (hK : InA s frs K) :
    K.rmt_wnd ≠ 0 := by
  have hd0 : ((t0, frs) : Nat × List Frm) ∈ (t0, frs) :: grest := List.mem_cons_self ..
  have hba : s.ba = ⟨t0, encFrames frs⟩ :: encL grest := h.hba
  obtain ⟨frs', e1, e2, e3⟩ := hf ⟨t0, encFrames frs⟩ (by rw [hba]; exact List.mem_cons_self ..)
  have hfe : frs' = frs := by
    apply encFrames_inj frs' frs
    · intro x hx; rw [e2 x hx]; simp
    · intro x hx; rw [(h.fba (t0, frs) hd0 x hx).2.1]; simp
    · exact e1.symm
  subst hfe
  rw [hK.rmt]
  exact inFrs_rmt frs' _ e3 (Or.inr h0)

theorem rmt_keep_step {p : Par} {s : State} {gab gba : GLink} (h : Cons p s gab gba) (hnw : NoWrap p.base s)
    (hf : FreshBa s) (h0 : s.A.rmt_wnd ≠ 0) (ev : Ev) : (Sys.step s ev).A.rmt_wnd ≠ 0 := by
  refine cons_cases h hnw ev (fun s' => s'.A.rmt_wnd ≠ 0) h0 (fun _ => h0) (fun _ _ _ => h0) h0 ?_ h0 (fun _ _ _ _ _ => h0)
    (fun t0 frs grest K hg _ hK _ _ => ?_)
  · show (s.A.flush true (clk s.now)).k.rmt_wnd ≠ 0
    rw [flush_rmt]; exact h0
  · subst hg
    have hopen := rmt_inA h hf h0 hK
    exact ⟨hopen, by show (flush K true (clk s.now)).k.rmt_wnd ≠ 0; rw [flush_rmt]; exact hopen⟩

def CfgA (k : Kcp) : Prop := k.snd_wnd ≠ 0 ∧ k.snd_wnd.toNat < 2 ^ 31

/-- two flushes: with congestion control on `cwnd` may be 0 at the first, by `T0`; every flush leaves it at least 1, so
the second, by `T1`, admits -/
def AdmPh (T0 T1 : Nat) (s : State) : Prop :=
  (s.nfA ≤ T0 ∧ s.now ≤ T0) ∨ ((s.A.nocwnd ≠ 0 ∨ s.A.cwnd ≠ 0) ∧ s.nfA ≤ T1 ∧ s.now ≤ T1)

theorem adm_flush {p : Par} {s : State} {gab gba : GLink} (h : Cons p s gab gba)
    (IA T0 T1 : Nat) (hT : T0 + IA ≤ T1) (hiv : s.A.interval.toNat = IA)
    (hb : s.A.snd_buf = []) (hq : s.A.snd_queue ≠ []) (h0 : s.A.rmt_wnd ≠ 0) (hcfg : CfgA s.A)
    (hph : AdmPh T0 T1 s) (nf : Nat) (hnf : nf = s.nfA ∨ nf = s.now + (s.A.flush true (clk s.now)).interval.toNat) :
    ((afterFlushA s nf).A.snd_buf = [] ∧ (afterFlushA s nf).A.snd_queue ≠ [] ∧ AdmPh T0 T1 (afterFlushA s nf)) ∨
      (afterFlushA s nf).A.snd_buf ≠ [] := by
  have hun := una_eq_nxt h.acon hb
  rcases hph with ⟨a, b⟩ | ⟨c, a, b⟩
  · by_cases hb' : (s.A.flush true (clk s.now)).k.snd_buf = []
    · left
      have hle := flush_interval_le s.A (clk s.now)
      rw [BitVec.le_def, hiv] at hle
      refine ⟨hb', by show (s.A.flush true (clk s.now)).k.snd_queue ≠ []; rw [flush_none s.A (clk s.now) hb']; exact hq,
        Or.inr ⟨flush_cwnd_pos s.A true (clk s.now), ?_, by show s.now ≤ T1; omega⟩⟩
      · show nf ≤ T1
        rcases hnf with e | e
        · rw [e]; omega
        · rw [e]; omega
    · exact Or.inr hb'
  · right
    exact flush_admits s.A (clk s.now) hb hq hun c h0 hcfg.1 hcfg.2

theorem adm_core {p : Par} {s : State} {gab gba : GLink} (h : Cons p s gab gba) (hnw : NoWrap p.base s)
    (IA T0 T1 : Nat) (hT : T0 + IA ≤ T1) (hiv : s.A.interval.toNat = IA)
    (hb : s.A.snd_buf = []) (hq : s.A.snd_queue ≠ []) (h0 : s.A.rmt_wnd ≠ 0) (hf : FreshBa s) (hcfg : CfgA s.A)
    (hph : AdmPh T0 T1 s) (ev : Ev) (hev : isSend ev = false) :
    ((Sys.step s ev).A.snd_buf = [] ∧ (Sys.step s ev).A.snd_queue ≠ [] ∧ AdmPh T0 T1 (Sys.step s ev)) ∨
      (Sys.step s ev).A.snd_buf ≠ [] := by
  let M : State → Prop := fun s' => (s'.A.snd_buf = [] ∧ s'.A.snd_queue ≠ [] ∧ AdmPh T0 T1 s') ∨ s'.A.snd_buf ≠ []
  have keep : ∀ s' : State, s'.A = s.A → s'.nfA = s.nfA → s'.now = s.now → M s' := fun s' e1 e2 e3 =>
    Or.inl ⟨by rw [e1]; exact hb, by rw [e1]; exact hq, by unfold AdmPh; rw [e1, e2, e3]; exact hph⟩
  refine cons_cases h hnw ev M (keep s rfl rfl rfl) (fun hqt => ?_) (fun b q he => ?_) (keep _ rfl rfl rfl)
    (adm_flush h IA T0 T1 hT hiv hb hq h0 hcfg hph _ (Or.inr rfl)) (keep _ rfl rfl rfl)
    (fun _ _ _ _ _ => keep _ rfl rfl rfl) (fun t0 frs grest K hg _ hK hc1 hnw1 => ?_)
  · have := (quiet_spec hqt).2.2.1
    refine Or.inl ⟨hb, hq, ?_⟩
    rcases hph with ⟨a, b⟩ | ⟨c, a, b⟩
    · exact Or.inl ⟨a, by show s.now + 1 ≤ T0; omega⟩
    · exact Or.inr ⟨c, a, by show s.now + 1 ≤ T1; omega⟩
  · rw [he] at hev
    exact absurd hev (by simp [isSend])
  · subst hg
    obtain ⟨hbK, _, hcw⟩ := hK.idle hb
    have hqK : K.snd_queue ≠ [] := by rw [hK.sq]; exact hq
    have hph1 : AdmPh T0 T1 { s with A := K, ba := encL grest } := by
      rcases hph with ⟨a, b⟩ | ⟨c, a, b⟩
      · exact Or.inl ⟨a, b⟩
      · exact Or.inr ⟨by show K.nocwnd ≠ 0 ∨ K.cwnd ≠ 0; rw [hK.nc, hcw]; exact c, a, b⟩
    exact ⟨Or.inl ⟨hbK, hqK, hph1⟩, adm_flush hc1 IA T0 T1 hT (by show K.interval.toNat = IA; rw [hK.iv]; exact hiv)
      hbK hqK (rmt_inA h hf h0 hK) (by unfold CfgA; rw [hK.sw]; exact hcfg) hph1 s.nfA (Or.inl rfl)⟩

end KcpVerif.SysC
