/-
`Input` and `flush` over frames instead of bytes.  The parse loop on the encoding of well-formed frames is the fold of
the per-segment step over the frames; the datagrams of a flush are encodings of groups of frames that concatenate to
`flushFrs`: the ACKs phase 1 keeps, the probes of phase 3, one PUSH per segment phase 5 (re)transmits.
-/
import KcpVerif.Lemmas.KcpLiveFlush
import KcpVerif.Lemmas.KcpInput
import KcpVerif.Lemmas.KcpWire

namespace KcpVerif.SysW
open KcpVerif.Gen KcpVerif.Kcp KcpVerif.Live KcpVerif.Wire

def inFr (regular : Bool) (st : InLoop) (fr : Frm) : InLoop :=
  inStep regular fr.conv fr.cmd fr.frg fr.wnd fr.ts fr.sn fr.una fr.data st

/-- stops at a panic, like the model's loop -/
def inFrs (regular : Bool) : List Frm → InLoop → InLoop
  | [], st => st
  | fr :: rest, st => if (inFr regular st fr).panic then inFr regular st fr else inFrs regular rest (inFr regular st fr)

theorem inFrs_rel {R : InLoop → InLoop → Prop} (hr : ∀ st, R st st) (ht : ∀ {a b c}, R a b → R b c → R a c)
    (hs : ∀ st fr, R st (inFr true st fr)) (frs : List Frm) : ∀ st, R st (inFrs true frs st) := by
  induction frs with
  | nil => exact hr
  | cons fr rest ih => intro st; exact ite_ind (hs st fr) (ht (hs st fr) (ih _))

/-- The parse loop over a list of frames, by an invariant `I` of its states (which excludes a panic) and a transitive
relation `R` between them; every frame is taken in at some state between the first and the last. -/
theorem inFrs_inv {I : InLoop → Prop} {R : InLoop → InLoop → Prop} (hp : ∀ st, I st → st.panic = false)
    (refl : ∀ st, I st → R st st) (trans : ∀ {a b c}, R a b → R b c → R a c) :
    ∀ (frs : List Frm) (st : InLoop),
      (∀ st', ∀ fr ∈ frs, I st' → I (inFr true st' fr) ∧ R st' (inFr true st' fr)) → I st →
      I (inFrs true frs st) ∧ R st (inFrs true frs st) ∧
      ∀ fr ∈ frs, ∃ st', I st' ∧ R st st' ∧ R (inFr true st' fr) (inFrs true frs st)
  | [], st, _, h => ⟨h, refl st h, fun _ hfr => nomatch hfr⟩
  | f :: rest, st, hs, h => by
    obtain ⟨h1, r1⟩ := hs st f List.mem_cons_self h
    obtain ⟨i1, i2, i3⟩ := inFrs_inv hp refl trans rest (inFr true st f)
      (fun st' fr hfr => hs st' fr (List.mem_cons_of_mem _ hfr)) h1
    unfold inFrs
    rw [if_neg (by rw [hp _ h1]; simp)]
    refine ⟨i1, trans r1 i2, fun fr hfr => ?_⟩
    rcases List.mem_cons.mp hfr with rfl | hfr
    · exact ⟨st, h, refl st h, i2⟩
    · obtain ⟨st', j1, j2, j3⟩ := i3 fr hfr
      exact ⟨st', j1, trans r1 j2, j3⟩

/-- the send queue loses a prefix and `snd_nxt` moves by as much: all that `Input`, `flush` and `Update` do to what
waits to be admitted -/
def Admit (k k' : Kcp) : Prop :=
  ∃ m, m ≤ k.snd_queue.length ∧ k'.snd_queue = k.snd_queue.drop m ∧ k'.snd_nxt = k.snd_nxt + u32 m

theorem Admit.of_eq {k k' : Kcp} (hq : k'.snd_queue = k.snd_queue) (hn : k'.snd_nxt = k.snd_nxt) : Admit k k' :=
  ⟨0, Nat.zero_le _, hq, by rw [hn]; simp [u32]⟩

theorem Admit.trans {a b c : Kcp} (h1 : Admit a b) (h2 : Admit b c) : Admit a c := by
  obtain ⟨i, hi, qi, ni⟩ := h1
  obtain ⟨j, hj, qj, nj⟩ := h2
  rw [qi, List.length_drop] at hj
  refine ⟨i + j, by omega, by rw [qj, qi, List.drop_drop], ?_⟩
  rw [nj, ni, BitVec.add_assoc]
  unfold u32
  rw [BitVec.ofNat_add]

theorem Admit.of_loopShape {k k' : Kcp} (h : LoopShape k k') : Admit k k' := by
  obtain ⟨_, _, _, _, _, _, _, _, e⟩ := h
  rw [e]
  exact .of_eq rfl rfl

theorem Admit.steps : Steps Admit where
  refl _ := .of_eq rfl rfl
  trans := Admit.trans
  rmtWnd k w := .of_loopShape (LoopShape.loopSteps.rmtWnd k w)
  una k u := .of_loopShape (LoopShape.loopSteps.una k u)
  ack k sn ts := .of_loopShape (LoopShape.loopSteps.ack k sn ts)
  acklist k a := .of_loopShape (LoopShape.loopSteps.acklist k a)
  data k s := .of_loopShape (LoopShape.loopSteps.data k s)
  probe k := .of_loopShape (LoopShape.loopSteps.probe k)
  rtt k r := by
    obtain ⟨_, _, _, e⟩ := updateAck_shape k r
    rw [e]
    exact .of_eq rfl rfl
  cwnd k u := by
    obtain ⟨_, _, e⟩ := cwndOnAck_shape k u
    rw [e]
    exact .of_eq rfl rfl
  flush k full now := by
    obtain ⟨m, hm, eq, _, en, _⟩ := Live.flush_snd k full now
    exact ⟨m, hm, eq, en⟩
  tick _ _ _ := .of_eq rfl rfl

/-- what no operation but the setters writes -/
def CfgSame (k k' : Kcp) : Prop := k'.interval = k.interval ∧ k'.rcv_wnd = k.rcv_wnd ∧ k'.conv = k.conv

theorem CfgSame.of_loopShape {k k' : Kcp} (h : LoopShape k k') : CfgSame k k' := by
  obtain ⟨_, _, _, _, _, _, _, _, e⟩ := h
  rw [e]
  exact ⟨rfl, rfl, rfl⟩

theorem CfgSame.steps : Steps CfgSame where
  refl _ := ⟨rfl, rfl, rfl⟩
  trans h1 h2 := ⟨h2.1.trans h1.1, h2.2.1.trans h1.2.1, h2.2.2.trans h1.2.2⟩
  rmtWnd k w := .of_loopShape (LoopShape.loopSteps.rmtWnd k w)
  una k u := .of_loopShape (LoopShape.loopSteps.una k u)
  ack k sn ts := .of_loopShape (LoopShape.loopSteps.ack k sn ts)
  acklist k a := .of_loopShape (LoopShape.loopSteps.acklist k a)
  data k s := .of_loopShape (LoopShape.loopSteps.data k s)
  probe k := .of_loopShape (LoopShape.loopSteps.probe k)
  rtt k r := by
    obtain ⟨_, _, _, e⟩ := updateAck_shape k r
    rw [e]
    exact ⟨rfl, rfl, rfl⟩
  cwnd k u := by
    obtain ⟨_, _, e⟩ := cwndOnAck_shape k u
    rw [e]
    exact ⟨rfl, rfl, rfl⟩
  flush k full now := by
    obtain ⟨_, _, _, _, _, _, e⟩ := flush_frame k full now
    rw [e]
    exact ⟨rfl, rfl, rfl⟩
  tick _ _ _ := ⟨rfl, rfl, rfl⟩

/-- a frame the peer's `Input` will not refuse -/
def FrValid (conv : U32) (fr : Frm) : Prop :=
  fr.conv = conv ∧ Live.validCmd fr.cmd ∧ fr.data.length ≤ mtuLimit

theorem probe_ne_push {c : Nat} (h : c = IKCP_CMD_WASK ∨ c = IKCP_CMD_WINS) : ¬ c = IKCP_CMD_PUSH := by
  unfold IKCP_CMD_PUSH; unfold IKCP_CMD_WASK IKCP_CMD_WINS at h; omega

theorem probe_ne_ack {c : Nat} (h : c = IKCP_CMD_WASK ∨ c = IKCP_CMD_WINS) : ¬ c = IKCP_CMD_ACK := by
  unfold IKCP_CMD_ACK; unfold IKCP_CMD_WASK IKCP_CMD_WINS at h; omega

theorem FrValid.of_data {conv : U32} {fr : Frm} (hc : fr.conv = conv)
    (hcmd : fr.cmd.toNat = IKCP_CMD_PUSH ∨ fr.cmd.toNat = IKCP_CMD_WASK ∨ fr.cmd.toNat = IKCP_CMD_WINS)
    (hl : fr.data.length ≤ mtuLimit) : FrValid conv fr :=
  ⟨hc, hcmd.elim Or.inl fun h => Or.inr (Or.inr h), hl⟩

theorem FrValid.of_ctl {conv : U32} {fr : Frm} (hc : fr.conv = conv)
    (hcmd : fr.cmd.toNat = IKCP_CMD_ACK ∨ fr.cmd.toNat = IKCP_CMD_WASK ∨ fr.cmd.toNat = IKCP_CMD_WINS)
    (hd : fr.data = []) : FrValid conv fr :=
  ⟨hc, Or.inr hcmd, by rw [hd]; exact Nat.zero_le _⟩

theorem encFrame_length (fr : Frm) : (encFrame fr).length = IKCP_OVERHEAD + fr.data.length := by
  unfold encFrame; rw [List.length_append, Kcp.encodeHdr_length]

theorem encFrames_cons (fr : Frm) (rest : List Frm) : encFrames (fr :: rest) = encFrame fr ++ encFrames rest := by
  simp [encFrames]

theorem encFrames_append (a b : List Frm) : encFrames (a ++ b) = encFrames a ++ encFrames b := by
  simp [encFrames]

theorem encFrames_length_ge (frs : List Frm) : IKCP_OVERHEAD * frs.length ≤ (encFrames frs).length := by
  induction frs with
  | nil => simp [encFrames]
  | cons fr rest ih =>
    rw [encFrames_cons, List.length_append, encFrame_length, List.length_cons]
    unfold IKCP_OVERHEAD at *; omega

theorem encFrames_eq_nil (frs : List Frm) (h : encFrames frs = []) : frs = [] := by
  cases frs with
  | nil => rfl
  | cons fr rest =>
    have := encFrames_length_ge (fr :: rest)
    rw [h] at this
    simp [IKCP_OVERHEAD] at this

theorem hdr_reads (fr : Frm) (rest : Bytes) (hl : fr.data.length ≤ mtuLimit) :
    rd32 (encFrame fr ++ rest) 0 = fr.conv ∧
    BitVec.ofNat 8 (byteAt (encFrame fr ++ rest) 4) = fr.cmd ∧
    BitVec.ofNat 8 (byteAt (encFrame fr ++ rest) 5) = fr.frg ∧
    rd16 (encFrame fr ++ rest) 6 = fr.wnd ∧
    rd32 (encFrame fr ++ rest) 8 = fr.ts ∧
    rd32 (encFrame fr ++ rest) 12 = fr.sn ∧
    rd32 (encFrame fr ++ rest) 16 = fr.una ∧
    (rd32 (encFrame fr ++ rest) 20).toNat = fr.data.length ∧
    (encFrame fr ++ rest).drop IKCP_OVERHEAD = fr.data ++ rest := by
  have e : encFrame fr ++ rest =
      encodeHdr fr.conv fr.cmd fr.frg fr.wnd fr.ts fr.sn fr.una fr.data.length ++ (fr.data ++ rest) := by
    unfold encFrame; rw [List.append_assoc]
  obtain ⟨h1, h2, h3, h4, h5, h6, h7, h8⟩ := encodeHdr_reads _ _ _ _ _ _ _ _ _ _ e
  refine ⟨h1, h2, h3, h4, h5, h6, h7, ?_, ?_⟩
  · rw [h8]
    unfold u32 mtuLimit at *
    rw [BitVec.toNat_ofNat]; omega
  · rw [e, ← Kcp.encodeHdr_length fr.conv fr.cmd fr.frg fr.wnd fr.ts fr.sn fr.una fr.data.length, List.drop_left]

theorem encFrame_app_inj (f g : Frm) (r1 r2 : Bytes) (hf : f.data.length ≤ mtuLimit) (hg : g.data.length ≤ mtuLimit)
    (h : encFrame f ++ r1 = encFrame g ++ r2) : f = g ∧ r1 = r2 := by
  obtain ⟨a1, a2, a3, a4, a5, a6, a7, a8, a9⟩ := hdr_reads f r1 hf
  obtain ⟨b1, b2, b3, b4, b5, b6, b7, b8, b9⟩ := hdr_reads g r2 hg
  rw [h] at a1 a2 a3 a4 a5 a6 a7 a8 a9
  have hl : f.data.length = g.data.length := by rw [← a8, b8]
  have hd : f.data ++ r1 = g.data ++ r2 := a9.symm.trans b9
  obtain ⟨hd1, hd2⟩ := List.append_inj hd hl
  refine ⟨?_, hd2⟩
  cases f; cases g
  simp only [Frm.mk.injEq]
  simp only at a1 a2 a3 a4 a5 a6 a7 b1 b2 b3 b4 b5 b6 b7 hd1
  exact ⟨a1.symm.trans b1, a2.symm.trans b2, a3.symm.trans b3, a4.symm.trans b4, a5.symm.trans b5,
    a6.symm.trans b6, a7.symm.trans b7, hd1⟩

theorem encFrames_inj : ∀ (a b : List Frm), (∀ f ∈ a, f.data.length ≤ mtuLimit) → (∀ f ∈ b, f.data.length ≤ mtuLimit) →
    encFrames a = encFrames b → a = b := by
  intro a
  induction a with
  | nil =>
    intro b _ _ h
    exact (encFrames_eq_nil b h.symm).symm
  | cons f r ih =>
    intro b ha hb h
    cases b with
    | nil => exact encFrames_eq_nil _ h
    | cons g r' =>
      rw [encFrames_cons, encFrames_cons] at h
      obtain ⟨e1, e2⟩ := encFrame_app_inj f g _ _ (ha f (List.mem_cons_self ..)) (hb g (List.mem_cons_self ..)) h
      rw [e1, ih r' (fun x hx => ha x (List.mem_cons_of_mem _ hx)) (fun x hx => hb x (List.mem_cons_of_mem _ hx)) e2]

theorem inStepAt_frame (regular : Bool) (fr : Frm) (rest : Bytes) (st : InLoop) (hl : fr.data.length ≤ mtuLimit) :
    inStepAt regular (encFrame fr ++ rest) st = inFr regular st fr := by
  obtain ⟨h1, h2, h3, h4, h5, h6, h7, h8, h9⟩ := hdr_reads fr rest hl
  unfold inStepAt inFr
  rw [h1, h2, h3, h4, h5, h6, h7, h8, h9, List.take_left]

theorem inFr_conv (regular : Bool) (st : InLoop) (fr : Frm) : (inFr regular st fr).k.conv = st.k.conv :=
  (Frame.TxSame.steps.inStep regular _ _ _ _ _ _ _ _ st).conv

theorem inputLoop_encFrames (regular : Bool) (frs : List Frm) : ∀ (fuel : Nat) (st : InLoop), frs.length < fuel →
    (∀ fr ∈ frs, FrValid st.k.conv fr) → inputLoop regular fuel (encFrames frs) st = inFrs regular frs st := by
  induction frs with
  | nil =>
    intro fuel st hf _
    cases fuel with
    | zero => simp at hf
    | succ f =>
      rw [Live.inputLoop_succ, if_pos (by simp [encFrames, IKCP_OVERHEAD])]
      rfl
  | cons fr rest ih =>
    intro fuel st hf hv
    cases fuel with
    | zero => simp at hf
    | succ f =>
      obtain ⟨hc, hcmd, hl⟩ := hv fr (List.mem_cons_self ..)
      obtain ⟨h1, h2, h3, h4, h5, h6, h7, h8, h9⟩ := hdr_reads fr (encFrames rest) hl
      rw [encFrames_cons, Live.inputLoop_succ]
      have hlen : ¬ (encFrame fr ++ encFrames rest).length < IKCP_OVERHEAD := by
        rw [List.length_append, encFrame_length]; omega
      rw [if_neg hlen, h1, if_neg (by simp [hc]), h9, h8, h2]
      rw [if_neg (by rw [List.length_append]; omega)]
      rw [if_neg (by unfold Live.validCmd at hcmd; omega)]
      rw [inStepAt_frame regular fr (encFrames rest) st hl, List.drop_left]
      show _ = if (inFr regular st fr).panic then inFr regular st fr else inFrs regular rest (inFr regular st fr)
      split
      · rfl
      · apply ih
        · simp at hf; omega
        · intro x hx
          rw [inFr_conv]
          exact hv x (List.mem_cons_of_mem _ hx)

theorem inSt_encFrames (k : Kcp) (frs : List Frm) (regular : Bool) (hv : ∀ fr ∈ frs, FrValid k.conv fr) :
    inSt k (encFrames frs) regular = inFrs regular frs { k := k } := by
  unfold inSt
  apply inputLoop_encFrames
  · have := encFrames_length_ge frs
    unfold IKCP_OVERHEAD at *
    omega
  · exact hv

theorem input_empty (k : Kcp) (nd : Bool) (now : U32) : input k (encFrames []) true nd now = ⟨k, -1, [], false⟩ := by
  rw [Live.input_eq, if_pos (by simp [encFrames, IKCP_OVERHEAD])]

def ofFlush (r : FlushRes) : InRes := ⟨r.k, 0, r.outs, r.panic⟩

/-- the RTT sample is taken only if the datagram carried an ACK -/
def Sampled (k : Kcp) (frs : List Frm) (k1 : Kcp) : Prop :=
  k1 = (inFrs true frs { k := k }).k ∨
    ((inFrs true frs { k := k }).updRtt = true ∧ ∃ rtt, k1 = updateAck (inFrs true frs { k := k }).k rtt)

theorem Sampled.eq_of_noRtt {k : Kcp} {frs : List Frm} {k1 : Kcp} (h : Sampled k frs k1)
    (hu : (inFrs true frs { k := k }).updRtt = false) : k1 = (inFrs true frs { k := k }).k :=
  h.elim id fun c => by rw [hu] at c; cases c.1

theorem Sampled.shape {k : Kcp} {frs : List Frm} {k1 : Kcp} (h : Sampled k frs k1) (u : U32) :
    ∃ a b r cw inc, cwndOnAck k1 u =
        { (inFrs true frs { k := k }).k with rx_srtt := a, rx_rttvar := b, rx_rto := r, cwnd := cw, incr := inc } ∧
      (r = (inFrs true frs { k := k }).k.rx_rto ∨ ∃ rtt, r = (updateAck (inFrs true frs { k := k }).k rtt).rx_rto) := by
  obtain ⟨cw, inc, hcw⟩ := cwndOnAck_shape k1 u
  rcases h with rfl | ⟨_, rtt, rfl⟩
  · exact ⟨_, _, _, cw, inc, hcw, Or.inl rfl⟩
  · obtain ⟨a, b, r, he⟩ := updateAck_shape (inFrs true frs { k := k }).k rtt
    exact ⟨a, b, r, cw, inc, by rw [hcw, he], Or.inr ⟨rtt, by rw [he]⟩⟩

/-- `Input` of a datagram of valid frames whose loop neither panics nor refuses: only the empty datagram is refused;
otherwise the core is updated without output and then flushed at most once — FULL only if the loop asked for it,
ACK-only only if acknowledgements are listed. -/
theorem inputFrames_cases {P : InRes → Prop} (k : Kcp) (frs : List Frm) (nd : Bool) (now : U32)
    (hv : ∀ fr ∈ frs, FrValid k.conv fr)
    (hp : (inFrs true frs { k := k }).panic = false) (hr : (inFrs true frs { k := k }).ret = 0)
    (refused : frs = [] → P ⟨k, -1, [], false⟩)
    (quiet : ∀ k1, Sampled k frs k1 → frs ≠ [] → P ⟨cwndOnAck k1 k.snd_una, 0, [], false⟩)
    (full : ∀ k1, Sampled k frs k1 → frs ≠ [] → (inFrs true frs { k := k }).flushSeg = true →
      P (ofFlush (flush (cwndOnAck k1 k.snd_una) true now)))
    (ackOnly : ∀ k1, Sampled k frs k1 → frs ≠ [] →
      (cwndOnAck k1 k.snd_una).acklist.length ≥ ((cwndOnAck k1 k.snd_una).mtu / u32 IKCP_OVERHEAD).toNat ∨
        (cwndOnAck k1 k.snd_una).acklist.length > 0 →
      P (ofFlush (flush (cwndOnAck k1 k.snd_una) false now))) :
    P (input k (encFrames frs) true nd now) := by
  by_cases hne : frs = []
  · subst hne; rw [input_empty]; exact refused rfl
  · refine Kcp.input_cases (S := fun st => st = inFrs true frs { k := k }) (inSt_encFrames k frs true hv)
      (fun hl => absurd (List.length_pos_iff.mpr hne) (by
        have := encFrames_length_ge frs
        unfold IKCP_OVERHEAD at *
        omega))
      (fun st e hp' => by rw [e, hp] at hp'; cases hp') (fun st e _ hr' => by rw [e, hr] at hr'; cases hr')
      (fun st e _ _ => ?_)
    subst e
    have hs : Sampled k frs (inputK1 (inFrs true frs { k := k }) true now) := by
      unfold inputK1
      exact ite_cases (P := Sampled k frs) (fun c => Or.inr ⟨c.1, _, rfl⟩) (fun _ => Or.inl rfl)
    exact Kcp.inputFin_cases (fun hf => full _ hs hne hf) (fun _ h => ackOnly _ hs hne (h.imp_right And.right))
      (fun _ _ _ => quiet _ hs hne)

/-- unless a slice-bounds panic happened, the finished outputs and the pending bytes are encodings of
groups of frames, `F` in total -/
def FlFr (f : Fl) (F : List Frm) : Prop :=
  f.panic = false → ∃ (gs : List (List Frm)) (g : List Frm), f.outs = gs.map encFrames ∧ f.cur = encFrames g ∧ gs.flatten ++ g = F

theorem FlFr.init (k : Kcp) : FlFr { k := k } [] := fun _ => ⟨[], [], rfl, rfl, rfl⟩

theorem FlFr.setK {f : Fl} {F : List Frm} (h : FlFr f F) (k : Kcp) : FlFr { f with k := k } F := by
  unfold FlFr at *; exact h

theorem FlFr.makeSpace {f : Fl} {F : List Frm} (h : FlFr f F) (n : Nat) : FlFr (f.makeSpace n) F := by
  unfold FlFr at *
  unfold Fl.makeSpace
  split
  · intro hp
    obtain ⟨gs, g, h1, h2, h3⟩ := h hp
    refine ⟨gs ++ [g], [], ?_, rfl, ?_⟩
    · simp only [List.map_append, List.map_cons, List.map_nil, h1, h2]
    · simp only [List.flatten_append, List.flatten_cons, List.flatten_nil, List.append_nil]; exact h3
  · exact h

theorem FlFr.putHdr {f : Fl} {F : List Frm} (h : FlFr f F) (conv : U32) (cmd : BitVec 8) (wnd : BitVec 16)
    (ts sn una : U32) :
    FlFr (f.putHdr (encodeHdr conv cmd 0 wnd ts sn una 0)) (F ++ [⟨conv, cmd, 0, wnd, ts, sn, una, []⟩]) := by
  unfold FlFr at *
  unfold Fl.putHdr
  split
  · intro hp; cases hp
  · intro hp
    obtain ⟨gs, g, h1, h2, h3⟩ := h hp
    refine ⟨gs, g ++ [⟨conv, cmd, 0, wnd, ts, sn, una, []⟩], h1, ?_, by rw [← List.append_assoc, h3]⟩
    show f.cur ++ _ = _
    rw [encFrames_append, h2]
    simp [encFrames, encFrame]

def frmOf (s : Seg) : Frm := ⟨s.conv, s.cmd, s.frg, s.wnd, s.ts, s.sn, s.una, s.data⟩

theorem FlFr.emit {f : Fl} {F : List Frm} (h : FlFr f F) (s : Seg) : FlFr (emit f s) (F ++ [frmOf s]) := by
  have key : FlFr (((f.makeSpace (IKCP_OVERHEAD + s.data.length)).putHdr
      (encodeHdr s.conv s.cmd s.frg s.wnd s.ts s.sn s.una s.data.length)).putData s.data) (F ++ [frmOf s]) := by
    have h1 := h.makeSpace (IKCP_OVERHEAD + s.data.length)
    unfold FlFr at *
    unfold Fl.putHdr
    split
    · unfold Fl.putData; split <;> (intro hp; cases hp)
    · unfold Fl.putData
      split
      · intro hp; cases hp
      · intro hp
        obtain ⟨gs, g, h2, h3, h4⟩ := h1 hp
        refine ⟨gs, g ++ [frmOf s], h2, ?_, by rw [← List.append_assoc, h4]⟩
        show ((f.makeSpace (IKCP_OVERHEAD + s.data.length)).cur ++ _) ++ _ = _
        rw [encFrames_append, h3]
        simp [encFrames, encFrame, frmOf, List.append_assoc]
  unfold Live.emit
  simp only []
  split
  · exact key
  · exact key

/-- phase 1 skips an entry below `rcv_nxt` unless it is the last one (the filter of `flush` in kcp.go) -/
def ackFrs (conv : U32) (cmd : BitVec 8) (wnd : BitVec 16) (una rn : U32) (total : Nat) : List Ack → Nat → List Frm
  | [], _ => []
  | a :: rest, i =>
    (if itimediff a.sn rn ≥ 0 ∨ total - 1 = i then [(⟨conv, cmd, 0, wnd, a.ts, a.sn, una, []⟩ : Frm)] else []) ++
      ackFrs conv cmd wnd una rn total rest (i + 1)

theorem ackFlush_flFr (wnd : BitVec 16) (una : U32) (total : Nat) (l : List Ack) : ∀ (i : Nat) (st : AckSt) (F : List Frm),
    FlFr st.f F →
    FlFr (ackFlush wnd una total l i st).f (F ++ ackFrs st.f.k.conv st.sc.cmd wnd una st.f.k.rcv_nxt total l i) := by
  induction l with
  | nil => intro i st F h; simpa [ackFrs, ackFlush] using h
  | cons a rest ih =>
    intro i st F h
    rw [ackFlush_cons]
    have hk := ackStep_k wnd una total a i st
    have h2 := ih (i + 1) (ackStep wnd una total a i st)
    rw [hk.1, hk.2] at h2
    unfold ackFrs
    rw [← List.append_assoc]
    apply h2
    unfold ackStep
    split
    · exact (h.makeSpace _).putHdr _ _ _ _ _ _
    · simpa using h.makeSpace _

theorem ackFrs_mem (conv : U32) (cmd : BitVec 8) (wnd : BitVec 16) (una rn : U32) (total : Nat) (l : List Ack) :
    ∀ (i : Nat), ∀ fr ∈ ackFrs conv cmd wnd una rn total l i,
      fr.conv = conv ∧ fr.cmd = cmd ∧ fr.wnd = wnd ∧ fr.una = una ∧ fr.data = [] ∧ (⟨fr.sn, fr.ts⟩ : Ack) ∈ l := by
  induction l with
  | nil => intro i fr h; simp [ackFrs] at h
  | cons a rest ih =>
    intro i fr h
    unfold ackFrs at h
    rcases List.mem_append.mp h with h1 | h1
    · split at h1
      · rw [List.mem_singleton.mp h1]
        exact ⟨rfl, rfl, rfl, rfl, rfl, List.mem_cons_self ..⟩
      · simp at h1
    · obtain ⟨a1, a2, a3, a4, a5, a6⟩ := ih (i + 1) fr h1
      exact ⟨a1, a2, a3, a4, a5, List.mem_cons_of_mem _ a6⟩

/-- the last entry is always kept -/
theorem ackFrs_ne_nil (conv : U32) (cmd : BitVec 8) (wnd : BitVec 16) (una rn : U32) (total : Nat) (l : List Ack) :
    ∀ (i : Nat), l ≠ [] → i + l.length = total → ackFrs conv cmd wnd una rn total l i ≠ [] := by
  induction l with
  | nil => intro i h; exact absurd rfl h
  | cons a rest ih =>
    intro i _ hi
    unfold ackFrs
    cases rest with
    | nil =>
      simp only [List.length_cons, List.length_nil] at hi
      rw [if_pos (Or.inr (by omega))]
      simp
    | cons b r =>
      have := ih (i + 1) (by simp) (by simp only [List.length_cons] at hi ⊢; omega)
      intro hc
      exact this (List.append_eq_nil_iff.mp hc).2

def sentB (now resent : U32) (newSegs : Nat) (s : Seg) : Bool :=
  !s.acked && decide (cause now resent newSegs s ≠ .none)

theorem foldXmit_flFr (now resent : U32) (wnd : BitVec 16) (una : U32) (newSegs : Nat) (l : List Seg) :
    ∀ (st : XmitSt) (F : List Frm), FlFr st.f F →
      FlFr (l.foldl (xmitOne now resent wnd una newSegs) st).f
        (F ++ (l.filter (sentB now resent newSegs)).map
          (fun s => frmOf (segAfter now resent wnd una newSegs st.f.k.rx_rto st.f.k.nodelay s))) := by
  induction l with
  | nil => intro st F h; simpa using h
  | cons a rest ih =>
    intro st F h
    have he := xmitOne_ext now resent wnd una newSegs st a
    have hr : (xmitOne now resent wnd una newSegs st a).f.k.rx_rto = st.f.k.rx_rto := by rw [he.k]
    have hn : (xmitOne now resent wnd una newSegs st a).f.k.nodelay = st.f.k.nodelay := by rw [he.k]
    simp only [List.foldl_cons]
    by_cases hs : sentB now resent newSegs a = true
    · have h1 : FlFr (xmitOne now resent wnd una newSegs st a).f
          (F ++ [frmOf (segAfter now resent wnd una newSegs st.f.k.rx_rto st.f.k.nodelay a)]) := by
        rw [xmitOne_f]
        unfold sentB at hs
        simp only [Bool.and_eq_true, Bool.not_eq_true', decide_eq_true_eq] at hs
        rw [if_neg (by simp [hs.1, hs.2])]
        exact h.emit _
      have h2 := ih _ _ h1
      rw [hr, hn] at h2
      rw [List.filter_cons_of_pos hs, List.map_cons]
      simpa [List.append_assoc] using h2
    · have h1 : FlFr (xmitOne now resent wnd una newSegs st a).f F := by
        rw [xmitOne_f]
        unfold sentB at hs
        simp only [Bool.and_eq_true, Bool.not_eq_true', decide_eq_true_eq, not_and, Classical.not_not] at hs
        by_cases ha : a.acked = true
        · rw [if_pos (Or.inl ha)]; exact h
        · rw [if_pos (Or.inr (hs (by simpa using ha)))]; exact h
      have h2 := ih _ _ h1
      rw [hr, hn] at h2
      rw [List.filter_cons_of_neg hs]
      exact h2

def ackFrsOf (k : Kcp) : List Frm :=
  ackFrs k.conv (BitVec.ofNat 8 IKCP_CMD_ACK) (wndUnused k) k.rcv_nxt k.rcv_nxt k.acklist.length k.acklist 0

def waskFrs (k : Kcp) (now : U32) : List Frm :=
  if (flF2 k now).k.probe &&& u32 IKCP_ASK_SEND ≠ 0 then
    [(⟨(flF2 k now).k.conv, BitVec.ofNat 8 IKCP_CMD_WASK, 0, wndUnused k, (flAck k).sc.ts, (flAck k).sc.sn, k.rcv_nxt, []⟩ : Frm)]
  else []

def winsFrs (k : Kcp) (now : U32) : List Frm :=
  if (flF3a k now).k.probe &&& u32 IKCP_ASK_TELL ≠ 0 then
    [(⟨(flF3a k now).k.conv, BitVec.ofNat 8 IKCP_CMD_WINS, 0, wndUnused k, (flAck k).sc.ts, (flAck k).sc.sn, k.rcv_nxt, []⟩ : Frm)]
  else []

def probeFrs (k : Kcp) (now : U32) : List Frm := waskFrs k now ++ winsFrs k now

def pushFrs (k : Kcp) (full : Bool) (now : U32) : List Frm :=
  if full then
    ((flAd k now).buf.filter (sentB now (resentOf k) (flAd k now).count)).map
      (fun s => frmOf (segAfter now (resentOf k) (wndUnused k) k.rcv_nxt (flAd k now).count k.rx_rto k.nodelay s))
  else []

/-- a PUSH frame of a FULL flush is the frame of a segment phase 5 decided to send, as it leaves phase 5 -/
theorem mem_pushFrs {k : Kcp} {full : Bool} {now : U32} {fr : Frm} :
    fr ∈ pushFrs k full now ↔ full = true ∧ ∃ s ∈ (flAd k now).buf, s.acked = false ∧
      cause now (resentOf k) (flAd k now).count s ≠ .none ∧
      fr = frmOf (segAfter now (resentOf k) (wndUnused k) k.rcv_nxt (flAd k now).count k.rx_rto k.nodelay s) := by
  unfold pushFrs
  cases full
  · simp
  · simp only [↓reduceIte, List.mem_map, List.mem_filter, sentB, Bool.and_eq_true, Bool.not_eq_true', decide_eq_true_eq,
      true_and]
    exact ⟨fun ⟨s, ⟨hs, ha, hc⟩, e⟩ => ⟨s, hs, ha, hc, e.symm⟩, fun ⟨s, hs, ha, hc, e⟩ => ⟨s, ⟨hs, ha, hc⟩, e.symm⟩⟩

def flushFrs (k : Kcp) (full : Bool) (now : U32) : List Frm :=
  ackFrsOf k ++ probeFrs k now ++ pushFrs k full now

theorem flF5_flFr (k : Kcp) (full : Bool) (now : U32) : FlFr (flF5 k full now) (flushFrs k full now) := by
  have h1 : FlFr (flAck k).f (ackFrsOf k) := by
    have := ackFlush_flFr (wndUnused k) k.rcv_nxt k.acklist.length k.acklist 0
      ⟨{ k := k }, { cmd := BitVec.ofNat 8 IKCP_CMD_ACK }⟩ [] (FlFr.init k)
    unfold flAck ackFrsOf
    simpa using this
  have h2 : FlFr (flF2 k now) (ackFrsOf k) := (h1.setK _).setK _
  have h3a : FlFr (flF3a k now) (ackFrsOf k ++ waskFrs k now) := by
    unfold flF3a waskFrs
    split
    · exact (h2.makeSpace _).putHdr _ _ _ _ _ _
    · simpa using h2
  have h3b : FlFr (flF3b k now) (ackFrsOf k ++ waskFrs k now ++ winsFrs k now) := by
    unfold flF3b winsFrs
    split
    · exact (h3a.makeSpace _).putHdr _ _ _ _ _ _
    · simpa using h3a
  have h4 : FlFr (flF4 k now) (ackFrsOf k ++ waskFrs k now ++ winsFrs k now) := (h3b.setK _).setK _
  have hx : FlFr (flX k full now).f (flushFrs k full now) := by
    unfold flushFrs probeFrs pushFrs
    cases full
    · rw [flX_ackonly]
      simpa [List.append_assoc] using h4
    · obtain ⟨hfold, hrto, hnd⟩ := flX_fold k now
      have := foldXmit_flFr now (resentOf k) (wndUnused k) k.rcv_nxt (flAd k now).count
        (flAd k now).buf { f := flF4 k now, next := k.interval } _ h4
      rw [hfold]
      simp only [hrto, hnd] at this
      simpa [List.append_assoc] using this
  exact hx.setK _

theorem flush_frames (k : Kcp) (full : Bool) (now : U32) (hp : (flush k full now).panic = false) :
    ∃ gs : List (List Frm), (flush k full now).outs = gs.map encFrames ∧ gs.flatten = flushFrs k full now := by
  rw [flush_panic] at hp
  obtain ⟨gs, g, h1, h2, h3⟩ := flF5_flFr k full now hp
  rw [flush_eq]
  simp only []
  split
  · refine ⟨gs ++ [g], ?_, ?_⟩
    · simp only [List.map_append, List.map_cons, List.map_nil, h1, h2]
    · simp only [List.flatten_append, List.flatten_cons, List.flatten_nil, List.append_nil]; exact h3
  · rename_i hc
    have hg : g = [] := by
      apply encFrames_eq_nil
      rw [← h2]
      cases hcur : (flF5 k full now).cur with
      | nil => rfl
      | cons a t => rw [hcur] at hc; simp at hc
    refine ⟨gs, h1, ?_⟩
    rw [← h3, hg, List.append_nil]

theorem flushFrs_cases {k : Kcp} {full : Bool} {now : U32} {fr : Frm} (h : fr ∈ flushFrs k full now) :
    fr ∈ ackFrsOf k ∨ fr ∈ probeFrs k now ∨ fr ∈ pushFrs k full now := by
  unfold flushFrs at h
  rcases List.mem_append.mp h with h | h
  · exact (List.mem_append.mp h).elim Or.inl fun h => Or.inr (Or.inl h)
  · exact Or.inr (Or.inr h)

theorem flush_outs_mem (k : Kcp) (full : Bool) (now : U32) (hp : (flush k full now).panic = false) {o : Bytes}
    (ho : o ∈ (flush k full now).outs) : ∃ g, o = encFrames g ∧ ∀ fr ∈ g, fr ∈ flushFrs k full now := by
  obtain ⟨gs, hgs, hfl⟩ := flush_frames k full now hp
  rw [hgs] at ho
  obtain ⟨g, hg, rfl⟩ := List.mem_map.mp ho
  exact ⟨g, rfl, fun fr hfr => hfl ▸ List.mem_flatten.mpr ⟨g, hg, hfr⟩⟩

theorem flush_frs_out (k : Kcp) (full : Bool) (now : U32) (hpan : (flush k full now).panic = false) {fr : Frm}
    (hfr : fr ∈ flushFrs k full now) :
    ∃ g, encFrames g ∈ (flush k full now).outs ∧ fr ∈ g ∧ ∀ x ∈ g, x ∈ flushFrs k full now := by
  obtain ⟨gs, hgs, hfl⟩ := flush_frames k full now hpan
  rw [← hfl] at hfr
  obtain ⟨g, hg, hfg⟩ := List.mem_flatten.mp hfr
  exact ⟨g, by rw [hgs]; exact List.mem_map.mpr ⟨g, hg, rfl⟩, hfg,
    fun x hx => hfl ▸ List.mem_flatten.mpr ⟨g, hg, hx⟩⟩

theorem flushFrs_wnd (k : Kcp) (full : Bool) (now : U32) : ∀ fr ∈ flushFrs k full now, fr.wnd = wndUnused k := by
  intro fr h
  have hone (c : Prop) [Decidable c] (x : Frm) (hx : x.wnd = wndUnused k) :
      fr ∈ (if c then [x] else []) → fr.wnd = wndUnused k :=
    ite_ind (P := fun l : List Frm => fr ∈ l → fr.wnd = wndUnused k) (fun h => by rw [List.mem_singleton.1 h, hx])
      (fun h => absurd h List.not_mem_nil)
  rcases flushFrs_cases h with h | h | h
  · exact (ackFrs_mem _ _ _ _ _ _ _ _ fr h).2.2.1
  · exact (List.mem_append.1 h).elim (hone _ _ rfl) (hone _ _ rfl)
  · -- a segment put on the wire has been stamped
    obtain ⟨_, s, _, ha, hc, rfl⟩ := mem_pushFrs.mp h
    unfold segAfter
    rw [if_neg (by rw [ha]; exact Bool.false_ne_true), if_neg hc]
    rfl

theorem probeFrs_mem (k : Kcp) (now : U32) : ∀ fr ∈ probeFrs k now,
    fr.conv = k.conv ∧ (fr.cmd.toNat = IKCP_CMD_WASK ∨ fr.cmd.toNat = IKCP_CMD_WINS) ∧ fr.una = k.rcv_nxt ∧ fr.data = [] := by
  intro fr hfr
  have hc2 : (flF2 k now).k.conv = k.conv := by
    rw [flF2_k]
    obtain ⟨pw, tp, pr, hp⟩ := probePhase_shape { k with acklist := [] } now
    rw [hp]
  have hc3 : (flF3a k now).k.conv = k.conv := by rw [flF3a_k, hc2]
  unfold probeFrs waskFrs winsFrs at hfr
  rcases List.mem_append.mp hfr with h | h
  · split at h
    · rw [List.mem_singleton.mp h]; exact ⟨hc2, Or.inl (show (BitVec.ofNat 8 IKCP_CMD_WASK).toNat = IKCP_CMD_WASK by decide), rfl, rfl⟩
    · simp at h
  · split at h
    · rw [List.mem_singleton.mp h]; exact ⟨hc3, Or.inr (show (BitVec.ofNat 8 IKCP_CMD_WINS).toNat = IKCP_CMD_WINS by decide), rfl, rfl⟩
    · simp at h

theorem ackFrsOf_mem (k : Kcp) : ∀ fr ∈ ackFrsOf k,
    fr.conv = k.conv ∧ fr.cmd.toNat = IKCP_CMD_ACK ∧ fr.una = k.rcv_nxt ∧ fr.data = [] ∧ (⟨fr.sn, fr.ts⟩ : Ack) ∈ k.acklist := by
  intro fr hfr
  obtain ⟨h1, h2, _, h4, h5, h6⟩ := ackFrs_mem _ _ _ _ _ _ _ _ fr hfr
  exact ⟨h1, by rw [h2]; decide, h4, h5, h6⟩

theorem ackFrsOf_ne_nil (k : Kcp) (h : k.acklist ≠ []) : ackFrsOf k ≠ [] :=
  ackFrs_ne_nil _ _ _ _ _ _ _ 0 h (by omega)

end KcpVerif.SysW
