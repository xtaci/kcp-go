/-
The progress step of C02 from ARBITRARY consistent states: the segment `U` at the head of A's send buffer is
acknowledged within a bound.  Its phases, in order, each with a deadline (every event keeps the phase or moves on):
waiting — the head waits for its timer or A's next flush; A — A's flush puts the PUSH on its way; B takes it in and
lists it: B owes; C — B's flush puts a frame that releases `U` on its way; D — A takes it in, `snd_una` passes `U`.
Here: A and C as single events (`phase_A`, `phase_C`; D is `phase_D`, `phase_D_rel` in SysDrainConsStep, beside A's
`Input`), and the way back (request on its way, B owes, answer on its way) in general.

The phases are not composed by `Within.trans`: a run is never split.  Their sum is ONE invariant of the run — `Ret` =
arrived ∨ owed ∨ on its way, every disjunct with its own deadline `now ≤ T` — kept by every event (`ret_step`); when the
clock is past the last deadline only "arrived" is left (`Ret.done`).  Each phase costs one case analysis of `Sys.step`
(`owed_step`, `carried_step`, `pushed_step`) and no intermediate state of the run has to be named.
-/
import KcpVerif.Lemmas.SysDrainConsStep
import KcpVerif.Lemmas.SysWinRun
import KcpVerif.Lemmas.KcpMove

namespace KcpVerif.SysC
open KcpVerif.Gen KcpVerif.Kcp KcpVerif.Live KcpVerif.Wire KcpVerif.SysW KcpVerif.Sys

-- the unifier otherwise unfolds the whole of `flush` / `input` when it compares two states
attribute [local irreducible] Kcp.flush Kcp.input

theorem flush_acks_out {K : Kcp} (hsb : K.snd_buf = []) (hsq : K.snd_queue = []) (full : Bool) (now : U32)
    (hpan : (flush K full now).panic = false) {fr0 : Frm} (hm0 : fr0 ∈ ackFrsOf K) :
    ∃ g, encFrames g ∈ (flush K full now).outs ∧ (∀ fr ∈ g, fr.data.length ≤ mtuLimit) ∧ fr0 ∈ g := by
  obtain ⟨g, hg, hfg, hall⟩ := flush_frs_out K full now hpan
    (by rw [(flush_empty K full now hsb hsq).1]; exact List.mem_append_left _ hm0)
  exact ⟨g, hg, fun fr hfr' => by rw [(flushFrs_idle K full now hsb hsq fr (hall fr hfr')).2.1]; simp, hfg⟩

theorem phase_C {p : Par} {s : State} {gab gba : GLink} (h : Cons p s gab gba) (hack : s.B.acklist ≠ []) :
    ∃ fr0 frs0 pre post, (Sys.step s .flushB).ba = s.ba ++ pre ++ [⟨s.now + s.D, encFrames frs0⟩] ++ post ∧
      fr0 ∈ frs0 ∧ fr0.una = s.B.rcv_nxt := by
  obtain ⟨fr0, rest0, hf0⟩ := List.exists_cons_of_ne_nil (ackFrsOf_ne_nil s.B hack)
  have hm0 : fr0 ∈ ackFrsOf s.B := by rw [hf0]; exact List.mem_cons_self ..
  obtain ⟨g, hg, _, hfg⟩ := flush_acks_out h.bsb h.bsq true (clk s.now) (Total.flush_total h.bK true (clk s.now)).1 hm0
  obtain ⟨pre, post, hsplit⟩ := List.append_of_mem hg
  refine ⟨fr0, g, stamp (s.now + s.D) pre, stamp (s.now + s.D) post, ?_, hfg, (ackFrsOf_mem s.B fr0 hm0).2.2.1⟩
  rw [step_flushB, hsplit]
  simp [stamp, List.append_assoc]

theorem flush_push_out {p : Par} {s : State} {gab gba : GLink} (h : Cons p s gab gba) (x : Seg) (hx : x ∈ s.A.snd_buf)
    (hna : x.acked = false) (hc : cause (clk s.now) (resentOf s.A) (flAd s.A (clk s.now)).count x ≠ .none) :
    ∃ (g : List Frm) (fr0 : Frm), encFrames g ∈ (s.A.flush true (clk s.now)).outs ∧
      (∀ fr ∈ g, fr ∈ flushFrs s.A true (clk s.now)) ∧ fr0 ∈ g ∧ fr0.cmd.toNat = IKCP_CMD_PUSH ∧ fr0.sn = x.sn := by
  obtain ⟨t, ht⟩ := flAd_prefix s.A (clk s.now)
  have hxb : x ∈ (flAd s.A (clk s.now)).buf := by rw [ht]; exact List.mem_append_left _ hx
  have hfrm : frmOf (segAfter (clk s.now) (resentOf s.A) (wndUnused s.A) s.A.rcv_nxt (flAd s.A (clk s.now)).count
      s.A.rx_rto s.A.nodelay x) ∈ flushFrs s.A true (clk s.now) := by
    unfold flushFrs
    exact List.mem_append_right _ (mem_pushFrs.mpr ⟨rfl, x, hxb, hna, hc, rfl⟩)
  obtain ⟨g, hg, hfg, hall⟩ := flush_frs_out s.A true (clk s.now) (Total.flush_total h.aK true (clk s.now)).1 hfrm
  obtain ⟨i1, _, _, i4, _⟩ := segAfter_id (clk s.now) (resentOf s.A) (wndUnused s.A) s.A.rcv_nxt
    (flAd s.A (clk s.now)).count s.A.rx_rto s.A.nodelay x
  refine ⟨g, _, hg, hall, hfg, ?_, i1⟩
  show (segAfter _ _ _ _ _ _ _ x).cmd.toNat = _
  rw [i4, (h.atag x hx).2]; decide

theorem phase_A {p : Par} {s : State} {gab gba : GLink} (h : Cons p s gab gba) (x : Seg) (hx : x ∈ s.A.snd_buf)
    (hna : x.acked = false) (hdue : x.xmit = 0 ∨ itimediff (clk s.now) x.resendts ≥ 0) :
    ∃ fr0 frs0 pre post, (Sys.step s .flushA).ab = s.ab ++ pre ++ [⟨s.now + s.D, encFrames frs0⟩] ++ post ∧
      fr0 ∈ frs0 ∧ fr0.cmd.toNat = IKCP_CMD_PUSH ∧ fr0.sn = x.sn := by
  have hc : cause (clk s.now) (resentOf s.A) (flAd s.A (clk s.now)).count x ≠ .none := by
    rcases hdue with h0 | hd
    · rw [(cause_initial_iff _ _ _ x).mpr h0]; exact fun c => by cases c
    · by_cases h0 : x.xmit = 0
      · rw [(cause_initial_iff _ _ _ x).mpr h0]; exact fun c => by cases c
      · rcases cause_due (clk s.now) (resentOf s.A) (flAd s.A (clk s.now)).count x h0 hd with e | e | e <;> rw [e] <;>
          exact fun c => by cases c
  obtain ⟨g, fr0, hg, _, hfg, hcmd, hsn⟩ := flush_push_out h x hx hna hc
  obtain ⟨pre, post, hsplit⟩ := List.append_of_mem hg
  refine ⟨fr0, g, stamp (s.now + s.D) pre, stamp (s.now + s.D) post, ?_, hfg, hcmd, hsn⟩
  rw [step_flushA, hsplit]
  simp [stamp, List.append_assoc]

theorem una_mono_step {p : Par} {s : State} {gab gba : GLink} (h : Cons p s gab gba) (hnw : NoWrap p.base s) (ev : Ev) :
    o p.base s.A.snd_una ≤ o p.base (Sys.step s ev).A.snd_una := by
  refine h.step_cases (P := fun s' => o p.base s.A.snd_una ≤ o p.base s'.A.snd_una) ev (Nat.le_refl _)
    (fun _ _ => Nat.le_refl _) (fun b _ => ?_) (fun _ _ => Nat.le_refl _) (fun _ => ?_) (fun _ => Nat.le_refl _)
    (fun _ _ _ _ _ _ => Nat.le_refl _) ?_
  · show _ ≤ o p.base (s.A.send b).k.snd_una
    rw [Frame.send_k s.A b]; exact Nat.le_refl _
  · show _ ≤ o p.base (s.A.flush true (clk s.now)).k.snd_una
    rw [flush_una]; exact Nat.le_refl _
  · rintro t0 frs grest _ rfl _
    obtain ⟨_, _, a3, _, _⟩ := h.inA_loop hnw
    have a3' : o p.base s.A.snd_una ≤ o p.base (inFrs true frs { k := s.A }).k.snd_una := a3
    refine h.dlvA_cases (P := fun s' => o p.base s.A.snd_una ≤ o p.base s'.A.snd_una) hnw (fun k1 hk1 _ _ => ?_)
    have hu := inA_una (inFrs true frs { k := s.A }) k1 hk1 s.A.snd_una
    constructor
    · show _ ≤ o p.base (cwndOnAck k1 s.A.snd_una).snd_una
      rw [hu]; exact a3'
    · show _ ≤ o p.base (flush (cwndOnAck k1 s.A.snd_una) true (clk s.now)).k.snd_una
      rw [flush_una, hu]; exact a3'

theorem rcvNxt_mono_step {p : Par} {s : State} {gab gba : GLink} (h : Cons p s gab gba) (hnw : NoWrap p.base s) (ev : Ev) :
    o p.base s.B.rcv_nxt ≤ o p.base (Sys.step s ev).B.rcv_nxt := by
  refine h.step_cases (P := fun s' => o p.base s.B.rcv_nxt ≤ o p.base s'.B.rcv_nxt) ev (Nat.le_refl _)
    (fun _ _ => Nat.le_refl _) (fun _ _ => Nat.le_refl _) (fun _ _ => ?_) (fun _ => Nat.le_refl _) (fun _ => ?_) ?_
    (fun _ _ _ _ _ _ => Nat.le_refl _)
  · exact (h.recvB hnw _).1.lo
  · show _ ≤ o p.base (s.B.flush true (clk s.now)).k.rcv_nxt
    rw [(flush_rcv s.B true (clk s.now)).2.2.1]; exact Nat.le_refl _
  · rintro t0 frs grest _ rfl _
    refine h.dlvB_cases (Q := fun r => o p.base s.B.rcv_nxt ≤ o p.base r.k.rcv_nxt) hnw ?_ (fun _ => Nat.le_refl _)
    intro K2 cw inc e r1 _ _ _ _
    have k1 : o p.base s.B.rcv_nxt ≤ o p.base K2.rcv_nxt := by rw [e]; exact r1.lo
    exact ⟨k1, by show _ ≤ o p.base (flush K2 false (clk s.now)).k.rcv_nxt
                  rw [(flush_rcv K2 false (clk s.now)).2.2.1]; exact k1⟩

/-- The way back, for any "B owes" (`Ow`), any property `R` of the datagram that answers, any goal its arrival at A
reaches; `C` is a side condition on B that the flush needs and does not change.  The acknowledgement chains ask `R`
of one frame (`OweRel.toD`), the window chain of every frame. -/
structure OweD (base : U32) (Ow C : Kcp → Prop) (R : List Frm → Prop) : Prop where
  mono : ∀ k k' : Kcp, Ow k → RcvMono base k k' → Ow k'
  side : ∀ (K : Kcp) (full : Bool) (now : U32), C (flush K full now).k → C K
  flush : ∀ (K : Kcp) (full : Bool) (now : U32), Ow K → C K → K.snd_buf = [] → K.snd_queue = [] →
    (flush K full now).panic = false →
    ∃ g, encFrames g ∈ (flush K full now).outs ∧ (∀ fr ∈ g, fr.data.length ≤ mtuLimit) ∧ R g

def Owed (Ow : Kcp → Prop) (T : Nat) (s : State) : Prop := Ow s.B ∧ s.nfB ≤ T ∧ s.now ≤ T

def Carried (R : List Frm → Prop) (T : Nat) (s : State) : Prop :=
  (∃ d ∈ s.ba, d.arr ≤ T ∧ ∃ frs, d.data = encFrames frs ∧ (∀ fr ∈ frs, fr.data.length ≤ mtuLimit) ∧ R frs) ∧ s.now ≤ T

theorem dlvB_owedD {p : Par} {Ow C : Kcp → Prop} {R : List Frm → Prop} (hO : OweD p.base Ow C R) {s : State} {t0 : Nat}
    {frs : List Frm} {grest gba : GLink} (h : Cons p s ((t0, frs) :: grest) gba) (hnw : NoWrap p.base s)
    (hC : C (s.B.input (encFrames frs) true s.ndB (clk s.now)).k) (hloop : Ow (inFrs true frs { k := s.B }).k) :
    (Ow (s.B.input (encFrames frs) true s.ndB (clk s.now)).k ∧ (s.B.input (encFrames frs) true s.ndB (clk s.now)).outs = []) ∨
    (∃ g, ⟨s.now + s.D, encFrames g⟩ ∈ stamp (s.now + s.D) (s.B.input (encFrames frs) true s.ndB (clk s.now)).outs ∧
      (∀ fr ∈ g, fr.data.length ≤ mtuLimit) ∧ R g) := by
  refine h.dlvB_cases (Q := fun r => C r.k → (Ow r.k ∧ r.outs = []) ∨
    (∃ g, (⟨s.now + s.D, encFrames g⟩ : Dgram) ∈ stamp (s.now + s.D) r.outs ∧ (∀ fr ∈ g, fr.data.length ≤ mtuLimit) ∧ R g))
    hnw ?_ (fun hnil _ => Or.inl ⟨by subst hnil; exact hloop, rfl⟩) hC
  intro K2 cw inc e _ _ hKm hsb hsq
  have ho : Ow K2 := hO.mono _ K2 hloop
    ⟨by rw [e]; exact Nat.le_refl _, by rw [e]; exact fun a ha => ha, by rw [e]; exact fun ht => ht⟩
  refine ⟨fun _ => Or.inl ⟨ho, rfl⟩, fun hC2 => Or.inr ?_⟩
  obtain ⟨g, hg, hval, hR⟩ := hO.flush K2 false (clk s.now) ho (hO.side K2 false (clk s.now) hC2) hsb hsq
    (Total.flush_total hKm false (clk s.now)).1
  exact ⟨g, List.mem_map.mpr ⟨encFrames g, hg, rfl⟩, hval, hR⟩

theorem owed_step {p : Par} {Ow C : Kcp → Prop} {R : List Frm → Prop} (hO : OweD p.base Ow C R)
    {s : State} {gab gba : GLink} (h : Cons p s gab gba) (hnw : NoWrap p.base s) (T : Nat)
    (hC : C s.B) (ev : Ev) (hC' : C (Sys.step s ev).B) (hr : Owed Ow T s) :
    Owed Ow T (Sys.step s ev) ∨ Carried R (T + s.D) (Sys.step s ev) := by
  let M : State → Prop := fun s' => C s'.B → Owed Ow T s' ∨ Carried R (T + s.D) s'
  suffices hM : M (Sys.step s ev) from hM hC'
  obtain ⟨q1, q3, q4⟩ := hr
  have owed : ∀ s' : State, Ow s'.B → s'.nfB ≤ T → s'.now ≤ T → M s' := fun s' a b c _ => Or.inl ⟨a, b, c⟩
  have sent : ∀ (s' : State) (g : List Frm), (⟨s.now + s.D, encFrames g⟩ : Dgram) ∈ s'.ba →
      (∀ fr ∈ g, fr.data.length ≤ mtuLimit) → R g → s'.now = s.now → M s' := by
    intro s' g hg hval hrl hnow _
    exact Or.inr ⟨⟨_, hg, by show s.now + s.D ≤ T + s.D; omega, g, rfl, hval, hrl⟩, by rw [hnow]; omega⟩
  refine h.step_cases (P := M) ev (owed s q1 q3 q4) ?_ (fun b _ => owed _ q1 q3 q4) (fun _ _ => ?_) (fun _ => owed _ q1 q3 q4)
    (fun _ => ?_) ?_ (fun _ _ _ _ _ _ => owed _ q1 q3 q4)
  · intro _ hq
    have := (quiet_spec hq).2.2.2
    exact owed _ q1 q3 (by show s.now + 1 ≤ T; omega)
  · exact owed _ (hO.mono s.B _ q1 (h.recvB hnw _).2.1) q3 q4
  · intro hC2
    obtain ⟨g, hg, hval, hR⟩ := hO.flush s.B true (clk s.now) q1 hC h.bsb h.bsq (Total.flush_total h.bK true (clk s.now)).1
    exact sent _ g (List.mem_append_right _ (List.mem_map.mpr ⟨encFrames g, hg, rfl⟩)) hval hR rfl hC2
  · rintro t0 frs grest _ rfl _ hC2
    rcases dlvB_owedD hO h hnw hC2 (hO.mono s.B _ q1 (h.inB_loop hnw).mono) with ⟨c1, _⟩ | ⟨g, c1, c2, c3⟩
    · exact owed _ c1 q3 q4 hC2
    · exact sent _ g (List.mem_append_right _ c1) c2 c3 rfl hC2

theorem carried_step {p : Par} {R : List Frm → Prop} {G : State → Prop}
    {s : State} {gab gba : GLink} (h : Cons p s gab gba) (T : Nat)
    (hD : ∀ t0 frs grest, gba = (t0, frs) :: grest → t0 ≤ s.now → R frs → G (Sys.step s .dlvA))
    (ev : Ev) (hr : Carried R T s) : Carried R T (Sys.step s ev) ∨ G (Sys.step s ev) := by
  obtain ⟨⟨d, hd, hda, frs', hdd, hval, hrl⟩, hn⟩ := hr
  let M : State → Prop := fun s' => Carried R T s' ∨ G s'
  have keep : ∀ s' : State, (∀ d ∈ s.ba, d ∈ s'.ba) → s'.now = s.now → M s' := fun s' hsub hnow =>
    Or.inl ⟨⟨d, hsub d hd, hda, frs', hdd, hval, hrl⟩, by rw [hnow]; exact hn⟩
  refine h.step_cases (P := M) ev (keep s (fun d hd => hd) rfl) ?_ (fun b _ => keep _ (fun d hd => hd) rfl)
    (fun _ _ => keep _ (fun d hd => hd) rfl) (fun _ => keep _ (fun d hd => hd) rfl)
    (fun _ => keep _ (fun d hd => List.mem_append_left _ hd) rfl)
    (fun _ _ _ _ _ _ => keep _ (fun d hd => List.mem_append_left _ hd) rfl) ?_
  · intro _ hq
    have := (quiet_spec hq).2.1 d hd
    exact Or.inl ⟨⟨d, hd, hda, frs', hdd, hval, hrl⟩, by show s.now + 1 ≤ T; omega⟩
  · rintro t0 frs grest _ rfl hdue
    have hba : s.ba = ⟨t0, encFrames frs⟩ :: encL grest := h.hba
    rw [hba] at hd
    rcases List.mem_cons.mp hd with rfl | hd
    · have hfe : frs' = frs := by
        apply encFrames_inj frs' frs hval
        · intro x hx
          rw [(h.fba (t0, frs) (List.mem_cons_self ..) x hx).2.1]; simp
        · exact hdd.symm
      rw [hfe] at hrl
      have := hD t0 frs grest rfl hdue hrl
      rw [step_dlvA_cons s _ _ hba, if_pos hdue] at this
      exact Or.inr this
    · exact Or.inl ⟨⟨d, hd, hda, frs', hdd, hval, hrl⟩, hn⟩

def Pushed (F : Kcp → Frm → Prop) (T : Nat) (s : State) : Prop :=
  s.now ≤ T ∧ ∃ d ∈ s.ab, d.arr ≤ T ∧ ∃ frs, d.data = encFrames frs ∧ (∀ fr ∈ frs, fr.data.length ≤ mtuLimit) ∧
    ∃ fr ∈ frs, F s.B fr

/-- `hB`: once B takes the request in it owes after the parse loop; it then flushes within `I` (`hnf`) unless its
`Input` answers at once.  `hF`: the request stays one while `rcv_nxt` moves forward. -/
theorem pushed_step {p : Par} {Ow C : Kcp → Prop} {R : List Frm → Prop} {F : Kcp → Frm → Prop}
    (hO : OweD p.base Ow C R) (hF : ∀ k k' fr, F k fr → o p.base k.rcv_nxt ≤ o p.base k'.rcv_nxt → F k' fr)
    {s : State} {gab gba : GLink} (h : Cons p s gab gba) (hnw : NoWrap p.base s) (T I : Nat) (hnf : s.nfB ≤ s.now + I)
    (hB : ∀ t0 frs grest, gab = (t0, frs) :: grest → ∀ fr ∈ frs, F s.B fr → Ow (inFrs true frs { k := s.B }).k)
    (ev : Ev) (hC' : C (Sys.step s ev).B) (hr : Pushed F T s) :
    Pushed F T (Sys.step s ev) ∨ Owed Ow (T + I) (Sys.step s ev) ∨ Carried R (T + I + s.D) (Sys.step s ev) := by
  -- `rcv_nxt` moves forward at every event (`rcvNxt_mono_step`): handed to each case as a hypothesis of the motive
  let M : State → Prop := fun s' => C s'.B → o p.base s.B.rcv_nxt ≤ o p.base s'.B.rcv_nxt →
    Pushed F T s' ∨ Owed Ow (T + I) s' ∨ Carried R (T + I + s.D) s'
  suffices hM : M (Sys.step s ev) from hM hC' (rcvNxt_mono_step h hnw ev)
  obtain ⟨q2, d, hd, hda, frs, hdd, hval, fr, hfr, hF0⟩ := hr
  have keep : ∀ s' : State, d ∈ s'.ab → s'.now = s.now → M s' := fun s' hd' hnow _ hmono =>
    Or.inl ⟨by rw [hnow]; exact q2, d, hd', hda, frs, hdd, hval, fr, hfr, hF _ _ fr hF0 hmono⟩
  refine h.step_cases (P := M) ev (keep s hd rfl) ?_ (fun b _ => keep _ hd rfl) (fun _ _ => keep _ hd rfl)
    (fun _ => keep _ (List.mem_append_left _ hd) rfl) (fun _ => keep _ hd rfl) ?_
    (fun _ _ _ _ _ _ => keep _ (List.mem_append_left _ hd) rfl)
  · intro _ hq _ _
    have := (quiet_spec hq).1 d hd
    exact Or.inl ⟨by show s.now + 1 ≤ T; omega, d, hd, hda, frs, hdd, hval, fr, hfr, hF0⟩
  · rintro t0 frs0 grest _ rfl hdue
    have hab : s.ab = ⟨t0, encFrames frs0⟩ :: encL grest := h.hab
    rw [hab] at hd
    rcases List.mem_cons.mp hd with rfl | hd
    · -- the head is the datagram with the request
      intro hC2 _
      have hd0 : ((t0, frs0) : Nat × List Frm) ∈ (t0, frs0) :: grest := List.mem_cons_self ..
      have hfe : frs = frs0 := by
        apply encFrames_inj frs frs0 hval
        · exact fun x hx => (h.fab (t0, frs0) hd0 x hx).2.1.2
        · exact hdd.symm
      subst hfe
      right
      rcases dlvB_owedD hO h hnw hC2 (hB t0 frs grest rfl fr hfr hF0) with ⟨c1, _⟩ | ⟨g, c1, c2, c3⟩
      · exact Or.inl ⟨c1, by show s.nfB ≤ T + I; omega, by show s.now ≤ T + I; omega⟩
      · exact Or.inr ⟨⟨⟨s.now + s.D, encFrames g⟩, List.mem_append_right _ c1, by show s.now + s.D ≤ T + I + s.D; omega,
          g, rfl, c2, c3⟩, by show s.now ≤ T + I + s.D; omega⟩
    · exact keep _ hd rfl

/-- `Ow`: B owes a frame that lets `snd_una` pass `U`; `Rl`: the frame does -/
structure OweRel (base : U32) (Ow : Kcp → Prop) (Rl : Frm → Prop) : Prop where
  mono : ∀ k k' : Kcp, Ow k → o base k.rcv_nxt ≤ o base k'.rcv_nxt → (∀ a ∈ k.acklist, a ∈ k'.acklist) → Ow k'
  flush : ∀ k : Kcp, Ow k → ∃ fr ∈ ackFrsOf k, Rl fr

theorem OweRel.toD {base : U32} {Ow : Kcp → Prop} {Rl : Frm → Prop} (h : OweRel base Ow Rl) :
    OweD base Ow (fun _ => True) (fun g => ∃ fr ∈ g, Rl fr) where
  mono := fun k k' ho hm => h.mono k k' ho hm.nxt hm.ack
  side := fun _ _ _ _ => trivial
  flush := by
    intro K full now ho _ hsb hsq hpan
    obtain ⟨fr0, hm0, hrl⟩ := h.flush K ho
    obtain ⟨g, hg, hval, hfg⟩ := flush_acks_out hsb hsq full now hpan hm0
    exact ⟨g, hg, hval, fr0, hfg, hrl⟩

/-- arrived; owed by B, to be flushed by `T`; or on its way, to arrive by `T + D` -/
def Ret (p : Par) (Ow : Kcp → Prop) (Rl : Frm → Prop) (U T : Nat) (s : State) : Prop :=
  U < o p.base s.A.snd_una ∨ Owed Ow T s ∨ Carried (fun g => ∃ fr ∈ g, Rl fr) (T + s.D) s

theorem Ret.done {p : Par} {Ow : Kcp → Prop} {Rl : Frm → Prop} {U T : Nat} {s : State} (h : Ret p Ow Rl U T s)
    (ht : T + s.D < s.now) : U < o p.base s.A.snd_una := by
  rcases h with hG | ⟨_, _, hn⟩ | ⟨_, hn⟩
  · exact hG
  · omega
  · omega

theorem ret_step {p : Par} {Ow : Kcp → Prop} {Rl : Frm → Prop} (hOR : OweRel p.base Ow Rl) {s : State} {gab gba : GLink}
    (h : Cons p s gab gba) (hnw : NoWrap p.base s) (U T : Nat)
    (hD : ∀ t0 frs grest, gba = (t0, frs) :: grest → t0 ≤ s.now → (∃ fr ∈ frs, Rl fr) →
      U < o p.base (Sys.step s .dlvA).A.snd_una)
    (hr : Ret p Ow Rl U T s) (ev : Ev) : Ret p Ow Rl U T (Sys.step s ev) := by
  rcases hr with hG | ho | hc
  · exact Or.inl (Nat.lt_of_lt_of_le hG (una_mono_step h hnw ev))
  · rcases owed_step hOR.toD h hnw T trivial ev trivial ho with h1 | h1
    · exact Or.inr (Or.inl h1)
    · exact Or.inr (Or.inr (by rw [step_D]; exact h1))
  · rcases carried_step (G := fun s' => U < o p.base s'.A.snd_una) h (T + s.D) hD ev hc with h1 | h1
    · exact Or.inr (Or.inr (by rw [step_D]; exact h1))
    · exact Or.inl h1

/-- B has delivered `U` and lists some acknowledgement: whatever ACK frame it flushes carries `una` beyond `U` -/
def OweUna (base : U32) (U : Nat) (k : Kcp) : Prop := U < o base k.rcv_nxt ∧ k.acklist ≠ []

/-- the frame's cumulative `una` is beyond `U` -/
def RelUna (base : U32) (U : Nat) (fr : Frm) : Prop := U < o base fr.una

theorem oweRel_una (base : U32) (U : Nat) : OweRel base (OweUna base U) (RelUna base U) where
  mono := by
    rintro k k' ⟨h1, h2⟩ hlo hsub
    obtain ⟨a, rest, e⟩ := List.exists_cons_of_ne_nil h2
    exact ⟨Nat.lt_of_lt_of_le h1 hlo, List.ne_nil_of_mem (hsub a (by rw [e]; exact List.mem_cons_self ..))⟩
  flush := by
    rintro k ⟨h1, h2⟩
    obtain ⟨fr0, rest0, hf0⟩ := List.exists_cons_of_ne_nil (ackFrsOf_ne_nil k h2)
    have hm0 : fr0 ∈ ackFrsOf k := by rw [hf0]; exact List.mem_cons_self ..
    exact ⟨fr0, hm0, by unfold RelUna; rw [(ackFrsOf_mem k fr0 hm0).2.2.1]; exact h1⟩

theorem run_D' : ∀ (evs : List Ev) (s : State), (Sys.run s evs).D = s.D := run_D

theorem relUna_arrives {p : Par} {s : State} {gab gba : GLink} (h : Cons p s gab gba) (hnw : NoWrap p.base s) (U : Nat)
    (t0 : Nat) (frs : List Frm) (grest : GLink) (e : gba = (t0, frs) :: grest) (hdue : t0 ≤ s.now)
    (hrl : ∃ fr ∈ frs, RelUna p.base U fr) : U < o p.base (Sys.step s .dlvA).A.snd_una := by
  subst e
  obtain ⟨fr, hfr, hfu⟩ := hrl
  exact Nat.lt_of_lt_of_le hfu (phase_D h hnw hdue fr hfr)

theorem ret_done {p : Par} (U T : Nat) (evs : List Ev) (s : State) (gab gba : GLink) (h : Cons p s gab gba)
    (hr : Ret p (OweUna p.base U) (RelUna p.base U) U T s) (hnw : RunNoWrap p.base s evs)
    (ht : T + s.D < (Sys.run s evs).now) : U < o p.base (Sys.run s evs).A.snd_una :=
  (Cons.run (J := Ret p (OweUna p.base U) (RelUna p.base U) U T) (fun _ h => h)
    (fun _ _ _ ev hc hnw hr => ret_step (oweRel_una p.base U) hc hnw U T (relUna_arrives hc hnw U) hr ev)
    evs s gab gba h ((runNoWrap_iff p.base evs s).mp hnw) hr).2.done (by rw [run_D]; exact ht)

end KcpVerif.SysC
