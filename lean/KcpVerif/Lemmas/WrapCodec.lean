/-
Reading back what the little-endian codecs of `Model/Wrap` wrote, also behind a prefix; a 24-byte KCP header cut so that
each field read of `Input` falls into one piece (`hdrCat`), so that `Input` reads back every field `encodeHdr` wrote
(`Kcp.encodeHdr_reads`); `_itimediff` through the integers its arguments stand for (`Serial.itimediff_rep`).  Core Lean only.
-/
import KcpVerif.Model.Kcp
import KcpVerif.Lemmas.Serial

namespace KcpVerif

theorem Serial.itimediff_rep {a b : U32} {za zb : Int} (ha : Serial.Rep a za) (hb : Serial.Rep b zb)
    (h1 : -2 ^ 31 ≤ za - zb) (h2 : za - zb < 2 ^ 31) : itimediff a b = za - zb :=
  Serial.toInt_sub_rep ha hb h1 h2

theorem Serial.itimediff_add_self (now r : U32) (h1 : r.toNat < 2 ^ 31) :
    itimediff (now + r) now = r.toNat ∧ itimediff now (now + r) = -(r.toNat : Int) := by
  have ha := (Serial.Rep.self now).add (Serial.Rep.self r)
  have hb := Serial.Rep.self now
  rw [Serial.itimediff_rep ha hb (by omega) (by omega), Serial.itimediff_rep hb ha (by omega) (by omega)]
  omega

theorem Serial.ofInt_itimediff (a b : U32) : BitVec.ofInt 32 (itimediff a b) = a - b := by
  unfold itimediff; exact BitVec.ofInt_toInt

theorem Serial.itimediff_pos_toNat (a b : U32) (h : itimediff a b > 0) : ((a - b).toNat : Int) = itimediff a b := by
  unfold itimediff at h ⊢
  rw [BitVec.toInt_eq_toNat_cond] at h ⊢
  split at h <;> rename_i hc
  · rw [if_pos hc]
  · omega

theorem Serial.itimediff_pos_of_ne (a b : U32) (h1 : ¬ itimediff a b < 0) (h2 : a ≠ b) : itimediff a b > 0 := by
  unfold itimediff at h1 ⊢
  have : (a - b).toInt ≠ 0 := by
    intro h
    apply h2
    have : a - b = 0 := by
      apply BitVec.eq_of_toInt_eq; simpa using h
    bv_omega
  omega

theorem byteAt_append_add (pre l : Bytes) (i : Nat) : byteAt (pre ++ l) (pre.length + i) = byteAt l i := by
  unfold byteAt
  rw [List.getD_eq_getElem?_getD, List.getD_eq_getElem?_getD, List.getElem?_append_right (Nat.le_add_right _ _),
    Nat.add_sub_cancel_left]

theorem rd16_append_add (pre l : Bytes) (off : Nat) : rd16 (pre ++ l) (pre.length + off) = rd16 l off := by
  unfold rd16
  rw [Nat.add_assoc pre.length, byteAt_append_add, byteAt_append_add]

theorem rd32_append_add (pre l : Bytes) (off : Nat) : rd32 (pre ++ l) (pre.length + off) = rd32 l off := by
  unfold rd32
  rw [Nat.add_assoc pre.length, Nat.add_assoc pre.length, Nat.add_assoc pre.length, byteAt_append_add,
    byteAt_append_add, byteAt_append_add, byteAt_append_add]

/-- `binary.LittleEndian.Uint16` reads what `PutUint16` wrote -/
theorem rd16_le16 (v : BitVec 16) (rest : Bytes) : rd16 (le16 v ++ rest) 0 = v := by
  have hv := v.isLt
  apply BitVec.eq_of_toNat_eq
  simp only [rd16, byteAt, le16, List.cons_append, List.getD_cons_zero, List.getD_cons_succ, UInt8.toNat_ofNat',
    BitVec.toNat_ofNat, Nat.mod_mod]
  omega

/-- `binary.LittleEndian.Uint32` reads what `PutUint32` wrote -/
theorem rd32_le32 (v : U32) (rest : Bytes) : rd32 (le32 v ++ rest) 0 = v := by
  have hv := v.isLt
  apply BitVec.eq_of_toNat_eq
  simp only [rd32, byteAt, le32, List.cons_append, List.getD_cons_zero, List.getD_cons_succ, UInt8.toNat_ofNat',
    BitVec.toNat_ofNat, Nat.mod_mod]
  omega

theorem byteAt_append_left {l₁ l₂ : Bytes} {i : Nat} (h : i < l₁.length) :
    byteAt (l₁ ++ l₂) i = byteAt l₁ i := by
  unfold byteAt
  rw [List.getD_eq_getElem?_getD, List.getD_eq_getElem?_getD, List.getElem?_append_left h]

theorem byteAt_take {l : Bytes} {n i : Nat} (h : i < n) : byteAt (l.take n) i = byteAt l i := by
  unfold byteAt
  rw [List.getD_eq_getElem?_getD, List.getD_eq_getElem?_getD, List.getElem?_take_of_lt h]

theorem byteAt_drop {l : Bytes} {n i : Nat} : byteAt (l.drop n) i = byteAt l (n + i) := by
  unfold byteAt
  rw [List.getD_eq_getElem?_getD, List.getD_eq_getElem?_getD, List.getElem?_drop]

theorem rd16_congr {l l' : Bytes} {off : Nat} (h : ∀ i, off ≤ i → i < off + 2 → byteAt l' i = byteAt l i) :
    rd16 l' off = rd16 l off := by
  unfold rd16
  rw [h off (Nat.le_refl _) (by omega), h (off + 1) (by omega) (by omega)]

theorem rd32_congr {l l' : Bytes} {off : Nat} (h : ∀ i, off ≤ i → i < off + 4 → byteAt l' i = byteAt l i) :
    rd32 l' off = rd32 l off := by
  unfold rd32
  rw [h off (Nat.le_refl _) (by omega), h (off + 1) (by omega) (by omega), h (off + 2) (by omega) (by omega),
    h (off + 3) (by omega) (by omega)]

/-- a datagram cut after byte 8 and around the three 32-bit fields that follow: eight bytes (conv, cmd, frg, wnd),
then `ts`, `sn`, `una`, then the rest (len, payload, further segments) -/
def hdrCat (pre : Bytes) (ts sn una : U32) (tl : Bytes) : Bytes := pre ++ (le32 ts ++ (le32 sn ++ (le32 una ++ tl)))

theorem hdrCat_append (pre : Bytes) (ts sn una : U32) (tl r : Bytes) :
    hdrCat pre ts sn una tl ++ r = hdrCat pre ts sn una (tl ++ r) := by
  simp only [hdrCat, List.append_assoc]

section
variable {pre : Bytes} (hp : pre.length = 8) (ts sn una : U32) (tl : Bytes)
include hp

theorem hdrCat_mid :
    rd32 (hdrCat pre ts sn una tl) 8 = ts ∧ rd32 (hdrCat pre ts sn una tl) 12 = sn ∧
    rd32 (hdrCat pre ts sn una tl) 16 = una ∧ rd32 (hdrCat pre ts sn una tl) 20 = rd32 tl 0 := by
  have e8 (l : Bytes) (off : Nat) : rd32 (pre ++ l) (8 + off) = rd32 l off := hp ▸ rd32_append_add pre l off
  have e4 (v : U32) (l : Bytes) (off : Nat) : rd32 (le32 v ++ l) (4 + off) = rd32 l off := rd32_append_add (le32 v) l off
  unfold hdrCat
  exact ⟨(e8 _ 0).trans (rd32_le32 _ _), (e8 _ 4).trans ((e4 _ _ 0).trans (rd32_le32 _ _)),
    (e8 _ 8).trans ((e4 _ _ 4).trans ((e4 _ _ 0).trans (rd32_le32 _ _))),
    (e8 _ 12).trans ((e4 _ _ 8).trans ((e4 _ _ 4).trans (e4 _ _ 0)))⟩

theorem hdrCat_pre {i : Nat} (hi : i < 8) : byteAt (hdrCat pre ts sn una tl) i = byteAt pre i :=
  byteAt_append_left (hp ▸ hi)

theorem hdrCat_split : hdrCat pre ts sn una tl = (pre ++ le32 ts ++ le32 sn ++ le32 una) ++ tl ∧
    (pre ++ le32 ts ++ le32 sn ++ le32 una).length = 20 :=
  ⟨by simp only [hdrCat, List.append_assoc], by simp only [List.length_append, hp]; rfl⟩

theorem hdrCat_tl (j : Nat) : byteAt (hdrCat pre ts sn una tl) (20 + j) = byteAt tl j := by
  obtain ⟨e, l⟩ := hdrCat_split hp ts sn una tl
  rw [e, ← l]
  exact byteAt_append_add _ _ _

theorem hdrCat_length : (hdrCat pre ts sn una tl).length = 20 + tl.length := by
  obtain ⟨e, l⟩ := hdrCat_split hp ts sn una tl
  rw [e, List.length_append, l]

theorem hdrCat_take : (hdrCat pre ts sn una tl).take 8 = pre := List.take_left' hp

theorem hdrCat_drop : (hdrCat pre ts sn una tl).drop 20 = tl := by
  obtain ⟨e, l⟩ := hdrCat_split hp ts sn una tl
  rw [e]
  exact List.drop_left' l

theorem hdrCat_take24 : (hdrCat pre ts sn una tl).take 24 = hdrCat pre ts sn una (tl.take 4) := by
  obtain ⟨e, l⟩ := hdrCat_split hp ts sn una tl
  rw [e, (hdrCat_split hp ts sn una (tl.take 4)).1, List.take_append, l, List.take_of_length_le (by omega)]

end

namespace Kcp

theorem encodeHdr_cat (conv : U32) (cmd frg : BitVec 8) (wnd : BitVec 16) (ts sn una : U32) (len : Nat) :
    encodeHdr conv cmd frg wnd ts sn una len =
      hdrCat (le32 conv ++ [UInt8.ofNat cmd.toNat, UInt8.ofNat frg.toNat] ++ le16 wnd) ts sn una (le32 (u32 len)) := by
  simp only [encodeHdr, hdrCat, List.append_assoc]

theorem ofNat_byte (v : BitVec 8) : BitVec.ofNat 8 (UInt8.ofNat v.toNat).toNat = v := by
  have := v.isLt
  apply BitVec.eq_of_toNat_eq
  simp only [BitVec.toNat_ofNat, UInt8.toNat_ofNat']
  omega

theorem encodeHdr_reads (conv : U32) (cmd frg : BitVec 8) (wnd : BitVec 16) (ts sn una : U32) (len : Nat) (rest D : Bytes)
    (hD : D = encodeHdr conv cmd frg wnd ts sn una len ++ rest) :
    rd32 D 0 = conv ∧ BitVec.ofNat 8 (byteAt D 4) = cmd ∧ BitVec.ofNat 8 (byteAt D 5) = frg ∧ rd16 D 6 = wnd ∧
    rd32 D 8 = ts ∧ rd32 D 12 = sn ∧ rd32 D 16 = una ∧ rd32 D 20 = u32 len := by
  obtain ⟨m8, m12, m16, m20⟩ := hdrCat_mid (pre := le32 conv ++ [UInt8.ofNat cmd.toNat, UInt8.ofNat frg.toNat] ++ le16 wnd)
    rfl ts sn una (le32 (u32 len) ++ rest)
  rw [← hdrCat_append, ← encodeHdr_cat, ← hD] at m8 m12 m16 m20
  -- the same bytes, bracketed after `conv` and after `frg`
  have e4 : D = le32 conv ++ (UInt8.ofNat cmd.toNat :: UInt8.ofNat frg.toNat ::
      (le16 wnd ++ (le32 ts ++ (le32 sn ++ (le32 una ++ (le32 (u32 len) ++ rest)))))) := by
    simp only [hD, encodeHdr, List.append_assoc, List.cons_append, List.nil_append]
  have e6 : D = (le32 conv ++ [UInt8.ofNat cmd.toNat, UInt8.ofNat frg.toNat]) ++
      (le16 wnd ++ (le32 ts ++ (le32 sn ++ (le32 una ++ (le32 (u32 len) ++ rest))))) := by
    simp only [hD, encodeHdr, List.append_assoc]
  refine ⟨?_, ?_, ?_, ?_, m8, m12, m16, m20.trans (rd32_le32 _ _)⟩
  · rw [e4]; exact rd32_le32 _ _
  · rw [e4]; exact (congrArg (BitVec.ofNat 8) (byteAt_append_add (le32 conv) _ 0)).trans (ofNat_byte cmd)
  · rw [e4]; exact (congrArg (BitVec.ofNat 8) (byteAt_append_add (le32 conv) _ 1)).trans (ofNat_byte frg)
  · rw [e6]; exact (rd16_append_add _ _ 0).trans (rd16_le16 wnd _)

end Kcp

end KcpVerif
