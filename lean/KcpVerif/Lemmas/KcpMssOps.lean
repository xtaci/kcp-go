/-
C10's `InvMss` over `Kcp.Op`, the transition system of `Lemmas/KcpOps` on which the window and ownership proofs
stand: `Kcp.Op` embeds into C10's `Op` (`ofKcp`, `step_ofKcp`), so a fact of `step_ok` is read off for it.  A file of its own: `Props/C10Core` opens `Kcp` and `Lemmas.KcpMss` together, and `Lemmas/KcpMss` has an `Op`,
`step`, `run` of its own, so that file must not see `Lemmas/KcpOps`.
-/
import KcpVerif.Lemmas.KcpMss
import KcpVerif.Lemmas.KcpOps

namespace KcpVerif.Lemmas.KcpMss
open KcpVerif.Lemmas.KcpFlush

/-- the operations of `Kcp.Op` among C10's -/
def ofKcp : Kcp.Op → Op
  | .send b => .send b
  | .recv n => .recv n
  | .input d reg nd now => .input d reg nd now
  | .flush full now => .flush full now
  | .update now => .update now
  | .setMtu m => .setMtu m
  | .noDelay a b c d => .noDelay a b c d
  | .wndSize s r => .wndSize s r
  | .setStream v => .stream v

theorem step_ofKcp (k : Kcp) (op : Kcp.Op) : (step k (ofKcp op)).k = Kcp.step k op := by
  cases op <;> rfl

theorem step_inv (k : Kcp) (op : Kcp.Op) (h : InvMss k) : InvMss (Kcp.step k op) :=
  step_ofKcp k op ▸ (step_ok k (ofKcp op) h).2.2.1

end KcpVerif.Lemmas.KcpMss
