import KcpVerif.Lemmas.Ring
/-!
`Rep r q ↔ WF r ∧ abs r = q`, the iterators against their list-level specification `mapUntil`
(`iter_spec`: a walk over distinct indices acts on the visited slots as `mapUntil` on the queue and
leaves the others alone), and the op language in which `C20_ring_is_queue` is stated.
-/
namespace KcpVerif
open KcpVerif.Gen

namespace Ring
variable {α σ : Type}

theorem eq_map_some_of_forall_isSome (l : List (Option α)) (h : ∀ x ∈ l, ∃ a, x = some a) :
    l = (l.filterMap id).map some := by
  induction l with
  | nil => rfl
  | cons x l ih =>
    obtain ⟨a, rfl⟩ := h x (by simp)
    have := ih (fun y hy => h y (by simp [hy]))
    simp only [List.filterMap_cons, id, List.map_cons]
    rw [← this]

theorem length_liveSlots {r : Ring α} (hh : r.head < r.size) (ht : r.tail < r.size) :
    r.liveSlots.length = r.len := by
  unfold liveSlots len size at *
  split <;> simp [length_slice] <;> omega

theorem getElem?_liveSlots {r : Ring α} (hh : r.head < r.size) (ht : r.tail < r.size) {k : Nat}
    (hk : k < r.len) : r.liveSlots[k]? = r.elems[r.idx k]? := by
  have hl := len_spec r
  have hi := idx_spec r k
  have hsz : r.elems.length = r.size := rfl
  unfold liveSlots
  split
  · rw [getElem?_slice, if_pos (by omega)]
    congr 1
    omega
  · rw [List.getElem?_append, List.length_drop, List.getElem?_drop, List.getElem?_take]
    split
    · congr 1
      omega
    · rw [if_pos (by omega)]
      congr 1
      omega

theorem exists_idx_of_live {r : Ring α} (hh : r.head < r.size) (ht : r.tail < r.size) {i : Nat}
    (hi : i < r.size) (hl : r.Live i) : ∃ k, k < r.len ∧ r.idx k = i := by
  obtain ⟨k, hk, rfl⟩ := exists_idx hh hi
  exact ⟨k, (live_idx_iff hh ht hk).1 hl, rfl⟩

theorem live_idx {r : Ring α} (hh : r.head < r.size) (ht : r.tail < r.size) {k : Nat} (hk : k < r.len) :
    r.idx k < r.size ∧ r.Live (r.idx k) := by
  have hk' : k < r.size := Nat.lt_trans hk (len_lt hh ht)
  exact ⟨idx_lt hh hk', (live_idx_iff hh ht hk').2 hk⟩

theorem Rep.liveSlots {r : Ring α} {q : List α} (h : Rep r q) : r.liveSlots = q.map some := by
  apply List.ext_getElem?
  intro k
  by_cases hk : k < q.length
  · rw [getElem?_liveSlots h.head_lt h.tail_lt (by rw [h.len_eq]; exact hk), h.live k hk]
    simp [List.getElem?_eq_getElem hk]
  · rw [List.getElem?_eq_none, List.getElem?_eq_none]
    · simp; omega
    · rw [length_liveSlots h.head_lt h.tail_lt, h.len_eq]; omega

theorem Rep.abs {r : Ring α} {q : List α} (h : Rep r q) : r.abs = q := by
  unfold Ring.abs
  rw [h.liveSlots, List.filterMap_map]
  exact List.filterMap_some

theorem Rep.wf {r : Ring α} {q : List α} (h : Rep r q) : WF r := by
  refine ⟨h.size_ge, h.head_lt, h.tail_lt, h.dead, ?_⟩
  intro i hi hl
  obtain ⟨k, hk, rfl⟩ := exists_idx_of_live h.head_lt h.tail_lt hi hl
  rw [h.len_eq] at hk
  refine ⟨q[k], ?_⟩
  rw [h.live k hk]; simp [hk]

theorem WF.rep {r : Ring α} (h : WF r) : Rep r r.abs := by
  have hls : r.liveSlots = r.abs.map some := by
    apply eq_map_some_of_forall_isSome
    intro x hx
    obtain ⟨k, hk, rfl⟩ := List.getElem_of_mem hx
    rw [length_liveSlots h.head_lt h.tail_lt] at hk
    have hg := getElem?_liveSlots h.head_lt h.tail_lt hk
    obtain ⟨hi, hl⟩ := live_idx h.head_lt h.tail_lt hk
    obtain ⟨a, ha⟩ := h.live _ hi hl
    refine ⟨a, ?_⟩
    rw [ha, List.getElem?_eq_getElem (by rw [length_liveSlots h.head_lt h.tail_lt]; exact hk)] at hg
    exact Option.some.inj hg
  have hlen : r.len = r.abs.length := by
    rw [← length_liveSlots h.head_lt h.tail_lt, hls, List.length_map]
  refine ⟨h.size_ge, h.head_lt, h.tail_lt, hlen, ?_, h.dead⟩
  intro k hk
  rw [← getElem?_liveSlots h.head_lt h.tail_lt (by omega), hls]
  simp [List.getElem?_eq_getElem hk]

theorem rep_iff {r : Ring α} {q : List α} : Rep r q ↔ WF r ∧ r.abs = q :=
  ⟨fun h => ⟨h.wf, h.abs⟩, fun ⟨h, e⟩ => e ▸ h.rep⟩

theorem nodup_reverse {l : List Nat} (h : l.Nodup) : l.reverse.Nodup := by
  unfold List.Nodup at *
  rw [List.pairwise_reverse]
  exact h.imp (fun hab => Ne.symm hab)

theorem length_fwdIdx {r : Ring α} (hh : r.head < r.size) :
    r.fwdIdx.length = r.len := by
  have hl := len_spec r
  unfold fwdIdx
  split
  · next h0 => simp [h0]
  · split <;> simp <;> omega

theorem getElem?_fwdIdx {r : Ring α} (hh : r.head < r.size) (ht : r.tail < r.size) {k : Nat}
    (hk : k < r.len) : r.fwdIdx[k]? = some (r.idx k) := by
  have hl := len_spec r
  have hi := idx_spec r k
  unfold fwdIdx
  split
  · next h0 => omega
  · split
    · rw [List.getElem?_range' (by omega)]; congr 1; omega
    · rw [List.getElem?_append]
      simp only [List.length_range']
      split
      · rw [List.getElem?_range' (by omega)]; congr 1; omega
      · rw [List.getElem?_range' (by omega)]; congr 1; omega

theorem fwdIdx_eq {r : Ring α} (hh : r.head < r.size) (ht : r.tail < r.size) :
    r.fwdIdx = (List.range r.len).map r.idx := by
  apply List.ext_getElem?
  intro k
  by_cases hk : k < r.len
  · rw [getElem?_fwdIdx hh ht hk]; simp [hk]
  · rw [List.getElem?_eq_none (by rw [length_fwdIdx hh]; omega), List.getElem?_eq_none (by simp; omega)]

theorem nodup_fwdIdx (r : Ring α) : r.fwdIdx.Nodup := by
  have hl := len_spec r
  unfold fwdIdx
  split
  · exact List.nodup_nil
  · split
    · exact List.nodup_range' 1
    · rw [List.nodup_append]
      refine ⟨List.nodup_range' 1, List.nodup_range' 1, ?_⟩
      intro a ha b hb
      rw [List.mem_range'_1] at ha hb
      omega

theorem revIdx_eq (r : Ring α) : r.revIdx = r.fwdIdx.reverse := by
  unfold revIdx fwdIdx
  split
  · rfl
  · split
    · rfl
    · rw [List.reverse_append]

theorem mem_fwdIdx {r : Ring α} (hh : r.head < r.size) (ht : r.tail < r.size) {i : Nat}
    (hi : i < r.size) (hl : r.Live i) : i ∈ r.fwdIdx := by
  obtain ⟨k, hk, rfl⟩ := exists_idx_of_live hh ht hi hl
  rw [fwdIdx_eq hh ht]
  exact List.mem_map.2 ⟨k, List.mem_range.2 hk, rfl⟩

/-- List-level specification of both iterators: apply `g` to the elements in order, threading
the closure state, replacing each visited element by the value `g` leaves, until and including
the first element for which `g` answers `false`; the rest is untouched.
`g s a = (s', a', continue)`. -/
def mapUntil (g : σ → α → σ × α × Bool) : σ → List α → σ × List α
  | s, [] => (s, [])
  | s, x :: xs =>
    if (g s x).2.2 then ((mapUntil g (g s x).1 xs).1, (g s x).2.1 :: (mapUntil g (g s x).1 xs).2)
    else ((g s x).1, (g s x).2.1 :: xs)

/-- the slot-level callback `f` (Go: `fn(*T) bool` with its captured state) acts on a stored element as `g` -/
def Lifts (f : σ → Option α → CbRes σ α) (g : σ → α → σ × α × Bool) : Prop :=
  ∀ s a, f s (some a) = ⟨(g s a).1, some (g s a).2.1, (g s a).2.2⟩

theorem iter_spec {f : σ → Option α → CbRes σ α} {g : σ → α → σ × α × Bool} (hfg : Lifts f g) :
    ∀ (idxs : List Nat) (s : σ) (es : List (Option α)) (q : List α),
      idxs.Nodup → idxs.map (fun i => es[i]?) = q.map (fun a => some (some a)) →
      (iter f s idxs es).1 = (mapUntil g s q).1 ∧
      idxs.map (fun i => (iter f s idxs es).2[i]?) = (mapUntil g s q).2.map (fun a => some (some a)) ∧
      (∀ j, j ∉ idxs → (iter f s idxs es).2[j]? = es[j]?) ∧
      (iter f s idxs es).2.length = es.length := by
  intro idxs
  induction idxs with
  | nil =>
    intro s es q _ hq
    cases q with
    | nil => simp [iter, mapUntil]
    | cons a q => simp at hq
  | cons i is ih =>
    intro s es q hnd hq
    cases q with
    | nil => simp at hq
    | cons a q =>
      simp only [List.map_cons, List.cons.injEq] at hq
      obtain ⟨hi, hq⟩ := hq
      have hni : i ∉ is := (List.nodup_cons.1 hnd).1
      have hnd' : is.Nodup := (List.nodup_cons.1 hnd).2
      have hilt : i < es.length := (List.getElem?_eq_some_iff.mp hi).1
      have hset : ∀ v, is.map (fun j => (es.set i v)[j]?) = q.map (fun a => some (some a)) := by
        intro v
        rw [← hq]
        apply List.map_congr_left
        intro j hj
        rw [List.getElem?_set_ne]
        intro hc; exact hni (hc ▸ hj)
      simp only [iter, hi, hfg s a, mapUntil]
      split
      · obtain ⟨h1, h2, h3, h4⟩ := ih (g s a).1 (es.set i (some (g s a).2.1)) q hnd' (hset _)
        refine ⟨h1, ?_, ?_, ?_⟩
        · simp only [List.map_cons, h2, List.cons.injEq, and_true]
          rw [h3 i hni]; simp [hilt]
        · intro j hj
          simp only [List.mem_cons, not_or] at hj
          rw [h3 j hj.2, List.getElem?_set_ne (Ne.symm hj.1)]
        · rw [h4, List.length_set]
      · refine ⟨rfl, ?_, ?_, ?_⟩
        · simp only [List.map_cons, hset, List.cons.injEq, and_true]
          simp [hilt]
        · intro j hj
          simp only [List.mem_cons, not_or] at hj
          rw [List.getElem?_set_ne (Ne.symm hj.1)]
        · rw [List.length_set]

theorem Rep.map_fwdIdx {r : Ring α} {q : List α} (h : Rep r q) :
    r.fwdIdx.map (fun i => r.elems[i]?) = q.map (fun a => some (some a)) := by
  rw [fwdIdx_eq h.head_lt h.tail_lt, h.len_eq]
  apply List.ext_getElem?
  intro k
  by_cases hk : k < q.length
  · simp [hk, h.live k hk]
  · rw [List.getElem?_eq_none (by simp; omega), List.getElem?_eq_none (by simp; omega)]

/-- new slots that read as `q'` along the visiting order and agree with the old ones elsewhere represent `q'` -/
theorem Rep.of_map_fwdIdx {r : Ring α} {q q' : List α} (h : Rep r q) {es' : List (Option α)}
    (hm : r.fwdIdx.map (fun i => es'[i]?) = q'.map (fun a => some (some a)))
    (ho : ∀ j, j ∉ r.fwdIdx → es'[j]? = r.elems[j]?) (hlen : es'.length = r.elems.length) :
    Rep { r with elems := es' } q' := by
  have hql : q'.length = q.length := by
    have := congrArg List.length hm
    simp only [List.length_map] at this
    rw [← this, length_fwdIdx h.head_lt, h.len_eq]
  generalize hr : ({ r with elems := es' } : Ring α) = r'
  have eh : r'.head = r.head := by rw [← hr]
  have et : r'.tail = r.tail := by rw [← hr]
  have es : r'.size = r.size := by rw [← hr]; simp [size, hlen]
  have ee : r'.elems = es' := by rw [← hr]
  have el : r'.len = r.len := by unfold len; rw [eh, et, es]
  have ei : ∀ k, r'.idx k = r.idx k := by intro k; unfold idx; rw [eh, es]
  refine ⟨by rw [es]; exact h.size_ge, by rw [eh, es]; exact h.head_lt, by rw [et, es]; exact h.tail_lt,
    by rw [el, h.len_eq, hql], ?_, ?_⟩
  · intro k hk
    have hk' : k < r.len := by rw [h.len_eq]; omega
    have := congrArg (fun l => l[k]?) hm
    simp only [List.getElem?_map, getElem?_fwdIdx h.head_lt h.tail_lt hk', Option.map_some] at this
    rw [ei, ee]
    cases hq : q'[k]? with
    | none => rw [List.getElem?_eq_none_iff] at hq; omega
    | some a => rw [hq] at this; simpa using this
  · intro i hi hnl
    rw [es] at hi
    have hnl' : ¬ r.Live i := by
      unfold Live at hnl ⊢; rw [eh, et] at hnl; exact hnl
    rw [ee, ho i (fun hc => hnl' ?_), h.dead i hi hnl']
    rw [fwdIdx_eq h.head_lt h.tail_lt] at hc
    obtain ⟨k, hk, rfl⟩ := List.mem_map.1 hc
    exact (live_idx h.head_lt h.tail_lt (List.mem_range.1 hk)).2

theorem Rep.forEach {r : Ring α} {q : List α} (h : Rep r q) {f : σ → Option α → CbRes σ α}
    {g : σ → α → σ × α × Bool} (hfg : Lifts f g) (s : σ) :
    (r.forEach f s).1 = (mapUntil g s q).1 ∧ Rep (r.forEach f s).2 (mapUntil g s q).2 := by
  obtain ⟨h1, h2, h3, h4⟩ := iter_spec hfg r.fwdIdx s r.elems q (nodup_fwdIdx r) h.map_fwdIdx
  exact ⟨h1, h.of_map_fwdIdx h2 h3 h4⟩

theorem Rep.forEachReverse {r : Ring α} {q : List α} (h : Rep r q) {f : σ → Option α → CbRes σ α}
    {g : σ → α → σ × α × Bool} (hfg : Lifts f g) (s : σ) :
    (r.forEachReverse f s).1 = (mapUntil g s q.reverse).1 ∧
    Rep (r.forEachReverse f s).2 (mapUntil g s q.reverse).2.reverse := by
  have hm : r.revIdx.map (fun i => r.elems[i]?) = q.reverse.map (fun a => some (some a)) := by
    rw [revIdx_eq, List.map_reverse, h.map_fwdIdx, List.map_reverse]
  obtain ⟨h1, h2, h3, h4⟩ := iter_spec hfg r.revIdx s r.elems q.reverse
    (by rw [revIdx_eq]; exact nodup_reverse (nodup_fwdIdx r)) hm
  refine ⟨h1, h.of_map_fwdIdx ?_ ?_ h4⟩
  · rw [revIdx_eq, List.map_reverse] at h2
    rw [List.map_reverse, ← h2, revIdx_eq, List.reverse_reverse]
  · intro j hj
    apply h3
    rw [revIdx_eq, List.mem_reverse]; exact hj

theorem size_new (n : Int) :
    (Ring.new n : Ring α).size = if n ≤ (RINGBUFFER_MIN : Int) then RINGBUFFER_MIN else n.toNat := by
  simp [Ring.new, size]

theorem rep_new (n : Int) : Rep (Ring.new n : Ring α) [] := by
  have hs := size_new (α := α) n
  have h2 : 2 ≤ RINGBUFFER_MIN := by decide
  have hsz : 2 ≤ (Ring.new n : Ring α).size := by
    rw [hs]; split <;> omega
  refine ⟨hsz, ?_, ?_, ?_, ?_, ?_⟩
  · show 0 < _; omega
  · show 0 < _; omega
  · simp [Ring.new, len]
  · intro k hk; simp at hk
  · intro i hi _
    simp only [Ring.new, size, List.length_replicate] at hi
    simp [Ring.new, hi]

theorem Rep.isEmpty {r : Ring α} {q : List α} (h : Rep r q) : r.isEmpty = q.isEmpty := by
  have hl := len_spec r
  have h4 := h.len_eq
  have h2 := h.head_lt
  have h3 := h.tail_lt
  cases q with
  | nil => simp only [List.length_nil] at h4; simp [Ring.isEmpty]; omega
  | cons a q => simp only [List.length_cons] at h4; simp [Ring.isEmpty]; omega

/-- Operations of the queue interface.  `σ` is the type of the state captured by iterator
closures; `g s a = (s', a', continue)`. -/
inductive Op (σ α : Type) where
  | push (x : α)
  | pop
  | peek
  | discard (n : Nat)
  | clear
  | len
  | isEmpty
  | forEach (g : σ → α → σ × α × Bool) (s : σ)
  | forEachReverse (g : σ → α → σ × α × Bool) (s : σ)

/-- What an operation returns.  `slot` carries the raw result of `Pop`/`Peek`: `none` = "empty"
(`ok == false`), `some v` = the slot value `v` with `ok == true`. -/
inductive Out (σ α : Type) where
  | unit
  | slot (o : Option (Option α))
  | num (n : Nat)
  | bool (b : Bool)
  | st (s : σ)
deriving DecidableEq, Repr

/-- slot-level callback obtained from an element-level one (never applied to a cleared slot in a
well-formed ring; there it leaves everything unchanged) -/
def liftCb (g : σ → α → σ × α × Bool) : σ → Option α → CbRes σ α
  | s, none => ⟨s, none, true⟩
  | s, some a => ⟨(g s a).1, some (g s a).2.1, (g s a).2.2⟩

theorem lifts_liftCb (g : σ → α → σ × α × Bool) : Lifts (liftCb g) g := fun _ _ => rfl

def stepRing (r : Ring α) : Op σ α → Out σ α × Ring α
  | .push x => (.unit, r.push x)
  | .pop => (.slot r.pop.1, r.pop.2)
  | .peek => (.slot r.peek, r)
  | .discard n => (.num (r.discard n).1, (r.discard n).2)
  | .clear => (.unit, r.clear)
  | .len => (.num r.len, r)
  | .isEmpty => (.bool r.isEmpty, r)
  | .forEach g s => (.st (r.forEach (liftCb g) s).1, (r.forEach (liftCb g) s).2)
  | .forEachReverse g s => (.st (r.forEachReverse (liftCb g) s).1, (r.forEachReverse (liftCb g) s).2)

/-- the same operation on an unbounded FIFO queue (a list, head first) -/
def stepList (q : List α) : Op σ α → Out σ α × List α
  | .push x => (.unit, q ++ [x])
  | .pop => (.slot (q.head?.map some), q.tail)
  | .peek => (.slot (q.head?.map some), q)
  | .discard n => (.num (min n q.length), q.drop n)
  | .clear => (.unit, [])
  | .len => (.num q.length, q)
  | .isEmpty => (.bool q.isEmpty, q)
  | .forEach g s => (.st (mapUntil g s q).1, (mapUntil g s q).2)
  | .forEachReverse g s => (.st (mapUntil g s q.reverse).1, (mapUntil g s q.reverse).2.reverse)

def runRing (r : Ring α) : List (Op σ α) → List (Out σ α) × Ring α
  | [] => ([], r)
  | op :: ops => ((stepRing r op).1 :: (runRing (stepRing r op).2 ops).1, (runRing (stepRing r op).2 ops).2)

def runList (q : List α) : List (Op σ α) → List (Out σ α) × List α
  | [] => ([], q)
  | op :: ops => ((stepList q op).1 :: (runList (stepList q op).2 ops).1, (runList (stepList q op).2 ops).2)

theorem Rep.step {r : Ring α} {q : List α} (h : Rep r q) (op : Op σ α) :
    (stepRing r op).1 = (stepList q op).1 ∧ Rep (stepRing r op).2 (stepList q op).2 := by
  cases op with
  | push x => exact ⟨rfl, h.push x⟩
  | pop => exact ⟨by simp only [stepRing, stepList, h.pop_fst], h.pop_snd⟩
  | peek => exact ⟨by simp only [stepRing, stepList, h.peek], h⟩
  | discard n => exact ⟨by simp only [stepRing, stepList, h.discard_fst], h.discard_snd n⟩
  | clear => exact ⟨rfl, h.clear⟩
  | len => exact ⟨by simp only [stepRing, stepList, h.len_eq], h⟩
  | isEmpty => exact ⟨by simp only [stepRing, stepList, h.isEmpty], h⟩
  | forEach g s =>
    obtain ⟨h1, h2⟩ := h.forEach (lifts_liftCb g) s
    exact ⟨by simp only [stepRing, stepList, h1], h2⟩
  | forEachReverse g s =>
    obtain ⟨h1, h2⟩ := h.forEachReverse (lifts_liftCb g) s
    exact ⟨by simp only [stepRing, stepList, h1], h2⟩

theorem Rep.run {r : Ring α} {q : List α} (h : Rep r q) (ops : List (Op σ α)) :
    (runRing r ops).1 = (runList q ops).1 ∧ Rep (runRing r ops).2 (runList q ops).2 := by
  induction ops generalizing r q with
  | nil => exact ⟨rfl, h⟩
  | cons op ops ih =>
    obtain ⟨h1, h2⟩ := h.step op
    obtain ⟨h3, h4⟩ := ih h2
    exact ⟨by simp only [runRing, runList, h1, h3], h4⟩

/-- Every index expression and slice expression the Go methods evaluate on a ring in state `r`
is inside the slice (so none of them panics; `copy`, `clear` and `make` with a non-negative size
cannot).  One conjunct per site of ringbuffer.go; the model evaluates the same expressions with
clamping `List` operations, so this is the statement that the clamping never takes effect. -/
structure AccessesInRange (r : Ring α) : Prop where
  /-- `IsFull`, `Push`, `Pop`: `% len(r.elements)` -/
  mod_nonzero : 0 < r.size
  /-- `Push`: `r.elements[r.tail] = v` after the optional `grow` -/
  push_slot : (if r.isFull then r.grow else r).tail < (if r.isFull then r.grow else r).size
  /-- `Pop`, `Peek` (reached only if `Len() != 0`): `r.elements[r.head]` -/
  head_slot : r.len ≠ 0 → r.head < r.size
  /-- `Discard`, no-wrap branch: `r.elements[r.head:end]` with `end = head + n < cap` -/
  discard_nowrap : ∀ n, min n r.len ≠ r.len → r.head + min n r.len < r.size →
    r.head ≤ r.head + min n r.len ∧ r.head + min n r.len ≤ r.size
  /-- `Discard`, wrap branch: `r.elements[r.head:cap]` and `r.elements[:end-cap]` -/
  discard_wrap : ∀ n, min n r.len ≠ r.len → ¬ r.head + min n r.len < r.size →
    r.head ≤ r.size ∧ r.head + min n r.len - r.size ≤ r.size
  /-- `ForEach`: every `&r.elements[i]` -/
  forEach_slots : ∀ i ∈ r.fwdIdx, i < r.size
  /-- `ForEachReverse`: every `&r.elements[i]` -/
  forEachReverse_slots : ∀ i ∈ r.revIdx, i < r.size
  /-- `Clear`: `r.elements[i]` for `head ≤ i < tail`, resp. `head ≤ i < len` and `i < tail` -/
  clear_slots : (r.head ≤ r.tail → r.tail ≤ r.size) ∧ (¬ r.head ≤ r.tail → r.tail ≤ r.size)
  /-- `grow`: `r.elements[r.head:r.tail]`, `r.elements[r.head:]`, `r.elements[:r.tail]`,
  `newElements[n:]` with `n` the count returned by the first `copy` -/
  grow_slices : (r.head < r.tail → r.tail ≤ r.size) ∧ r.head ≤ r.size ∧ r.tail ≤ r.size ∧
    min (r.size - r.head) (growSize r.size) ≤ growSize r.size

theorem Rep.accessesInRange {r : Ring α} {q : List α} (h : Rep r q) : AccessesInRange r := by
  have h1 := h.size_ge
  have h2 := h.head_lt
  have h3 := h.tail_lt
  have hl := len_spec r
  have hidx : ∀ i ∈ r.fwdIdx, i < r.size := by
    intro i hi
    rw [fwdIdx_eq h2 h3] at hi
    obtain ⟨k, hk, rfl⟩ := List.mem_map.1 hi
    exact (live_idx h2 h3 (List.mem_range.1 hk)).1
  refine ⟨by omega, ?_, fun _ => h2, ?_, ?_, hidx, ?_, by omega, by omega⟩
  · split
    · have hg := h.grow
      exact hg.tail_lt
    · exact h3
  · intro n _ _; omega
  · intro n _ _; omega
  · intro i hi
    rw [revIdx_eq, List.mem_reverse] at hi
    exact hidx i hi

end Ring
end KcpVerif
