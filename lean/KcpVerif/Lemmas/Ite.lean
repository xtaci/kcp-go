/-
Closure of a property under `if`: the model's operations are cascades of guarded updates, and what both
branches satisfy the conditional satisfies.  On a large goal `split` walks the whole goal; these do not.
-/
namespace KcpVerif

theorem ite_ind {α : Sort _} {P : α → Prop} {c : Prop} [Decidable c] {a b : α} (ha : P a) (hb : P b) :
    P (if c then a else b) := by
  split
  · exact ha
  · exact hb

theorem ite_cases {α : Sort _} {P : α → Prop} {c : Prop} [Decidable c] {a b : α} (ha : c → P a) (hb : ¬ c → P b) :
    P (if c then a else b) := by
  split
  · exact ha ‹_›
  · exact hb ‹_›

theorem ite_rel {α β : Sort _} {R : α → β → Prop} {c c' : Prop} [Decidable c] [Decidable c'] (hc : c' ↔ c)
    {a b : α} {a' b' : β} (ha : c → R a a') (hb : ¬ c → R b b') :
    R (if c then a else b) (if c' then a' else b') := by
  by_cases h : c
  · rw [if_pos h, if_pos (hc.mpr h)]
    exact ha h
  · rw [if_neg h, if_neg (fun h' => h (hc.mp h'))]
    exact hb h

theorem ite_rel' {α β : Sort _} (R : α → β → Prop) {c c' : Prop} [Decidable c] [Decidable c'] (hc : c' ↔ c)
    {a b : α} {a' b' : β} (ha : R a a') (hb : R b b') : R (if c then a else b) (if c' then a' else b') :=
  ite_rel hc (fun _ => ha) (fun _ => hb)

end KcpVerif
