/-
What encoder and decoder lemmas share about the `Group`s of `Lemmas/FecSpec` and the byte codecs their
packets are written with.  Namespace `FecDec`; `missing`, `missingPayloads`, `Ghost` at the end are `FecHist`.
-/
import KcpVerif.Lemmas.FecSpec
import KcpVerif.Lemmas.FecSets
import KcpVerif.Lemmas.Fold

namespace KcpVerif.Lemmas.FecDec
open KcpVerif.Fec KcpVerif.Gen KcpVerif.Lemmas.FecSpec KcpVerif.Lemmas.FecHist

theorem rd32_le32 (v : BitVec 32) (rest : Bytes) : rd32 (le32 v ++ rest) = v := by
  apply BitVec.eq_of_toNat_eq
  simp only [rd32, le32, List.cons_append, List.nil_append, List.getD_cons_zero,
    List.getD_cons_succ, UInt8.toNat_ofNat', BitVec.toNat_ofNat]
  have := v.isLt
  omega

theorem rd16_le16 (k : Nat) (hk : k < 65536) (rest : Bytes) : rd16 (le16 k ++ rest) = k := by
  simp only [rd16, le16, List.cons_append, List.nil_append, List.getD_cons_zero,
    List.getD_cons_succ, UInt8.toNat_ofNat']
  omega

theorem length_le32 (v : BitVec 32) : (le32 v).length = 4 := rfl
theorem length_le16 (k : Nat) : (le16 k).length = 2 := rfl

theorem drop4_le32 (v : BitVec 32) (rest : Bytes) : (le32 v ++ rest).drop 4 = rest := by
  simp [le32]

theorem drop2_le16 (k : Nat) (rest : Bytes) : (le16 k ++ rest).drop 2 = rest := by
  simp [le16]

theorem length_pad (L : Nat) (s : Bytes) : (pad L s).length = max s.length L := by
  simp only [pad, List.length_append, List.length_replicate]; omega

theorem pad_of_length_eq (L : Nat) (s : Bytes) (h : s.length = L) : pad L s = s := by
  simp [pad, h]

theorem trim_pad_body (pl : Bytes) (L : Nat) (h : pl.length + 2 ≤ L) (h16 : pl.length + 2 < 65536) :
    trim (pad L (bodyOf pl)) = some pl := by
  have hlen : (pad L (bodyOf pl)).length = L := by
    rw [length_pad]; simp only [bodyOf, List.length_append, length_le16]; omega
  have hrd : rd16 (pad L (bodyOf pl)) = pl.length + 2 := by
    simp only [pad, bodyOf, List.append_assoc]
    exact rd16_le16 _ h16 _
  unfold trim
  rw [hrd, hlen, if_pos ⟨by omega, by omega, h⟩]
  congr 1
  simp only [pad, bodyOf, List.append_assoc]
  have : (le16 (pl.length + 2) ++ (pl ++ List.replicate (L - (le16 (pl.length + 2) ++ pl).length) 0)).take (pl.length + 2)
      = le16 (pl.length + 2) ++ pl := by
    rw [← List.append_assoc]
    apply List.take_left'
    simp [length_le16]; omega
  rw [this, drop2_le16]

section GroupFacts
variable {C : CodecNew} {G : Group}

theorem length_bodyOf (pl : Bytes) : (bodyOf pl).length = pl.length + 2 := rfl

theorem length_bodies (hG : G.WF) : G.bodies.length = G.d := by
  simp only [Group.bodies, List.length_map, hG.count]

theorem body_le_maxLen (b : Bytes) (hb : b ∈ G.bodies) : b.length ≤ G.maxLen :=
  le_foldr_max _ _ (List.mem_map.2 ⟨b, hb, rfl⟩)

theorem two_le_maxLen (hG : G.WF) : 2 ≤ G.maxLen := by
  have hd := hG.d_pos
  have hc := hG.count
  match hp : G.payloads with
  | [] => rw [hp] at hc; simp at hc; omega
  | pl :: rest =>
    have : bodyOf pl ∈ G.bodies := by simp [Group.bodies, hp]
    have := body_le_maxLen _ this
    rw [length_bodyOf] at this
    omega

theorem maxLen_le (hG : G.WF) : G.maxLen + fecHeaderSize ≤ mtuLimit := by
  have : G.maxLen ≤ mtuLimit - fecHeaderSize := by
    apply foldr_max_le
    intro x hx
    obtain ⟨b, hb, rfl⟩ := List.mem_map.1 hx
    obtain ⟨pl, hpl, rfl⟩ := List.mem_map.1 hb
    have := hG.size pl hpl
    rw [length_bodyOf]
    omega
  have h2 : fecHeaderSize ≤ mtuLimit := by decide
  omega

theorem length_dataShards (hG : G.WF) : G.dataShards.length = G.d := by
  simp only [Group.dataShards, List.length_map, length_bodies hG]

theorem dataShards_size (s : Bytes) (hs : s ∈ G.dataShards) : s.length = G.maxLen := by
  simp only [Group.dataShards, List.mem_map] at hs
  obtain ⟨b, hb, rfl⟩ := hs
  rw [length_pad]
  have := body_le_maxLen b hb
  omega

theorem length_parityShards (hC : Lawful C) (hG : G.WF) : (G.parityShards C).length = G.p :=
  hC.enc_length _ _ _ hG.d_pos hG.p_pos hG.n_le (length_dataShards hG)

theorem parityShards_size (hC : Lawful C) (hG : G.WF) (s : Bytes) (hs : s ∈ G.parityShards C) :
    s.length = G.maxLen :=
  hC.enc_size _ _ _ _ hG.d_pos hG.p_pos hG.n_le (length_dataShards hG) dataShards_size s hs

theorem length_codeword (hC : Lawful C) (hG : G.WF) : (G.codeword C).length = G.n := by
  simp only [Group.codeword, List.length_append, length_dataShards hG, length_parityShards hC hG,
    Group.n]

theorem bodies_getD {k : Nat} (hk : k < G.payloads.length) : G.bodies.getD k [] = bodyOf (G.payloads.getD k []) :=
  getD_map_lt bodyOf G.payloads hk [] []

theorem payload_size (hG : G.WF) (k : Nat) (hk : k < G.d) :
    (G.payloads.getD k []).length + 2 ≤ G.maxLen ∧ (G.payloads.getD k []).length + 2 < 65536 := by
  have hk' : k < G.payloads.length := by rw [hG.count]; exact hk
  have hmem : G.payloads.getD k [] ∈ G.payloads := by
    simp [List.getD_eq_getElem?_getD, hk']
  constructor
  · have : bodyOf (G.payloads.getD k []) ∈ G.bodies := List.mem_map.2 ⟨_, hmem, rfl⟩
    have := body_le_maxLen _ this
    rw [length_bodyOf] at this
    exact this
  · have := hG.size _ hmem
    have := mtuLimit_lt_65536
    omega

theorem parity_getD_size (hC : Lawful C) (hG : G.WF) (i : Nat) (hi : i < G.n) (hd : G.d ≤ i) :
    ((G.parityShards C).getD (i - G.d) []).length = G.maxLen := by
  have : i - G.d < (G.parityShards C).length := by
    rw [length_parityShards hC hG]; unfold Group.n at hi; omega
  apply parityShards_size hC hG
  simp [List.getD_eq_getElem?_getD, this]

theorem seqid_packet (i : Nat) : seqid (G.packet C i) = G.base + BitVec.ofNat 32 i := by
  simp only [seqid, Group.packet, List.append_assoc, rd32_le32]

theorem flag_packet (i : Nat) :
    flag (G.packet C i) = if i < G.d then typeData else typeParity := by
  simp only [flag, Group.packet, List.append_assoc, drop4_le32]
  apply rd16_le16
  split <;> simp [typeData, typeParity]

theorem body_packet (i : Nat) : body (G.packet C i) = G.wireBody C i := by
  simp only [body, Group.packet]
  apply List.drop_left'
  simp [length_le32, length_le16, fecHeaderSize]

theorem length_packet_ge (i : Nat) : fecHeaderSize ≤ (G.packet C i).length := by
  simp only [Group.packet, List.length_append, length_le32, length_le16, fecHeaderSize]
  omega

theorem n_pos (hG : G.WF) : 0 < G.n := by have := hG.d_pos; unfold Group.n; omega
theorem n_le (hG : G.WF) : G.n ≤ 256 := hG.n_le

theorem seq_toNat (hG : G.WF) (i : Nat) (hi : i < G.n) :
    (G.base + BitVec.ofNat 32 i).toNat = G.base.toNat + i := by
  have h1 := hG.below
  have h2 := (pawsOf G.n).isLt
  simp only [BitVec.toNat_add, BitVec.toNat_ofNat]
  omega

theorem posOf_packet (hG : G.WF) (i : Nat) (hi : i < G.n) : posOf G.n (G.packet C i) = i := by
  simp only [posOf, seqid_packet, seq_toNat hG i hi]
  rw [Nat.add_mod, hG.aligned, Nat.zero_add, Nat.mod_mod, Nat.mod_eq_of_lt hi]

theorem u32_n_toNat (hG : G.WF) : (u32 G.n).toNat = G.n := u32_toNat (n_le hG)

theorem sidOf_packet (hG : G.WF) (i : Nat) (hi : i < G.n) :
    sidOf G.n (G.packet C i) = G.base / u32 G.n := by
  unfold sidOf
  apply BitVec.eq_of_toNat_eq
  simp only [seqid_packet, BitVec.toNat_udiv, seq_toNat hG i hi, u32_n_toNat hG]
  obtain ⟨q, hq⟩ := Nat.dvd_of_mod_eq_zero hG.aligned
  rw [hq, Nat.mul_add_div (n_pos hG), Nat.div_eq_of_lt hi, Nat.mul_div_cancel_left _ (n_pos hG)]
  rfl

theorem seq_below_paws (hG : G.WF) (i : Nat) (hi : i < G.n) :
    (seqid (G.packet C i)).toNat < (pawsOf G.n).toNat := by
  rw [seqid_packet, seq_toNat hG i hi]
  have := hG.below
  omega

theorem seqid_packet_inj (hG : G.WF) (i j : Nat) (hi : i < G.n) (hj : j < G.n) :
    seqid (G.packet C i) = seqid (G.packet C j) ↔ i = j := by
  constructor
  · intro h
    have := congrArg BitVec.toNat h
    rw [seqid_packet, seqid_packet, seq_toNat hG i hi, seq_toNat hG j hj] at this
    omega
  · rintro rfl; rfl

end GroupFacts

end KcpVerif.Lemmas.FecDec

namespace KcpVerif.Lemmas.FecHist
open KcpVerif.Fec KcpVerif.Lemmas.FecSpec

/-- the zero-padded bodies of the data packets of `G` whose index is not in `idxs`, in index order -/
def missing (G : Group) (idxs : List Nat) : List Bytes :=
  (List.range G.d).filterMap
    (fun k => if k ∈ idxs then none else some (pad G.maxLen (G.bodies.getD k [])))

/-- … and their payloads, as the size check of `kcpInput` returns them -/
def missingPayloads (G : Group) (idxs : List Nat) : List (Option Bytes) :=
  (List.range G.d).filterMap
    (fun k => if k ∈ idxs then none else some (some (G.payloads.getD k [])))

/-- `got`: the indices of the packets held for `G` since its shard set was last created or emptied;
    `short` because a set that reaches `d` packets is emptied in the same call -/
structure Ghost (G : Group) (got : List Nat) : Prop where
  nodup : got.Pairwise (· ≠ ·)
  bound : ∀ i ∈ got, i < G.n
  short : got.length < G.d

theorem Ghost.nil {G : Group} (hG : G.WF) : Ghost G [] :=
  ⟨List.Pairwise.nil, fun _ h => (by cases h), hG.d_pos⟩

end KcpVerif.Lemmas.FecHist
