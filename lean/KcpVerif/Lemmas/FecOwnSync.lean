/-
C15 (ownership, FEC decoder): erasure.  The decoder state, the recovered shards and the panic flag
of the instrumented `decodeO` are those of `Fec.Decoder.decode`, and forgetting the buffer ids of the
instrumented shard sets gives the model's shard sets.  Core Lean only.
-/
import KcpVerif.Lemmas.FecOwn

namespace KcpVerif.FecOwn
open KcpVerif.Gen KcpVerif.Fec KcpVerif.Own

theorem lookup_er (id : BitVec 32) (l : List SetO) : lookup id (erSets l) = (lookupO id l).map erS := by
  induction l with
  | nil => rfl
  | cons s rest ih =>
    show lookup id (erS s :: erSets rest) = _
    unfold lookup lookupO
    show (if s.id == id then _ else _) = _
    split
    · rfl
    · exact ih

theorem store_er (s : SetO) (l : List SetO) : store (erS s) (erSets l) = erSets (storeO s l) := by
  induction l with
  | nil => rfl
  | cons t rest ih =>
    show store (erS s) (erS t :: erSets rest) = _
    unfold store storeO
    show (if t.id == s.id then _ else _) = _
    split
    · rfl
    · show erS t :: store (erS s) (erSets rest) = erS t :: erSets (storeO s rest)
      rw [ih]

theorem discard_er (n : Nat) (newest : BitVec 32) (l : List SetO) (g : Ghost) :
    Fec.discard n newest (erSets l) = erSets (discardO n newest l g).sets := by
  induction l generalizing g with
  | nil => rfl
  | cons s rest ih =>
    unfold discardO
    show Fec.discard n newest (erS s :: erSets rest) = _
    unfold Fec.discard
    rw [List.filter_cons]
    show (if keeps n newest s.id = true then _ else _) = _
    split
    · show erS s :: Fec.discard n newest (erSets rest) = erS s :: erSets (discardO n newest rest g).sets
      rw [ih]
    · exact ih _

theorem getD_er (x : Option SetO) (id : BitVec 32) :
    (x.map erS).getD { id := id, pkts := [] } = erS (x.getD { id := id, pkts := [] }) := by
  cases x <;> rfl

theorem retune_sets (C : CodecNew) (dec : Decoder) (seq : BitVec 32) :
    (retune C dec seq).sets = if retuneChanges dec = true then [] else dec.sets := by
  unfold retune retuneChanges
  simp only []
  by_cases h1 : 0 < dec.tune.findPeriod true ∧ 0 < dec.tune.findPeriod false ∧
      dec.tune.findPeriod true + dec.tune.findPeriod false < 256
  · rw [if_pos h1]
    by_cases h2 : dec.tune.findPeriod true ≠ dec.d ∨ dec.tune.findPeriod false ≠ dec.p
    · rw [if_pos h2, if_pos (by simp only [decide_eq_true_eq]; exact ⟨h1.1, h1.2.1, h1.2.2, h2⟩)]
    · rw [if_neg h2, if_neg (by simp only [decide_eq_true_eq]; exact fun h => h2 h.2.2.2)]
  · rw [if_neg h1, if_neg (by simp only [decide_eq_true_eq]; exact fun h => h1 ⟨h.1, h.2.1, h.2.2.1⟩)]

theorem map_p_er (s : SetO) : (erS s).pkts = s.pkts.map (·.p) := rfl

theorem decodeO_er (C : CodecNew) (o : DecO) (inp : Fec.Bytes) (hs : o.dec.sets = erSets o.sets) :
    (decodeO C o inp).o.dec = (o.dec.decode C inp).st ∧
    (decodeO C o inp).recovered = (o.dec.decode C inp).recovered ∧
    (decodeO C o inp).panic = (o.dec.decode C inp).panic ∧
    (o.dec.decode C inp).st.sets = erSets (decodeO C o inp).o.sets := by
  unfold decodeO
  simp only []
  -- the model's result `r`, taken apart in step with `decodeO`
  generalize hr : o.dec.decode C inp = r
  unfold Decoder.decode at hr
  simp only [] at hr
  by_cases c1 : inp.length < fecHeaderSize
  · rw [if_pos c1] at hr ⊢; subst hr; exact ⟨rfl, rfl, rfl, hs⟩
  rw [if_neg c1] at hr ⊢
  by_cases c2 : (seqid inp).toNat ≥ o.dec.paws.toNat
  · rw [if_pos c2] at hr ⊢; subst hr; exact ⟨rfl, rfl, rfl, hs⟩
  rw [if_neg c2] at hr ⊢
  by_cases c3 : (mismatch { o.dec with tune := o.dec.tune.sample (flag inp == typeData) (seqid inp) } inp || o.dec.shouldTune) = true
  · rw [if_pos c3] at hr ⊢; subst hr
    have hrt := retune_sets C { o.dec with tune := o.dec.tune.sample (flag inp == typeData) (seqid inp) } (seqid inp)
    split
    · rename_i hc
      rw [if_pos hc] at hrt
      exact ⟨rfl, rfl, rfl, hrt⟩
    · rename_i hc
      rw [if_neg hc] at hrt
      exact ⟨rfl, rfl, rfl, hrt.trans hs⟩
  rw [if_neg c3] at hr ⊢
  -- the set the packet belongs to
  have hlk : (lookup (seqid inp / u32 o.dec.n) o.dec.sets).getD { id := seqid inp / u32 o.dec.n, pkts := [] } =
      erS ((lookupO (seqid inp / u32 o.dec.n) o.sets).getD { id := seqid inp / u32 o.dec.n, pkts := [] }) := by
    rw [hs, lookup_er, getD_er]
  generalize hset : (lookupO (seqid inp / u32 o.dec.n) o.sets).getD { id := seqid inp / u32 o.dec.n, pkts := [] } = set at hlk
  have hany : (erS set).pkts.any (fun q => seqid q == seqid inp) = set.pkts.any (fun q => seqid q.p == seqid inp) := by
    rw [map_p_er, List.any_map]; rfl
  rw [hlk, hany] at hr
  by_cases c4 : set.pkts.any (fun q => seqid q.p == seqid inp) = true
  · rw [if_pos c4] at hr ⊢; subst hr; exact ⟨rfl, rfl, rfl, hs⟩
  rw [if_neg c4] at hr ⊢
  have hpl : (erS set).pkts ++ [inp] = (set.pkts ++ [(⟨inp, o.gh.next⟩ : PktO)]).map (·.p) := by
    rw [map_p_er, List.map_append]; rfl
  have hlen : ((erS set).pkts ++ [inp]).length = (set.pkts ++ [(⟨inp, o.gh.next⟩ : PktO)]).length := by
    rw [hpl, List.length_map]
  have hemp : o.dec.sets.isEmpty = o.sets.isEmpty := by
    rw [hs]; unfold erSets; cases o.sets <;> rfl
  split
  · rename_i hf
    have hS : ∀ g, r.st.sets = erSets (discardO o.dec.n (newestAfter o.dec.n o.sets.isEmpty (seqid inp / u32 o.dec.n) o.dec.newest)
        (storeO { id := seqid inp / u32 o.dec.n, pkts := [] } o.sets) g).sets := by
      intro g
      rw [← hr]
      show Fec.discard _ _ (store _ o.dec.sets) = _
      rw [hlen, if_pos (decide_eq_true hf), hemp, hs]
      rw [← discard_er _ _ _ g, ← store_er]; rfl
    split
    · exact ⟨rfl, rfl, rfl, hS _⟩
    · split
      · exact ⟨rfl, rfl, rfl, hS _⟩
      · exact ⟨rfl, rfl, rfl, hS _⟩
  · rename_i hf
    refine ⟨rfl, rfl, rfl, ?_⟩
    rw [← hr]
    show Fec.discard _ _ (store _ o.dec.sets) = _
    rw [hlen, if_neg (fun h => hf (of_decide_eq_true h)), hemp, hs, hpl]
    rw [← discard_er _ _ _ o.gh.get, ← store_er]; rfl

end KcpVerif.FecOwn
