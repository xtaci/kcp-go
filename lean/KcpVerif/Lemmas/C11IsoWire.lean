/-
C11 (conversation isolation), wire side: every datagram a `Model/Sess` session of conversation `c`
ever hands to its output is read by the header switch of `Listener.packetInput`
(`SessIn.parseHdr`) as "conversation `c`" — or is shorter than `SessIn.minPacket` and dropped before
the switch.

A run of the session is a run of core operations on its core with the same wire
(`C01.sessRun_run`), and every datagram of such a run is the encoding of a group of frames of
conversation `c` with KCP command bytes (`C09W.WInv`, the invariant behind C09's `wire_reassembles`);
on the first of them the listener's switch takes the default (non-FEC) arm and reads `c` at offset 0
(`genuine_frames`).
-/
import KcpVerif.Lemmas.C11IsoL
import KcpVerif.Lemmas.C09WireInv
import KcpVerif.Lemmas.C01SessRef

namespace KcpVerif.C11Iso
open KcpVerif.Gen KcpVerif.Kcp KcpVerif.C01

/-- a group of frames of conversation `c` with KCP command bytes: the switch looks at the first header only -/
theorem genuine_frames (c : U32) (g : List Wire.Frm) (h : ∀ fr ∈ g, fr.conv = c ∧ Live.validCmd fr.cmd) :
    GenuineHdr c (Wire.encFrames g) := by
  cases g with
  | nil =>
    left
    show ([] : Bytes).length < SessIn.minPacket
    decide
  | cons fr rest =>
    right
    obtain ⟨hc, hcmd⟩ := h fr (List.mem_cons_self ..)
    rw [SysW.encFrames_cons]
    have hlen : IKCP_OVERHEAD ≤ (Wire.encFrame fr ++ Wire.encFrames rest).length := by
      rw [List.length_append, SysW.encFrame_length]; omega
    have e : Wire.encFrame fr ++ Wire.encFrames rest =
        encodeHdr fr.conv fr.cmd fr.frg fr.wnd fr.ts fr.sn fr.una fr.data.length ++ (fr.data ++ Wire.encFrames rest) := by
      unfold Wire.encFrame; rw [List.append_assoc]
    have hr := Wire.hdr_roundtrip fr.conv fr.cmd fr.frg fr.wnd fr.ts fr.sn fr.una fr.data.length
      (fr.data ++ Wire.encFrames rest)
    rw [← e] at hr
    generalize Wire.encFrame fr ++ Wire.encFrames rest = d at hr hlen ⊢
    have h0 : rd32 d 0 = fr.conv := congrArg Frame.Hdr.conv hr
    have h4 : BitVec.ofNat 8 (byteAt d 4) = fr.cmd := congrArg Frame.Hdr.cmd hr
    have hb4 : byteAt d 4 < 256 := UInt8.toNat_lt _
    have hb5 : byteAt d 5 < 256 := UInt8.toNat_lt _
    have h4n : byteAt d 4 = fr.cmd.toNat := by
      have := congrArg BitVec.toNat h4
      simp only [BitVec.toNat_ofNat] at this
      omega
    have hle : SessIn.le16 d 4 = byteAt d 4 + 256 * byteAt d 5 := rfl
    have hl0 : SessIn.le32 d 0 = rd32 d 0 := rfl
    unfold Live.validCmd IKCP_CMD_PUSH IKCP_CMD_ACK IKCP_CMD_WASK IKCP_CMD_WINS at hcmd
    unfold SessIn.parseHdr
    rw [hle, if_neg (by unfold typeData; omega), if_neg (by unfold typeParity; omega),
      if_neg (by unfold typeOOB; omega), if_neg (by omega)]
    exact ⟨SessIn.le32 d IKCP_SN_OFFSET, by rw [hl0, h0, hc]⟩

theorem sessNew_setter (c : U32) : Setter (Kcp.new c) (Sess.new c).k := .setMtu IKCP_MTU_DEF

theorem sessNew_fresh (c : U32) : Fresh (Sess.new c).k :=
  have q := (sessNew_setter c).sndQ
  have r := (sessNew_setter c).rcvSame
  ⟨r.rcv_queue, r.rcv_buf, q.snd_queue, q.snd_buf, q.snd_una.trans q.snd_nxt.symm⟩

theorem sessRun_wire_hdr (c : U32) (ops : List SessOp) :
    ∀ d ∈ (sessRun { s := Sess.new c } ops).wire, GenuineHdr c d := by
  obtain ⟨cops, _, hR, _⟩ := sessRun_run ops { s := Sess.new c } { k := (Sess.new c).k } ⟨rfl, rfl, rfl, rfl⟩
  have hW := foldl_inv (P := C09W.WInv (Sess.new c).k.conv (Sess.new c).k.snd_nxt) (fun _ op h => C09W.step_wInv h op)
    cops _ (C09W.fresh_wInv _ (sessNew_fresh c) ((sessNew_setter c).mss (Lemmas.KcpMss.new_inv c)))
  have hc : (Sess.new c).k.conv = c := (sessNew_setter c).rcvSame.conv
  rw [hR.wire]
  intro d hd
  obtain ⟨frs, _, rfl, hfr⟩ := hW.wire d hd
  exact genuine_frames c frs fun fr h => ⟨(hfr fr h).conv.trans hc, (hfr fr h).cmd⟩

/-! ### non-vacuity

The first flush of a fresh session admits nothing (`cwnd = 0` until the end of that flush), so the
write is followed by one scheduled `update`: the session of conversation 7 then emits exactly one
datagram, 27 bytes long (≥ `minPacket`, so the switch does look at it), which the listener's switch
reads as conversation 7, `sn = 0`. -/

set_option maxRecDepth 1000000 in
example : (sessRun { s := Sess.new 7 } [.write [[1, 2, 3]] 0, .update 0]).wire.map SessIn.parseHdr
    = [some ⟨true, 7, 0⟩] := by decide

set_option maxRecDepth 1000000 in
example : (sessRun { s := Sess.new 7 } [.write [[1, 2, 3]] 0, .update 0]).wire.map
    (fun d => decide (d.length < SessIn.minPacket)) = [false] := by decide

/-- the right disjunct of `GenuineHdr` is the one that holds for that datagram -/
example : ∀ d ∈ (sessRun { s := Sess.new 7 } [.write [[1, 2, 3]] 0, .update 0]).wire,
    ¬ d.length < SessIn.minPacket ∧ ∃ sn, SessIn.parseHdr d = some ⟨true, 7, sn⟩ := by
  have e : (sessRun { s := Sess.new 7 } [.write [[1, 2, 3]] 0, .update 0]).wire =
      [[7, 0, 0, 0, 81, 0, 32, 0, 0, 0, 0, 0, 0, 0, 0, 0, 0, 0, 0, 0, 3, 0, 0, 0, 1, 2, 3]] := by decide
  rw [e]
  intro d hd
  rw [List.mem_singleton.mp hd]
  exact ⟨by decide, 0, by decide⟩

end KcpVerif.C11Iso
