/-
The closed system on the clean path: what one event leaves behind (`sys_step`), runs under the room hypothesis and
under the window precondition, the start state.
-/
import KcpVerif.Lemmas.SysCleanStep

namespace KcpVerif.SysC
open KcpVerif.Kcp KcpVerif.Live KcpVerif.Wire KcpVerif.SysW KcpVerif.Sys

-- the unifier otherwise unfolds the whole of `flush` / `input` when it compares two states
attribute [local irreducible] Kcp.flush Kcp.input

theorem clean_dlvA {p : Par} {s : State} {t0 : Nat} {frs : List Frm} {gab grest : GLink}
    (h : Clean p s gab ((t0, frs) :: grest)) (hnw : NoWrap p.base s) :
    ∃ gab' gba', StepOk p s ((t0, frs) :: grest)
      { s with A := (s.A.input (encFrames frs) true s.ndA (clk s.now)).k, ba := encL grest,
               ab := s.ab ++ stamp (s.now + s.D) (s.A.input (encFrames frs) true s.ndA (clk s.now)).outs,
               panic := s.panic || (s.A.input (encFrames frs) true s.ndA (clk s.now)).panic } gab' gba' := by
  obtain ⟨hv, hp, hr, hA⟩ := clean_inA h hnw
  refine inputFrames_cases (P := fun r => ∃ gab' gba', StepOk p s ((t0, frs) :: grest)
      { s with A := r.k, ba := encL grest, ab := s.ab ++ stamp (s.now + s.D) r.outs, panic := s.panic || r.panic }
      gab' gba') s.A frs s.ndA (clk s.now) hv hp hr ?_ ?_ ?_ ?_
  · intro hnil
    subst hnil
    obtain ⟨_, _, _, hclean0, _⟩ := hA _ (Or.inl rfl)
    rw [show cwndOnAck (inFrs true [] { k := s.A }).k s.A.snd_una = s.A from cwndOnAck_self s.A] at hclean0
    simp only [stamp, List.map_nil, List.append_nil, Bool.or_false]
    exact ⟨gab, grest, StepOk.ofA hclean0 win_dropA rfl⟩
  · intro k1 hk1 hne
    obtain ⟨_, _, hkeep, hclean, hwin⟩ := hA k1 hk1
    simp only [stamp, List.map_nil, List.append_nil, Bool.or_false]
    exact ⟨gab, grest, hclean, hwin hne, hkeep⟩
  · intro k1 hk1 hne _
    obtain ⟨_, hnw1, hkeep, hclean, hwin⟩ := hA k1 hk1
    obtain ⟨gab', ok, _⟩ := clean_flushA hclean hnw1 s.nfA
    -- reduce the projections of the intermediate state: these facts then match the goal syntactically
    simp only [afterFlushA] at ok
    exact ⟨gab', grest, ok.clean, fun w => ok.win (hwin hne w), hkeep.trans ok.keep⟩
  · intro k1 hk1 _ c
    obtain ⟨hal, _, _, hclean, _⟩ := hA k1 hk1
    exact absurd c (no_ackOnly hal hclean.aK)

theorem clean_dlvB {p : Par} {s : State} {t0 : Nat} {frs : List Frm} {grest gba : GLink}
    (h : Clean p s ((t0, frs) :: grest) gba) (hnw : NoWrap p.base s) (hroom : RoomOk s) :
    ∃ gab' gba', StepOk p s gba
      { s with B := (s.B.input (encFrames frs) true s.ndB (clk s.now)).k, ab := encL grest,
               ba := s.ba ++ stamp (s.now + s.D) (s.B.input (encFrames frs) true s.ndB (clk s.now)).outs,
               panic := s.panic || (s.B.input (encFrames frs) true s.ndB (clk s.now)).panic } gab' gba' := by
  obtain ⟨hv, hp, hr, hf, hu, hclean, hwin⟩ := clean_inB h hnw hroom
  refine inputFrames_cases (P := fun r => ∃ gab' gba', StepOk p s gba
      { s with B := r.k, ab := encL grest, ba := s.ba ++ stamp (s.now + s.D) r.outs, panic := s.panic || r.panic }
      gab' gba') s.B frs s.ndB (clk s.now) hv hp hr ?_ ?_ ?_ ?_
  · intro hnil
    subst hnil
    rw [show cwndOnAck (inFrs true [] { k := s.B }).k s.B.snd_una = s.B from cwndOnAck_self s.B] at hclean hwin
    simp only [stamp, List.map_nil, List.append_nil, Bool.or_false]
    exact ⟨grest, gba, StepOk.ofA hclean hwin rfl⟩
  · intro k1 hk1 _
    have e := hk1.eq_of_noRtt hu
    subst e
    simp only [stamp, List.map_nil, List.append_nil, Bool.or_false]
    exact ⟨grest, gba, StepOk.ofA hclean hwin rfl⟩
  · intro k1 _ _ c
    rw [hf] at c
    cases c
  · intro k1 hk1 _ _
    have e := hk1.eq_of_noRtt hu
    subst e
    obtain ⟨gba', ok⟩ := clean_flushB hclean false s.nfB h.tnf
    exact ⟨grest, gba', StepOk.ofA ok.clean (fun w => ok.win (hwin w)) rfl⟩

theorem sys_step {p : Par} {s : State} {gab gba : GLink} (h : Clean p s gab gba) (hnw : NoWrap p.base s)
    (hroom : RoomOk s) (ev : Ev) : ∃ gab' gba', StepOk p s gba (Sys.step s ev) gab' gba' := by
  have same : ∀ {s' : State} {gab' gba' : GLink}, Clean p s' gab' gba' → (Win p s gba → Win p s' gba') → s'.A = s.A →
      ∃ gab' gba', StepOk p s gba s' gab' gba' := fun hc hw hA => ⟨_, _, StepOk.ofA hc hw hA⟩
  refine step_cases (P := fun s' => ∃ gab' gba', StepOk p s gba s' gab' gba') s ev
    (same h id rfl) (fun _ hq => same (clean_tick h hq) win_tick rfl)
    (fun b _ => ⟨gab, gba, clean_send h b, fun w => win_send w b, keep_send p.base s b⟩)
    (fun _ _ => same (clean_read h) (win_read h) rfl) (fun _ => ?_) (fun _ => ?_) ?_ ?_
  · obtain ⟨gab', ok, _⟩ := clean_flushA h hnw (s.now + (s.A.flush true (clk s.now)).interval.toNat)
    exact ⟨gab', gba, ok⟩
  · have hle := flush_interval_le s.B (clk s.now)
    rw [BitVec.le_def, h.bint] at hle
    obtain ⟨gba', ok⟩ := clean_flushB h true (s.now + (s.B.flush true (clk s.now)).interval.toNat) ⟨by omega, by omega⟩
    exact ⟨gab, gba', ok⟩
  · intro d rest _ e _
    obtain ⟨t0, frs, grest, rfl, rfl, rfl⟩ := encL_eq_cons (h.hab.symm.trans e)
    exact clean_dlvB h hnw hroom
  · intro d rest _ e _
    obtain ⟨t0, frs, grest, rfl, rfl, rfl⟩ := encL_eq_cons (h.hba.symm.trans e)
    exact clean_dlvA h hnw

theorem clean_step {p : Par} {s : State} {gab gba : GLink} (h : Clean p s gab gba) (hnw : NoWrap p.base s)
    (hroom : RoomOk s) (ev : Ev) : ∃ gab' gba', Clean p (Sys.step s ev) gab' gba' := by
  obtain ⟨gab', gba', ok⟩ := sys_step h hnw hroom ev
  exact ⟨gab', gba', ok.clean⟩

/-- one event keeps `Clean` and `Win` together: `Win` supplies the room hypothesis -/
theorem cleanwin_step {p : Par} {s : State} (h : ∃ gab gba, Clean p s gab gba ∧ Win p s gba) (hnw : NoWrap p.base s)
    (ev : Ev) : (∃ gab gba, Clean p (Sys.step s ev) gab gba ∧ Win p (Sys.step s ev) gba) ∧ Keep p.base s (Sys.step s ev) := by
  obtain ⟨gab, gba, hc, w⟩ := h
  obtain ⟨gab', gba', ok⟩ := sys_step hc hnw (w.room hc) ev
  exact ⟨⟨gab', gba', ok.clean, ok.win w⟩, ok.keep⟩

theorem idle_step {s : State} (hq : s.A.snd_queue = []) (ev : Ev) (hev : isSend ev = false) :
    (Sys.step s ev).A.snd_queue = [] ∧ (Sys.step s ev).A.snd_nxt = s.A.snd_nxt := by
  obtain ⟨m, hm, e1, e2⟩ := step_admit s ev hev
  rw [hq] at hm e1
  have hm0 : m = 0 := Nat.le_zero.mp hm
  subst hm0
  exact ⟨e1, by rw [e2]; simp [u32]⟩

/-- the two run hypotheses hold in every state of the run (including the last) -/
def RunOk (base : U32) : State → List Ev → Prop
  | s, [] => NoWrap base s ∧ RoomOk s
  | s, ev :: rest => NoWrap base s ∧ RoomOk s ∧ RunOk base (Sys.step s ev) rest

instance runOkDec (base : U32) : (s : State) → (evs : List Ev) → Decidable (RunOk base s evs)
  | s, [] => by unfold RunOk; infer_instance
  | s, ev :: rest => by
    unfold RunOk
    have := runOkDec base (Sys.step s ev) rest
    infer_instance

theorem runOk_iff (base : U32) : ∀ (evs : List Ev) (s : State),
    RunOk base s evs ↔ RunP (fun s => NoWrap base s ∧ RoomOk s) s evs := by
  intro evs
  induction evs with
  | nil => intro s; exact Iff.rfl
  | cons ev rest ih => intro s; exact and_assoc.symm.trans (and_congr_right fun _ => ih _)

theorem clean_run {p : Par} (evs : List Ev) (s : State) (gab gba : GLink) (h : Clean p s gab gba)
    (hr : RunOk p.base s evs) :
    ∃ gab' gba', Clean p (Sys.run s evs) gab' gba' ∧ NoWrap p.base (Sys.run s evs) := by
  have hr' := (runOk_iff p.base evs s).mp hr
  obtain ⟨g1, g2, hc⟩ := RunP.inv (J := fun s' => ∃ gab gba, Clean p s' gab gba)
    (fun s' ev hs _ ⟨_, _, hc⟩ => clean_step hc hs.1 hs.2 ev) evs s hr' ⟨gab, gba, h⟩
  exact ⟨g1, g2, hc, (RunP.last evs s hr').1⟩

def RunNoWrap (base : U32) : State → List Ev → Prop
  | s, [] => NoWrap base s
  | s, ev :: rest => NoWrap base s ∧ RunNoWrap base (Sys.step s ev) rest

instance runNoWrapDec (base : U32) : (s : State) → (evs : List Ev) → Decidable (RunNoWrap base s evs)
  | s, [] => by unfold RunNoWrap; infer_instance
  | s, ev :: rest => by
    unfold RunNoWrap
    have := runNoWrapDec base (Sys.step s ev) rest
    infer_instance

theorem runNoWrap_iff (base : U32) : ∀ (evs : List Ev) (s : State), RunNoWrap base s evs ↔ RunP (NoWrap base) s evs := by
  intro evs
  induction evs with
  | nil => intro s; exact Iff.rfl
  | cons ev rest ih => intro s; exact and_congr_right fun _ => ih _

theorem cleanwin_run_keep {p : Par} (evs : List Ev) (s : State) (gab gba : GLink) (h : Clean p s gab gba)
    (w : Win p s gba) (hr : RunNoWrap p.base s evs) :
    ∃ gab' gba', Clean p (Sys.run s evs) gab' gba' ∧ Win p (Sys.run s evs) gba' ∧ NoWrap p.base (Sys.run s evs) ∧
      Keep p.base s (Sys.run s evs) := by
  have hr' := (runNoWrap_iff p.base evs s).mp hr
  obtain ⟨⟨g1, g2, hc, hw⟩, hk⟩ := RunP.inv
    (J := fun s' => (∃ gab gba, Clean p s' gab gba ∧ Win p s' gba) ∧ Keep p.base s s')
    (fun s' ev hnw _ ⟨hcw, hk⟩ => ⟨(cleanwin_step hcw hnw ev).1, hk.trans (cleanwin_step hcw hnw ev).2⟩)
    evs s hr' ⟨⟨gab, gba, h, w⟩, Keep.refl _ _⟩
  exact ⟨g1, g2, hc, hw, RunP.last evs s hr', hk⟩

theorem cleanwin_run {p : Par} (evs : List Ev) (s : State) (gab gba : GLink) (h : Clean p s gab gba) (w : Win p s gba)
    (hr : RunNoWrap p.base s evs) :
    ∃ gab' gba', Clean p (Sys.run s evs) gab' gba' ∧ Win p (Sys.run s evs) gba' ∧ NoWrap p.base (Sys.run s evs) := by
  obtain ⟨gab', gba', hc, hw, hn, _⟩ := cleanwin_run_keep evs s gab gba h w hr
  exact ⟨gab', gba', hc, hw, hn⟩

/-- under the window bookkeeping the room hypothesis need not be assumed -/
theorem runOk_of_win {p : Par} (evs : List Ev) (s : State) (gab gba : GLink) (h : Clean p s gab gba) (w : Win p s gba)
    (hr : RunNoWrap p.base s evs) : RunOk p.base s evs :=
  (runOk_iff p.base evs s).mpr <| RunP.mono (fun _ ⟨hnw, _, _, hc, hw⟩ => ⟨hnw, hw.room hc⟩) evs s <|
    RunP.strengthen (J := fun s' => ∃ gab gba, Clean p s' gab gba ∧ Win p s' gba)
      (fun _ ev hnw _ hcw => (cleanwin_step hcw hnw ev).1) evs s ((runNoWrap_iff p.base evs s).mp hr) ⟨gab, gba, h, w⟩

theorem RunOk.last {base : U32} {evs : List Ev} {s : State} (h : RunOk base s evs) : RoomOk (Sys.run s evs) :=
  (RunP.last evs s ((runOk_iff base evs s).mp h)).2

/-- settings before traffic: what the two cores must look like when the run starts -/
def CleanInit (A B : Kcp) (D : Nat) : Prop :=
  Total.InvK A ∧ Total.InvK B ∧ A.conv = B.conv ∧
  A.acklist = [] ∧ A.snd_buf = [] ∧ A.snd_queue = [] ∧
  B.snd_buf = [] ∧ B.snd_queue = [] ∧ B.rcv_buf = [] ∧ B.acklist = [] ∧ B.rcv_nxt = A.snd_nxt ∧
  A.rx_minrto.toNat ≤ A.rx_rto.toNat ∧ A.rx_rto.toNat ≤ 60000 ∧
  2 * D + B.interval.toNat < A.rx_minrto.toNat ∧ B.rcv_wnd.toNat < 2 ^ 31

instance (A B : Kcp) (D : Nat) : Decidable (CleanInit A B D) := by unfold CleanInit; infer_instance

def parOf (A B : Kcp) : Par := ⟨A.snd_nxt, A.conv, A.rx_minrto.toNat, B.interval.toNat, B.rcv_wnd.toNat⟩

theorem clean_init (A B : Kcp) (D t0 : Nat) (ndA ndB : Bool) (h : CleanInit A B D) :
    Clean (parOf A B) (Sys.init A B D t0 ndA ndB) [] [] := by
  obtain ⟨h1, h2, h3, h4, h5, h6, h7, h8, h9, h10, h11, h12, h13, h14, h15⟩ := h
  have nil : ∀ {α : Type} {l : List α} {P : α → Prop}, l = [] → ∀ x ∈ l, P x := fun e x hx => by
    rw [e] at hx; cases hx
  exact {
    hab := rfl, hba := rfl, tab := nil rfl, tba := nil rfl
    tnf := ⟨Nat.le_add_right _ _, Nat.le_refl _⟩
    par := h14, np := rfl
    aK := h1, aconv := rfl, aack := h4, amin := rfl, arto := ⟨h12, h13⟩
    aq := nil h6, abnd := nil h5, aseg := nil h5
    asort := by
      show Sorted _ A.snd_buf
      rw [h5]; exact List.Pairwise.nil
    bK := h2, bconv := h3.symm, bsb := h7, bsq := h8, brb := h9, bint := rfl, bw := ⟨rfl, h15⟩
    back := nil h10, fab := nil rfl, fba := nil rfl
    ord := by
      show _ ∧ o A.snd_nxt B.rcv_nxt + _ = o A.snd_nxt A.snd_nxt
      rw [h11]
      simp [allFrs, pushes] }

/-- the window precondition of the property, with the rest of the start conditions it needs: A has
nothing outstanding, B's receive queue is empty, and B's receive window is at least
`min(snd_wnd, rmt_wnd)` of A — `rmt_wnd` being the 32 segments (`IKCP_WND_RCV`) a sender assumes
before it is told -/
def WinInit (A B : Kcp) : Prop :=
  A.snd_una = A.snd_nxt ∧ B.rcv_queue = [] ∧ min A.snd_wnd.toNat A.rmt_wnd.toNat ≤ B.rcv_wnd.toNat

instance (A B : Kcp) : Decidable (WinInit A B) := by unfold WinInit; infer_instance

theorem win_init (A B : Kcp) (D t0 : Nat) (ndA ndB : Bool) (h : CleanInit A B D) (hw : WinInit A B) :
    Win (parOf A B) (Sys.init A B D t0 ndA ndB) [] := by
  obtain ⟨_, _, _, _, h5, _, _, _, _, _, h11, _⟩ := h
  obtain ⟨w1, w2, w3⟩ := hw
  have z1 : o A.snd_nxt A.snd_nxt = 0 := o_self _
  exact {
    wc := by
      show Contig A.snd_nxt A
      unfold Contig
      rw [h5, w1, z1]; simp
    wAu := by
      show o A.snd_nxt A.snd_una ≤ o A.snd_nxt B.rcv_nxt
      rw [w1, h11]; exact Nat.le_refl _
    wA := by
      show o A.snd_nxt A.snd_una + min A.snd_wnd.toNat A.rmt_wnd.toNat + B.rcv_queue.length ≤
        o A.snd_nxt B.rcv_nxt + B.rcv_wnd.toNat
      rw [w1, h11, z1, w2]; simp; exact w3
    wR := by
      show o A.snd_nxt A.snd_nxt + B.rcv_queue.length ≤ o A.snd_nxt B.rcv_nxt + B.rcv_wnd.toNat
      rw [h11, w2]; simp
    wB := fun d hd => absurd hd List.not_mem_nil
    wU := fun d hd => absurd hd List.not_mem_nil
    wS := List.Pairwise.nil }

end KcpVerif.SysC
