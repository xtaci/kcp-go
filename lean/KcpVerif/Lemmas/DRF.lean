import KcpVerif.Generated
/-!
Abstract data-race freedom (C14, DESIGN 7.14).

A run is a sequence of events, indexed by its global position (`Trace = Nat → Event`; finite runs
are padded with `nop`).  Happens-before is the least transitive relation containing program order,
release → later incompatible acquire of the same mutex (Mutex: Unlock→Lock; RWMutex additionally
Unlock→RLock and RUnlock→Lock, which are exactly the edges of the Go memory model), fork → every
event of the child, and an arbitrary further synchronises-with relation `sw` that respects the trace
order (atomics observed, channel send→receive, close→receive-of-closed, `sync.Once`).  The theorems
(Props/C14) conclude `HB`, so a smaller `HB` makes them stronger; `sw` is there so that publication
through a channel or a `Once` can be used as a hypothesis.
-/
namespace KcpVerif.DRF

abbrev Tid := Nat
abbrev Mutex := Nat
abbrev Loc := Nat

/-- lock modes: exclusive (`Lock`) and shared (`RLock`) -/
inductive Mode where
  | X | S
  deriving DecidableEq, Repr

def Mode.compat : Mode → Mode → Bool
  | .S, .S => true
  | _, _ => false

theorem Mode.compat_comm (a b : Mode) : Mode.compat a b = Mode.compat b a := by
  cases a <;> cases b <;> rfl

theorem Mode.compat_eq_false_of_X {μ ν : Mode} (h : μ = .X ∨ ν = .X) : Mode.compat μ ν = false := by
  rcases h with rfl | rfl
  · cases ν <;> rfl
  · cases μ <;> rfl

inductive Ev where
  | acq (m : Mutex) (μ : Mode)
  | rel (m : Mutex) (μ : Mode)
  | rd (x : Loc)
  | wr (x : Loc)
  | ard (x : Loc)
  | awr (x : Loc)
  | fork (child : Tid)
  | nop
  deriving DecidableEq, Repr

structure Event where
  tid : Tid
  ev : Ev
  deriving DecidableEq, Repr

abbrev Trace := Nat → Event

def Ev.loc : Ev → Option Loc
  | .rd x | .wr x | .ard x | .awr x => some x
  | _ => none

def Ev.isWrite : Ev → Bool
  | .wr _ | .awr _ => true
  | _ => false

def Ev.isAtomic : Ev → Bool
  | .ard _ | .awr _ => true
  | _ => false

/-- thread `t` holds mutex `m` in mode `μ` just before position `k` -/
def Holds (τ : Trace) (t : Tid) (m : Mutex) (μ : Mode) (k : Nat) : Prop :=
  ∃ a, a < k ∧ τ a = ⟨t, .acq m μ⟩ ∧ ∀ b, a < b → b < k → τ b ≠ ⟨t, .rel m μ⟩

/-- mutual exclusion: an acquisition succeeds only if no other thread holds the mutex in an
incompatible mode -/
def MutexWF (τ : Trace) : Prop :=
  ∀ j u m μ, τ j = ⟨u, .acq m μ⟩ → ∀ t ν, t ≠ u → Mode.compat μ ν = false → ¬ Holds τ t m ν j

def ForkWF (τ : Trace) : Prop :=
  ∀ f t c, τ f = ⟨t, .fork c⟩ → ∀ j, (τ j).tid = c → f < j

inductive HB (τ : Trace) (sw : Nat → Nat → Prop) : Nat → Nat → Prop where
  | po {i j : Nat} : i < j → (τ i).tid = (τ j).tid → HB τ sw i j
  | lock {i j : Nat} {t u : Tid} {m : Mutex} {μ ν : Mode} :
      i < j → τ i = ⟨t, .rel m μ⟩ → τ j = ⟨u, .acq m ν⟩ → Mode.compat μ ν = false → HB τ sw i j
  | fork {i j : Nat} {t c : Tid} : i < j → τ i = ⟨t, .fork c⟩ → (τ j).tid = c → HB τ sw i j
  | sw {i j : Nat} : i < j → sw i j → HB τ sw i j
  | trans {i j k : Nat} : HB τ sw i j → HB τ sw j k → HB τ sw i k

theorem HB.lt {τ : Trace} {sw : Nat → Nat → Prop} {i j : Nat} (h : HB τ sw i j) : i < j := by
  induction h with
  | po h _ => exact h
  | lock h _ _ _ => exact h
  | fork h _ _ => exact h
  | sw h _ => exact h
  | trans _ _ ih1 ih2 => exact Nat.lt_trans ih1 ih2

/-- what the lock discipline asks of the access at `k`: a write holds `m` exclusively, a read in any mode -/
def HoldsFor (τ : Trace) (m : Mutex) (k : Nat) : Prop :=
  if (τ k).ev.isWrite then Holds τ (τ k).tid m .X k else ∃ μ, Holds τ (τ k).tid m μ k

theorem HoldsFor.holds {τ : Trace} {m : Mutex} {k : Nat} (h : HoldsFor τ m k) :
    ∃ μ, Holds τ (τ k).tid m μ k ∧ ((τ k).ev.isWrite = true → μ = .X) := by
  unfold HoldsFor at h
  by_cases hw : (τ k).ev.isWrite = true
  · rw [if_pos hw] at h
    exact ⟨.X, h, fun _ => rfl⟩
  · rw [if_neg hw] at h
    obtain ⟨μ, h⟩ := h
    exact ⟨μ, h, fun hc => absurd hc hw⟩

theorem HoldsFor.of_holds {τ : Trace} {m : Mutex} {k : Nat} {μ : Mode} (h : Holds τ (τ k).tid m μ k)
    (hμ : (τ k).ev.isWrite = true → μ = .X) : HoldsFor τ m k := by
  unfold HoldsFor
  by_cases hw : (τ k).ev.isWrite = true
  · rw [if_pos hw, ← hμ hw]
    exact h
  · rw [if_neg hw]
    exact ⟨μ, h⟩

/-- The four disciplines speak of the accesses to `x` from its publication point `pub` on (what comes
before is initialisation by the creating thread, see `C14_no_race_of_discipline`). -/
def Locked (τ : Trace) (x : Loc) (m : Mutex) (pub : Nat) : Prop :=
  ∀ k, pub ≤ k → (τ k).ev.loc = some x → HoldsFor τ m k

def Immutable (τ : Trace) (x : Loc) (pub : Nat) : Prop :=
  ∀ k, pub ≤ k → (τ k).ev.loc = some x → (τ k).ev.isWrite = false

def AllAtomic (τ : Trace) (x : Loc) (pub : Nat) : Prop :=
  ∀ k, pub ≤ k → (τ k).ev.loc = some x → (τ k).ev.isAtomic = true

def Confined (τ : Trace) (x : Loc) (t : Tid) (pub : Nat) : Prop :=
  ∀ k, pub ≤ k → (τ k).ev.loc = some x → (τ k).tid = t

/-- the conflicting pairs of the Go memory model: same location, different goroutines, at least one
write, not both atomic -/
def Conflict (τ : Trace) (x : Loc) (i j : Nat) : Prop :=
  (τ i).ev.loc = some x ∧ (τ j).ev.loc = some x ∧ (τ i).tid ≠ (τ j).tid ∧
  ((τ i).ev.isWrite = true ∨ (τ j).ev.isWrite = true) ∧
  ¬ ((τ i).ev.isAtomic = true ∧ (τ j).ev.isAtomic = true)

/-- a data race: a conflicting pair that happens-before does not order -/
def Race (τ : Trace) (sw : Nat → Nat → Prop) (x : Loc) (i j : Nat) : Prop :=
  i < j ∧ Conflict τ x i j ∧ ¬ HB τ sw i j

theorem not_rel_of_loc {e : Ev} {x : Loc} (h : e.loc = some x) : ∀ m μ, e ≠ .rel m μ := by
  intro m μ he
  subst he
  simp [Ev.loc] at h

open KcpVerif.Gen

/-- rows the obligation is about: after publication, reachable from the supported API, not deprecated -/
def considered (r : AccessRow) : Bool := !r.prepub && r.inScope && !r.deprecated

def holdsRow (m : Nat) (r : AccessRow) : Bool :=
  if r.write then r.locks.contains m else (r.locks.contains m || r.rlocks.contains m)

def immutableOk (rows : List AccessRow) : Bool := rows.all (fun r => !r.write)
def atomicOk (rows : List AccessRow) : Bool := rows.all (fun r => r.atomic)
/-- a mutex common to all rows is among those of the first row, so only these are tried -/
def lockedOk (rows : List AccessRow) : Bool :=
  match rows with
  | [] => true
  | r :: _ => (r.locks ++ r.rlocks).any (fun m => rows.all (holdsRow m))
/-- `thread = 0` is the extractor's root class "multi" (the function may run on several goroutines:
`threadOf` in extract/tables_access.go, first entry of `Gen.accessThreadNames`); `k > 0` is the `k`-th
goroutine root that alone reaches the function. -/
def confinedOk (rows : List AccessRow) : Bool :=
  match rows with
  | [] => true
  | r :: _ => r.thread != 0 && rows.all (fun q => q.thread == r.thread)

def classOk (rows : List AccessRow) : Bool :=
  let rs := rows.filter considered
  immutableOk rs || atomicOk rs || lockedOk rs || confinedOk rs

def groupedOk : Nat → List (List AccessRow) → Bool
  | _, [] => true
  | k, g :: gs => g.all (fun r => r.cls == k) && groupedOk (k + 1) gs

def tableOk (byClass : List (List AccessRow)) : Bool :=
  groupedOk 0 byClass && byClass.all classOk

def failingClasses (byClass : List (List AccessRow)) : List Nat :=
  (List.range byClass.length).filter (fun k => !(classOk (byClass.getD k [])))

inductive Discipline (τ : Trace) (x : Loc) (pub : Nat) : Prop where
  | locked (m : Mutex) : Locked τ x m pub → Discipline τ x pub
  | immutable : Immutable τ x pub → Discipline τ x pub
  | atomic : AllAtomic τ x pub → Discipline τ x pub
  | confined (t : Tid) : Confined τ x t pub → Discipline τ x pub

/-- What it means, for one location `x` of a class with table rows `rows`, that a run is an instance
of the table: every post-publication access to `x` is justified by a considered row
of the same kind whose lexical locks are really held — on the mutex instance `inst m` that the run
associates with mutex class `m` for this location — and whose goroutine root `r.thread`, if
unique, is run by the thread `thr r.thread`.  This is exactly the part that is trusted (extractor +
type-based ownership) and that the race-detector runs confront with reality. -/
def Respects (τ : Trace) (rows : List AccessRow) (x : Loc) (pub : Nat)
    (inst : Nat → Mutex) (thr : Nat → Tid) : Prop :=
  ∀ k, pub ≤ k → (τ k).ev.loc = some x →
    ∃ r, r ∈ rows ∧ considered r = true ∧ r.write = (τ k).ev.isWrite ∧ r.atomic = (τ k).ev.isAtomic ∧
      (∀ m, m ∈ r.locks → Holds τ (τ k).tid (inst m) .X k) ∧
      (∀ m, m ∈ r.rlocks → ∃ μ, Holds τ (τ k).tid (inst m) μ k) ∧
      (r.thread ≠ 0 → (τ k).tid = thr r.thread)

section
variable {τ : Trace} {rows : List AccessRow} {x : Loc} {pub : Nat} {inst : Nat → Mutex} {thr : Nat → Tid}
  (hr : Respects τ rows x pub inst thr)
include hr

theorem Respects.no_access (hnil : rows.filter considered = []) (k : Nat) (hk : pub ≤ k)
    (hx : (τ k).ev.loc = some x) : False := by
  obtain ⟨r, hmem, hc, _⟩ := hr k hk hx
  have hm : r ∈ rows.filter considered := List.mem_filter.mpr ⟨hmem, hc⟩
  rw [hnil] at hm
  cases hm

theorem immutable_of_immutableOk (h : immutableOk (rows.filter considered) = true) : Immutable τ x pub := by
  intro k hk hx
  obtain ⟨r, hmem, hc, hw, _⟩ := hr k hk hx
  have := List.all_eq_true.mp h r (List.mem_filter.mpr ⟨hmem, hc⟩)
  rw [← hw]
  simpa using this

theorem allAtomic_of_atomicOk (h : atomicOk (rows.filter considered) = true) : AllAtomic τ x pub := by
  intro k hk hx
  obtain ⟨r, hmem, hc, _, ha, _⟩ := hr k hk hx
  rw [← ha]
  exact List.all_eq_true.mp h r (List.mem_filter.mpr ⟨hmem, hc⟩)

theorem locked_of_lockedOk (h : lockedOk (rows.filter considered) = true) : ∃ m, Locked τ x (inst m) pub := by
  unfold lockedOk at h
  split at h
  · next hnil => exact ⟨0, fun k hk hx => (hr.no_access hnil k hk hx).elim⟩
  · obtain ⟨m, _, hall⟩ := List.any_eq_true.mp h
    refine ⟨m, fun k hk hx => ?_⟩
    obtain ⟨r, hmem, hc, hw, _, hX, hS, _⟩ := hr k hk hx
    have hh : holdsRow m r = true := List.all_eq_true.mp hall r (List.mem_filter.mpr ⟨hmem, hc⟩)
    unfold holdsRow at hh
    by_cases hwr : r.write = true
    · rw [if_pos hwr] at hh
      exact .of_holds (hX m (List.contains_iff_mem.mp hh)) (fun _ => rfl)
    · rw [if_neg hwr] at hh
      have hnw : ¬ (τ k).ev.isWrite = true := by rw [← hw]; exact hwr
      rcases Bool.or_eq_true _ _ ▸ hh with h | h
      · exact .of_holds (hX m (List.contains_iff_mem.mp h)) (fun _ => rfl)
      · obtain ⟨μ, hμ⟩ := hS m (List.contains_iff_mem.mp h)
        exact .of_holds hμ (fun hc => absurd hc hnw)

theorem confined_of_confinedOk (h : confinedOk (rows.filter considered) = true) : ∃ t, Confined τ x t pub := by
  unfold confinedOk at h
  split at h
  · next hnil => exact ⟨0, fun k hk hx => (hr.no_access hnil k hk hx).elim⟩
  · next r0 _ _ =>
    simp only [Bool.and_eq_true] at h
    obtain ⟨hne, hall⟩ := h
    refine ⟨thr r0.thread, fun k hk hx => ?_⟩
    obtain ⟨r, hmem, hc, _, _, _, _, ht⟩ := hr k hk hx
    have hq := List.all_eq_true.mp hall r (List.mem_filter.mpr ⟨hmem, hc⟩)
    have heq : r.thread = r0.thread := by simpa using hq
    have hn0 : r.thread ≠ 0 := by
      rw [heq]
      simpa using hne
    rw [ht hn0, heq]

end

theorem discipline_of_classOk {τ : Trace} {rows : List AccessRow} {x : Loc} {pub : Nat}
    {inst : Nat → Mutex} {thr : Nat → Tid}
    (hok : classOk rows = true) (hr : Respects τ rows x pub inst thr) : Discipline τ x pub := by
  unfold classOk at hok
  simp only [Bool.or_eq_true] at hok
  rcases hok with ((h | h) | h) | h
  · exact .immutable (immutable_of_immutableOk hr h)
  · exact .atomic (allAtomic_of_atomicOk hr h)
  · obtain ⟨m, hm⟩ := locked_of_lockedOk hr h
    exact .locked _ hm
  · obtain ⟨t, ht⟩ := confined_of_confinedOk hr h
    exact .confined t ht

theorem classOk_of_tableOk {byClass : List (List AccessRow)} (h : tableOk byClass = true) :
    ∀ rows, rows ∈ byClass → classOk rows = true := by
  unfold tableOk at h
  simp only [Bool.and_eq_true] at h
  exact fun rows hm => List.all_eq_true.mp h.2 rows hm

end KcpVerif.DRF
