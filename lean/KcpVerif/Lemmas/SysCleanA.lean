/-
Clean path, sender side.  An ACK / WASK / WINS frame whose `una` covers its `sn` only drops a prefix of the send
buffer: nothing is marked, no `fastack` moves.  A FULL flush with no segment due retransmits nothing and sends the
segments it admits once.
-/
import KcpVerif.Lemmas.SysWire
import KcpVerif.Lemmas.KcpTotalOps

namespace KcpVerif.SysC
open KcpVerif.Gen KcpVerif.Kcp KcpVerif.Live KcpVerif.Wire KcpVerif.SysW KcpVerif.Serial

/-- offset of a sequence number from the first one of the run -/
def o (base x : U32) : Nat := (x - base).toNat

theorem rep_o (base x : U32) : Rep x (base.toNat + o base x) := rep_off base x

theorem o_of_rep {base x : U32} {n : Nat} (h : Rep x (base.toNat + n)) (hn : n < 2 ^ 32) : o base x = n :=
  off_of_rep h hn

theorem o_lt (base x : U32) : o base x < 2 ^ 32 := (x - base).isLt

theorem itd (base a b : U32) (ha : o base a < 2 ^ 31) (hb : o base b < 2 ^ 31) :
    itimediff a b = (o base a : Int) - (o base b : Int) := by
  rw [itimediff_rep (rep_o base a) (rep_o base b) (by omega) (by omega)]
  omega

theorem o_add (base x : U32) (n : Nat) (h : o base x + n < 2 ^ 32) : o base (x + u32 n) = o base x + n := by
  apply o_of_rep _ h
  have := (rep_o base x).add (Rep.ofNat n)
  unfold Rep at this ⊢
  unfold u32
  omega

theorem o_succ (base x : U32) (h : o base x + 1 < 2 ^ 32) : o base (x + 1) = o base x + 1 :=
  o_add base x 1 h

theorem o_pred (base x : U32) (h : 0 < o base x) : o base (x - 1) = o base x - 1 := by
  have := o_lt base x
  apply o_of_rep _ (by omega)
  have : Rep (x - 1) _ := (rep_o base x).sub (Rep.ofNat 1)
  unfold Rep at this ⊢
  omega

theorem o_inj (base a b : U32) (h : o base a = o base b) : a = b :=
  (rep_o base a).inj (h ▸ rep_o base b)

theorem o_self (base : U32) : o base base = 0 := by unfold o; simp

theorem o_sub (base a b : U32) (h : o base a ≤ o base b) : (b - a).toNat = o base b - o base a := by
  have := o_lt base b
  have := ((rep_o base b).sub (rep_o base a)).toNat (by omega) (by omega)
  omega

def Sorted (base : U32) (l : List Seg) : Prop := l.Pairwise (fun a b => o base a.sn < o base b.sn)

theorem Sorted.drop {base : U32} {l : List Seg} (h : Sorted base l) (n : Nat) : Sorted base (l.drop n) :=
  List.Pairwise.sublist (List.drop_sublist n l) h

theorem unaCount_drop (base una : U32) (hu : o base una < 2 ^ 31) : ∀ l : List Seg, Sorted base l →
    (∀ x ∈ l, o base x.sn < 2 ^ 31) → ∀ x ∈ l.drop (unaCount una l), o base una ≤ o base x.sn := by
  intro l
  induction l with
  | nil => intro _ _ x hx; simp at hx
  | cons s rest ih =>
    intro hs hb x hx
    have hs' : Sorted base rest := (List.pairwise_cons.mp hs).2
    have hlt := (List.pairwise_cons.mp hs).1
    have h1 := itd base una s.sn hu (hb s (List.mem_cons_self ..))
    unfold unaCount at hx
    split at hx
    · exact ih hs' (fun y hy => hb y (List.mem_cons_of_mem _ hy)) x (by simpa using hx)
    · rename_i hc
      simp only [List.drop_zero] at hx
      rcases List.mem_cons.mp hx with rfl | hx
      · omega
      · have := hlt x hx; omega

theorem dropAcked_unacked : ∀ (l : List Seg), (∀ x ∈ l, x.acked = false) → dropAcked l = l := by
  intro l h
  cases l with
  | nil => rfl
  | cons s r =>
    unfold dropAcked
    rw [if_neg (by rw [h s (List.mem_cons_self ..)]; simp)]

theorem dropAcked_idem (l : List Seg) : dropAcked (dropAcked l) = dropAcked l := by
  cases h : dropAcked l with
  | nil => rfl
  | cons s rest => rw [dropAcked, if_neg (by rw [dropAcked_head l s rest h]; simp)]

theorem shrinkBuf_idem (k : Kcp) : shrinkBuf (shrinkBuf k) = shrinkBuf k := by
  rw [shrinkBuf_eq k, shrinkBuf_eq]
  simp only [dropAcked_idem]

theorem inPre_shrunk (regular : Bool) (wnd : BitVec 16) (una : U32) (k : Kcp) :
    shrinkBuf (inPre regular wnd una k) = inPre regular wnd una k := by
  unfold inPre; exact shrinkBuf_idem _

theorem inPre_true (wnd : BitVec 16) (una : U32) (k : Kcp) (hna : ∀ x ∈ k.snd_buf, x.acked = false) :
    inPre true wnd una k =
      { k with rmt_wnd := wnd.setWidth 32, snd_buf := k.snd_buf.drop (unaCount una k.snd_buf),
               snd_una := headSn k.snd_nxt (k.snd_buf.drop (unaCount una k.snd_buf)) } := by
  rw [inPre_eq, dropAcked_unacked _ (fun x hx => hna x (List.mem_of_mem_drop hx))]
  rfl

theorem inPre_clean (base : U32) (wnd : BitVec 16) (una : U32) (k : Kcp)
    (hna : ∀ x ∈ k.snd_buf, x.acked = false)
    (hs : Sorted base k.snd_buf) (hb : ∀ x ∈ k.snd_buf, o base x.sn < o base k.snd_nxt)
    (hn : o base k.snd_nxt < 2 ^ 31) (hu : o base una ≤ o base k.snd_nxt) :
    ∃ c su, inPre true wnd una k = { k with rmt_wnd := wnd.setWidth 32, snd_buf := k.snd_buf.drop c, snd_una := su } ∧
      (∀ x ∈ k.snd_buf.drop c, o base una ≤ o base x.sn) ∧ o base una ≤ o base su ∧ o base su ≤ o base k.snd_nxt := by
  have hd := unaCount_drop base una (by omega) k.snd_buf hs (fun x hx => by have := hb x hx; omega)
  refine ⟨unaCount una k.snd_buf, _, inPre_true wnd una k hna, hd, ?_⟩
  cases hc : k.snd_buf.drop (unaCount una k.snd_buf) with
  | nil => exact ⟨hu, Nat.le_refl _⟩
  | cons s t =>
    have hm : s ∈ k.snd_buf.drop (unaCount una k.snd_buf) := by rw [hc]; exact List.mem_cons_self ..
    exact ⟨hd s hm, Nat.le_of_lt (hb s (List.mem_of_mem_drop hm))⟩

theorem ack_noop (base : U32) (k : Kcp) (sn ts : U32) (h1 : o base sn < o base k.snd_una) (h2 : o base k.snd_una < 2 ^ 31) :
    parseAck k sn = k ∧ parseFastack k sn ts = (k, false) := by
  have h := itd base sn k.snd_una (by omega) h2
  unfold parseAck parseFastack
  rw [if_pos (Or.inl (by omega)), if_pos (Or.inl (by omega))]
  exact ⟨rfl, rfl⟩

/-- the frames B sends on a clean path: no PUSH, `una` within what A has sent, ACKs covered by their `una` -/
def AckLike (base : U32) (nxt : U32) (fr : Frm) : Prop :=
  (fr.cmd.toNat = IKCP_CMD_ACK ∨ fr.cmd.toNat = IKCP_CMD_WASK ∨ fr.cmd.toNat = IKCP_CMD_WINS) ∧
  o base fr.una ≤ o base nxt ∧ (fr.cmd.toNat = IKCP_CMD_ACK → o base fr.sn < o base fr.una)

theorem AckLike.una_le {base nxt : U32} {fr : Frm} (h : AckLike base nxt fr) : o base fr.una ≤ o base nxt := h.2.1

theorem inFr_noPush (base : U32) (st : InLoop) (fr : Frm)
    (hcmd : fr.cmd.toNat = IKCP_CMD_ACK ∨ fr.cmd.toNat = IKCP_CMD_WASK ∨ fr.cmd.toNat = IKCP_CMD_WINS)
    (hack : fr.cmd.toNat = IKCP_CMD_ACK → o base fr.sn < o base (inPre true fr.wnd fr.una st.k).snd_una)
    (hu : o base (inPre true fr.wnd fr.una st.k).snd_una < 2 ^ 31) :
    ∃ pr, (inFr true st fr).k = { inPre true fr.wnd fr.una st.k with probe := pr } ∧
      (inFr true st fr).panic = st.panic ∧ (inFr true st fr).ret = st.ret := by
  have hsh := inPre_shrunk true fr.wnd fr.una st.k
  unfold inFr
  rw [inStep_eq]
  generalize inPre true fr.wnd fr.una st.k = k' at hack hu hsh ⊢
  by_cases hA : fr.cmd.toNat = IKCP_CMD_ACK
  · rw [if_pos hA]
    have hno := ack_noop base k' fr.sn fr.ts (hack hA) hu
    rw [hno.1, hsh, hno.2]
    exact ⟨k'.probe, rfl, rfl, rfl⟩
  · rw [if_neg hA]
    have hP : ¬ fr.cmd.toNat = IKCP_CMD_PUSH := probe_ne_push (hcmd.resolve_left hA)
    rw [if_neg hP]
    split
    · exact ⟨_, rfl, rfl, rfl⟩
    · exact ⟨k'.probe, rfl, rfl, rfl⟩

def Fresh (s : Seg) : Prop := s.xmit = 0 ∧ s.fastack = 0 ∧ s.acked = false

/-- of a segment: sent once and its timer not due — not `Sys.quiet` (nothing is due in the system), nor the `quiet`
case of `inputFrames_cases` (an `Input` that ends without a flush) -/
def Quiet (now : U32) (s : Seg) : Prop :=
  s.acked = false ∧ s.xmit = 1 ∧ s.fastack = 0 ∧ itimediff now s.resendts < 0

theorem Quiet.not_due {now : U32} {s : Seg} (h : Quiet now s) : itimediff now s.resendts < 0 := h.2.2.2

/-- phase 5 on a segment sent for the first time -/
def sendInit (k : Kcp) (now : U32) (y : Seg) : Seg :=
  { y with rto := k.rx_rto, resendts := now + k.rx_rto, xmit := y.xmit + 1, ts := now, wnd := wndUnused k, una := k.rcv_nxt }

theorem cause_quiet (now resent : U32) (n : Nat) (s : Seg) (hr : resent ≠ 0) (h : Quiet now s) :
    cause now resent n s = .none := by
  obtain ⟨_, hx, hf, ht⟩ := h
  unfold cause
  rw [if_neg (by rw [hx]; decide), hf]
  rw [if_neg (fun c => hr (by have := c.1; bv_omega)), if_neg (fun c => by have := c.1; bv_omega), if_neg (by omega)]

theorem segAfter_quiet (now resent : U32) (wnd : BitVec 16) (una : U32) (n : Nat) (rx nd : U32) (s : Seg)
    (hr : resent ≠ 0) (h : Quiet now s) : segAfter now resent wnd una n rx nd s = s :=
  segAfter_none _ _ _ _ _ _ _ _ (Or.inr (cause_quiet now resent n s hr h))

theorem segAfter_fresh (k : Kcp) (now resent : U32) (n : Nat) (s : Seg) (h : Fresh s) :
    segAfter now resent (wndUnused k) k.rcv_nxt n k.rx_rto k.nodelay s = sendInit k now s ∧
    cause now resent n s = .initial := by
  have hc : cause now resent n s = .initial := (cause_initial_iff now resent n s).mpr h.1
  refine ⟨?_, hc⟩
  rw [segAfter_sent _ _ _ _ _ _ _ _ h.2.2 (by rw [hc]; exact fun c => by cases c), hc]
  rfl

theorem stampSegs_fresh (conv now : U32) (l : List Seg) (nxt : U32) (h : ∀ x ∈ l, Fresh x) :
    ∀ y ∈ stampSegs conv now nxt l, Fresh y := by
  intro y hy
  obtain ⟨q, hq, n, rfl⟩ := mem_stampSegs hy
  exact h q hq

theorem flush_clean (k : Kcp) (now : U32) (hq : ∀ x ∈ k.snd_queue, Fresh x) (hb : ∀ x ∈ k.snd_buf, Quiet now x)
    (hack : k.acklist = []) :
    ∃ m, m ≤ k.snd_queue.length ∧
      (flush k true now).k.snd_buf =
        k.snd_buf ++ (stampSegs k.conv now k.snd_nxt (k.snd_queue.take m)).map (sendInit k now) ∧
      (flush k true now).k.snd_queue = k.snd_queue.drop m ∧
      (flush k true now).k.snd_nxt = k.snd_nxt + u32 m ∧
      flushFrs k true now =
        probeFrs k now ++ ((stampSegs k.conv now k.snd_nxt (k.snd_queue.take m)).map (sendInit k now)).map frmOf ∧
      (flX k true now).lost = 0 ∧ (flX k true now).change = 0 := by
  obtain ⟨m, hm, had⟩ := flAd_spec k now
  have b1 : (flAd k now).queue = k.snd_queue.drop m := by rw [had]
  have b2 : (flAd k now).buf = k.snd_buf ++ stampSegs k.conv now k.snd_nxt (k.snd_queue.take m) := by rw [had]
  have b3 : (flAd k now).nxt = k.snd_nxt + u32 m := by rw [had]
  have hfresh : ∀ y ∈ stampSegs k.conv now k.snd_nxt (k.snd_queue.take m), Fresh y :=
    stampSegs_fresh _ _ _ _ (fun x hx => hq x (List.mem_of_mem_take hx))
  obtain ⟨pw', tp', st, ss, cw, inc, hk⟩ := flush_frame k true now
  have hmap : (flAd k now).buf.map (segAfter now (resentOf k) (wndUnused k) k.rcv_nxt (flAd k now).count k.rx_rto k.nodelay) =
      k.snd_buf ++ (stampSegs k.conv now k.snd_nxt (k.snd_queue.take m)).map (sendInit k now) := by
    rw [b2, List.map_append]
    have m1 : k.snd_buf.map (segAfter now (resentOf k) (wndUnused k) k.rcv_nxt (flAd k now).count k.rx_rto k.nodelay) =
        k.snd_buf :=
      (List.map_congr_left (g := id) fun x hx => segAfter_quiet _ _ _ _ _ _ _ _ (resentOf_ne_zero k) (hb x hx)).trans
        (List.map_id _)
    have m2 : (stampSegs k.conv now k.snd_nxt (k.snd_queue.take m)).map
          (segAfter now (resentOf k) (wndUnused k) k.rcv_nxt (flAd k now).count k.rx_rto k.nodelay) =
        (stampSegs k.conv now k.snd_nxt (k.snd_queue.take m)).map (sendInit k now) :=
      List.map_congr_left fun y hy => (segAfter_fresh k now (resentOf k) _ y (hfresh y hy)).1
    rw [m1, m2]
  refine ⟨m, hm, by rw [flush_snd_buf, hmap], by rw [hk]; exact b1,
    by rw [hk]; exact b3, ?_, ?_⟩
  · unfold flushFrs ackFrsOf pushFrs
    rw [hack]
    simp only [ackFrs, List.nil_append, ↓reduceIte]
    rw [b2, List.filter_append, List.map_append]
    have f1 : k.snd_buf.filter (sentB now (resentOf k) (flAd k now).count) = [] := by
      apply List.filter_eq_nil_iff.mpr
      intro x hx
      unfold sentB
      rw [cause_quiet now (resentOf k) _ x (resentOf_ne_zero k) (hb x hx)]
      simp
    have f2 : (stampSegs k.conv now k.snd_nxt (k.snd_queue.take m)).filter (sentB now (resentOf k) (flAd k now).count) =
        stampSegs k.conv now k.snd_nxt (k.snd_queue.take m) := by
      apply List.filter_eq_self.mpr
      intro y hy
      unfold sentB
      rw [(segAfter_fresh k now (resentOf k) _ y (hfresh y hy)).2, (hfresh y hy).2.2]
      simp
    rw [f1, f2, List.map_nil, List.nil_append, List.map_map]
    refine congrArg (probeFrs k now ++ ·) (List.map_congr_left fun y hy => ?_)
    show frmOf _ = frmOf _
    rw [(segAfter_fresh k now (resentOf k) _ y (hfresh y hy)).1]
  · -- every segment is left alone or sent for the first time: neither counter of phase 5 moves
    have hc : ∀ s ∈ (flAd k now).buf, cause now (resentOf k) (flAd k now).count s = .none ∨
        cause now (resentOf k) (flAd k now).count s = .initial := by
      rw [b2]
      intro s hs
      rcases List.mem_append.mp hs with h1 | h1
      · exact Or.inl (cause_quiet now (resentOf k) _ s (resentOf_ne_zero k) (hb s h1))
      · exact Or.inr (segAfter_fresh k now (resentOf k) _ s (hfresh s h1)).2
    rw [(flX_spec k now).lost, (flX_spec k now).change,
      List.countP_eq_zero.mpr (fun s hs => by rcases hc s hs with e | e <;> simp [e]),
      List.countP_eq_zero.mpr (fun s hs => by rcases hc s hs with e | e <;> simp [e])]
    exact ⟨rfl, rfl⟩

end KcpVerif.SysC
