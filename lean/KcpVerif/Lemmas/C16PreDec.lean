/-
C16: the decoder states reachable under ONE sender ratio.  `PreInv d p` (genuine ring, consistent configuration)
holds for every new decoder, whatever its configured ratio, and is kept by `decode` of ANY genuine packet of the
d/p sender, through every branch; in such a state the tuning branch can only leave everything as it is with
`shouldTune` set, or adopt exactly (d, p).
-/
import KcpVerif.Lemmas.C16PreScan
import KcpVerif.Lemmas.FecSets
-- the Mathlib module of Props/C16: with it loaded `2 ^ 32` in `GenuinePkt` is Mathlib's `Monoid.npow`, as the C16 property files read it
import Mathlib.Algebra.BigOperators.Group.Finset.Basic

namespace KcpVerif.Lemmas.C16Pre
open KcpVerif.Gen KcpVerif.Fec KcpVerif.Lemmas.AutoTune

/-- a packet of a d/p sender (any id it can use) -/
def GenuinePkt (d p : Nat) (q : Bytes) : Prop :=
  fecHeaderSize ≤ q.length ∧
  flag q = (if label d p (seqid q).toNat then typeData else typeParity) ∧
  (seqid q).toNat + 1 < 2 ^ 32

structure PreInv (d p : Nat) (dec : Decoder) : Prop where
  ring : GenuineRing d p dec.tune
  n_eq : dec.n = dec.d + dec.p
  d_pos : 0 < dec.d
  p_pos : 0 < dec.p
  paws_eq : dec.paws = pawsOf dec.n
  n_le : dec.n ≤ 256

theorem preInv_of_config {d p : Nat} {a b : Decoder} (h : PreInv d p b) (hd : a.d = b.d)
    (hp : a.p = b.p) (hn : a.n = b.n) (hw : a.paws = b.paws) (hr : GenuineRing d p a.tune) :
    PreInv d p a :=
  { ring := hr
    n_eq := by rw [hn, hd, hp]; exact h.n_eq
    d_pos := hd ▸ h.d_pos
    p_pos := hp ▸ h.p_pos
    paws_eq := by rw [hw, hn]; exact h.paws_eq
    n_le := hn ▸ h.n_le }

theorem flag_beq_typeData (b : Bool) : ((if b then typeData else typeParity) == typeData) = b := by
  cases b <;> decide

theorem genuinePkt_sample {d p : Nat} {q : Bytes} (h : GenuinePkt d p q) :
    Genuine d p { bit := (flag q == typeData), seq := seqid q } := by
  obtain ⟨_, hf, hs⟩ := h
  refine ⟨?_, hs⟩
  show (flag q == typeData) = label d p (seqid q).toNat
  rw [hf]
  exact flag_beq_typeData _

theorem preInv_new (C : CodecNew) (d p d0 p0 : Nat) {dec : Decoder}
    (h : Decoder.new C d0 p0 = some dec) : PreInv d p dec := by
  obtain ⟨⟨hd0, hp0, hn0⟩, rfl⟩ := (FecDec.Decoder.new_eq C d0 p0 dec).1 h
  exact ⟨genuineRing_init d p, rfl, hd0, hp0, rfl, hn0⟩

/-- the three outcomes of `retune` on a genuine ring: no complete pair of pulses found, the decoder has the
    sender's ratio already, or it adopts exactly the sender's ratio -/
theorem retune_genuine_cases (C : CodecNew) (dec : Decoder) (seq : BitVec 32) {d p : Nat}
    (hd : 0 < d) (hp : 0 < p) (hr : GenuineRing d p dec.tune) :
    retune C dec seq = { dec with shouldTune := true } ∨
    (dec.d = d ∧ dec.p = p ∧ retune C dec seq = { dec with shouldTune := false }) ∨
    retune C dec seq =
      { dec with d := d, p := p, n := d + p, paws := pawsOf (d + p), sets := [], codec := C d p,
                 shouldTune := false, newest := seq / u32 (d + p) } := by
  obtain ⟨s1, s2⟩ := findPeriod_genuineRing hd hp hr
  rcases FecDec.retune_cases C dec seq with ⟨_, e⟩ | ⟨hv, hcase⟩
  · exact Or.inl e
  · have e1 : dec.tune.findPeriod true = (d : Int) := s1.resolve_left (fun e => by rw [e] at hv; omega)
    have e2 : dec.tune.findPeriod false = (p : Int) := s2.resolve_left (fun e => by rw [e] at hv; omega)
    rcases hcase with ⟨f1, f2, e⟩ | ⟨_, e⟩
    · exact Or.inr (Or.inl ⟨by omega, by omega, e⟩)
    · rw [e1, e2] at e
      exact Or.inr (Or.inr e)

theorem retune_genuine (C : CodecNew) (dec : Decoder) (seq : BitVec 32) {d p : Nat}
    (hd : 0 < d) (hp : 0 < p) (hinv : PreInv d p dec) :
    retune C dec seq = { dec with shouldTune := true } ∨
    ((retune C dec seq).d = d ∧ (retune C dec seq).p = p ∧ (retune C dec seq).shouldTune = false ∧
      (retune C dec seq).n = d + p ∧ (retune C dec seq).paws = pawsOf (d + p)) := by
  rcases retune_genuine_cases C dec seq hd hp hinv.ring with e | ⟨g1, g2, e⟩ | e
  · exact Or.inl e
  · rw [e]
    exact Or.inr ⟨g1, g2, rfl, by rw [hinv.n_eq, g1, g2], by rw [hinv.paws_eq, hinv.n_eq, g1, g2]⟩
  · rw [e]
    exact Or.inr ⟨rfl, rfl, rfl, rfl, rfl⟩

theorem preInv_retune (C : CodecNew) (dec : Decoder) (seq : BitVec 32) {d p : Nat}
    (hd : 0 < d) (hp : 0 < p) (hn : d + p ≤ 256) (hinv : PreInv d p dec) :
    PreInv d p (retune C dec seq) := by
  have ht := FecDec.retune_tune C dec seq
  rcases retune_genuine C dec seq hd hp hinv with h | ⟨h1, h2, _, h4, h5⟩
  · rw [h]
    exact preInv_of_config hinv rfl rfl rfl rfl hinv.ring
  · exact
      { ring := by rw [ht]; exact hinv.ring
        n_eq := by rw [h4, h1, h2]
        d_pos := by rw [h1]; exact hd
        p_pos := by rw [h2]; exact hp
        paws_eq := by rw [h5, h4]
        n_le := by rw [h4]; exact hn }

theorem preInv_sample {d p : Nat} {dec : Decoder} {q : Bytes} (hinv : PreInv d p dec)
    (hq : GenuinePkt d p q) :
    PreInv d p { dec with tune := dec.tune.sample (flag q == typeData) (seqid q) } :=
  preInv_of_config hinv rfl rfl rfl rfl (genuineRing_sample hinv.ring _ _ (genuinePkt_sample hq))

theorem preInv_decode (C : CodecNew) (dec : Decoder) (q : Bytes) {d p : Nat}
    (hd : 0 < d) (hp : 0 < p) (hn : d + p ≤ 256) (hinv : PreInv d p dec) (hq : GenuinePkt d p q) :
    PreInv d p (dec.decode C q).st := by
  have hinv1 := preInv_sample hinv hq
  refine FecDec.decode_ind C dec q (P := fun o => PreInv d p o.st) (fun _ => hinv) (fun _ _ => hinv1)
    (fun _ _ _ => preInv_retune C _ _ hd hp hn hinv1) (fun _ _ _ => ?_)
  rw [FecDec.place_eq _ _ rfl rfl]
  split <;> exact preInv_of_config hinv rfl rfl rfl rfl hinv1.ring

theorem preInv_feedPackets (C : CodecNew) {d p : Nat} (hd : 0 < d) (hp : 0 < p) (hn : d + p ≤ 256) :
    ∀ (pkts : List Bytes) (dec : Decoder), PreInv d p dec → (∀ q ∈ pkts, GenuinePkt d p q) →
      PreInv d p (FecHist.run C dec pkts) :=
  fun pkts dec h hq => foldl_inv_mem (P := PreInv d p) pkts
    (fun a q hm ha => preInv_decode C a q hd hp hn ha (hq q hm)) dec h

theorem preInv_reachable (C : CodecNew) {d p d0 p0 : Nat} (hd : 0 < d) (hp : 0 < p)
    (hn : d + p ≤ 256) {dec0 : Decoder}
    (h0 : Decoder.new C d0 p0 = some dec0) (hist : List Bytes)
    (hh : ∀ q ∈ hist, GenuinePkt d p q) : PreInv d p (FecHist.run C dec0 hist) :=
  preInv_feedPackets C hd hp hn hist dec0 (preInv_new C d p d0 p0 h0) hh

/-- a packet that is dropped by the `paws'` test, or whose sample leaves the detector blind, keeps the ratio -/
theorem decode_blind (C : CodecNew) (dec : Decoder) (q : Bytes) (hlen : fecHeaderSize ≤ q.length)
    (h : dec.paws.toNat ≤ (seqid q).toNat ∨
      (dec.tune.sample (flag q == typeData) (seqid q)).findPeriod true = -1) :
    (dec.decode C q).st.d = dec.d ∧ (dec.decode C q).st.p = dec.p ∧ (dec.decode C q).st.n = dec.n ∧
    (dec.decode C q).st.paws = dec.paws := by
  refine FecDec.decode_ind C dec q
    (P := fun o => o.st.d = dec.d ∧ o.st.p = dec.p ∧ o.st.n = dec.n ∧ o.st.paws = dec.paws)
    (fun h1 => ?_) (fun _ _ => ⟨rfl, rfl, rfl, rfl⟩) (fun _ hp _ => ?_) (fun _ _ _ => ?_)
  · omega
  · have hfp : (dec.tune.sample (flag q == typeData) (seqid q)).findPeriod true = -1 :=
      h.resolve_left (Nat.not_le.2 hp)
    rw [((FecDec.retune_cases C _ (seqid q)).elim (·.2) fun h' => absurd h'.1
      (by dsimp only [FecDec.sampled]; rw [hfp]; omega))]
    exact ⟨rfl, rfl, rfl, rfl⟩
  · rw [FecDec.place_eq _ _ rfl rfl]
    split <;> exact ⟨rfl, rfl, rfl, rfl⟩

/-- ids up to `2^32 − 257` are never dropped by the `seqid ≥ paws'` test, whatever ratio the decoder has -/
theorem preInv_paws_ge {d p : Nat} {dec : Decoder} (hinv : PreInv d p dec) :
    2 ^ 32 - 256 ≤ dec.paws.toNat := by
  rw [hinv.paws_eq]
  exact FecDec.paws_large (by have := hinv.n_eq; have := hinv.d_pos; omega) hinv.n_le

end KcpVerif.Lemmas.C16Pre
