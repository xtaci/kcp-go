/-
GF(2^8) of `Model/GF256` (bytes, `+ = xor`, `*` = shift-and-reduce product modulo 0x11D, `⁻¹ = a^254`)
is a FIELD: the Mathlib instance `Field GF` on the type synonym `GF := UInt8`.

No pair or triple of bytes is enumerated.  The finite checks are the six 256-entry tables of
`Lemmas/GF256Tables` and four single evaluations (`2^256 = 2`, `inv 0 = 0`, `xtime 0 = 0`, `0 ≠ 1`);
the rest is algebra:

* `xtime` and the loop `mulAux` are xor-linear (the loop in each argument), because what one bit of a
  byte selects is xor-linear in the byte (`sel_xor`: the top bit for the reduction, the low bit for the
  accumulator); `(2a)·b = 2(a·b)` by the same induction over the 8 steps;
* every byte is generated from 0 and 1 by `xtime` and `^^^` (`byte_induction`), so `a·(2b) = 2(a·b)`,
  commutativity and associativity follow by induction on one argument from linearity in it (table
  `mul 1 a = a` for the base case);
* inverses: squaring is additive, so `a ↦ a^256` is additive, and it fixes 2, hence every byte; then
  `a^255` is idempotent, and the table "the idempotents are 0 and 1" leaves `a^255 = 1` for `a ≠ 0`;
  `inv a` is `a^254`.
-/
import KcpVerif.Lemmas.GF256Tables
import Mathlib.Algebra.Field.Defs

namespace KcpVerif.Lemmas.GF256
open KcpVerif.GF256

theorem and_xor (a b c : UInt8) : (a ^^^ b) &&& c = (a &&& c) ^^^ (b &&& c) := by
  apply UInt8.toBitVec_inj.1
  ext i
  simp [Bool.and_xor_distrib_right]

theorem xor_left_comm (a b c : UInt8) : a ^^^ (b ^^^ c) = b ^^^ (a ^^^ c) := by
  rw [← UInt8.xor_assoc, UInt8.xor_comm a b, UInt8.xor_assoc]

theorem xor_xor_xor_comm (a b c d : UInt8) : (a ^^^ b) ^^^ (c ^^^ d) = (a ^^^ c) ^^^ (b ^^^ d) := by
  rw [UInt8.xor_assoc, UInt8.xor_assoc, xor_left_comm b]

theorem xtime_zero : xtime 0 = 0 := by decide

/-- the bit `m` of `a ^^^ b` is set iff it is set in exactly one of the two -/
theorem sel_xor {m : UInt8} (hm : ∀ a : UInt8, a &&& m = 0 ∨ a &&& m = m) (hm0 : (m != 0) = true)
    (a b c : UInt8) :
    (if (a ^^^ b) &&& m != 0 then c else 0)
      = (if a &&& m != 0 then c else 0) ^^^ (if b &&& m != 0 then c else 0) := by
  have h00 : ((0 : UInt8) != 0) = false := rfl
  rw [and_xor]
  rcases hm a with ha | ha <;> rcases hm b with hb | hb <;> rw [ha, hb]
  · rw [UInt8.xor_zero, h00]; exact (UInt8.xor_zero).symm
  · rw [UInt8.zero_xor, h00, hm0]; exact (UInt8.zero_xor).symm
  · rw [UInt8.xor_zero, h00, hm0]; exact (UInt8.xor_zero).symm
  · rw [UInt8.xor_self, h00, hm0]; exact (UInt8.xor_self).symm

theorem xtime_eq_shl (a : UInt8) :
    xtime a = (a <<< 1) ^^^ (if a &&& 0x80 != 0 then 0x1D else 0) := by
  unfold xtime
  by_cases h : (a &&& 0x80 != 0) = true
  · rw [if_pos h, if_pos h]
  · rw [if_neg h, if_neg h, UInt8.xor_zero]

theorem xtime_xor (a b : UInt8) : xtime (a ^^^ b) = xtime a ^^^ xtime b := by
  rw [xtime_eq_shl, xtime_eq_shl, xtime_eq_shl, sel_xor hi_cases (by decide), UInt8.shiftLeft_xor]
  exact xor_xor_xor_comm _ _ _ _

theorem mulAux_xor_left (k : Nat) (a a' b acc acc' : UInt8) :
    mulAux k (a ^^^ a') b (acc ^^^ acc') = mulAux k a b acc ^^^ mulAux k a' b acc' := by
  induction k generalizing a a' b acc acc' with
  | zero => rfl
  | succ k ih =>
    simp only [mulAux]
    rw [xtime_xor]
    by_cases hb : (b &&& 1 != 0) = true
    · simp only [hb, ↓reduceIte]
      rw [← ih, xor_xor_xor_comm]
    · simp only [hb]
      rw [← ih]; rfl

theorem acc_sel (a b acc : UInt8) :
    (if b &&& 1 != 0 then acc ^^^ a else acc) = acc ^^^ (if b &&& 1 != 0 then a else 0) := by
  by_cases h : (b &&& 1 != 0) = true
  · rw [if_pos h, if_pos h]
  · rw [if_neg h, if_neg h, UInt8.xor_zero]

theorem mulAux_xor_right (k : Nat) (a b b' acc acc' : UInt8) :
    mulAux k a (b ^^^ b') (acc ^^^ acc') = mulAux k a b acc ^^^ mulAux k a b' acc' := by
  induction k generalizing a b b' acc acc' with
  | zero => rfl
  | succ k ih =>
    simp only [mulAux]
    rw [acc_sel, acc_sel, acc_sel, sel_xor lo_cases (by decide), UInt8.shiftRight_xor, ← ih,
      xor_xor_xor_comm]

theorem xtime_mulAux (k : Nat) (a b acc : UInt8) :
    xtime (mulAux k a b acc) = mulAux k (xtime a) b (xtime acc) := by
  induction k generalizing a b acc with
  | zero => rfl
  | succ k ih =>
    simp only [mulAux]
    rw [ih]
    by_cases hb : (b &&& 1 != 0) = true
    · simp only [hb, ↓reduceIte, xtime_xor]
    · simp only [hb]; rfl

theorem mulAux_zero_right (k : Nat) (a acc : UInt8) : mulAux k a 0 acc = acc := by
  induction k generalizing a acc with
  | zero => rfl
  | succ k ih => simp only [mulAux]; exact ih _ _

theorem mulAux_zero_left (k : Nat) (b acc : UInt8) : mulAux k 0 b acc = acc := by
  induction k generalizing b acc with
  | zero => rfl
  | succ k ih =>
    simp only [mulAux, xtime_zero, UInt8.xor_zero, ite_self]; exact ih _ _

theorem mul_zero (a : UInt8) : mul a 0 = 0 := mulAux_zero_right 8 a 0

/-- the first step of the loop adds `a`, after it no bit of `1` is left -/
theorem mul_one_tab (a : UInt8) : mul a 1 = a := by
  show mulAux 7 (xtime a) 0 (0 ^^^ a) = a
  rw [mulAux_zero_right, UInt8.zero_xor]

theorem zero_mul (b : UInt8) : mul 0 b = 0 := mulAux_zero_left 8 b 0

theorem mul_xor_left (a a' b : UInt8) : mul (a ^^^ a') b = mul a b ^^^ mul a' b := by
  have := mulAux_xor_left 8 a a' b 0 0
  rwa [UInt8.xor_zero] at this

theorem mul_xor_right (a b b' : UInt8) : mul a (b ^^^ b') = mul a b ^^^ mul a b' := by
  have := mulAux_xor_right 8 a b b' 0 0
  rwa [UInt8.xor_zero] at this

theorem mul_xtime_left (a b : UInt8) : mul (xtime a) b = xtime (mul a b) := by
  have := xtime_mulAux 8 a b 0
  rw [xtime_zero] at this
  exact this.symm

theorem byte_induction {P : UInt8 → Prop} (h0 : P 0) (h1 : P 1) (hx : ∀ a, P a → P (xtime a))
    (hadd : ∀ a b, P a → P b → P (a ^^^ b)) (a : UInt8) : P a := by
  have key : ∀ n (a : UInt8), a.toNat = n → P a := by
    intro n
    induction n using Nat.strong_induction_on with
    | _ n ih =>
      intro a han
      rcases shr_lt a with rfl | hlt
      · exact h0
      · rw [horner a]
        apply hadd
        · exact hx _ (ih _ (han ▸ hlt) _ rfl)
        · rcases lo_cases a with h | h <;> rw [h]
          · exact h0
          · exact h1
  exact key _ a rfl

theorem mul_xtime_right (a b : UInt8) : mul a (xtime b) = xtime (mul a b) := by
  revert b
  refine byte_induction (P := fun a => ∀ b, mul a (xtime b) = xtime (mul a b)) ?_ ?_ ?_ ?_ a
  · intro b; rw [zero_mul, zero_mul, xtime_zero]
  · intro b; rw [one_mul_tab, one_mul_tab]
  · intro a ih b; rw [mul_xtime_left, ih, mul_xtime_left]
  · intro a a' ih ih' b; rw [mul_xor_left, mul_xor_left, ih, ih', xtime_xor]

theorem mul_comm (a b : UInt8) : mul a b = mul b a := by
  revert a
  refine byte_induction (P := fun b => ∀ a, mul a b = mul b a) ?_ ?_ ?_ ?_ b
  · intro a; rw [mul_zero, zero_mul]
  · intro a; rw [mul_one_tab, one_mul_tab]
  · intro b ih a; rw [mul_xtime_right, mul_xtime_left, ih]
  · intro b b' ih ih' a; rw [mul_xor_right, mul_xor_left, ih, ih']

theorem mul_assoc (a b c : UInt8) : mul (mul a b) c = mul a (mul b c) := by
  revert a b
  refine byte_induction (P := fun c => ∀ a b, mul (mul a b) c = mul a (mul b c)) ?_ ?_ ?_ ?_ c
  · intro a b; rw [mul_zero, mul_zero, mul_zero]
  · intro a b; rw [mul_one_tab, mul_one_tab]
  · intro c ih a b; rw [mul_xtime_right, ih, mul_xtime_right, mul_xtime_right]
  · intro c c' ih ih' a b; rw [mul_xor_right, mul_xor_right, mul_xor_right, ih, ih']

/-- GF(2^8): the bytes with `+ = xor` and `* = Model.GF256.mul` (reducing polynomial 0x11D).
    A type synonym of `UInt8` (not reducible, so the machine arithmetic of `UInt8` does not leak):
    `List GF` and `List UInt8` are the same type up to unfolding, which keeps the bridge to the
    list-based model `Model/RS` free of conversions. -/
def GF : Type := UInt8

namespace GF

@[reducible] def of (a : UInt8) : GF := a
@[reducible] def val (a : GF) : UInt8 := a

instance : DecidableEq GF := inferInstanceAs (DecidableEq UInt8)
instance : Inhabited GF := ⟨of 0⟩

instance : Zero GF := ⟨of 0⟩
instance : One GF := ⟨of 1⟩
instance : Add GF := ⟨fun a b => of (add (val a) (val b))⟩
instance : Neg GF := ⟨fun a => a⟩
instance : Mul GF := ⟨fun a b => of (mul (val a) (val b))⟩
instance : Inv GF := ⟨fun a => of (inv (val a))⟩

instance instAddCommGroup : AddCommGroup GF where
  add_assoc := UInt8.xor_assoc
  zero_add _ := UInt8.zero_xor
  add_zero _ := UInt8.xor_zero
  add_comm := UInt8.xor_comm
  neg_add_cancel _ := UInt8.xor_self
  nsmul := nsmulRec
  zsmul := zsmulRec

instance instCommRing : CommRing GF where
  mul_assoc := GF256.mul_assoc
  one_mul := one_mul_tab
  mul_one := mul_one_tab
  left_distrib := mul_xor_right
  right_distrib := mul_xor_left
  mul_comm := GF256.mul_comm
  zero_mul := GF256.zero_mul
  mul_zero := GF256.mul_zero

theorem inv_def (a : GF) : a⁻¹ = of (inv (val a)) := rfl
theorem inv_zero_aux : (of 0)⁻¹ = of 0 := by rw [inv_def]; exact inv_zero_tab

theorem add_self (a : GF) : a + a = 0 := UInt8.xor_self

theorem pow_def (a : GF) (n : Nat) : a ^ n = of (pow (val a) n) := by
  induction n with
  | zero => rfl
  | succ n ih => rw [pow_succ, ih, _root_.mul_comm]; rfl

theorem add_mul_self (a b : GF) : (a + b) * (a + b) = a * a + b * b := by
  rw [add_mul, mul_add, mul_add, _root_.mul_comm b a, add_assoc, ← add_assoc (a * b), add_self,
    zero_add]

theorem mul_pow (a b : GF) (n : Nat) : (a * b) ^ n = a ^ n * b ^ n := by
  induction n with
  | zero => rw [pow_zero, pow_zero, pow_zero, mul_one]
  | succ n ih =>
    rw [pow_succ, pow_succ, pow_succ, ih, _root_.mul_assoc, _root_.mul_assoc, ← _root_.mul_assoc (b ^ n),
      _root_.mul_comm (b ^ n) a, _root_.mul_assoc]

theorem add_pow_two_pow (a b : GF) (n : Nat) : (a + b) ^ 2 ^ n = a ^ 2 ^ n + b ^ 2 ^ n := by
  induction n with
  | zero => rw [Nat.pow_zero, pow_one, pow_one, pow_one]
  | succ n ih =>
    rw [Nat.pow_succ, pow_mul, pow_mul, pow_mul, ih, pow_two, pow_two, pow_two, add_mul_self]

theorem two_pow_256 : of 2 ^ 256 = of 2 := by
  rw [show 256 = 16 * 16 from rfl, pow_mul, pow_def, pow_def]
  decide +kernel

theorem xtime_eq (a : UInt8) : of (xtime a) = of 2 * of a := by
  have := mul_xtime_left 1 a
  rw [one_mul_tab] at this
  exact this.symm

theorem pow_256 (a : GF) : a ^ 256 = a := by
  refine byte_induction (P := fun a => of a ^ 256 = of a) ?_ ?_ ?_ ?_ a
  · exact (pow_succ (of 0) 255).trans (MulZeroClass.mul_zero _)
  · exact one_pow 256
  · intro a ih
    rw [xtime_eq, mul_pow, ih, two_pow_256]
  · intro a b iha ihb
    have := add_pow_two_pow (of a) (of b) 8
    rwa [show 2 ^ 8 = 256 from rfl, iha, ihb] at this

theorem pow_255 {a : GF} (h : a ≠ 0) : a ^ 255 = 1 := by
  have hmul : a ^ 255 * a = a := (pow_succ a 255).symm.trans (pow_256 a)
  have hidem : a ^ 255 * a ^ 255 = a ^ 255 :=
    calc a ^ 255 * a ^ 255 = a ^ 255 * (a ^ 254 * a) := by rw [← pow_succ]
      _ = a ^ 254 * (a ^ 255 * a) := by
        rw [← _root_.mul_assoc, _root_.mul_comm (a ^ 255), _root_.mul_assoc]
      _ = a ^ 255 := by rw [hmul, ← pow_succ]
  rcases idem_tab (a ^ 255) hidem with h0 | h1
  · refine absurd ?_ h
    rw [← hmul, show a ^ 255 = 0 from h0, MulZeroClass.zero_mul]
  · exact h1

end GF

/-- `GF.pow_def` between bytes.  Stated apart because the kernel, asked to identify
    `of (pow (val a) (n + 1))` with `mul a (pow a n)`, unfolds `mul` before `of`. -/
theorem pow_eq (a : UInt8) (n : Nat) : @Eq UInt8 (GF.of a ^ n) (pow a n) := GF.pow_def a n

theorem pow_add (a : UInt8) (m n : Nat) : mul (pow a m) (pow a n) = pow a (m + n) := by
  rw [← pow_eq, ← pow_eq, ← pow_eq]
  exact (_root_.pow_add (GF.of a) m n).symm

theorem inv_eq_pow (a : UInt8) : inv a = pow a 254 := by
  have h2 : mul a a = pow a 2 := by
    show _ = mul a (mul a 1)
    rw [mul_one_tab]
  simp only [inv, h2, pow_add, Nat.reduceAdd]

theorem mul_inv_tab (a : UInt8) : a ≠ 0 → mul a (inv a) = 1 := by
  intro h
  rw [inv_eq_pow]
  exact (pow_eq a (254 + 1)).symm.trans (GF.pow_255 h)

namespace GF

instance instField : Field GF where
  exists_pair_ne := ⟨of 0, of 1, by decide⟩
  mul_inv_cancel := fun a h => show mul a (inv a) = (1 : UInt8) from mul_inv_tab a h
  inv_zero := inv_zero_aux
  nnqsmul := _
  qsmul := _

theorem add_def (a b : GF) : a + b = of (val a ^^^ val b) := rfl
theorem mul_def (a b : GF) : a * b = of (mul (val a) (val b)) := rfl
theorem zero_def : (0 : GF) = of 0 := rfl
theorem one_def : (1 : GF) = of 1 := rfl
theorem neg_def (a : GF) : -a = a := rfl

theorem sub_def (a b : GF) : a - b = a + b := by rw [sub_eq_add_neg, neg_def]

theorem node_injective {n : Nat} (hn : n ≤ 256) :
    Function.Injective (fun i : Fin n => of (UInt8.ofNat i.val)) := by
  intro i j h
  exact Fin.ext (ofNat_inj_tab (by omega) (by omega) h)

end GF

end KcpVerif.Lemmas.GF256
