/-
Semantics of the list-based rows and matrices of `Model/RS` over the field `GF` of
`Lemmas/GF256Field`: entries (`ent`), `scaleRow`, `addRow`, `elim`, `combine` as linear
operations, and the Mathlib matrix `toM r c m` of a list matrix with what carries list operations
over to it: `toM_map_combine` (product), `toM_take`, `toM_select` (row selections), `toM_inj`.
-/
import KcpVerif.Model.RS
import KcpVerif.Lemmas.GF256Field
import KcpVerif.Lemmas.Fold
import Mathlib.LinearAlgebra.Matrix.NonsingularInverse

namespace KcpVerif.Lemmas.RSRows
open KcpVerif.RS
open KcpVerif.Lemmas.GF256 (GF)

def ent (r : List UInt8) (j : Nat) : GF := GF.of (r.getD j 0)

theorem ent_of_le {r : List UInt8} {j : Nat} (h : r.length ≤ j) : ent r j = 0 := by
  unfold ent; rw [List.getD_eq_getElem?_getD, List.getElem?_eq_none h]; rfl

theorem ent_nil (j : Nat) : ent [] j = 0 := rfl

@[simp] theorem ent_cons_zero (a : UInt8) (r : List UInt8) : ent (a :: r) 0 = GF.of a := rfl
@[simp] theorem ent_cons_succ (a : UInt8) (r : List UInt8) (j : Nat) : ent (a :: r) (j + 1) = ent r j := rfl

theorem ext_ent {r s : List UInt8} (hl : r.length = s.length) (h : ∀ j < r.length, ent r j = ent s j) :
    r = s := by
  apply List.ext_getElem hl
  intro j h1 h2
  have := h j h1
  unfold ent at this
  rw [List.getD_eq_getElem?_getD, List.getD_eq_getElem?_getD, List.getElem?_eq_getElem h1,
    List.getElem?_eq_getElem h2] at this
  exact this

theorem ent_append_left {a b : Row} {j : Nat} (h : j < a.length) : ent (a ++ b) j = ent a j := by
  unfold ent
  rw [List.getD_eq_getElem?_getD, List.getD_eq_getElem?_getD, List.getElem?_append_left h]

theorem ent_append_right (a b : Row) (k : Nat) : ent (a ++ b) (a.length + k) = ent b k := by
  unfold ent
  rw [List.getD_eq_getElem?_getD, List.getD_eq_getElem?_getD,
    List.getElem?_append_right (Nat.le_add_right _ _), Nat.add_sub_cancel_left]

theorem ent_drop (n : Nat) (r : Row) (k : Nat) : ent (r.drop n) k = ent r (n + k) := by
  unfold ent
  rw [List.getD_eq_getElem?_getD, List.getD_eq_getElem?_getD, List.getElem?_drop]

@[simp] theorem length_scaleRow (a : UInt8) (r : Row) : (scaleRow a r).length = r.length := by
  simp [scaleRow]

theorem length_addRow (r s : Row) : (addRow r s).length = min r.length s.length := by
  simp [addRow]

theorem length_addRow_eq {r s : Row} (h : r.length = s.length) : (addRow r s).length = r.length := by
  rw [length_addRow, h, Nat.min_self]

theorem ent_scaleRow (a : UInt8) (r : Row) (j : Nat) : ent (scaleRow a r) j = GF.of a * ent r j := by
  unfold ent scaleRow
  rw [List.getD_eq_getElem?_getD, List.getD_eq_getElem?_getD, List.getElem?_map]
  cases r[j]? with
  | none => exact (KcpVerif.Lemmas.GF256.mul_zero a).symm
  | some x => rfl

theorem ent_addRow {r s : Row} (h : r.length = s.length) (j : Nat) :
    ent (addRow r s) j = ent r j + ent s j := by
  unfold ent addRow
  rw [List.getD_eq_getElem?_getD, List.getD_eq_getElem?_getD, List.getD_eq_getElem?_getD,
    List.getElem?_zipWith]
  by_cases hj : j < r.length
  · rw [List.getElem?_eq_getElem hj, List.getElem?_eq_getElem (h ▸ hj)]; rfl
  · rw [List.getElem?_eq_none (by omega), List.getElem?_eq_none (by omega)]; rfl

theorem length_elim {c : Nat} {piv r : Row} (h : r.length = piv.length) :
    (elim c piv r).length = r.length := by
  unfold elim
  split
  · rfl
  · rw [length_addRow_eq (by rw [length_scaleRow]; exact h)]

/-- `elim` subtracts (= adds, characteristic 2) the multiple of the pivot row that clears column `c` -/
theorem ent_elim {c : Nat} {piv r : Row} (h : r.length = piv.length) (j : Nat) :
    ent (elim c piv r) j = ent r j + ent r c * ent piv j := by
  unfold elim
  split
  · rename_i h0
    have : ent r c = 0 := by
      unfold ent; rw [beq_iff_eq] at h0; rw [h0]; rfl
    rw [this, zero_mul, add_zero]
  · rw [ent_addRow (by rw [length_scaleRow]; exact h), ent_scaleRow]; rfl

theorem length_combine (len : Nat) (a : Row) (ss : List Shard) (h : ∀ s ∈ ss, s.length = len) :
    (combine len a ss).length = len := by
  induction a generalizing ss with
  | nil => simp [combine]
  | cons x a ih =>
    cases ss with
    | nil => simp [combine]
    | cons s ss =>
      have hs : s.length = len := h s (by simp)
      have hss : ∀ t ∈ ss, t.length = len := fun t ht => h t (by simp [ht])
      simp only [combine]
      split
      · exact ih ss hss
      · rw [length_addRow_eq (by rw [length_scaleRow, ih ss hss, hs]), length_scaleRow, hs]

theorem ent_combine (len : Nat) (a : Row) (ss : List Shard) (h : ∀ s ∈ ss, s.length = len)
    (l : Nat) :
    ent (combine len a ss) l
      = ∑ j ∈ Finset.range (min a.length ss.length), ent a j * ent (ss.getD j []) l := by
  induction a generalizing ss with
  | nil =>
    simp only [combine, List.length_nil, Nat.zero_min, Finset.range_zero, Finset.sum_empty]
    unfold ent; rw [List.getD_eq_getElem?_getD, List.getElem?_replicate]; split <;> rfl
  | cons x a ih =>
    cases ss with
    | nil =>
      simp only [combine, List.length_nil, Nat.min_zero, Finset.range_zero, Finset.sum_empty]
      unfold ent; rw [List.getD_eq_getElem?_getD, List.getElem?_replicate]; split <;> rfl
    | cons s ss =>
      have hs : s.length = len := h s (by simp)
      have hss : ∀ t ∈ ss, t.length = len := fun t ht => h t (by simp [ht])
      have hmin : min (x :: a).length (s :: ss).length = min a.length ss.length + 1 := by
        simp only [List.length_cons]; omega
      rw [hmin, Finset.sum_range_succ']
      simp only [ent_cons_succ, ent_cons_zero, List.getD_cons_succ, List.getD_cons_zero]
      simp only [combine]
      split
      · rename_i h0
        rw [beq_iff_eq] at h0
        rw [ih ss hss, h0]
        have : GF.of 0 = 0 := rfl
        rw [this, zero_mul, add_zero]
      · rw [ent_addRow (by rw [length_scaleRow, length_combine len a ss hss, hs]), ent_scaleRow,
          ih ss hss, add_comm]

def toM (r c : Nat) (m : Matrix) : _root_.Matrix (Fin r) (Fin c) GF :=
  fun i j => ent (m.getD i.val []) j.val

def Shaped (r c : Nat) (m : Matrix) : Prop := m.length = r ∧ ∀ row ∈ m, row.length = c

theorem getD_mem_of_lt {m : Matrix} {i : Nat} (h : i < m.length) : m.getD i [] ∈ m := by
  rw [List.getD_eq_getElem?_getD, List.getElem?_eq_getElem h]; exact List.getElem_mem _

theorem Shaped.length_getD {r c : Nat} {m : Matrix} (h : Shaped r c m) {i : Nat} (hi : i < r) :
    (m.getD i []).length = c :=
  h.2 _ (getD_mem_of_lt (h.1 ▸ hi))

abbrev LM := KcpVerif.RS.Matrix

theorem toM_map_combine {r c L : Nat} {A B : LM} (hA : Shaped r c A) (hB : Shaped c L B) :
    toM r L (A.map fun row => combine L row B) = toM r c A * toM c L B := by
  ext i l
  rw [Matrix.mul_apply]
  unfold toM
  have hi : i.val < A.length := by rw [hA.1]; exact i.isLt
  rw [getD_map_lt _ A hi [] [], ent_combine L _ B hB.2, hA.length_getD i.isLt, hB.1, Nat.min_self]
  exact (Fin.sum_univ_eq_sum_range (fun j => ent (A.getD i.val []) j * ent (B.getD j []) l.val) c).symm

theorem shaped_map_combine {r L : Nat} {A B : LM} (hA : A.length = r) (hB : ∀ s ∈ B, s.length = L) :
    Shaped r L (A.map fun row => combine L row B) :=
  ⟨by rw [List.length_map, hA], fun s hs => by
    obtain ⟨row, _, rfl⟩ := List.mem_map.1 hs
    exact length_combine L row B hB⟩

theorem toM_inj {r c : Nat} {A B : LM} (hA : Shaped r c A) (hB : Shaped r c B)
    (h : toM r c A = toM r c B) : A = B := by
  apply List.ext_getElem (hA.1.trans hB.1.symm)
  intro i h1 h2
  have hlA := hA.2 _ (List.getElem_mem h1)
  apply ext_ent (hlA.trans (hB.2 _ (List.getElem_mem h2)).symm)
  intro j hj
  have := congrFun (congrFun h ⟨i, hA.1 ▸ h1⟩) ⟨j, hlA ▸ hj⟩
  unfold toM at this
  rwa [List.getD_eq_getElem?_getD, List.getD_eq_getElem?_getD, List.getElem?_eq_getElem h1,
    List.getElem?_eq_getElem h2] at this

theorem shaped_take {r c k : Nat} {A : LM} (hA : Shaped r c A) (hk : k ≤ r) : Shaped k c (A.take k) :=
  ⟨by rw [List.length_take, hA.1]; omega, fun row h => hA.2 row (List.mem_of_mem_take h)⟩

theorem toM_take {r c k : Nat} (A : LM) (hk : k ≤ r) :
    toM k c (A.take k) = (toM r c A).submatrix (Fin.castLE hk) id := by
  ext i j
  rw [Matrix.submatrix_apply]
  show ent ((A.take k).getD i.val []) j.val = ent (A.getD i.val []) j.val
  rw [List.getD_eq_getElem?_getD, List.getD_eq_getElem?_getD, List.getElem?_take_of_lt i.isLt]

def sel {r d : Nat} (idx : List Nat) (hlen : idx.length = d)
    (hlt : ∀ j (hj : j < idx.length), idx[j] < r) : Fin d → Fin r :=
  fun j => ⟨idx[j.val]'(by rw [hlen]; exact j.isLt), hlt j.val (by rw [hlen]; exact j.isLt)⟩

theorem shaped_select {r c d : Nat} {A : LM} (hA : Shaped r c A) {idx : List Nat}
    (hlen : idx.length = d) (hlt : ∀ i ∈ idx, i < r) :
    Shaped d c (idx.map fun i => A.getD i []) :=
  ⟨by rw [List.length_map, hlen], fun row hrow => by
    obtain ⟨i, hi, rfl⟩ := List.mem_map.1 hrow
    exact hA.length_getD (hlt i hi)⟩

theorem toM_select {r c d : Nat} (A : LM) (idx : List Nat) (hlen : idx.length = d)
    (hlt : ∀ j (hj : j < idx.length), idx[j] < r) :
    toM d c (idx.map fun i => A.getD i []) = (toM r c A).submatrix (sel idx hlen hlt) id := by
  ext j k
  rw [Matrix.submatrix_apply]
  have hj : j.val < idx.length := by rw [hlen]; exact j.isLt
  show ent ((idx.map fun i => A.getD i []).getD j.val []) k.val = ent (A.getD idx[j.val] []) k.val
  have : idx.getD j.val 0 = idx[j.val] := by
    rw [List.getD_eq_getElem?_getD, List.getElem?_eq_getElem hj]; rfl
  rw [getD_map_lt _ idx hj 0 [], this]

theorem select_injective {r d : Nat} (idx : List Nat) (hlen : idx.length = d)
    (hlt : ∀ j (hj : j < idx.length), idx[j] < r) (hpw : idx.Pairwise (· < ·)) :
    Function.Injective (sel idx hlen hlt) := by
  intro a b hab
  exact Fin.ext ((List.getElem_inj (hpw.imp Nat.ne_of_lt)).1 (Fin.mk.inj hab))

end KcpVerif.Lemmas.RSRows
