/-
C12 — shift simulation, acknowledgement path.
-/
import KcpVerif.Lemmas.KcpShiftBasic

namespace KcpVerif.Shift
open KcpVerif.Kcp

theorem unaCount_shift {σ : Sigma} {l l' : List Seg} (h : All₂ (SndRel σ) l l') (una : U32) :
    unaCount (una + σ.a) l' = unaCount una l := by
  induction h with
  | nil => rfl
  | cons hr _ ih => simp only [unaCount, hr.sn, itd_shift, ih]

theorem parseUna_sim {σ : Sigma} {k k' : Kcp} (h : Sim σ k k') (una : U32) :
    Sim σ (parseUna k una).1 (parseUna k' (una + σ.a)).1 ∧
      (parseUna k' (una + σ.a)).2 = (parseUna k una).2 := by
  have e := unaCount_shift h.snd_buf una
  refine ⟨?_, e⟩
  have hd : All₂ (SndRel σ) (k.snd_buf.drop (unaCount una k.snd_buf))
      (k'.snd_buf.drop (unaCount (una + σ.a) k'.snd_buf)) := by
    rw [e]; exact All₂.drop h.snd_buf _
  exact { h with snd_buf := hd }

theorem dropAcked_shift {σ : Sigma} {l l' : List Seg} (h : All₂ (SndRel σ) l l') :
    All₂ (SndRel σ) (dropAcked l) (dropAcked l') := by
  induction h with
  | nil => exact All₂.nil
  | cons hr ht ih =>
    simp only [dropAcked]
    exact ite_rel (by rw [hr.acked]) (fun _ => ih) (fun _ => All₂.cons hr ht)

/-- `shrink_buf` (pop the acknowledged heads, then `snd_una := head.sn` or `snd_nxt`) commutes with the shift -/
theorem shrinkBuf_shift {σ : Sigma} {k k' : Kcp} (h : Sim σ k k') : Sim σ (shrinkBuf k) (shrinkBuf k') := by
  have hd := dropAcked_shift h.snd_buf
  unfold shrinkBuf
  generalize dropAcked k.snd_buf = l at hd ⊢
  generalize dropAcked k'.snd_buf = l' at hd ⊢
  cases hd with
  | nil => exact { h with snd_buf := All₂.nil, snd_una := h.snd_nxt }
  | cons hr ht => exact { h with snd_buf := All₂.cons hr ht, snd_una := hr.sn }

theorem ackLoop_shift {σ : Sigma} {l l' : List Seg} (h : All₂ (SndRel σ) l l') (sn : U32) :
    All₂ (SndRel σ) (ackLoop sn l) (ackLoop (sn + σ.a) l') := by
  induction h with
  | nil => exact All₂.nil
  | cons hr ht ih =>
    simp only [ackLoop]
    refine ite_rel (by rw [hr.sn, eq_shift])
      (fun _ => All₂.cons { hr with acked := rfl, data := rfl } ht) (fun _ => ?_)
    exact ite_rel (by rw [hr.sn, itd_shift]) (fun _ => All₂.cons hr ht) (fun _ => All₂.cons hr ih)

theorem inRange_shift {σ : Sigma} {k k' : Kcp} (h : Sim σ k k') (sn : U32) :
    (itimediff (sn + σ.a) k'.snd_una < 0 ∨ itimediff (sn + σ.a) k'.snd_nxt ≥ 0) ↔
      (itimediff sn k.snd_una < 0 ∨ itimediff sn k.snd_nxt ≥ 0) := by
  rw [h.snd_una, h.snd_nxt, itd_shift, itd_shift]

theorem parseAck_sim {σ : Sigma} {k k' : Kcp} (h : Sim σ k k') (sn : U32) :
    Sim σ (parseAck k sn) (parseAck k' (sn + σ.a)) := by
  unfold parseAck
  exact ite_rel (inRange_shift h sn) (fun _ => h) (fun _ => { h with snd_buf := ackLoop_shift h.snd_buf sn })

theorem fastLoop_shift {σ : Sigma} {l l' : List Seg} (h : All₂ (SndRel σ) l l') (sn ts fr fr' : U32)
    (hfr : fr' = fr) :
    All₂ (SndRel σ) (fastLoop sn ts fr l).buf (fastLoop (sn + σ.a) (ts + σ.t) fr' l').buf ∧
      (fastLoop (sn + σ.a) (ts + σ.t) fr' l').fire = (fastLoop sn ts fr l).fire := by
  subst hfr
  induction h with
  | nil => exact ⟨All₂.nil, rfl⟩
  | @cons s s' t t' hr ht ih =>
    have e2 : (sn + σ.a ≠ s'.sn ∧ itimediff s'.ts (ts + σ.t) ≤ 0 ∧ s'.fastack ≠ 0xFFFFFFFF#32) ↔
        (sn ≠ s.sn ∧ itimediff s.ts ts ≤ 0 ∧ s.fastack ≠ 0xFFFFFFFF#32) := by
      have ea : (sn + σ.a = s'.sn) ↔ (sn = s.sn) := by rw [hr.sn, eq_shift]
      rw [hr.ts, itd_shift, hr.fastack, Ne, Ne, ea]
    let R (r r' : FastRes) : Prop := All₂ (SndRel σ) r.buf r'.buf ∧ r'.fire = r.fire
    simp only [fastLoop]
    refine ite_rel (R := R) (by rw [hr.sn, itd_shift]) (fun _ => ⟨All₂.cons hr ht, rfl⟩) (fun _ => ?_)
    refine ite_rel (R := R) e2
      (fun _ => ⟨All₂.cons { hr with fastack := congrArg (· + 1) hr.fastack } ih.1, ?_⟩)
      (fun _ => ⟨All₂.cons hr ih.1, ih.2⟩)
    simp only [hr.fastack, ih.2]

theorem parseFastack_sim {σ : Sigma} {k k' : Kcp} (h : Sim σ k k') (sn ts : U32) :
    Sim σ (parseFastack k sn ts).1 (parseFastack k' (sn + σ.a) (ts + σ.t)).1 ∧
      (parseFastack k' (sn + σ.a) (ts + σ.t)).2 = (parseFastack k sn ts).2 := by
  have hf := fastLoop_shift h.snd_buf sn ts k.fastresend k'.fastresend h.fastresend
  unfold parseFastack
  exact ite_rel (R := fun r r' : Kcp × Bool => Sim σ r.1 r'.1 ∧ r'.2 = r.2) (inRange_shift h sn)
    (fun _ => ⟨h, rfl⟩) (fun _ => ⟨{ h with snd_buf := hf.1 }, hf.2⟩)

/-- with the projections pushed through its `if`s, what `update_ack` writes is the same term on both sides -/
theorem updateAck_congr (k k' : Kcp) (h1 : k'.rx_srtt = k.rx_srtt) (h2 : k'.rx_rttvar = k.rx_rttvar)
    (h3 : k'.interval = k.interval) (h4 : k'.rx_minrto = k.rx_minrto) (rtt : U32) :
    (updateAck k' rtt).rx_srtt = (updateAck k rtt).rx_srtt ∧
      (updateAck k' rtt).rx_rttvar = (updateAck k rtt).rx_rttvar ∧
      (updateAck k' rtt).rx_rto = (updateAck k rtt).rx_rto := by
  unfold updateAck smoothRtt
  simp only [h1, h2, h3, h4, apply_ite Kcp.rx_srtt, apply_ite Kcp.rx_rttvar, apply_ite Kcp.interval,
    apply_ite Kcp.rx_minrto, and_self]

theorem updateAck_sim {σ : Sigma} {k k' : Kcp} (h : Sim σ k k') (rtt : U32) :
    Sim σ (updateAck k rtt) (updateAck k' rtt) := by
  obtain ⟨e1, e2, e3⟩ := updateAck_congr k k' h.rx_srtt h.rx_rttvar h.interval h.rx_minrto rtt
  obtain ⟨a, b, c, e⟩ := updateAck_shape k rtt
  obtain ⟨a', b', c', e'⟩ := updateAck_shape k' rtt
  rw [e, e'] at e1 e2 e3
  rw [e, e']
  exact { h with rx_srtt := e1, rx_rttvar := e2, rx_rto := e3 }

theorem cwndOnAck_congr (k k' : Kcp) (o o' : U32) (h0 : k'.nocwnd = k.nocwnd)
    (h1 : itimediff k'.snd_una o' = itimediff k.snd_una o) (h2 : k'.cwnd = k.cwnd)
    (h3 : k'.rmt_wnd = k.rmt_wnd) (h4 : k'.mss = k.mss) (h5 : k'.ssthresh = k.ssthresh)
    (h6 : k'.incr = k.incr) :
    (cwndOnAck k' o').cwnd = (cwndOnAck k o).cwnd ∧ (cwndOnAck k' o').incr = (cwndOnAck k o).incr := by
  unfold cwndOnAck
  simp only [h0, h1, h2, h3, h4, h5, h6, apply_ite Kcp.cwnd, apply_ite Kcp.incr, apply_ite Kcp.rmt_wnd,
    and_self]

theorem cwndOnAck_sim {σ : Sigma} {k k' : Kcp} (h : Sim σ k k') (o : U32) :
    Sim σ (cwndOnAck k o) (cwndOnAck k' (o + σ.a)) := by
  have h1 : itimediff k'.snd_una (o + σ.a) = itimediff k.snd_una o := by rw [h.snd_una, itd_shift]
  obtain ⟨e1, e2⟩ := cwndOnAck_congr k k' o (o + σ.a) h.nocwnd h1 h.cwnd h.rmt_wnd h.mss h.ssthresh h.incr
  obtain ⟨c, i, e⟩ := cwndOnAck_shape k o
  obtain ⟨c', i', e'⟩ := cwndOnAck_shape k' (o + σ.a)
  rw [e, e'] at e1 e2
  rw [e, e']
  exact { h with cwnd := e1, incr := e2 }

end KcpVerif.Shift
