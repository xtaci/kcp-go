/-
The cross-endpoint consistency invariant of the closed system for ARBITRARY histories (C02/C03 Tier 2),
data flowing from A to B: every datagram in flight is made of genuine frames; in offsets from the
first sequence number `rcv_nxt(B) ≤ snd_nxt(A)`, and B HAS every segment below `snd_una(A)` (`snd_una(A)` may
be ahead of `rcv_nxt(B)`: `shrink_buf` pops acknowledged heads, so A releases a segment that B holds in its
reorder buffer but has not yet delivered); A's send buffer is contiguous; a segment
flagged `acked` at A, an entry of B's ack list and an ACK frame in flight are all for segments B HAS
(delivered to its queue, or waiting in its reorder buffer) — and what B has it never loses.

The frame conditions are all of the form "for every datagram in the link", so the invariant is
preserved by a network that drops, duplicates and reorders (`shuffle`) as well as by the fair one.
-/
import KcpVerif.Lemmas.SysDrainGen
import KcpVerif.Lemmas.SysCleanStep

namespace KcpVerif.SysC
open KcpVerif.Gen KcpVerif.Kcp KcpVerif.Live KcpVerif.Wire KcpVerif.SysW KcpVerif.Sys

-- the unifier otherwise unfolds the whole of `flush` / `input` when it compares two states
attribute [local irreducible] Kcp.flush Kcp.input

def AckGen (base : U32) (nxt : U32) (buf : List Seg) (fr : Frm) : Prop :=
  (fr.cmd.toNat = IKCP_CMD_ACK ∨ fr.cmd.toNat = IKCP_CMD_WASK ∨ fr.cmd.toNat = IKCP_CMD_WINS) ∧
  o base fr.una ≤ o base nxt ∧ (fr.cmd.toNat = IKCP_CMD_ACK → Has base nxt buf fr.sn)

/-- reads only `p.base` (the first sequence number of the run) and `p.conv`; the fields `M`, `I`, `W` of `Par` belong to
`Clean` and `Win`, so the start state is consistent for `⟨A.snd_nxt, A.conv, 0, 0, 0⟩` (`cons_init`) -/
structure Cons (p : Par) (s : State) (gab gba : GLink) : Prop where
  hab : s.ab = encL gab
  hba : s.ba = encL gba
  np  : s.panic = false
  aK  : Total.InvK s.A
  aconv : s.A.conv = p.conv
  aack : s.A.acklist = []
  aq  : ∀ x ∈ s.A.snd_queue, x.acked = false
  acon : Contig p.base s.A
  atag : BufTagged p.conv s.A.snd_buf
  ahas : ∀ x ∈ s.A.snd_buf, x.acked = true → Has p.base s.B.rcv_nxt s.B.rcv_buf x.sn
  arel : ∀ sn, o p.base sn < o p.base s.A.snd_una → Has p.base s.B.rcv_nxt s.B.rcv_buf sn
  bK  : Total.InvK s.B
  bconv : s.B.conv = p.conv
  bsb : s.B.snd_buf = []
  bsq : s.B.snd_queue = []
  bub : o p.base s.B.rcv_nxt ≤ o p.base s.A.snd_nxt
  bbuf : ∀ x ∈ s.B.rcv_buf, o p.base x.sn < o p.base s.A.snd_nxt
  back : ∀ a ∈ s.B.acklist, Has p.base s.B.rcv_nxt s.B.rcv_buf a.sn
  fab : ∀ d ∈ gab, ∀ fr ∈ d.2, fr.conv = p.conv ∧ DataLike fr ∧
          (fr.cmd.toNat = IKCP_CMD_PUSH → o p.base fr.sn < o p.base s.A.snd_nxt)
  fba : ∀ d ∈ gba, ∀ fr ∈ d.2, fr.conv = p.conv ∧ fr.data = [] ∧ AckGen p.base s.B.rcv_nxt s.B.rcv_buf fr

theorem Cons.validAB {p : Par} {s : State} {gab gba : GLink} (h : Cons p s gab gba) :
    ∀ d ∈ gab, ∀ fr ∈ d.2, FrValid s.B.conv fr := by
  intro d hd fr hfr
  obtain ⟨e1, e2, _⟩ := h.fab d hd fr hfr
  exact FrValid.of_data (by rw [e1, h.bconv]) e2.1 e2.2

theorem Cons.validBA {p : Par} {s : State} {gab gba : GLink} (h : Cons p s gab gba) :
    ∀ d ∈ gba, ∀ fr ∈ d.2, FrValid s.A.conv fr := by
  intro d hd fr hfr
  obtain ⟨e1, e2, e3, _⟩ := h.fba d hd fr hfr
  exact FrValid.of_ctl (by rw [e1, h.aconv]) e3 e2

theorem inFrs_invK {k : Kcp} (hK : Total.InvK k) (frs : List Frm) (hv : ∀ fr ∈ frs, FrValid k.conv fr) :
    Total.InvK (inFrs true frs { k := k }).k := by
  have := (Total.inputLoop_ok true ((encFrames frs).length / IKCP_OVERHEAD + 1) (encFrames frs) { k := k } rfl rfl).2.2
  have e := inSt_encFrames k frs true hv
  unfold inSt at e
  rw [e] at this
  exact hK.of_pres this

theorem NoWrap.nxt_lt {base : U32} {s : State} (h : NoWrap base s) : o base s.A.snd_nxt < 2 ^ 31 := by
  unfold NoWrap at h; omega

theorem Cons.recvB {p : Par} {s : State} {gab gba : GLink} (h : Cons p s gab gba) (hnw : NoWrap p.base s) (n : Nat) :
    RcvStep p.base (o p.base s.A.snd_nxt) s.B (recv s.B n).k ∧ RcvMono p.base s.B (recv s.B n).k ∧
    (SortedB p.base s.B → SortedB p.base (recv s.B n).k) :=
  recv_rcvStep p.base _ hnw.nxt_lt s.B n h.bsb h.bub h.bbuf

structure InB (p : Par) (s : State) (frs : List Frm) : Prop where
  valid : ∀ fr ∈ frs, FrValid s.B.conv fr
  step : RcvStep p.base (o p.base s.A.snd_nxt) s.B (inFrs true frs { k := s.B }).k
  panic : (inFrs true frs { k := s.B }).panic = false
  ret : (inFrs true frs { k := s.B }).ret = 0
  flushSeg : (inFrs true frs { k := s.B }).flushSeg = false
  updRtt : (inFrs true frs { k := s.B }).updRtt = false
  sorted : SortedB p.base s.B → SortedB p.base (inFrs true frs { k := s.B }).k
  mono : RcvMono p.base s.B (inFrs true frs { k := s.B }).k
  invK : Total.InvK (inFrs true frs { k := s.B }).k

theorem Cons.inB_loop {p : Par} {s : State} {t0 : Nat} {frs : List Frm} {grest gba : GLink}
    (h : Cons p s ((t0, frs) :: grest) gba) (hnw : NoWrap p.base s) : InB p s frs := by
  have hd0 : ((t0, frs) : Nat × List Frm) ∈ (t0, frs) :: grest := List.mem_cons_self ..
  have hv := h.validAB _ hd0
  obtain ⟨r1, r2, r3, r4, r5, r6, r7, _⟩ := inFrs_rcv p.base (o p.base s.A.snd_nxt) hnw.nxt_lt frs { k := s.B } h.bsb
    (fun fr hfr => ⟨(h.fab (t0, frs) hd0 fr hfr).2.1, (h.fab (t0, frs) hd0 fr hfr).2.2⟩) h.bub h.bbuf rfl
  exact ⟨hv, r1, r2, r3, r4, r5, r6, r7, inFrs_invK h.bK frs hv⟩

/-- any rearrangement of what is in flight: every datagram of the new links is one of the old ones
(so: drop, duplicate, reorder — not forge) -/
def shuffle (s : State) (ab' ba' : List Dgram) : State := { s with ab := ab', ba := ba' }

theorem encL_sub : ∀ (l : List Dgram) (g : GLink), (∀ d ∈ l, d ∈ encL g) → ∃ g', l = encL g' ∧ ∀ d ∈ g', d ∈ g := by
  intro l
  induction l with
  | nil => intro g _; exact ⟨[], rfl, fun d hd => by simp at hd⟩
  | cons d r ih =>
    intro g h
    obtain ⟨g', e, hs⟩ := ih g (fun x hx => h x (List.mem_cons_of_mem _ hx))
    have hd := h d (List.mem_cons_self ..)
    unfold encL at hd
    obtain ⟨d0, hd0, rfl⟩ := List.mem_map.mp hd
    refine ⟨d0 :: g', by rw [e]; rfl, fun x hx => ?_⟩
    rcases List.mem_cons.mp hx with rfl | hx
    · exact hd0
    · exact hs x hx

theorem cons_shuffle {p : Par} {s : State} {gab gba : GLink} (h : Cons p s gab gba) (ab' ba' : List Dgram)
    (h1 : ∀ d ∈ ab', d ∈ s.ab) (h2 : ∀ d ∈ ba', d ∈ s.ba) :
    ∃ gab' gba', Cons p (shuffle s ab' ba') gab' gba' := by
  obtain ⟨ga, ea, sa⟩ := encL_sub ab' gab (by rw [← h.hab]; exact h1)
  obtain ⟨gb, eb, sb⟩ := encL_sub ba' gba (by rw [← h.hba]; exact h2)
  exact ⟨ga, gb, { h with hab := ea, hba := eb, fab := fun d hd => h.fab d (sa d hd), fba := fun d hd => h.fba d (sb d hd) }⟩

theorem cons_rcvStep {p : Par} {s : State} {gab gba : GLink} (h : Cons p s gab gba) (k' : Kcp)
    (hs : RcvStep p.base (o p.base s.A.snd_nxt) s.B k') (hK : Total.InvK k') (gab' : GLink)
    (hsub : ∀ d ∈ gab', d ∈ gab) (ab' : List Dgram) (hab' : ab' = encL gab') :
    Cons p { s with B := k', ab := ab' } gab' gba :=
  { h with
    hab := hab'
    ahas := fun x hx ha => hs.has _ (h.ahas x hx ha)
    arel := fun sn hsn => hs.has _ (h.arel sn hsn)
    bK := hK
    bconv := hs.cv.trans h.bconv
    bsb := hs.sb
    bsq := hs.sq.trans h.bsq
    bub := hs.hi
    bbuf := hs.bnd
    back := fun a ha => by
      rcases hs.ack a ha with h1 | h1
      · exact hs.has _ (h.back a h1)
      · exact h1
    fab := fun d hd => h.fab d (hsub d hd)
    fba := fun d hd fr hfr => by
      obtain ⟨e1, e2, e3, e4, e5⟩ := h.fba d hd fr hfr
      exact ⟨e1, e2, e3, Nat.le_trans e4 hs.lo, fun hc => hs.has _ (e5 hc)⟩ }

theorem cons_flushB {p : Par} {s : State} {gab gba : GLink} (h : Cons p s gab gba) (full : Bool) (nf : Nat) :
    ∃ gba', Cons p (afterFlushB s full nf) gab gba' := by
  obtain ⟨_, pw, tp, st, ss, cw, inc, hk⟩ := flush_empty s.B full (clk s.now) h.bsb h.bsq
  obtain ⟨hpan, hK, _⟩ := Total.flush_total h.bK full (clk s.now)
  obtain ⟨gnew, hl, hfl, _⟩ := flush_links s.B full (clk s.now) hpan h.hba (s.now + s.D)
  refine ⟨gba ++ gnew, ?_⟩
  show Cons p { s with B := (s.B.flush full (clk s.now)).k, nfB := nf,
                       ba := s.ba ++ stamp (s.now + s.D) (s.B.flush full (clk s.now)).outs,
                       panic := s.panic || (s.B.flush full (clk s.now)).panic } gab _
  rw [hk] at hK ⊢
  rw [hpan, hl, h.np]
  exact
  { hab := h.hab
    hba := rfl
    np := rfl
    aK := h.aK, aconv := h.aconv, aack := h.aack, aq := h.aq, acon := h.acon, atag := h.atag, ahas := h.ahas, arel := h.arel
    bK := hK, bconv := h.bconv, bsb := rfl, bsq := rfl, bub := h.bub, bbuf := h.bbuf
    back := fun a ha => nomatch ha
    fab := h.fab
    fba := by
      intro d hd fr hfr'
      rcases List.mem_append.mp hd with hd | hd
      · exact h.fba d hd fr hfr'
      · obtain ⟨e1, e2, e3, e4, _, e6⟩ := flushFrs_idle s.B full (clk s.now) h.bsb h.bsq fr ((hfl d hd).2 fr hfr')
        exact ⟨e1.trans h.bconv, e2, e3, Nat.le_of_eq (congrArg (o p.base) e4), fun hc => h.back ⟨fr.sn, fr.ts⟩ (e6 hc)⟩ }

/-- B's `Input` by cases: the core the parse loop leaves (`cwnd`/`incr` aside), as it is or after an ACK-only flush; or the
datagram was empty -/
theorem Cons.dlvB_cases {Q : InRes → Prop} {p : Par} {s : State} {t0 : Nat} {frs : List Frm} {grest gba : GLink}
    (h : Cons p s ((t0, frs) :: grest) gba) (hnw : NoWrap p.base s)
    (hQ : ∀ K2 cw inc, K2 = { (inFrs true frs { k := s.B }).k with cwnd := cw, incr := inc } →
      RcvStep p.base (o p.base s.A.snd_nxt) s.B (inFrs true frs { k := s.B }).k →
      (inFrs true frs { k := s.B }).panic = false → Total.InvK K2 →
      K2.snd_buf = [] → K2.snd_queue = [] →
      Q ⟨K2, 0, [], false⟩ ∧
      Q ⟨(flush K2 false (clk s.now)).k, 0, (flush K2 false (clk s.now)).outs, (flush K2 false (clk s.now)).panic⟩)
    (h0 : frs = [] → Q ⟨s.B, -1, [], false⟩) :
    Q (s.B.input (encFrames frs) true s.ndB (clk s.now)) := by
  have l := h.inB_loop hnw
  obtain ⟨cw, inc, hcw⟩ := Kcp.cwndOnAck_shape (inFrs true frs { k := s.B }).k s.B.snd_una
  obtain ⟨q1, q2⟩ := hQ _ cw inc hcw l.step l.panic (l.invK.of_pres (Total.cwndOnAck_pres _ _))
    (by rw [hcw]; exact l.step.sb) (by rw [hcw]; exact l.step.sq.trans h.bsq)
  -- no ACK came in, so no RTT sample is taken
  have hs : ∀ k1, Sampled s.B frs k1 → k1 = (inFrs true frs { k := s.B }).k := fun _ hk => hk.eq_of_noRtt l.updRtt
  exact inputFrames_cases (P := Q) s.B frs s.ndB (clk s.now) l.valid l.panic l.ret h0 (fun k1 hk _ => by rw [hs k1 hk]; exact q1)
    (fun k1 _ _ c => by rw [l.flushSeg] at c; cases c) (fun k1 hk _ _ => by rw [hs k1 hk]; exact q2)

theorem cons_dlvB {p : Par} {s : State} {t0 : Nat} {frs : List Frm} {grest gba : GLink}
    (h : Cons p s ((t0, frs) :: grest) gba) (hnw : NoWrap p.base s) :
    ∃ gba', Cons p { s with B := (s.B.input (encFrames frs) true s.ndB (clk s.now)).k, ab := encL grest,
                            ba := s.ba ++ stamp (s.now + s.D) (s.B.input (encFrames frs) true s.ndB (clk s.now)).outs,
                            panic := s.panic || (s.B.input (encFrames frs) true s.ndB (clk s.now)).panic } grest gba' := by
  have keep : ∀ k', RcvStep p.base (o p.base s.A.snd_nxt) s.B k' → Total.InvK k' →
      Cons p { s with B := k', ab := encL grest } grest gba :=
    fun k' hs hK => cons_rcvStep h k' hs hK grest (fun d hd => List.mem_cons_of_mem _ hd) _ rfl
  refine h.dlvB_cases (Q := fun r => ∃ gba', Cons p { s with B := r.k, ab := encL grest,
                                                             ba := s.ba ++ stamp (s.now + s.D) r.outs,
                                                             panic := s.panic || r.panic } grest gba')
    hnw ?_ (fun _ => ?_)
  · intro K2 cw inc e r1 _ hK _ _
    have hmid := keep K2 (r1.trans (by rw [e]; exact RcvStep.of_same r1.sb rfl rfl rfl rfl rfl rfl rfl rfl r1.hi r1.bnd)) hK
    refine ⟨?_, cons_flushB hmid false s.nfB⟩
    simp only [stamp, List.map_nil, List.append_nil, Bool.or_false]
    exact ⟨gba, hmid⟩
  · simp only [stamp, List.map_nil, List.append_nil, Bool.or_false]
    exact ⟨gba, keep s.B (RcvStep.refl _ _ _ h.bsb h.bub h.bbuf) h.bK⟩

theorem cons_tick {p : Par} {s : State} {gab gba : GLink} (h : Cons p s gab gba) :
    Cons p { s with now := s.now + 1 } gab gba := { h with }

theorem cons_send {p : Par} {s : State} {gab gba : GLink} (h : Cons p s gab gba) (b : Bytes) :
    Cons p (Sys.step s (.send b)) gab gba := by
  obtain ⟨hpan, hK⟩ := Total.send_total h.aK b
  have haq := send_queue_forall (fun x => x.acked = false) s.A b h.aq (fun _ _ => rfl) (fun _ _ hs => hs)
  obtain ⟨q, hq⟩ := Kcp.send_shape s.A b
  rw [step_send, hq, h.np, hpan]
  rw [hq] at hK haq
  exact { h with np := rfl, aK := hK, aq := haq }

theorem cons_read {p : Par} {s : State} {gab gba : GLink} (h : Cons p s gab gba) (hnw : NoWrap p.base s) :
    Cons p { s with B := (s.B.recv s.B.peekSize.toNat).k, got := s.got ++ (s.B.recv s.B.peekSize.toNat).data } gab gba := by
  have hK := Total.recv_total h.bK s.B.peekSize.toNat
  exact { cons_rcvStep h _ (h.recvB hnw _).1 hK gab (fun d hd => hd) s.ab h.hab with }

theorem cons_flushA {p : Par} {s : State} {gab gba : GLink} (h : Cons p s gab gba) (hnw : NoWrap p.base s) (nf : Nat) :
    ∃ gab', Cons p (afterFlushA s nf) gab' gba := by
  obtain ⟨g1, g2, g3, g4, g5, g6, g7⟩ := flush_gen p.base s.A (clk s.now) h.aK h.aack h.acon
    (by rw [h.aconv]; exact h.atag) h.aq hnw
  obtain ⟨hpan, hK, hal⟩ := Total.flush_total h.aK true (clk s.now)
  obtain ⟨gnew, hl, hfl, _⟩ := flush_links s.A true (clk s.now) hpan h.hab (s.now + s.D)
  obtain ⟨pw, tp, st, ss, cw, inc, hk⟩ := flush_frame s.A true (clk s.now)
  refine ⟨gab ++ gnew, ?_⟩
  exact
  { hab := hl
    hba := h.hba
    np := by show (s.panic || (s.A.flush true (clk s.now)).panic) = false; rw [h.np, hpan]; rfl
    aK := hK
    aconv := by show (s.A.flush true (clk s.now)).k.conv = _; rw [hk]; exact h.aconv
    aack := hal
    aq := fun x hx => h.aq x (g6 x hx)
    acon := g1
    atag := by rw [← h.aconv]; exact g2
    ahas := fun x' hx' ha => by
      obtain ⟨x, hx, e1, e2⟩ := g5 x' hx' ha
      rw [← e1]; exact h.ahas x hx e2
    arel := by
      show ∀ sn, o p.base sn < o p.base (s.A.flush true (clk s.now)).k.snd_una → _
      rw [g4]; exact h.arel
    bK := h.bK, bconv := h.bconv, bsb := h.bsb, bsq := h.bsq
    bub := Nat.le_trans h.bub g3
    bbuf := fun x hx => Nat.lt_of_lt_of_le (h.bbuf x hx) g3
    back := h.back
    fab := by
      intro d hd fr hfr
      rcases List.mem_append.mp hd with hd | hd
      · obtain ⟨e1, e2, e3⟩ := h.fab d hd fr hfr
        exact ⟨e1, e2, fun hc => Nat.lt_of_lt_of_le (e3 hc) g3⟩
      · obtain ⟨e1, e2, e3⟩ := g7 fr ((hfl d hd).2 fr hfr)
        exact ⟨by rw [e1]; exact h.aconv, e2, e3⟩
    fba := h.fba }

end KcpVerif.SysC
