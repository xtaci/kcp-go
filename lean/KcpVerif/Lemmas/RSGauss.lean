/-
The list-based Gauss–Jordan inversion of `Model/RS` (`invert`, klauspost's `matrix.Invert`) is
correct over the field `GF`:

* `invert_sound`     `invert M = some M'` for an `n × n` list matrix ⇒ `M'` is `n × n` and `M' · M = 1`;
* `invert_complete`  `det M ≠ 0` ⇒ `invert M` succeeds (never `errSingular`).

Proof.  The rows of the working matrix `[A | B]` stay in the linear subspace `{(a | b) : a = b · M}`
(it contains the initial rows `(M_i | e_i)` and is closed under the row operations); the reduced rows
have a unit vector as left part; so the final right part `B` satisfies `B · M = 1`.  For completeness
the invariant is "only `x = 0` is annihilated by the left parts of all rows" (true initially iff `M`
has a trivial kernel, preserved by the invertible row operations); if no pivot is found in column `c`
the vector `x = e_c + Σ_{i<c} done_i[c] · e_i` is annihilated by every row, contradiction.
-/
import KcpVerif.Lemmas.RSRows
import Mathlib.LinearAlgebra.Matrix.Nondegenerate

namespace KcpVerif.Lemmas.RSGauss
open KcpVerif.RS KcpVerif.GF256 KcpVerif.Lemmas.RSRows
open KcpVerif.Lemmas.GF256 (GF)

theorem splitPivot_some {c : Nat} {acc rest b a : Matrix} {p : Row}
    (h : splitPivot c acc rest = some (b, p, a)) :
    acc.reverse ++ rest = b ++ p :: a ∧ ent p c ≠ 0 := by
  induction rest generalizing acc with
  | nil => simp [splitPivot] at h
  | cons r rs ih =>
    simp only [splitPivot] at h
    split at h
    · rename_i hr
      simp only [Option.some.injEq, Prod.mk.injEq] at h
      obtain ⟨rfl, rfl, rfl⟩ := h
      refine ⟨rfl, ?_⟩
      intro h0
      simp only [bne_iff_ne, ne_eq] at hr
      exact hr h0
    · have := ih h
      rw [List.reverse_cons, List.append_assoc] at this
      exact this

theorem splitPivot_none {c : Nat} {acc rest : Matrix} (h : splitPivot c acc rest = none) :
    ∀ r ∈ rest, ent r c = 0 := by
  induction rest generalizing acc with
  | nil => intro r hr; cases hr
  | cons r rs ih =>
    simp only [splitPivot] at h
    split at h
    · cases h
    · rename_i hr
      intro r' hr'
      rcases List.mem_cons.1 hr' with rfl | hm
      · simp only [bne_iff_ne, ne_eq, Decidable.not_not] at hr
        exact hr
      · exact ih h r' hm

structure GJInv (w c : Nat) (done rest : Matrix) : Prop where
  len_done : ∀ r ∈ done, r.length = w
  len_rest : ∀ r ∈ rest, r.length = w
  cnt : done.length = c
  diag : ∀ i, i < c → ∀ j, j < c → ent (done.getD i []) j = if i = j then 1 else 0
  zero : ∀ r ∈ rest, ∀ j, j < c → ent r j = 0

def pivRow (c : Nat) (p : Row) : Row := scaleRow (inv (p.getD c 0)) p

theorem ent_pivRow (c : Nat) (p : Row) (j : Nat) : ent (pivRow c p) j = (ent p c)⁻¹ * ent p j :=
  ent_scaleRow _ _ _

theorem ent_pivRow_self {c : Nat} {p : Row} (h : ent p c ≠ 0) : ent (pivRow c p) c = 1 := by
  rw [ent_pivRow, inv_mul_cancel₀ h]

theorem getD_done {c : Nat} {done : Matrix} (hc : done.length = c) (f : Row → Row) (piv : Row)
    (i : Nat) (hi : i < c + 1) :
    (done.map f ++ [piv]).getD i [] = if i < c then f (done.getD i []) else piv := by
  rw [List.getD_eq_getElem?_getD, List.getD_eq_getElem?_getD]
  by_cases h : i < c
  · rw [if_pos h, List.getElem?_append_left (by simpa [hc] using h), List.getElem?_map,
      List.getElem?_eq_getElem (hc ▸ h)]
    rfl
  · have : i = c := by omega
    subst this
    rw [if_neg h, List.getElem?_append_right (by simp [hc])]
    simp [hc]

theorem pivot_facts {w c : Nat} {done rest b a : Matrix} {p : Row} (hI : GJInv w c done rest)
    (hsp : splitPivot c [] rest = some (b, p, a)) :
    ent p c ≠ 0 ∧ p ∈ rest ∧ (pivRow c p).length = w ∧
    (∀ r ∈ b ++ a, r ∈ rest) ∧ (∀ r ∈ rest, r = p ∨ r ∈ b ++ a) := by
  obtain ⟨hsplit, hpc⟩ := splitPivot_some hsp
  rw [List.reverse_nil, List.nil_append] at hsplit
  subst hsplit
  have hp : p ∈ b ++ p :: a := List.mem_append_right _ (List.mem_cons_self ..)
  refine ⟨hpc, hp, ?_, ?_, ?_⟩
  · unfold pivRow
    rw [length_scaleRow]
    exact hI.len_rest p hp
  · intro r hr
    rcases List.mem_append.1 hr with h | h
    · exact List.mem_append_left _ h
    · exact List.mem_append_right _ (List.mem_cons_of_mem _ h)
  · intro r hr
    rcases List.mem_append.1 hr with h | h
    · exact Or.inr (List.mem_append_left _ h)
    · rcases List.mem_cons.1 h with h | h
      · exact Or.inl h
      · exact Or.inr (List.mem_append_right _ h)

theorem step_inv {w c : Nat} {done rest b a : Matrix} {p : Row} (hI : GJInv w c done rest)
    (hsp : splitPivot c [] rest = some (b, p, a)) :
    GJInv w (c + 1) (done.map (elim c (pivRow c p)) ++ [pivRow c p])
      ((b ++ a).map (elim c (pivRow c p))) := by
  obtain ⟨hpc, hp_mem, hplen, hba_mem, hcover⟩ := pivot_facts hI hsp
  have hpiv_lt : ∀ j, j < c → ent (pivRow c p) j = 0 := by
    intro j hj; rw [ent_pivRow, hI.zero p hp_mem j hj, mul_zero]
  have hpiv_c : ent (pivRow c p) c = 1 := ent_pivRow_self hpc
  have helim : ∀ r, r.length = w → ∀ j, j < c + 1 →
      ent (elim c (pivRow c p) r) j = if j = c then 0 else ent r j := by
    intro r hr j hj
    rw [ent_elim (by rw [hr, hplen])]
    by_cases hjc : j = c
    · subst hjc; rw [if_pos rfl, hpiv_c, mul_one]; exact GF.add_self _
    · rw [if_neg hjc, hpiv_lt j (by omega), mul_zero, add_zero]
  refine ⟨?_, ?_, ?_, ?_, ?_⟩
  · intro r hr
    rcases List.mem_append.1 hr with h | h
    · obtain ⟨r0, hr0, rfl⟩ := List.mem_map.1 h
      rw [length_elim (by rw [hI.len_done r0 hr0, hplen])]; exact hI.len_done r0 hr0
    · rw [List.mem_singleton.1 h]; exact hplen
  · intro r hr
    obtain ⟨r0, hr0, rfl⟩ := List.mem_map.1 hr
    have := hI.len_rest r0 (hba_mem r0 hr0)
    rw [length_elim (by rw [this, hplen])]; exact this
  · simp [hI.cnt]
  · intro i hi j hj
    rw [getD_done hI.cnt _ _ i hi]
    by_cases hic : i < c
    · rw [if_pos hic]
      have hmem : done.getD i [] ∈ done := getD_mem_of_lt (by rw [hI.cnt]; exact hic)
      rw [helim _ (hI.len_done _ hmem) j hj]
      by_cases hjc : j = c
      · rw [if_pos hjc, if_neg (by omega)]
      · rw [if_neg hjc]; exact hI.diag i hic j (by omega)
    · have hic' : i = c := by omega
      rw [if_neg hic]
      by_cases hjc : j = c
      · rw [hjc, hpiv_c, if_pos hic']
      · rw [hpiv_lt j (by omega), if_neg (by omega)]
  · intro r hr j hj
    obtain ⟨r0, hr0, rfl⟩ := List.mem_map.1 hr
    have hr0' := hba_mem r0 hr0
    rw [helim _ (hI.len_rest r0 hr0') j hj]
    by_cases hjc : j = c
    · rw [if_pos hjc]
    · rw [if_neg hjc]; exact hI.zero r0 hr0' j (by omega)

theorem step_closed {w c : Nat} {done rest b a : Matrix} {p : Row} (hI : GJInv w c done rest)
    (hsp : splitPivot c [] rest = some (b, p, a)) {P : Row → Prop}
    (hPs : ∀ x r, r.length = w → P r → P (scaleRow x r))
    (hPa : ∀ r s, r.length = w → s.length = w → P r → P s → P (addRow r s))
    (hP : ∀ r ∈ done ++ rest, P r) :
    ∀ r ∈ (done.map (elim c (pivRow c p)) ++ [pivRow c p]) ++ (b ++ a).map (elim c (pivRow c p)),
      P r := by
  obtain ⟨_, hp_mem, hplen, hba_mem, _⟩ := pivot_facts hI hsp
  have hPpiv : P (pivRow c p) :=
    hPs _ _ (hI.len_rest p hp_mem) (hP p (List.mem_append_right _ hp_mem))
  have hPelim : ∀ r, r.length = w → P r → P (elim c (pivRow c p) r) := by
    intro r hr hPr
    unfold elim
    split
    · exact hPr
    · exact hPa _ _ hr (by rw [length_scaleRow, hplen]) hPr (hPs _ _ hplen hPpiv)
  intro r hr
  rcases List.mem_append.1 hr with h | h
  · rcases List.mem_append.1 h with h | h
    · obtain ⟨r0, hr0, rfl⟩ := List.mem_map.1 h
      exact hPelim _ (hI.len_done r0 hr0) (hP r0 (List.mem_append_left _ hr0))
    · rw [List.mem_singleton.1 h]; exact hPpiv
  · obtain ⟨r0, hr0, rfl⟩ := List.mem_map.1 h
    exact hPelim _ (hI.len_rest r0 (hba_mem r0 hr0)) (hP r0 (List.mem_append_right _ (hba_mem r0 hr0)))

theorem gj_sound {w : Nat} {P : Row → Prop}
    (hPs : ∀ x r, r.length = w → P r → P (scaleRow x r))
    (hPa : ∀ r s, r.length = w → s.length = w → P r → P s → P (addRow r s))
    (k c : Nat) (done rest out : Matrix) (hI : GJInv w c done rest)
    (hP : ∀ r ∈ done ++ rest, P r) (h : gaussJordan k c done rest = some out) :
    out.length = c + k ∧ (∀ r ∈ out, r.length = w ∧ P r) ∧
    ∀ i, i < c + k → ∀ j, j < c + k → ent (out.getD i []) j = if i = j then 1 else 0 := by
  induction k generalizing c done rest with
  | zero =>
    simp only [gaussJordan, Option.some.injEq] at h
    subst h
    exact ⟨hI.cnt, fun r hr => ⟨hI.len_done r hr, hP r (List.mem_append_left _ hr)⟩, hI.diag⟩
  | succ k ih =>
    simp only [gaussJordan] at h
    split at h
    · cases h
    · rename_i b p a hsp
      have := ih (c + 1) _ _ (step_inv hI hsp) (step_closed hI hsp hPs hPa hP) h
      rw [Nat.add_assoc, Nat.add_comm 1 k] at this
      exact this

def rdot (n : Nat) (r : Row) (x : Nat → GF) : GF := ∑ j ∈ Finset.range n, ent r j * x j

theorem rdot_scaleRow (n : Nat) (a : UInt8) (r : Row) (x : Nat → GF) :
    rdot n (scaleRow a r) x = GF.of a * rdot n r x := by
  unfold rdot
  rw [Finset.mul_sum]
  exact Finset.sum_congr rfl fun j _ => by rw [ent_scaleRow, mul_assoc]

theorem rdot_elim (n : Nat) {c : Nat} {piv r : Row} (h : r.length = piv.length) (x : Nat → GF) :
    rdot n (elim c piv r) x = rdot n r x + ent r c * rdot n piv x := by
  unfold rdot
  rw [Finset.mul_sum, ← Finset.sum_add_distrib]
  exact Finset.sum_congr rfl fun j _ => by rw [ent_elim h]; ring

def Kernel0 (n : Nat) (rows : Matrix) : Prop :=
  ∀ x : Nat → GF, (∀ r ∈ rows, rdot n r x = 0) → ∀ j, j < n → x j = 0

theorem step_kernel {n w c : Nat} {done rest b a : Matrix} {p : Row} (hI : GJInv w c done rest)
    (hsp : splitPivot c [] rest = some (b, p, a)) (hK : Kernel0 n (done ++ rest)) :
    Kernel0 n ((done.map (elim c (pivRow c p)) ++ [pivRow c p]) ++ (b ++ a).map (elim c (pivRow c p))) := by
  obtain ⟨hpc, hp_mem, hplen, hba_mem, hcover⟩ := pivot_facts hI hsp
  intro x hx
  apply hK x
  have hpiv : rdot n (pivRow c p) x = 0 := hx _ (by simp)
  have hp0 : rdot n p x = 0 := by
    unfold pivRow at hpiv
    rw [rdot_scaleRow] at hpiv
    rcases mul_eq_zero.1 hpiv with h | h
    · exact absurd (inv_eq_zero.1 h) hpc
    · exact h
  have hel : ∀ r, r.length = w → rdot n (elim c (pivRow c p) r) x = 0 → rdot n r x = 0 := by
    intro r hr h0
    rwa [rdot_elim n (by rw [hr, hplen]), hpiv, mul_zero, add_zero] at h0
  intro r hr
  rcases List.mem_append.1 hr with h | h
  · exact hel r (hI.len_done r h)
      (hx _ (List.mem_append_left _ (List.mem_append_left _ (List.mem_map_of_mem h))))
  · rcases hcover r h with rfl | h'
    · exact hp0
    · exact hel r (hI.len_rest r h) (hx _ (List.mem_append_right _ (List.mem_map_of_mem h')))

theorem stuck_contra {n w c : Nat} {done rest : Matrix} (hI : GJInv w c done rest) (hc : c < n)
    (hK : Kernel0 n (done ++ rest)) (hz : ∀ r ∈ rest, ent r c = 0) : False := by
  let x : Nat → GF := fun j => if j = c then 1 else if j < c then ent (done.getD j []) c else 0
  have hx : ∀ r ∈ done ++ rest, rdot n r x = 0 := by
    intro r hr
    rcases List.mem_append.1 hr with h | h
    · obtain ⟨i, hi, rfl⟩ := List.getElem_of_mem h
      have hic : i < c := hI.cnt ▸ hi
      have hrow : done[i] = done.getD i [] := by
        rw [List.getD_eq_getElem?_getD, List.getElem?_eq_getElem hi]; rfl
      rw [hrow]
      unfold rdot
      have hterm : ∀ j ∈ Finset.range n, ent (done.getD i []) j * x j
          = (if j = c then ent (done.getD i []) c else 0) + (if j = i then ent (done.getD i []) c else 0) := by
        intro j _
        show ent (done.getD i []) j * (if j = c then 1 else if j < c then ent (done.getD j []) c else 0) = _
        by_cases hjc : j = c
        · subst hjc; rw [if_pos rfl, if_pos rfl, if_neg (by omega), mul_one, add_zero]
        · rw [if_neg hjc, if_neg hjc, zero_add]
          by_cases hjlt : j < c
          · rw [if_pos hjlt, hI.diag i hic j hjlt]
            by_cases hij : i = j
            · subst hij; rw [if_pos rfl, if_pos rfl, one_mul]
            · rw [if_neg hij, if_neg (fun h => hij h.symm), zero_mul]
          · rw [if_neg hjlt, mul_zero, if_neg (by omega)]
      rw [Finset.sum_congr rfl hterm, Finset.sum_add_distrib, Finset.sum_ite_eq', Finset.sum_ite_eq',
        if_pos (Finset.mem_range.2 hc), if_pos (Finset.mem_range.2 (by omega))]
      exact GF.add_self _
    · unfold rdot
      apply Finset.sum_eq_zero
      intro j _
      show ent r j * (if j = c then 1 else if j < c then ent (done.getD j []) c else 0) = 0
      by_cases hjc : j = c
      · rw [hjc, hz r h, zero_mul]
      · rw [if_neg hjc]
        by_cases hjlt : j < c
        · rw [hI.zero r h j hjlt, zero_mul]
        · rw [if_neg hjlt, mul_zero]
  have := hK x hx c hc
  simp only [x, if_pos rfl] at this
  exact one_ne_zero this

theorem gj_complete {n w : Nat} (k c : Nat) (done rest : Matrix) (hI : GJInv w c done rest)
    (hK : Kernel0 n (done ++ rest)) (hck : c + k ≤ n) :
    ∃ out, gaussJordan k c done rest = some out := by
  induction k generalizing c done rest with
  | zero => exact ⟨done, rfl⟩
  | succ k ih =>
    simp only [gaussJordan]
    split
    · rename_i hsp
      exact (stuck_contra hI (by omega) hK (splitPivot_none hsp)).elim
    · rename_i b p a hsp
      exact ih (c + 1) _ _ (step_inv hI hsp) (step_kernel hI hsp hK) (by omega)

def idRow (n i : Nat) : Row := (List.range n).map fun c => if i = c then 1 else 0

theorem length_idRow (n i : Nat) : (idRow n i).length = n := by simp [idRow]

theorem ent_idRow {n i k : Nat} (hk : k < n) : ent (idRow n i) k = if i = k then 1 else 0 := by
  unfold ent idRow
  rw [List.getD_eq_getElem?_getD, List.getElem?_map, List.getElem?_range hk]
  simp only [Option.map_some, Option.getD_some]
  split <;> rfl

theorem augmented_eq {n : Nat} {m : Matrix} (hm : m.length = n) :
    List.zipWith (· ++ ·) m (identity n) = (List.range n).map fun i => m.getD i [] ++ idRow n i := by
  apply List.ext_getElem
  · simp [identity, hm]
  · intro i h1 h2
    have hi : i < n := by simpa using h2
    simp only [List.getElem_zipWith, List.getElem_map, List.getElem_range, identity]
    rw [List.getD_eq_getElem?_getD, List.getElem?_eq_getElem (hm ▸ hi)]
    rfl

/-- `a = b · M` for a row `(a | b)` of width `2n` -/
def Rel (n : Nat) (m : Matrix) (r : Row) : Prop :=
  ∀ j, j < n → ent r j = ∑ k ∈ Finset.range n, ent r (n + k) * ent (m.getD k []) j

theorem rel_scale (n : Nat) (m : Matrix) (x : UInt8) (r : Row) (h : Rel n m r) :
    Rel n m (scaleRow x r) := by
  intro j hj
  rw [ent_scaleRow, h j hj, Finset.mul_sum]
  exact Finset.sum_congr rfl fun k _ => by rw [ent_scaleRow, mul_assoc]

theorem rel_add (n : Nat) (m : Matrix) (r s : Row) (hl : r.length = s.length) (hr : Rel n m r)
    (hs : Rel n m s) : Rel n m (addRow r s) := by
  intro j hj
  rw [ent_addRow hl, hr j hj, hs j hj, ← Finset.sum_add_distrib]
  exact Finset.sum_congr rfl fun k _ => by rw [ent_addRow hl, add_mul]

theorem init_inv {n : Nat} {m : Matrix} (hm : Shaped n n m) :
    GJInv (n + n) 0 [] (List.zipWith (· ++ ·) m (identity n)) := by
  refine ⟨fun _ h => (by cases h), ?_, rfl, fun i hi => (by omega), fun _ _ j hj => (by omega)⟩
  intro r hr
  rw [augmented_eq hm.1] at hr
  obtain ⟨i, hi, rfl⟩ := List.mem_map.1 hr
  have hi' : i < n := List.mem_range.1 hi
  rw [List.length_append, hm.length_getD hi', length_idRow]

theorem init_rel {n : Nat} {m : Matrix} (hm : Shaped n n m) :
    ∀ r ∈ ([] : Matrix) ++ List.zipWith (· ++ ·) m (identity n), Rel n m r := by
  intro r hr
  rw [List.nil_append, augmented_eq hm.1] at hr
  obtain ⟨i, hi, rfl⟩ := List.mem_map.1 hr
  have hi' : i < n := List.mem_range.1 hi
  have hlen : (m.getD i []).length = n := hm.length_getD hi'
  intro j hj
  rw [ent_append_left (by rw [hlen]; exact hj)]
  have : ∀ k ∈ Finset.range n, ent (m.getD i [] ++ idRow n i) (n + k) * ent (m.getD k []) j
      = if i = k then ent (m.getD i []) j else 0 := by
    intro k hk
    have hk' : k < n := Finset.mem_range.1 hk
    have := ent_append_right (m.getD i []) (idRow n i) k
    rw [hlen] at this
    rw [this, ent_idRow hk']
    by_cases hik : i = k
    · subst hik; rw [if_pos rfl, if_pos rfl, one_mul]
    · rw [if_neg hik, if_neg hik, zero_mul]
  rw [Finset.sum_congr rfl this, Finset.sum_ite_eq, if_pos (Finset.mem_range.2 hi')]

theorem invert_sound {n : Nat} {M M' : Matrix} (hM : Shaped n n M) (h : invert M = some M') :
    Shaped n n M' ∧ toM n n M' * toM n n M = 1 := by
  unfold invert at h
  rw [hM.1] at h
  cases hgj : gaussJordan n 0 [] (List.zipWith (· ++ ·) M (identity n)) with
  | none => rw [hgj] at h; cases h
  | some out =>
    rw [hgj] at h
    simp only [Option.map_some, Option.some.injEq] at h
    subst h
    obtain ⟨hlen, hrows, hdiag⟩ := gj_sound (w := n + n) (P := Rel n M)
      (fun x r _ hr => rel_scale n M x r hr)
      (fun r s hr hs h1 h2 => rel_add n M r s (by rw [hr, hs]) h1 h2)
      n 0 [] _ out (init_inv hM) (init_rel hM) hgj
    rw [Nat.zero_add] at hlen hdiag
    refine ⟨⟨by rw [List.length_map, hlen], ?_⟩, ?_⟩
    · intro row hrow
      obtain ⟨r, hr, rfl⟩ := List.mem_map.1 hrow
      rw [List.length_drop, (hrows r hr).1]; omega
    · ext i j
      rw [Matrix.mul_apply, Matrix.one_apply]
      have hi : i.val < out.length := by rw [hlen]; exact i.isLt
      have hrow : (out.map (List.drop n)).getD i.val [] = (out.getD i.val []).drop n := by
        rw [List.getD_eq_getElem?_getD, List.getD_eq_getElem?_getD, List.getElem?_map,
          List.getElem?_eq_getElem hi]
        rfl
      have hrel := (hrows _ (getD_mem_of_lt hi)).2 j.val j.isLt
      rw [hdiag i.val i.isLt j.val j.isLt] at hrel
      have : ∀ k : Fin n, toM n n (out.map (List.drop n)) i k * toM n n M k j
          = ent (out.getD i.val []) (n + k.val) * ent (M.getD k.val []) j.val := by
        intro k
        unfold toM
        rw [hrow, ent_drop]
      rw [Finset.sum_congr rfl fun k _ => this k,
        Fin.sum_univ_eq_sum_range (fun k => ent (out.getD i.val []) (n + k) * ent (M.getD k []) j.val) n,
        ← hrel]
      simp only [Fin.ext_iff]

theorem invert_complete {n : Nat} {M : Matrix} (hM : Shaped n n M) (hdet : (toM n n M).det ≠ 0) :
    ∃ M', invert M = some M' := by
  have hK : Kernel0 n (([] : Matrix) ++ List.zipWith (· ++ ·) M (identity n)) := by
    intro x hx
    have hv : Matrix.mulVec (toM n n M) (fun k : Fin n => x k.val) = 0 := by
      funext i
      have hmem : M.getD i.val [] ++ idRow n i.val ∈ ([] : Matrix) ++ List.zipWith (· ++ ·) M (identity n) := by
        rw [List.nil_append, augmented_eq hM.1]
        exact List.mem_map.2 ⟨i.val, List.mem_range.2 i.isLt, rfl⟩
      have h0 := hx _ hmem
      have hlen : (M.getD i.val []).length = n := hM.length_getD i.isLt
      unfold rdot at h0
      rw [Finset.sum_congr rfl (fun j hj => by
        rw [ent_append_left (by rw [hlen]; exact Finset.mem_range.1 hj)])] at h0
      rw [Matrix.mulVec, dotProduct, Pi.zero_apply, ← h0]
      exact Fin.sum_univ_eq_sum_range (fun j => ent (M.getD i.val []) j * x j) n
    have := Matrix.eq_zero_of_mulVec_eq_zero hdet hv
    intro j hj
    exact congrFun this ⟨j, hj⟩
  obtain ⟨res, hout⟩ := gj_complete (n := n) n 0 [] _ (init_inv hM) hK (by omega)
  unfold invert
  rw [hM.1, hout]
  exact ⟨_, rfl⟩

theorem invert_spec {n : Nat} {M : Matrix} (hM : Shaped n n M) (hdet : (toM n n M).det ≠ 0) :
    ∃ M', invert M = some M' ∧ Shaped n n M' ∧ toM n n M' * toM n n M = 1 := by
  obtain ⟨M', h⟩ := invert_complete hM hdet
  exact ⟨M', h, invert_sound hM h⟩

end KcpVerif.Lemmas.RSGauss
