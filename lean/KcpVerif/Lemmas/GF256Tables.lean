/-
The finite checks about the byte operations of `Model/GF256`: each a table over the 256 bytes evaluated
by the kernel (`decide +kernel` on `∀ i ∈ List.range 256, …`); no pair or triple of bytes is ever
enumerated.  Core Lean only.  `Lemmas/GF256Field` derives the field axioms of GF(2^8) from them by
algebra: `horner` and `shr_lt` say that a byte is generated from its bits by doubling and adding,
`idem_tab` is where the irreducibility of the reducing polynomial enters.
-/
import KcpVerif.Model.GF256

namespace KcpVerif.Lemmas.GF256
open KcpVerif.GF256

theorem forall_byte {P : UInt8 → Prop} (h : ∀ i ∈ List.range 256, P (UInt8.ofNat i)) (a : UInt8) :
    P a := by
  have := h a.toNat (List.mem_range.2 a.toNat_lt)
  rwa [UInt8.ofNat_toNat] at this

theorem hi_cases (a : UInt8) : a &&& 0x80 = 0 ∨ a &&& 0x80 = 0x80 := by
  revert a; apply forall_byte; decide +kernel

theorem lo_cases (a : UInt8) : a &&& 1 = 0 ∨ a &&& 1 = 1 := by
  revert a; apply forall_byte; decide +kernel

theorem horner (a : UInt8) : a = xtime (a >>> 1) ^^^ (a &&& 1) := by
  revert a; apply forall_byte; decide +kernel

theorem shr_lt (a : UInt8) : a = 0 ∨ (a >>> 1).toNat < a.toNat := by
  revert a; apply forall_byte; decide +kernel

theorem one_mul_tab (a : UInt8) : mul 1 a = a := by
  revert a; apply forall_byte; decide +kernel

/-- the only idempotents are 0 and 1 (the reducing polynomial is irreducible) -/
theorem idem_tab (e : UInt8) : mul e e = e → e = 0 ∨ e = 1 := by
  revert e; apply forall_byte; decide +kernel

theorem inv_zero_tab : inv 0 = 0 := by decide +kernel

theorem ofNat_inj_tab {i j : Nat} (hi : i < 256) (hj : j < 256)
    (h : UInt8.ofNat i = UInt8.ofNat j) : i = j := by
  have := congrArg UInt8.toNat h
  simp only [UInt8.toNat_ofNat'] at this
  omega

end KcpVerif.Lemmas.GF256
