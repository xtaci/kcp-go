/-
The FEC encoder of `Model/Fec` (`fec.go`, `fecEncoder`).  `paws` is a multiple of `n` within `n` of 2^32,
so the step across the wrap stays inside the decoder's discard horizon; `EncInv`: the id's position in
its group is the shard index, a group never straddles the wrap, parity generated or skipped give the
same next id; `Filling`: the encoder `k` packets into a group — one call moves it one packet on and
emits that packet of the group, whence `enc_group`.
-/
import KcpVerif.Lemmas.FecGroup

namespace KcpVerif.Lemmas.FecEnc
open KcpVerif.Fec KcpVerif.Gen KcpVerif.Lemmas.FecSpec
open KcpVerif.AutoTune (itimediff)

theorem advance_toNat (next paws : BitVec 32) (k : Nat) (h : next.toNat + k < 2 ^ 32) :
    (advance next k paws).toNat = (next.toNat + k) % paws.toNat := by
  simp only [advance, BitVec.toNat_umod, BitVec.toNat_add, BitVec.toNat_ofNat]
  have : k % 2 ^ 32 = k := Nat.mod_eq_of_lt (by omega)
  rw [this, Nat.mod_eq_of_lt h]

theorem advance_one (next paws : BitVec 32) (h : next.toNat < paws.toNat) :
    (advance next 1 paws).toNat = (next.toNat + 1) % paws.toNat :=
  advance_toNat next paws 1 (by have := paws.isLt; omega)

/-- the last group before the wrap, as the decoder keys it: `shardId * n` is its base id -/
theorem last_group_key {n : Nat} (hn : 0 < n) (hn' : n ≤ 256) :
    (pawsOf n - u32 n).toNat = (pawsOf n).toNat - n ∧
    (pawsOf n - u32 n) / u32 n * u32 n = pawsOf n - u32 n := by
  have h1 := FecDec.paws_pos hn hn'
  have h2 := FecDec.paws_lt n
  have hsub : (pawsOf n - u32 n).toNat = (pawsOf n).toNat - n := by
    simp only [u32, BitVec.toNat_sub, BitVec.toNat_ofNat]
    omega
  refine ⟨hsub, ?_⟩
  apply BitVec.eq_of_toNat_eq
  have hun := FecDec.u32_toNat hn'
  have hdvd : n ∣ (pawsOf n).toNat - n :=
    Nat.dvd_sub (Nat.dvd_of_mod_eq_zero (FecDec.paws_multiple n)) (Nat.dvd_refl n)
  rw [BitVec.toNat_mul, BitVec.toNat_udiv, hun, hsub, Nat.div_mul_cancel hdvd]
  omega

/-- seen from id 0 the last group before the wrap, at `paws − n`, is `n` plus the gap behind -/
theorem wrap_gap {n : Nat} (hn : 0 < n) (hn' : n ≤ 256) :
    0 < itimediff 0 (pawsOf n - u32 n) ∧ itimediff 0 (pawsOf n - u32 n) ≤ 2 * n := by
  have h1 := FecDec.paws_gap hn
  have h2 := FecDec.paws_pos hn hn'
  have h3 := FecDec.paws_lt n
  have hk := (last_group_key hn hn').1
  rw [FecDec.itimediff_coord (a := 0) (za := 0) (zb := ((pawsOf n).toNat : Int) - n - 2 ^ 32) rfl
    (by unfold Serial.Rep; rw [hk]; omega) (by omega) (by omega)]
  omega

/-- `wrap_gap` needs `2 ≤ maxShardSets` only (`maxShardSets = 3`, fec.go) -/
theorem wrap_within_horizon {n : Nat} (hn : 0 < n) (hn' : n ≤ 256) :
    itimediff 0 (pawsOf n - u32 n) ≤ ((maxShardSets * n : Nat) : Int) := by
  have := (wrap_gap hn hn').2
  have hms : maxShardSets = 3 := rfl
  rw [hms]; omega

theorem wrap_not_discarded {n : Nat} (hn : 0 < n) (hn' : n ≤ 256) (pk : List Bytes) :
    (KcpVerif.Fec.discard n 0 [{ id := (pawsOf n - u32 n) / u32 n, pkts := pk }]).length = 1 := by
  have hal : FecHist.alive n 0 ((pawsOf n - u32 n) / u32 n) = true := by
    have h0 : (0 : BitVec 32) * u32 n = 0 := BitVec.zero_mul
    rw [FecDec.alive_iff, h0, (last_group_key hn hn').2]
    exact ⟨Int.le_of_lt (wrap_gap hn hn').1, wrap_within_horizon hn hn'⟩
  rw [FecDec.discard_eq_filter, List.filter_cons, hal]
  rfl

/- the hypotheses are satisfiable: the default ratio 10/3 -/
example : (pawsOf 13).toNat % 13 = 0 ∧ 2 ^ 32 - (pawsOf 13).toNat ≤ 13 :=
  ⟨FecDec.paws_multiple 13, FecDec.paws_gap (by decide)⟩
example : 0 < itimediff 0 (pawsOf 13 - u32 13) ∧ itimediff 0 (pawsOf 13 - u32 13) ≤ 2 * 13 :=
  wrap_gap (by decide) (by decide)
example : (advance 5#32 1 (pawsOf 13)).toNat = (5 + 1) % (pawsOf 13).toNat :=
  advance_one _ _ (by decide)

theorem group_arith {n q x s : Nat} (hlt : x < q * n) (hpos : x % n = s) :
    x - s + n ≤ q * n ∧ x - s = n * (x / n) ∧ s ≤ x := by
  have h1 := Nat.div_add_mod x n
  have h2 : x / n < q := Nat.div_lt_of_lt_mul (by rw [Nat.mul_comm]; exact hlt)
  have h3 : n * (x / n + 1) ≤ n * q := Nat.mul_le_mul_left n h2
  rw [Nat.mul_add, Nat.mul_one, Nat.mul_comm n q] at h3
  omega

theorem last_arith {n q x s p : Nat} (hlt : x < q * n) (hpos : x % n = s) (hs : s + 1 + p = n) :
    x + 1 + p ≤ q * n ∧ (x + 1 + p) % (q * n) < q * n ∧ (x + 1 + p) % (q * n) % n = 0 := by
  obtain ⟨h1, h2, h3⟩ := group_arith hlt hpos
  have hq : 0 < q * n := by omega
  refine ⟨by omega, Nat.mod_lt _ hq, ?_⟩
  rcases Nat.lt_or_ge (x + 1 + p) (q * n) with h | h
  · rw [Nat.mod_eq_of_lt h]
    have : x + 1 + p = n * (x / n) + n := by omega
    rw [this, Nat.mul_add_mod, Nat.mod_self]
  · have : x + 1 + p = q * n := by omega
    rw [this, Nat.mod_self, Nat.zero_mod]

theorem ite_max (a b : Nat) : (if b > a then b else a) = max a b := by
  split <;> omega

theorem le16_length (v : Nat) : (le16 v).length = 2 := rfl
theorem le32_length (v : BitVec 32) : (le32 v).length = 4 := rfl

/-- the size field written by `encode` is the body length; the cached body is `bodyOf payload` -/
theorem sealed_eq (e : Encoder) (b : Bytes) (h1 : e.payloadOffset + 2 ≤ b.length)
    (h2 : b.length ≤ mtuLimit) :
    b.take e.headerOffset ++ le32 e.next ++ le16 typeData
        ++ le16 ((b.length - e.payloadOffset) % 65536) ++ b.drop (e.payloadOffset + 2)
      = b.take e.headerOffset ++ le32 e.next ++ le16 typeData
        ++ bodyOf (b.drop (e.payloadOffset + 2)) := by
  have hm := FecDec.mtuLimit_lt_65536
  have : (b.drop (e.payloadOffset + 2)).length + 2 = (b.length - e.payloadOffset) % 65536 := by
    simp only [List.length_drop]; omega
  simp only [bodyOf, this, List.append_assoc]

theorem sealed_drop (e : Encoder) (b : Bytes) (h1 : e.payloadOffset + 2 ≤ b.length) (pl : Bytes) :
    (b.take e.headerOffset ++ le32 e.next ++ le16 typeData ++ bodyOf pl).drop e.payloadOffset
      = bodyOf pl := by
  have hl : (b.take e.headerOffset ++ le32 e.next ++ le16 typeData).length = e.payloadOffset := by
    simp only [List.length_append, List.length_take, le32_length, le16_length,
      Encoder.payloadOffset, fecHeaderSize] at h1 ⊢
    omega
  rw [← hl]
  exact List.drop_left

theorem encode_eq (e : Encoder) (b : Bytes) (cont : Bool) (h1 : e.payloadOffset + 2 ≤ b.length)
    (h2 : b.length ≤ mtuLimit) :
    e.encode b cont =
      if e.shardCount + 1 = e.d then
        if cont then
          { st := { e with next := advanceN e.paws e.p (advance e.next 1 e.paws), shardCount := 0,
                           maxSize := 0, cache := [] },
            data := b.take e.headerOffset ++ le32 e.next ++ le16 typeData
                      ++ bodyOf (b.drop (e.payloadOffset + 2)),
            parity := sealParities e.headerOffset e.paws (advance e.next 1 e.paws)
              (e.codec.enc ((e.cache ++ [bodyOf (b.drop (e.payloadOffset + 2))]).map
                (pad (max e.maxSize b.length - e.payloadOffset)))) }
        else
          { st := { e with next := advance (advance e.next 1 e.paws) e.p e.paws, shardCount := 0,
                           maxSize := 0, cache := [] },
            data := b.take e.headerOffset ++ le32 e.next ++ le16 typeData
                      ++ bodyOf (b.drop (e.payloadOffset + 2)),
            parity := [] }
      else
        { st := { e with next := advance e.next 1 e.paws, shardCount := e.shardCount + 1,
                         maxSize := max e.maxSize b.length,
                         cache := e.cache ++ [bodyOf (b.drop (e.payloadOffset + 2))] },
          data := b.take e.headerOffset ++ le32 e.next ++ le16 typeData
                    ++ bodyOf (b.drop (e.payloadOffset + 2)),
          parity := [] } := by
  have hc : ¬ (b.length < e.payloadOffset + 2 ∨ b.length > mtuLimit) := by omega
  unfold Encoder.encode
  simp only [if_neg hc, sealed_eq e b h1 h2, sealed_drop e b h1, ite_max]

theorem advanceN_toNat (paws : BitVec 32) (k : Nat) (next : BitVec 32)
    (hlt : next.toNat < paws.toNat) (hk : next.toNat + k ≤ paws.toNat) :
    (advanceN paws k next).toNat = (next.toNat + k) % paws.toNat := by
  induction k generalizing next with
  | zero => simp only [advanceN, Nat.add_zero, Nat.mod_eq_of_lt hlt]
  | succ k ih =>
    have h1 := advance_one next paws hlt
    simp only [advanceN]
    rcases Nat.lt_or_ge (next.toNat + 1) paws.toNat with h | h
    · rw [Nat.mod_eq_of_lt h] at h1
      rw [ih _ (by omega) (by omega), h1]
      congr 1; omega
    · have hk0 : k = 0 := by omega
      subst hk0
      simp only [advanceN, h1]

/-- the `p` unit steps of `sealParity` and the single `+ p` of `skipParity` give the same id -/
theorem advanceN_eq_advance (paws : BitVec 32) (k : Nat) (next : BitVec 32)
    (hlt : next.toNat < paws.toNat) (hk : next.toNat + k ≤ paws.toNat) :
    advanceN paws k next = advance next k paws := by
  apply BitVec.eq_of_toNat_eq
  rw [advanceN_toNat paws k next hlt hk, advance_toNat]
  have := paws.isLt; omega

/-- `max_le`, `body_le`, `body_ge` are results of their own, read by no lemma: `maxSize ≤ mtuLimit` is
    what keeps `shard[slen:enc.maxSize]` and `shardCache[k][payloadOffset:enc.maxSize]` (fec.go:456, 462)
    inside the `mtuLimit`-byte cache buffers -/
structure EncInv (C : CodecNew) (e : Encoder) : Prop where
  d_pos : 0 < e.d
  p_pos : 0 < e.p
  n_eq : e.n = e.d + e.p
  n_le : e.n ≤ 256
  paws_eq : e.paws = pawsOf e.n
  next_lt : e.next.toNat < e.paws.toNat
  count_lt : e.shardCount < e.d
  /-- the id's position in its group is the shard index -/
  pos : e.next.toNat % e.n = e.shardCount
  cache_len : e.cache.length = e.shardCount
  max_le : e.maxSize ≤ mtuLimit
  body_le : ∀ s ∈ e.cache, s.length ≤ e.maxSize - e.payloadOffset
  body_ge : ∀ s ∈ e.cache, 2 ≤ s.length
  fresh : e.shardCount = 0 → e.maxSize = 0
  codec_eq : e.codec = C e.d e.p

theorem EncInv.n_pos {C : CodecNew} {e : Encoder} (h : EncInv C e) : 0 < e.n := by
  have := h.n_eq; have := h.d_pos; omega

theorem EncInv.paws_toNat {C : CodecNew} {e : Encoder} (h : EncInv C e) :
    e.paws.toNat = 0xffffffff / e.n * e.n := by
  rw [h.paws_eq, FecDec.pawsOf_toNat]

theorem inv_new {C : CodecNew} {d p off : Nat} {e : Encoder}
    (h : Encoder.new C d p off = some e) : EncInv C e := by
  unfold Encoder.new at h
  split at h
  · exact absurd h (by simp only [reduceCtorEq, not_false_eq_true])
  · rename_i hc
    simp only [Option.some.injEq] at h
    subst h
    have hp := FecDec.paws_pos (n := d + p) (by omega) (by omega)
    exact {
      d_pos := by show 0 < d; omega
      p_pos := by show 0 < p; omega
      n_eq := rfl
      n_le := by show d + p ≤ 256; omega
      paws_eq := rfl
      next_lt := by show 0 < (pawsOf (d + p)).toNat; omega
      count_lt := by show 0 < d; omega
      pos := Nat.zero_mod _
      cache_len := rfl
      max_le := Nat.zero_le _
      body_le := fun s hs => absurd hs List.not_mem_nil
      body_ge := fun s hs => absurd hs List.not_mem_nil
      fresh := fun _ => rfl
      codec_eq := rfl }

theorem group_below_paws {C : CodecNew} {e : Encoder} (h : EncInv C e) :
    e.next.toNat - e.shardCount + e.n ≤ e.paws.toNat := by
  have hlt := h.next_lt
  rw [h.paws_toNat] at hlt ⊢
  exact (group_arith hlt h.pos).1

theorem next1_toNat {C : CodecNew} {e : Encoder} (h : EncInv C e) :
    (advance e.next 1 e.paws).toNat = e.next.toNat + 1
      ∧ e.next.toNat + 1 + (e.d - (e.shardCount + 1)) + e.p ≤ e.paws.toNat := by
  have hlt := h.next_lt
  have hb := group_below_paws h
  have hn := h.n_eq
  have hpos := h.pos
  have hc := h.count_lt
  have h1 := advance_one e.next e.paws hlt
  have hle : e.shardCount ≤ e.next.toNat := by
    rw [← hpos]; exact Nat.mod_le _ _
  have hpp := h.p_pos
  rw [Nat.mod_eq_of_lt (by omega)] at h1
  exact ⟨h1, by omega⟩

/-- the `uint32` addition in `skipParity` cannot overflow -/
theorem skip_no_overflow {C : CodecNew} {e : Encoder} (h : EncInv C e) :
    (advance (advance e.next 1 e.paws) e.p e.paws).toNat
      = (e.next.toNat + 1 + e.p) % e.paws.toNat := by
  obtain ⟨h1, h2⟩ := next1_toNat h
  have hpw := e.paws.isLt
  rw [advance_toNat _ _ _ (by omega), h1]

def exEnc (C : CodecNew) : Encoder :=
  { d := 2, p := 1, n := 3, paws := pawsOf 3, next := 0, shardCount := 0, maxSize := 0,
    headerOffset := 0, cache := [], codec := C 2 1 }

theorem exEnc_new (C : CodecNew) : Encoder.new C 2 1 0 = some (exEnc C) := rfl

theorem exEnc_inv (C : CodecNew) : EncInv C (exEnc C) := inv_new (exEnc_new C)

example (C : CodecNew) : (exEnc C).next.toNat - (exEnc C).shardCount + (exEnc C).n
    ≤ (exEnc C).paws.toNat := group_below_paws (exEnc_inv C)

/-- after a completed group the id is the same whether parity was generated or skipped -/
theorem last_next_eq {C : CodecNew} {e : Encoder} (h : EncInv C e) :
    advanceN e.paws e.p (advance e.next 1 e.paws) = advance (advance e.next 1 e.paws) e.p e.paws := by
  obtain ⟨h1, h2⟩ := next1_toNat h
  have hpp := h.p_pos
  exact advanceN_eq_advance _ _ _ (by omega) (by omega)

section steps
variable {e : Encoder} {b : Bytes} {cont : Bool}

theorem encode_panic_false (hp : (e.encode b cont).panic = false) :
    e.payloadOffset + 2 ≤ b.length ∧ b.length ≤ mtuLimit := by
  by_cases hc : b.length < e.payloadOffset + 2 ∨ b.length > mtuLimit
  · unfold Encoder.encode at hp
    simp only [if_pos hc, reduceCtorEq] at hp
  · omega

theorem encode_no_panic (h1 : e.payloadOffset + 2 ≤ b.length) (h2 : b.length ≤ mtuLimit) :
    (e.encode b cont).panic = false := by
  rw [encode_eq e b cont h1 h2]
  split
  · split <;> rfl
  · rfl

theorem encode_data (h1 : e.payloadOffset + 2 ≤ b.length) (h2 : b.length ≤ mtuLimit) :
    (e.encode b cont).data = b.take e.headerOffset ++ le32 e.next ++ le16 typeData
      ++ bodyOf (b.drop (e.payloadOffset + 2)) := by
  rw [encode_eq e b cont h1 h2]
  split
  · split <;> rfl
  · rfl

theorem encode_mid (h1 : e.payloadOffset + 2 ≤ b.length) (h2 : b.length ≤ mtuLimit)
    (hm : e.shardCount + 1 ≠ e.d) :
    (e.encode b cont).parity = [] ∧
    (e.encode b cont).st = { e with next := advance e.next 1 e.paws, shardCount := e.shardCount + 1,
                                    maxSize := max e.maxSize b.length,
                                    cache := e.cache ++ [bodyOf (b.drop (e.payloadOffset + 2))] } := by
  rw [encode_eq e b cont h1 h2, if_neg hm]
  exact ⟨rfl, rfl⟩

theorem encode_last_cont {C : CodecNew} (h : EncInv C e) (h1 : e.payloadOffset + 2 ≤ b.length)
    (h2 : b.length ≤ mtuLimit) (hl : e.shardCount + 1 = e.d) :
    (e.encode b true).parity = sealParities e.headerOffset e.paws (advance e.next 1 e.paws)
        (e.codec.enc ((e.cache ++ [bodyOf (b.drop (e.payloadOffset + 2))]).map
          (pad (max e.maxSize b.length - e.payloadOffset)))) ∧
    (e.encode b true).st = { e with next := advance (advance e.next 1 e.paws) e.p e.paws,
                                    shardCount := 0, maxSize := 0, cache := [] } := by
  rw [encode_eq e b true h1 h2, if_pos hl, last_next_eq h]
  exact ⟨rfl, rfl⟩

theorem encode_last_skip (h1 : e.payloadOffset + 2 ≤ b.length)
    (h2 : b.length ≤ mtuLimit) (hl : e.shardCount + 1 = e.d) :
    (e.encode b false).parity = [] ∧
    (e.encode b false).st = { e with next := advance (advance e.next 1 e.paws) e.p e.paws,
                                     shardCount := 0, maxSize := 0, cache := [] } := by
  rw [encode_eq e b false h1 h2, if_pos hl]
  exact ⟨rfl, rfl⟩

theorem encode_last_st {C : CodecNew} (h : EncInv C e) (h1 : e.payloadOffset + 2 ≤ b.length)
    (h2 : b.length ≤ mtuLimit) (hl : e.shardCount + 1 = e.d) :
    (e.encode b cont).st = { e with next := advance (advance e.next 1 e.paws) e.p e.paws,
                                    shardCount := 0, maxSize := 0, cache := [] } := by
  cases cont
  · exact (encode_last_skip h1 h2 hl).2
  · exact (encode_last_cont h h1 h2 hl).2

end steps

theorem inv_mid {C : CodecNew} {e : Encoder} {b : Bytes} (h : EncInv C e)
    (h1 : e.payloadOffset + 2 ≤ b.length) (h2 : b.length ≤ mtuLimit)
    (hm : e.shardCount + 1 ≠ e.d) :
    EncInv C { e with next := advance e.next 1 e.paws, shardCount := e.shardCount + 1,
                      maxSize := max e.maxSize b.length,
                      cache := e.cache ++ [bodyOf (b.drop (e.payloadOffset + 2))] } := by
  obtain ⟨hn1, hn2⟩ := next1_toNat h
  have hc := h.count_lt
  have hbl : (bodyOf (b.drop (e.payloadOffset + 2))).length = b.length - e.payloadOffset := by
    rw [FecDec.length_bodyOf, List.length_drop]; omega
  exact {
    d_pos := h.d_pos, p_pos := h.p_pos, n_eq := h.n_eq, n_le := h.n_le, paws_eq := h.paws_eq
    codec_eq := h.codec_eq
    next_lt := by
      show (advance e.next 1 e.paws).toNat < e.paws.toNat
      omega
    count_lt := by
      show e.shardCount + 1 < e.d
      omega
    pos := by
      show (advance e.next 1 e.paws).toNat % e.n = e.shardCount + 1
      have hlt := h.next_lt
      rw [h.paws_toNat] at hlt
      obtain ⟨_, h2, _⟩ := group_arith hlt h.pos
      have hs : e.shardCount + 1 < e.n := by have := h.n_eq; have := h.p_pos; omega
      have : e.next.toNat + 1 = e.n * (e.next.toNat / e.n) + (e.shardCount + 1) := by omega
      rw [hn1, this, Nat.mul_add_mod, Nat.mod_eq_of_lt hs]
    cache_len := by
      show (e.cache ++ [_]).length = e.shardCount + 1
      rw [List.length_append, h.cache_len]
      rfl
    max_le := Nat.max_le.2 ⟨h.max_le, h2⟩
    body_le := by
      intro s hs
      show s.length ≤ max e.maxSize b.length - e.payloadOffset
      rcases List.mem_append.1 hs with hs | hs
      · exact Nat.le_trans (h.body_le s hs) (Nat.sub_le_sub_right (Nat.le_max_left _ _) _)
      · rw [List.mem_singleton.1 hs, hbl]
        exact Nat.sub_le_sub_right (Nat.le_max_right _ _) _
    body_ge := by
      intro s hs
      rcases List.mem_append.1 hs with hs | hs
      · exact h.body_ge s hs
      · rw [List.mem_singleton.1 hs, hbl]
        omega
    fresh := fun h0 => absurd h0 (Nat.succ_ne_zero _) }

theorem inv_last {C : CodecNew} {e : Encoder} (h : EncInv C e) (hl : e.shardCount + 1 = e.d) :
    EncInv C { e with next := advance (advance e.next 1 e.paws) e.p e.paws,
                      shardCount := 0, maxSize := 0, cache := [] } := by
  have hs := skip_no_overflow h
  have hlt := h.next_lt
  have hn := h.n_eq
  rw [h.paws_toNat] at hlt hs
  obtain ⟨a1, a2, a3⟩ := last_arith (p := e.p) hlt h.pos (by omega)
  exact {
    d_pos := h.d_pos, p_pos := h.p_pos, n_eq := h.n_eq, n_le := h.n_le, paws_eq := h.paws_eq
    codec_eq := h.codec_eq
    next_lt := by
      show (advance (advance e.next 1 e.paws) e.p e.paws).toNat < e.paws.toNat
      rw [hs, h.paws_toNat]
      exact a2
    count_lt := h.d_pos
    pos := by
      show (advance (advance e.next 1 e.paws) e.p e.paws).toNat % e.n = 0
      rw [hs]
      exact a3
    cache_len := rfl
    max_le := Nat.zero_le _
    body_le := fun s hs => absurd hs List.not_mem_nil
    body_ge := fun s hs => absurd hs List.not_mem_nil
    fresh := fun _ => rfl }

theorem inv_encode {C : CodecNew} {e : Encoder} {b : Bytes} {cont : Bool} (h : EncInv C e)
    (hp : (e.encode b cont).panic = false) : EncInv C (e.encode b cont).st := by
  obtain ⟨h1, h2⟩ := encode_panic_false hp
  by_cases hl : e.shardCount + 1 = e.d
  · rw [encode_last_st h h1 h2 hl]; exact inv_last h hl
  · rw [(encode_mid h1 h2 hl).2]; exact inv_mid h h1 h2 hl

theorem next_aligned_after_group {C : CodecNew} {e : Encoder} {b : Bytes} {cont : Bool}
    (h : EncInv C e) (h1 : e.payloadOffset + 2 ≤ b.length) (h2 : b.length ≤ mtuLimit)
    (hl : e.shardCount + 1 = e.d) :
    (e.encode b cont).st.next.toNat % e.n = 0 ∧ (e.encode b cont).st.shardCount = 0 := by
  have hi := inv_encode (cont := cont) h (encode_no_panic h1 h2)
  rw [encode_last_st h h1 h2 hl] at hi ⊢
  exact ⟨hi.pos, rfl⟩

def exB0 : Bytes := [0, 0, 0, 0, 0, 0, 0, 0, 1, 2, 3]
def exB1 : Bytes := [0, 0, 0, 0, 0, 0, 0, 0, 4]

theorem exB0_ok (C : CodecNew) :
    (exEnc C).payloadOffset + 2 ≤ exB0.length ∧ exB0.length ≤ mtuLimit := by
  show 0 + 6 + 2 ≤ 11 ∧ 11 ≤ 1500
  omega

/- the hypotheses of the single-step theorems are satisfiable -/
example (C : CodecNew) : ((exEnc C).encode exB0 true).data
    = [] ++ le32 0 ++ le16 typeData ++ bodyOf [1, 2, 3] :=
  encode_data (exB0_ok C).1 (exB0_ok C).2
example (C : CodecNew) : ((exEnc C).encode exB0 true).parity = [] :=
  (encode_mid (exB0_ok C).1 (exB0_ok C).2 (by show 0 + 1 ≠ 2; omega)).1
example (C : CodecNew) : EncInv C ((exEnc C).encode exB0 false).st :=
  inv_encode (exEnc_inv C) (encode_no_panic (exB0_ok C).1 (exB0_ok C).2)

/-- feed the buffers in order; result: final state and, per call, the sealed buffer and the
    returned parity packets -/
def encodeMany (e : Encoder) (bs : List Bytes) (cont : Bool) : Encoder × List (Bytes × List Bytes) :=
  match bs with
  | [] => (e, [])
  | b :: rest =>
    ((encodeMany (e.encode b cont).st rest cont).1,
      ((e.encode b cont).data, (e.encode b cont).parity) :: (encodeMany (e.encode b cont).st rest cont).2)

theorem advance_one_eq (next paws : BitVec 32) (h : next.toNat + 1 < paws.toNat) :
    advance next 1 paws = next + 1#32 := by
  apply BitVec.eq_of_toNat_eq
  have := paws.isLt
  rw [advance_toNat _ _ _ (by omega), Nat.mod_eq_of_lt h, BitVec.toNat_add, BitVec.toNat_ofNat]
  omega

theorem next1_eq {C : CodecNew} {e : Encoder} (h : EncInv C e) :
    advance e.next 1 e.paws = e.next + 1#32 := by
  obtain ⟨_, h2⟩ := next1_toNat h
  have := h.p_pos
  exact advance_one_eq _ _ (by omega)

theorem bv_add_add (x : BitVec 32) (a b : Nat) :
    x + BitVec.ofNat 32 a + BitVec.ofNat 32 b = x + BitVec.ofNat 32 (a + b) := by
  rw [BitVec.add_assoc, ← BitVec.ofNat_add]

theorem bv_step (x : BitVec 32) (j : Nat) :
    x + 1#32 + BitVec.ofNat 32 j = x + BitVec.ofNat 32 (j + 1) := by
  rw [bv_add_add, Nat.add_comm]

theorem advance_advance (x paws : BitVec 32) (k : Nat) (h : x.toNat + 1 + k < 2 ^ 32) :
    advance (advance x 1 paws) k paws = advance x (k + 1) paws := by
  apply BitVec.eq_of_toNat_eq
  have h1 := advance_toNat x paws 1 (by omega)
  have hle : (x.toNat + 1) % paws.toNat ≤ x.toNat + 1 := Nat.mod_le _ _
  rw [advance_toNat _ _ _ (by omega), h1, advance_toNat _ _ _ (by omega), Nat.mod_add_mod]
  congr 1; omega

theorem sealParities_eq (off : Nat) (paws : BitVec 32) :
    ∀ (par : List Bytes) (next : BitVec 32), next.toNat + par.length ≤ paws.toNat →
      sealParities off paws next par = (List.range par.length).map (fun k =>
        List.replicate off 0 ++ le32 (next + BitVec.ofNat 32 k) ++ le16 typeParity ++ par.getD k []) := by
  intro par
  induction par with
  | nil => intro next _; rfl
  | cons s rest ih =>
    intro next hle
    simp only [List.length_cons] at hle
    have hpw := paws.isLt
    simp only [sealParities, List.length_cons, List.range_succ_eq_map, List.map_cons, List.map_map,
      List.getD_cons_zero, BitVec.add_zero]
    congr 1
    by_cases hr : rest = []
    · subst hr; rfl
    · have hrl : 0 < rest.length := List.length_pos_iff.2 hr
      have hnx := advance_one_eq next paws (by omega)
      have hn1 : (next + 1#32).toNat = next.toNat + 1 := by
        rw [BitVec.toNat_add, BitVec.toNat_ofNat]; omega
      rw [hnx, ih _ (by omega)]
      apply List.map_congr_left
      intro k _
      simp only [Function.comp_def, Nat.succ_eq_add_one, List.getD_cons_succ, bv_step]

theorem packet_data (C : CodecNew) (G : Group) {i : Nat} (hi : i < G.d) :
    G.packet C i = le32 (G.base + BitVec.ofNat 32 i) ++ le16 typeData ++ G.bodies.getD i [] := by
  simp only [Group.packet, Group.wireBody, if_pos hi]

theorem packet_parity (C : CodecNew) (G : Group) (k : Nat) :
    G.packet C (G.d + k) = le32 (G.base + BitVec.ofNat 32 G.d + BitVec.ofNat 32 k) ++ le16 typeParity
      ++ (G.parityShards C).getD k [] := by
  have : ¬ (G.d + k < G.d) := by omega
  simp only [Group.packet, Group.wireBody, if_neg this, bv_add_add, Nat.add_sub_cancel_left]

theorem reset_eq {C : CodecNew} {e : Encoder} (h : EncInv C e) (hs : e.shardCount = 0)
    (x : BitVec 32) :
    { e with next := x, shardCount := 0, maxSize := 0, cache := [] } = { e with next := x } := by
  have hm := h.fresh hs
  have hc : e.cache = [] := List.eq_nil_of_length_eq_zero (by rw [h.cache_len, hs])
  cases e
  simp only at hs hm hc
  subst hs hm hc
  rfl

/-- the encoder stands `k` packets into group `G`; `maxEq` is the half that `EncInv.body_le` does not
    keep: the maximum is attained -/
structure Filling (C : CodecNew) (G : Group) (e : Encoder) (k : Nat) : Prop where
  inv : EncInv C e
  d : e.d = G.d
  p : e.p = G.p
  next : e.next = G.base + BitVec.ofNat 32 k
  count : e.shardCount = k
  cache : e.cache = G.bodies.take k
  maxEq : e.maxSize - e.payloadOffset = ((G.bodies.take k).map List.length).foldr max 0

section Filling
variable {C : CodecNew} {G : Group} {e : Encoder} {k : Nat} {b : Bytes} {cont : Bool}

/-- `Filling` looks at the group only through its ratio, its base and its first `k` bodies -/
theorem Filling.congr {G' : Group} (h : Filling C G e k) (hd : G'.d = G.d) (hp : G'.p = G.p)
    (hb : G'.base = G.base) (hk : G'.bodies.take k = G.bodies.take k) : Filling C G' e k :=
  ⟨h.inv, by rw [hd]; exact h.d, by rw [hp]; exact h.p, by rw [hb]; exact h.next, h.count,
    by rw [hk]; exact h.cache, by rw [hk]; exact h.maxEq⟩

theorem Filling.body (hpl : G.payloads[k]? = some (b.drop (e.payloadOffset + 2))) :
    G.bodies[k]? = some (bodyOf (b.drop (e.payloadOffset + 2))) := by
  rw [Group.bodies, List.getElem?_map, hpl]; rfl

theorem Filling.take_succ (hpl : G.payloads[k]? = some (b.drop (e.payloadOffset + 2))) :
    G.bodies.take (k + 1) = G.bodies.take k ++ [bodyOf (b.drop (e.payloadOffset + 2))] := by
  rw [List.take_add_one, Filling.body hpl]; rfl

theorem Filling.data (h : Filling C G e k) (hk : k < G.d) (h1 : e.payloadOffset + 2 ≤ b.length)
    (h2 : b.length ≤ mtuLimit) (hpl : G.payloads[k]? = some (b.drop (e.payloadOffset + 2))) :
    (e.encode b cont).data = b.take e.headerOffset ++ G.packet C k := by
  rw [encode_data h1 h2, packet_data C G hk, h.next, List.getD_eq_getElem?_getD, Filling.body hpl]
  simp only [Option.getD_some, List.append_assoc]

theorem Filling.next_succ (h : Filling C G e k) :
    advance e.next 1 e.paws = G.base + BitVec.ofNat 32 (k + 1) := by
  rw [next1_eq h.inv, h.next, BitVec.add_assoc, ← BitVec.ofNat_add]

theorem Filling.max_succ (h : Filling C G e k) (h1 : e.payloadOffset + 2 ≤ b.length)
    (hpl : G.payloads[k]? = some (b.drop (e.payloadOffset + 2))) :
    max e.maxSize b.length - e.payloadOffset = ((G.bodies.take (k + 1)).map List.length).foldr max 0 := by
  have hb : b.length - (e.payloadOffset + 2) + 2 = b.length - e.payloadOffset := by omega
  rw [Filling.take_succ hpl, List.map_append, List.map_singleton, foldr_max_snoc, ← h.maxEq,
    FecDec.length_bodyOf, List.length_drop, hb, Nat.sub_max_sub_right]

theorem Filling.mid (h : Filling C G e k) (hm : e.shardCount + 1 ≠ e.d)
    (h1 : e.payloadOffset + 2 ≤ b.length) (h2 : b.length ≤ mtuLimit)
    (hpl : G.payloads[k]? = some (b.drop (e.payloadOffset + 2))) :
    Filling C G { e with next := advance e.next 1 e.paws, shardCount := e.shardCount + 1,
                         maxSize := max e.maxSize b.length,
                         cache := e.cache ++ [bodyOf (b.drop (e.payloadOffset + 2))] } (k + 1) := by
  refine ⟨inv_mid h.inv h1 h2 hm, h.d, h.p, ?_, ?_, ?_, h.max_succ h1 hpl⟩
  · exact h.next_succ
  · show e.shardCount + 1 = k + 1
    rw [h.count]
  · show e.cache ++ [_] = _
    rw [h.cache, Filling.take_succ hpl]

theorem Filling.last (hC : Lawful C) (hG : G.WF) (h : Filling C G e k) (hk : k + 1 = G.d)
    (h1 : e.payloadOffset + 2 ≤ b.length) (h2 : b.length ≤ mtuLimit)
    (hpl : G.payloads[k]? = some (b.drop (e.payloadOffset + 2))) :
    (e.encode b cont).parity = (if cont = true then
      (List.range G.p).map (fun i => List.replicate e.headerOffset 0 ++ G.packet C (G.d + i)) else []) ∧
    (e.encode b cont).st = { e with next := advance G.base G.n e.paws, shardCount := 0, maxSize := 0,
                                    cache := [] } := by
  have hl : e.shardCount + 1 = e.d := by rw [h.count, h.d]; exact hk
  obtain ⟨hn1, hn2⟩ := next1_toNat h.inv
  have hpw := e.paws.isLt
  have hnext : advance (advance e.next 1 e.paws) e.p e.paws = advance G.base G.n e.paws := by
    rw [advance_advance _ _ _ (by omega), h.next, h.p]
    unfold advance
    rw [bv_add_add, Group.n, ← hk]
    congr 3; omega
  refine ⟨?_, by rw [encode_last_st h.inv h1 h2 hl, hnext]⟩
  cases cont with
  | false => exact (encode_last_skip h1 h2 hl).1
  | true =>
    have hbl := FecDec.length_bodies hG
    -- the cache with the last body is all of `G.bodies`, padded to `G.maxLen`
    have hall : e.cache ++ [bodyOf (b.drop (e.payloadOffset + 2))] = G.bodies := by
      rw [h.cache, ← Filling.take_succ hpl, hk, List.take_of_length_le (Nat.le_of_eq hbl)]
    have hmax : max e.maxSize b.length - e.payloadOffset = G.maxLen := by
      rw [h.max_succ h1 hpl, hk, List.take_of_length_le (Nat.le_of_eq hbl)]; rfl
    have hparl := FecDec.length_parityShards hC hG
    have hd1 : advance e.next 1 e.paws = G.base + BitVec.ofNat 32 G.d := hk ▸ h.next_succ
    have hbase : (G.base + BitVec.ofNat 32 G.d).toNat + G.p ≤ e.paws.toNat := by
      rw [← hd1, hn1, ← h.p]; omega
    rw [(encode_last_cont h.inv h1 h2 hl).1, hall, hmax, h.inv.codec_eq, h.d, h.p, hd1, if_pos rfl]
    show sealParities e.headerOffset e.paws _ (G.parityShards C) = _
    rw [sealParities_eq _ _ _ _ (by rw [hparl]; exact hbase), hparl]
    apply List.map_congr_left
    intro i _
    simp only [packet_parity, List.append_assoc]

theorem many_filling (hC : Lawful C) (hG : G.WF) (cont : Bool) :
    ∀ (bs : List Bytes) (e : Encoder) (k : Nat), Filling C G e k → bs ≠ [] → k + bs.length = G.d →
      (∀ b ∈ bs, e.payloadOffset + 2 ≤ b.length ∧ b.length ≤ mtuLimit) →
      bs.map (List.drop (e.payloadOffset + 2)) = G.payloads.drop k →
      (encodeMany e bs cont).1 = { e with next := advance G.base G.n e.paws, shardCount := 0,
                                          maxSize := 0, cache := [] } ∧
      (encodeMany e bs cont).2.length = bs.length ∧
      ∀ i, i < bs.length → (encodeMany e bs cont).2[i]? = some
        ((bs.getD i []).take e.headerOffset ++ G.packet C (k + i),
         if k + i + 1 = G.d ∧ cont = true then
           (List.range G.p).map (fun j => List.replicate e.headerOffset 0 ++ G.packet C (G.d + j))
         else []) := by
  intro bs
  induction bs with
  | nil => intro _ _ _ hne; exact absurd rfl hne
  | cons b rest ih =>
    intro e k h _ hcount hbs hpl
    obtain ⟨h1, h2⟩ := hbs b (List.mem_cons_self ..)
    rw [List.length_cons] at hcount
    rw [List.map_cons] at hpl
    have hplk : G.payloads[k]? = some (b.drop (e.payloadOffset + 2)) := by
      have := congrArg (·[0]?) hpl
      simpa only [List.getElem?_cons_zero, List.getElem?_drop, Nat.add_zero] using this.symm
    have hplr : rest.map (List.drop (e.payloadOffset + 2)) = G.payloads.drop (k + 1) := by
      have := congrArg List.tail hpl
      simpa only [List.tail_cons, List.tail_drop] using this
    have hdat := h.data (cont := cont) (by omega) h1 h2 hplk
    by_cases hr : rest = []
    · subst hr
      have hc : k + 0 + 1 = G.d := hcount
      obtain ⟨a2, a3⟩ := Filling.last (cont := cont) hC hG h hcount h1 h2 hplk
      simp only [encodeMany, hdat, a2, a3]
      refine ⟨trivial, rfl, fun i hi => ?_⟩
      have hi0 : i = 0 := by simpa using hi
      subst hi0
      simp only [List.getElem?_cons_zero, List.getD_cons_zero, Nat.add_zero, hc, true_and]
    · have hrl : 0 < rest.length := List.length_pos_iff.2 hr
      have hm : e.shardCount + 1 ≠ e.d := by rw [h.count, h.d]; omega
      obtain ⟨a2, a3⟩ := encode_mid (cont := cont) h1 h2 hm
      obtain ⟨i1, i2, i3⟩ := ih _ (k + 1) (h.mid hm h1 h2 hplk) hr (by omega)
        (fun b hb => hbs b (List.mem_cons_of_mem _ hb)) hplr
      simp only [encodeMany, hdat, a2, a3]
      refine ⟨i1, by simp only [List.length_cons, i2], fun i hi => ?_⟩
      cases i with
      | zero =>
        have : ¬ (k + 0 + 1 = G.d ∧ cont = true) := by omega
        simp only [List.getElem?_cons_zero, List.getD_cons_zero, Nat.add_zero, if_neg this]
      | succ j =>
        rw [List.getElem?_cons_succ, i3 j (by simpa using hi), List.getD_cons_succ,
          Nat.add_right_comm k 1 j, Nat.add_assoc k j 1]

end Filling

/-- C07 `enc_group` -/
theorem enc_group {C : CodecNew} (hC : Lawful C) {G : Group} (hG : G.WF) {e : Encoder}
    (h : EncInv C e) (hd : e.d = G.d) (hp : e.p = G.p) (hs : e.shardCount = 0)
    (hn : e.next = G.base) {bs : List Bytes}
    (hpl : bs.map (List.drop (e.payloadOffset + 2)) = G.payloads)
    (hlen : ∀ b ∈ bs, e.payloadOffset + 2 ≤ b.length ∧ b.length ≤ mtuLimit) (cont : Bool) :
    (encodeMany e bs cont).1 = { e with next := advance G.base G.n e.paws } ∧
    (encodeMany e bs cont).2.length = G.d ∧
    ∀ i, i < G.d → (encodeMany e bs cont).2[i]? = some
      ((bs.getD i []).take e.headerOffset ++ G.packet C i,
       if i + 1 = G.d ∧ cont = true then
         (List.range G.p).map (fun k => List.replicate e.headerOffset 0 ++ G.packet C (G.d + k))
       else []) := by
  have hbl : bs.length = G.d := by rw [← hG.count, ← hpl, List.length_map]
  have hc : e.cache = [] := List.eq_nil_of_length_eq_zero (by rw [h.cache_len, hs])
  have hF : Filling C G e 0 :=
    ⟨h, hd, hp, by rw [hn]; exact (BitVec.add_zero _).symm, hs, hc, by rw [h.fresh hs]; exact Nat.zero_sub _⟩
  obtain ⟨a1, a2, a3⟩ := many_filling hC hG cont bs e 0 hF
    (fun h0 => by rw [h0] at hbl; have := hG.d_pos; simp only [List.length_nil] at hbl; omega)
    (by omega) hlen hpl
  refine ⟨by rw [a1, reset_eq h hs], by rw [a2, hbl], fun i hi => ?_⟩
  rw [a3 i (by omega), Nat.zero_add]

theorem enc_group_idx {C : CodecNew} (hC : Lawful C) {G : Group} (hG : G.WF) {e : Encoder}
    (h : EncInv C e) (hd : e.d = G.d) (hp : e.p = G.p) (hs : e.shardCount = 0)
    (hn : e.next = G.base) {bs : List Bytes} (hbl : bs.length = G.d)
    (hidx : ∀ (i : Nat) (h1 : i < bs.length) (h2 : i < G.payloads.length),
      bs[i].drop (e.payloadOffset + 2) = G.payloads[i] ∧
      bs[i].length = e.payloadOffset + 2 + G.payloads[i].length ∧ bs[i].length ≤ mtuLimit)
    (cont : Bool) :
    (encodeMany e bs cont).1 = { e with next := advance G.base G.n e.paws } ∧
    (encodeMany e bs cont).2.length = G.d ∧
    ∀ i, i < G.d → (encodeMany e bs cont).2[i]? = some
      ((bs.getD i []).take e.headerOffset ++ G.packet C i,
       if i + 1 = G.d ∧ cont = true then
         (List.range G.p).map (fun k => List.replicate e.headerOffset 0 ++ G.packet C (G.d + k))
       else []) := by
  have hcnt := hG.count
  refine enc_group hC hG h hd hp hs hn ?_ ?_ cont
  · apply List.ext_getElem
    · rw [List.length_map, hbl, hcnt]
    · intro i h1 h2
      rw [List.getElem_map]
      exact (hidx i (by simpa using h1) h2).1
  · intro b hb
    obtain ⟨i, hi, rfl⟩ := List.getElem_of_mem hb
    obtain ⟨_, h2, h3⟩ := hidx i hi (by omega)
    exact ⟨by omega, h3⟩

/-- the next group start: `(base + n) % paws`, i.e. `base + n`, or `0` exactly at the wrap -/
theorem group_next {G : Group} (hG : G.WF) :
    (advance G.base G.n (pawsOf G.n)).toNat = (G.base.toNat + G.n) % (pawsOf G.n).toNat ∧
    (advance G.base G.n (pawsOf G.n)).toNat
      = (if G.base.toNat + G.n = (pawsOf G.n).toNat then 0 else G.base.toNat + G.n) ∧
    (advance G.base G.n (pawsOf G.n)).toNat % G.n = 0 := by
  have hb := hG.below
  have hlt := (pawsOf G.n).isLt
  have h1 := advance_toNat G.base (pawsOf G.n) G.n (by omega)
  have hal := hG.aligned
  refine ⟨h1, ?_, ?_⟩
  · rw [h1]
    split
    · rename_i heq; rw [heq, Nat.mod_self]
    · exact Nat.mod_eq_of_lt (by omega)
  · rw [h1]
    rcases Nat.lt_or_ge (G.base.toNat + G.n) (pawsOf G.n).toNat with hlt' | hge
    · rw [Nat.mod_eq_of_lt hlt', Nat.add_mod, hal, Nat.mod_self, Nat.add_zero, Nat.zero_mod]
    · have : G.base.toNat + G.n = (pawsOf G.n).toNat := by omega
      rw [this, Nat.mod_self, Nat.zero_mod]

/-- inner calls do not look at the time test -/
theorem encode_cont_irrel (e : Encoder) (b : Bytes) (hm : e.shardCount + 1 ≠ e.d) :
    e.encode b true = e.encode b false := by
  unfold Encoder.encode
  simp only [if_neg hm]

def exG : Group := { d := 2, p := 1, base := 0, payloads := [[1, 2, 3], [4]] }

theorem exG_wf : exG.WF := by
  constructor <;> decide

/- the hypotheses of `enc_group` are satisfiable -/
example (C : CodecNew) (hC : Lawful C) (cont : Bool) :
    (encodeMany (exEnc C) [exB0, exB1] cont).1.next = advance 0 3 (pawsOf 3) ∧
    (encodeMany (exEnc C) [exB0, exB1] cont).2[1]? = some
      ([] ++ exG.packet C 1,
       if 1 + 1 = 2 ∧ cont = true then (List.range 1).map (fun k => [] ++ exG.packet C (2 + k))
       else []) := by
  have h := enc_group hC exG_wf (exEnc_inv C) rfl rfl rfl rfl (bs := [exB0, exB1]) rfl
    (by
      show ∀ b ∈ [exB0, exB1], 0 + 6 + 2 ≤ b.length ∧ b.length ≤ 1500
      decide) cont
  refine ⟨by rw [h.1]; rfl, h.2.2 1 (by decide)⟩

end KcpVerif.Lemmas.FecEnc
