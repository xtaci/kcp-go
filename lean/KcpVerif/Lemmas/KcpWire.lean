/-
The wire format of the KCP core (C01, DESIGN.md 7.1 item 2): a datagram is a sequence of frames
`encodeHdr … ++ data` (`SysW.flush_frames`: a flush writes nothing else); the header parse of `inputLoop`
reads the fields back (`hdr_roundtrip`), so a datagram made of frames whose PUSH members are genuine
satisfies the receive side's premise `GenuineIn`.
-/
import KcpVerif.Model.Kcp
import KcpVerif.Lemmas.KcpFrame
import KcpVerif.Lemmas.KcpRecv
import KcpVerif.Lemmas.WrapCodec

namespace KcpVerif.Wire
open KcpVerif.Gen KcpVerif.Kcp KcpVerif.Frame KcpVerif.Recv

theorem hdr_roundtrip (conv : U32) (cmd frg : BitVec 8) (wnd : BitVec 16) (ts sn una : U32) (len : Nat)
    (rest : Bytes) :
    parseHdr (encodeHdr conv cmd frg wnd ts sn una len ++ rest) =
      ⟨conv, cmd, frg, wnd, ts, sn, una, len % 2 ^ 32⟩ := by
  obtain ⟨r0, r4, r5, r6, r8, r12, r16, r20⟩ := encodeHdr_reads conv cmd frg wnd ts sn una len rest _ rfl
  unfold parseHdr
  rw [r0, r4, r5, r6, r8, r12, r16, r20]
  rfl

structure Frm where
  conv : U32
  cmd  : BitVec 8
  frg  : BitVec 8
  wnd  : BitVec 16
  ts   : U32
  sn   : U32
  una  : U32
  data : Bytes

def encFrame (fr : Frm) : Bytes :=
  encodeHdr fr.conv fr.cmd fr.frg fr.wnd fr.ts fr.sn fr.una fr.data.length ++ fr.data

def encFrames (frs : List Frm) : Bytes := (frs.map encFrame).flatten

/-- a frame that cannot mislead the peer: the payload fits a pool buffer and, if the frame is a
PUSH, its `(frg, payload)` is the genuine content of its sequence number -/
def FrameOk (G : U32 → Content) (fr : Frm) : Prop :=
  fr.data.length ≤ mtuLimit ∧ (fr.cmd.toNat = IKCP_CMD_PUSH → (fr.frg, fr.data) = G fr.sn)

def Framed (G : U32 → Content) (b : Bytes) : Prop := ∃ frs, b = encFrames frs ∧ ∀ fr ∈ frs, FrameOk G fr

theorem framed_genuine (G : U32 → Content) (conv : U32) :
    ∀ (frs : List Frm), (∀ fr ∈ frs, FrameOk G fr) → ∀ fuel, GenuineFrames G conv fuel (encFrames frs) := by
  intro frs
  induction frs with
  | nil =>
    intro _ fuel
    cases fuel with
    | zero => trivial
    | succ f => unfold GenuineFrames; simp [encFrames, IKCP_OVERHEAD]
  | cons fr frs ih =>
    intro hall fuel
    cases fuel with
    | zero => trivial
    | succ f =>
      have hfr := hall fr (List.mem_cons_self ..)
      have e : encFrames (fr :: frs) =
          encodeHdr fr.conv fr.cmd fr.frg fr.wnd fr.ts fr.sn fr.una fr.data.length ++ (fr.data ++ encFrames frs) := by
        simp [encFrames, encFrame]
      have hlen : fr.data.length % 2 ^ 32 = fr.data.length := by
        have := hfr.1; unfold mtuLimit at this; omega
      unfold GenuineFrames
      rw [e, hdr_roundtrip, hlen]
      have hdrop : (encodeHdr fr.conv fr.cmd fr.frg fr.wnd fr.ts fr.sn fr.una fr.data.length ++
          (fr.data ++ encFrames frs)).drop IKCP_OVERHEAD = fr.data ++ encFrames frs := by
        rw [← encodeHdr_length fr.conv fr.cmd fr.frg fr.wnd fr.ts fr.sn fr.una fr.data.length, List.drop_left]
      rw [hdrop]
      simp only []
      split
      · trivial
      · split
        · trivial
        · split
          · trivial
          · split
            · trivial
            · refine ⟨fun hpush => ?_, ?_⟩
              · unfold content pushSeg
                simp only [List.take_left]
                exact hfr.2 hpush
              · rw [List.drop_left]
                exact ih (fun x hx => hall x (List.mem_cons_of_mem _ hx)) f

theorem Framed.genuineIn {G : U32 → Content} {b : Bytes} (h : Framed G b) (conv : U32) : GenuineIn G conv b := by
  obtain ⟨frs, hb, hall⟩ := h
  unfold GenuineIn
  rw [hb]
  exact framed_genuine G conv frs hall _

end KcpVerif.Wire
