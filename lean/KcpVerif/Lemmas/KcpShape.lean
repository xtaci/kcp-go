/-
The small operations of `Model/Kcp`, each on its own.  Its shape: the fields it can write; an invariant that reads
none of them is preserved by rewriting with the shape, and no proof about such an operation unfolds it again.  Where
an operation is a cascade of cases, the cases with their guards (`_cases`); and the few values and bounds that are
facts about one operation alone.  Core Lean only.
-/
import KcpVerif.Model.Kcp
import KcpVerif.Lemmas.Ite

namespace KcpVerif.Kcp
open KcpVerif.Gen

theorem moveReady_shape (k : Kcp) :
    ∃ q b n, moveReady k = { k with rcv_queue := q, rcv_buf := b, rcv_nxt := n } := ⟨_, _, _, rfl⟩

/-- the state after a successful `Recv` -/
def recvK (k : Kcp) : Kcp :=
  let k1 := moveReady { k with rcv_queue := (popMsg k.rcv_queue).rest }
  if k1.rcv_queue.length < k1.rcv_wnd.toNat ∧ decide (k.rcv_queue.length ≥ k.rcv_wnd.toNat) = true
  then { k1 with probe := k1.probe ||| u32 IKCP_ASK_TELL } else k1

/-- `Recv` refuses with −1 when no complete message is queued, with −2 when the next message does not fit the buffer -/
theorem recv_eq (k : Kcp) (buflen : Nat) :
    recv k buflen =
      if k.peekSize < 0 then ⟨k, -1, []⟩ else
      if k.peekSize > (buflen : Int) then ⟨k, -2, []⟩ else
      ⟨recvK k, (popMsg k.rcv_queue).data.length, (popMsg k.rcv_queue).data⟩ := rfl

theorem recv_fail1 (k : Kcp) (buflen : Nat) (h : k.peekSize < 0) : recv k buflen = ⟨k, -1, []⟩ := by
  rw [recv_eq, if_pos h]

theorem recv_fail2 (k : Kcp) (buflen : Nat) (h1 : ¬ k.peekSize < 0) (h2 : k.peekSize > (buflen : Int)) :
    recv k buflen = ⟨k, -2, []⟩ := by
  rw [recv_eq, if_neg h1, if_pos h2]

theorem recv_ok (k : Kcp) (buflen : Nat) (h1 : ¬ k.peekSize < 0) (h2 : ¬ k.peekSize > (buflen : Int)) :
    recv k buflen = ⟨recvK k, (popMsg k.rcv_queue).data.length, (popMsg k.rcv_queue).data⟩ := by
  rw [recv_eq, if_neg h1, if_neg h2]

theorem recv_of_nonneg (k : Kcp) (buflen : Nat) (h : (recv k buflen).n ≥ 0) :
    recv k buflen = ⟨recvK k, (popMsg k.rcv_queue).data.length, (popMsg k.rcv_queue).data⟩ := by
  rw [recv_eq] at h ⊢
  exact ite_cases (P := fun r : RecvRes => r.n ≥ 0 → r = _) (fun _ h => absurd h (show ¬ (-1 : Int) ≥ 0 by decide))
    (fun _ => ite_cases (P := fun r : RecvRes => r.n ≥ 0 → r = _)
      (fun _ h => absurd h (show ¬ (-2 : Int) ≥ 0 by decide)) (fun _ _ => rfl)) h

theorem recv_cases (k : Kcp) (n : Nat) :
    (recv k n).k = k ∨
    ∃ pr, (pr = k.probe ||| u32 IKCP_ASK_TELL ∨ pr = k.probe) ∧
      (recv k n).k = { moveReady { k with rcv_queue := (popMsg k.rcv_queue).rest } with probe := pr } := by
  let Q (r : RecvRes) : Prop := r.k = k ∨ ∃ pr, (pr = k.probe ||| u32 IKCP_ASK_TELL ∨ pr = k.probe) ∧
    r.k = { moveReady { k with rcv_queue := (popMsg k.rcv_queue).rest } with probe := pr }
  show Q (recv k n)
  rw [recv_eq]
  refine ite_ind (P := Q) (Or.inl rfl) (ite_ind (P := Q) (Or.inl rfl) (Or.inr ?_))
  exact ite_ind (P := fun K : Kcp => ∃ pr, (pr = k.probe ||| u32 IKCP_ASK_TELL ∨ pr = k.probe) ∧ K =
      { moveReady { k with rcv_queue := (popMsg k.rcv_queue).rest } with probe := pr })
    ⟨_, Or.inl rfl, rfl⟩ ⟨k.probe, Or.inr rfl, rfl⟩

theorem recv_shape (k : Kcp) (n : Nat) :
    ∃ q b x p, (recv k n).k = { k with rcv_queue := q, rcv_buf := b, rcv_nxt := x, probe := p } := by
  rcases recv_cases k n with e | ⟨pr, _, e⟩
  · exact ⟨k.rcv_queue, k.rcv_buf, k.rcv_nxt, k.probe, e⟩
  · exact ⟨_, _, _, pr, e⟩

theorem parseData_cases {P : DataRes → Prop} (k : Kcp) (s : Seg)
    (hout : itimediff s.sn (k.rcv_nxt + k.rcv_wnd) ≥ 0 ∨ itimediff s.sn k.rcv_nxt < 0 → P ⟨k, true, false⟩)
    (hdup : ¬ (itimediff s.sn (k.rcv_nxt + k.rcv_wnd) ≥ 0 ∨ itimediff s.sn k.rcv_nxt < 0) →
      k.rcv_buf.any (fun x => x.sn = s.sn) = true → P ⟨moveReady k, true, false⟩)
    (hbig : ¬ (itimediff s.sn (k.rcv_nxt + k.rcv_wnd) ≥ 0 ∨ itimediff s.sn k.rcv_nxt < 0) →
      ¬ k.rcv_buf.any (fun x => x.sn = s.sn) = true → s.data.length > mtuLimit → P ⟨k, false, true⟩)
    (hnew : ¬ (itimediff s.sn (k.rcv_nxt + k.rcv_wnd) ≥ 0 ∨ itimediff s.sn k.rcv_nxt < 0) →
      ¬ k.rcv_buf.any (fun x => x.sn = s.sn) = true → ¬ s.data.length > mtuLimit →
      P ⟨moveReady { k with rcv_buf := heapInsert s k.rcv_buf }, false, false⟩) :
    P (parseData k s) := by
  unfold parseData
  exact ite_cases hout fun h1 => ite_cases (hdup h1) fun h2 => ite_cases (hbig h1 h2) (hnew h1 h2)

theorem parseData_shape (k : Kcp) (s : Seg) :
    ∃ q b n, (parseData k s).k = { k with rcv_queue := q, rcv_buf := b, rcv_nxt := n } :=
  parseData_cases (P := fun r => ∃ q b n, r.k = { k with rcv_queue := q, rcv_buf := b, rcv_nxt := n }) k s
    (fun _ => ⟨k.rcv_queue, k.rcv_buf, k.rcv_nxt, rfl⟩) (fun _ _ => ⟨_, _, _, rfl⟩)
    (fun _ _ _ => ⟨k.rcv_queue, k.rcv_buf, k.rcv_nxt, rfl⟩) (fun _ _ _ => ⟨_, _, _, rfl⟩)

/-- the `sn` of the head of a send buffer, or `nxt` when it is empty: what `shrink_buf` assigns to `snd_una` -/
def headSn (nxt : U32) : List Seg → U32
  | s :: _ => s.sn
  | [] => nxt

theorem shrinkBuf_eq (k : Kcp) :
    shrinkBuf k = { k with snd_buf := dropAcked k.snd_buf, snd_una := headSn k.snd_nxt (dropAcked k.snd_buf) } := by
  unfold shrinkBuf; split <;> rename_i h <;> simp only [h, headSn]

theorem shrinkUna_eq (k : Kcp) (una : U32) :
    shrinkBuf (parseUna k una).1 =
      { k with snd_buf := dropAcked (k.snd_buf.drop (unaCount una k.snd_buf)),
               snd_una := headSn k.snd_nxt (dropAcked (k.snd_buf.drop (unaCount una k.snd_buf))) } :=
  shrinkBuf_eq { k with snd_buf := k.snd_buf.drop (unaCount una k.snd_buf) }

theorem shrinkBuf_shape (k : Kcp) : ∃ b u, shrinkBuf k = { k with snd_buf := b, snd_una := u } :=
  ⟨_, _, shrinkBuf_eq k⟩

theorem shrinkUna_shape (k : Kcp) (una : U32) :
    ∃ b u, shrinkBuf (parseUna k una).1 = { k with snd_buf := b, snd_una := u } := by
  obtain ⟨b, u, e⟩ := shrinkBuf_shape (parseUna k una).1
  exact ⟨b, u, by rw [e]; rfl⟩

theorem parseAck_shape (k : Kcp) (sn : U32) : ∃ b, parseAck k sn = { k with snd_buf := b } := by
  unfold parseAck
  split
  · exact ⟨k.snd_buf, rfl⟩
  · exact ⟨_, rfl⟩

theorem parseFastack_shape (k : Kcp) (sn ts : U32) : ∃ b, (parseFastack k sn ts).1 = { k with snd_buf := b } := by
  unfold parseFastack
  split
  · exact ⟨k.snd_buf, rfl⟩
  · exact ⟨_, rfl⟩

theorem ackPath_shape (k : Kcp) (sn ts : U32) :
    ∃ b u, (parseFastack (shrinkBuf (parseAck k sn)) sn ts).1 = { k with snd_buf := b, snd_una := u } := by
  obtain ⟨b1, e1⟩ := parseAck_shape k sn
  obtain ⟨b2, u2, e2⟩ := shrinkBuf_shape (parseAck k sn)
  obtain ⟨b3, e3⟩ := parseFastack_shape (shrinkBuf (parseAck k sn)) sn ts
  exact ⟨b3, u2, by rw [e3, e2, e1]⟩

theorem smoothRtt_shape (k : Kcp) (rtt : U32) : ∃ a b, smoothRtt k rtt = { k with rx_srtt := a, rx_rttvar := b } := by
  unfold smoothRtt
  split <;> exact ⟨_, _, rfl⟩

theorem updateAck_shape (k : Kcp) (rtt : U32) :
    ∃ a b c, updateAck k rtt = { k with rx_srtt := a, rx_rttvar := b, rx_rto := c } := by
  obtain ⟨a, b, h⟩ := smoothRtt_shape k rtt
  unfold updateAck
  simp only []
  rw [h]
  exact ⟨_, _, _, rfl⟩

/-- the Reno-style growth step of `Input`'s cwnd update -/
def cwGrow (k : Kcp) : Kcp :=
  let mss := k.mss
  if k.cwnd < k.ssthresh then { k with cwnd := k.cwnd + 1, incr := k.incr + mss }
  else
    let incr0 := if k.incr < mss then mss else k.incr
    let incr1 := incr0 + ((mss * mss) / incr0 + mss / 16)
    if (k.cwnd + 1) * mss ≤ incr1 then
      { k with incr := incr1, cwnd := if mss > 0 then (incr1 + mss - 1) / mss else incr1 + mss - 1 }
    else { k with incr := incr1 }

/-- the end of the cwnd update: `if cwnd > rmt_wnd { cwnd = rmt_wnd; incr = rmt_wnd * mss }` -/
def cwCap (k1 : Kcp) (mss : U32) : Kcp :=
  if k1.cwnd > k1.rmt_wnd then { k1 with cwnd := k1.rmt_wnd, incr := k1.rmt_wnd * mss } else k1

theorem cwndOnAck_eq (k : Kcp) (oldUna : U32) :
    cwndOnAck k oldUna =
      if k.nocwnd = 0 ∧ itimediff k.snd_una oldUna > 0 ∧ k.cwnd < k.rmt_wnd then cwCap (cwGrow k) k.mss else k := rfl

def CwndShape (k k' : Kcp) : Prop := ∃ cw inc, k' = { k with cwnd := cw, incr := inc }

theorem CwndShape.ite {k a b : Kcp} (ha : CwndShape k a) (hb : CwndShape k b) (c : Prop) [Decidable c] :
    CwndShape k (if c then a else b) :=
  ite_ind ha hb

theorem CwndShape.cap {k k1 : Kcp} (h : CwndShape k k1) (m : U32) : CwndShape k (cwCap k1 m) := by
  obtain ⟨cw, inc, rfl⟩ := h
  exact ite_ind ⟨_, _, rfl⟩ ⟨_, _, rfl⟩

theorem cwndOnAck_shape (k : Kcp) (u : U32) : ∃ cw inc, cwndOnAck k u = { k with cwnd := cw, incr := inc } := by
  have hg : CwndShape k (cwGrow k) :=
    CwndShape.ite ⟨_, _, rfl⟩ (CwndShape.ite ⟨_, _, rfl⟩ ⟨k.cwnd, _, rfl⟩ _) _
  rw [cwndOnAck_eq]
  exact CwndShape.ite (hg.cap k.mss) ⟨k.cwnd, k.incr, rfl⟩ _

theorem probePhase_open (k : Kcp) (now : U32) (h : k.rmt_wnd ≠ 0) :
    probePhase k now = { k with ts_probe := 0, probe_wait := 0 } := by
  unfold probePhase; rw [if_neg h]

theorem probePhase_arm (k : Kcp) (now : U32) (h0 : k.rmt_wnd = 0) (h1 : k.probe_wait = 0) :
    probePhase k now = { k with probe_wait := u32 IKCP_PROBE_INIT, ts_probe := now + u32 IKCP_PROBE_INIT } := by
  unfold probePhase; rw [if_pos h0, if_pos h1]

theorem probePhase_fire (k : Kcp) (now : U32) (h0 : k.rmt_wnd = 0) (h1 : k.probe_wait ≠ 0)
    (h2 : itimediff now k.ts_probe ≥ 0) :
    probePhase k now = { k with probe_wait := nextProbeWait k.probe_wait, ts_probe := now + nextProbeWait k.probe_wait,
                                probe := k.probe ||| u32 IKCP_ASK_SEND } := by
  unfold probePhase; rw [if_pos h0, if_neg h1, if_pos h2]

theorem probePhase_wait (k : Kcp) (now : U32) (h0 : k.rmt_wnd = 0) (h1 : k.probe_wait ≠ 0)
    (h2 : ¬ itimediff now k.ts_probe ≥ 0) : probePhase k now = k := by
  unfold probePhase; rw [if_pos h0, if_neg h1, if_neg h2]

theorem probePhase_cases {P : Kcp → Prop} (k : Kcp) (now : U32)
    (hopen : k.rmt_wnd ≠ 0 → P { k with ts_probe := 0, probe_wait := 0 })
    (harm : k.rmt_wnd = 0 → k.probe_wait = 0 →
      P { k with probe_wait := u32 IKCP_PROBE_INIT, ts_probe := now + u32 IKCP_PROBE_INIT })
    (hfire : k.rmt_wnd = 0 → k.probe_wait ≠ 0 → itimediff now k.ts_probe ≥ 0 →
      P { k with probe_wait := nextProbeWait k.probe_wait, ts_probe := now + nextProbeWait k.probe_wait,
                 probe := k.probe ||| u32 IKCP_ASK_SEND })
    (hwait : k.rmt_wnd = 0 → k.probe_wait ≠ 0 → ¬ itimediff now k.ts_probe ≥ 0 → P k) : P (probePhase k now) :=
  ite_cases (fun h0 => ite_cases (harm h0) fun h1 => ite_cases (hfire h0 h1) (hwait h0 h1)) hopen

theorem probePhase_shape (k : Kcp) (now : U32) :
    ∃ pw tp pr, probePhase k now = { k with probe_wait := pw, ts_probe := tp, probe := pr } :=
  probePhase_cases (P := fun x => ∃ pw tp pr, x = { k with probe_wait := pw, ts_probe := tp, probe := pr }) k now
    (fun _ => ⟨_, _, k.probe, rfl⟩) (fun _ _ => ⟨_, _, k.probe, rfl⟩) (fun _ _ _ => ⟨_, _, _, rfl⟩)
    (fun _ _ _ => ⟨k.probe_wait, k.ts_probe, k.probe, rfl⟩)

theorem Fl.makeSpace_k (f : Fl) (n : Nat) : (f.makeSpace n).k = f.k := by
  unfold Fl.makeSpace; split <;> rfl

theorem Fl.putHdr_k (f : Fl) (h : Bytes) : (f.putHdr h).k = f.k := by
  unfold Fl.putHdr; split <;> rfl

theorem Fl.putData_k (f : Fl) (d : Bytes) : (f.putData d).k = f.k := by
  unfold Fl.putData; split <;> rfl

def P6Shape (k k' : Kcp) : Prop := ∃ ss cw inc, k' = { k with ssthresh := ss, cwnd := cw, incr := inc }

theorem P6Shape.refl (k : Kcp) : P6Shape k k := ⟨k.ssthresh, k.cwnd, k.incr, rfl⟩

theorem P6Shape.step {k a : Kcp} (h : P6Shape k a) (c : Prop) [Decidable c] (ss cw inc : U32) :
    P6Shape k (if c then { a with ssthresh := ss, cwnd := cw, incr := inc } else a) := by
  obtain ⟨_, _, _, rfl⟩ := h
  exact ite_ind ⟨_, _, _, rfl⟩ ⟨_, _, _, rfl⟩

/-- `if change > 0` at the end of `flush`: `ssthresh = max(inflight/2, IKCP_THRESH_MIN)`, `cwnd = ssthresh + resent` -/
def p6change (k5 : Kcp) (resent : U32) (change : Nat) : Kcp :=
  if change > 0 then
    let inflight := k5.snd_nxt - k5.snd_una
    let half := inflight / 2
    let ss := if half ≥ u32 IKCP_THRESH_MIN then half else u32 IKCP_THRESH_MIN
    { k5 with ssthresh := ss, cwnd := ss + resent, incr := (ss + resent) * k5.mss }
  else k5

/-- `if lostSegs > 0`: `ssthresh = max(cwnd/2, IKCP_THRESH_MIN)`, `cwnd = 1`; `cwnd` here is the window phase 4 used -/
def p6lost (k7 : Kcp) (cwnd : U32) (lost : Nat) : Kcp :=
  if lost > 0 then
    let half := cwnd / 2
    { k7 with ssthresh := (if half ≥ u32 IKCP_THRESH_MIN then half else u32 IKCP_THRESH_MIN), cwnd := 1, incr := k7.mss }
  else k7

/-- `if cwnd < 1 { cwnd = 1; incr = mss }` -/
def p6floor (k8 : Kcp) : Kcp := if k8.cwnd < 1 then { k8 with cwnd := 1, incr := k8.mss } else k8

/-- phase 6 of `flush`: halve on a fast retransmit (`change`), collapse to one segment on a timeout (`lost`), never
below one segment -/
def phase6 (k5 : Kcp) (cwnd resent : U32) (change lost : Nat) : Kcp :=
  if k5.nocwnd = 0 then p6floor (p6lost (p6change k5 resent change) cwnd lost) else k5

theorem phase6_shape (k5 : Kcp) (cwnd resent : U32) (change lost : Nat) :
    ∃ ss cw inc, phase6 k5 cwnd resent change lost = { k5 with ssthresh := ss, cwnd := cw, incr := inc } := by
  have h1 : P6Shape k5 (p6change k5 resent change) := (P6Shape.refl k5).step _ _ _ _
  have h2 : P6Shape k5 (p6lost (p6change k5 resent change) cwnd lost) := h1.step _ _ _ _
  have h3 : P6Shape k5 (p6floor (p6lost (p6change k5 resent change) cwnd lost)) := h2.step _ _ _ _
  exact ite_ind h3 (P6Shape.refl k5)

theorem phase6_ge (k5 : Kcp) (cwnd resent : U32) (change lost : Nat) (hn : k5.nocwnd = 0) :
    1 ≤ (phase6 k5 cwnd resent change lost).cwnd := by
  unfold phase6
  rw [if_pos hn]
  exact ite_cases (P := fun x : Kcp => 1 ≤ x.cwnd) (fun _ => BitVec.le_refl _) Nat.le_of_not_lt

theorem phase6_collapse (k5 : Kcp) (cwnd resent : U32) (change lost : Nat) (hn : k5.nocwnd = 0) (hl : lost > 0) :
    (phase6 k5 cwnd resent change lost).cwnd = 1 := by
  have h : (p6lost (p6change k5 resent change) cwnd lost).cwnd = 1 := by unfold p6lost; rw [if_pos hl]
  unfold phase6
  rw [if_pos hn]
  exact ite_ind (P := fun x : Kcp => x.cwnd = 1) rfl h

theorem phase6_keep (k5 : Kcp) (cwnd resent : U32) (h1 : 1 ≤ k5.cwnd) : phase6 k5 cwnd resent 0 0 = k5 := by
  have e1 : p6change k5 resent 0 = k5 := if_neg (Nat.lt_irrefl 0)
  have e2 : p6lost k5 cwnd 0 = k5 := if_neg (Nat.lt_irrefl 0)
  have e3 : p6floor k5 = k5 := if_neg (Nat.not_lt.2 h1)
  unfold phase6
  rw [e1, e2, e3]
  exact ite_self k5

/-- the values `SetMtu` accepts: room for a header, a full segment fits a pool buffer, every queued segment still
fits -/
def MtuAcceptable (k : Kcp) (m : Int) : Prop :=
  (IKCP_OVERHEAD : Int) < m ∧ m ≤ (mtuLimit : Int) + (IKCP_OVERHEAD : Int)
    ∧ ∀ s ∈ k.snd_queue ++ k.snd_buf, (s.data.length : Int) ≤ m - (IKCP_OVERHEAD : Int)

theorem any_gt_false_iff (l : List Seg) (b : Int) :
    (l.any (fun s => decide ((s.data.length : Int) > b)) = false) ↔ ∀ s ∈ l, (s.data.length : Int) ≤ b := by
  rw [List.any_eq_false]
  constructor
  · intro h s hs; have := h s hs; simp only [decide_eq_true_eq] at this; omega
  · intro h s hs; have := h s hs; simp only [decide_eq_true_eq]; omega

theorem setMtu_of_acceptable (k : Kcp) (m : Int) (h : MtuAcceptable k m) :
    setMtu k m = ({ k with mtu := BitVec.ofInt 32 m, mss := BitVec.ofInt 32 m - u32 IKCP_OVERHEAD,
                           bufLen := (m.toNat + IKCP_OVERHEAD) * 3 }, 0) := by
  obtain ⟨h1, h2, h3⟩ := h
  obtain ⟨hq, hb⟩ := List.forall_mem_append.mp h3
  unfold setMtu
  rw [if_neg (by omega), if_neg (by omega), (any_gt_false_iff _ _).mpr hq, (any_gt_false_iff _ _).mpr hb]
  rfl

theorem setMtu_of_not_acceptable (k : Kcp) (m : Int) (h : ¬ MtuAcceptable k m) : setMtu k m = (k, -1) := by
  let P (r : Kcp × Int) : Prop := r = (k, -1)
  show P (setMtu k m)
  unfold setMtu
  refine ite_cases (fun _ => rfl) fun h1 => ite_cases (fun _ => rfl) fun h2 => ite_cases (fun _ => rfl) fun h3 =>
    ite_cases (fun _ => rfl) fun h4 => absurd ⟨by omega, by omega, ?_⟩ h
  exact List.forall_mem_append.mpr
    ⟨(any_gt_false_iff _ _).mp (by simpa using h3), (any_gt_false_iff _ _).mp (by simpa using h4)⟩

theorem setMtu_cases (k : Kcp) (m : Int) :
    (¬ MtuAcceptable k m ∧ setMtu k m = (k, -1)) ∨
    (MtuAcceptable k m ∧
      setMtu k m = ({ k with mtu := BitVec.ofInt 32 m, mss := BitVec.ofInt 32 m - u32 IKCP_OVERHEAD,
                             bufLen := (m.toNat + IKCP_OVERHEAD) * 3 }, 0)) := by
  by_cases h : MtuAcceptable k m
  · exact Or.inr ⟨h, setMtu_of_acceptable k m h⟩
  · exact Or.inl ⟨h, setMtu_of_not_acceptable k m h⟩

theorem setMtu_shape (k : Kcp) (m : Int) : ∃ a b c, (setMtu k m).1 = { k with mtu := a, mss := b, bufLen := c } := by
  rcases setMtu_cases k m with ⟨_, e⟩ | ⟨_, e⟩
  · rw [e]; exact ⟨k.mtu, k.mss, k.bufLen, rfl⟩
  · rw [e]; exact ⟨_, _, _, rfl⟩

theorem toNat_sub_overhead {x : U32} (h : IKCP_OVERHEAD < x.toNat) :
    (x - u32 IKCP_OVERHEAD).toNat = x.toNat - IKCP_OVERHEAD := by
  unfold u32 IKCP_OVERHEAD at *
  bv_omega

theorem MtuAcceptable.toNat {k : Kcp} {m : Int} (h : MtuAcceptable k m) : ((BitVec.ofInt 32 m).toNat : Int) = m := by
  obtain ⟨h1, h2, _⟩ := h
  simp only [BitVec.toNat_ofInt]
  simp only [IKCP_OVERHEAD, mtuLimit] at h1 h2
  omega

def NoDelayShape (k k' : Kcp) : Prop :=
  ∃ nd mr iv fr nc, k' = { k with nodelay := nd, rx_minrto := mr, interval := iv, fastresend := fr, nocwnd := nc }

theorem NoDelayShape.refl (k : Kcp) : NoDelayShape k k :=
  ⟨k.nodelay, k.rx_minrto, k.interval, k.fastresend, k.nocwnd, rfl⟩

theorem NoDelayShape.trans {a b c : Kcp} (h1 : NoDelayShape a b) (h2 : NoDelayShape b c) : NoDelayShape a c := by
  obtain ⟨_, _, _, _, _, rfl⟩ := h1
  obtain ⟨_, _, _, _, _, rfl⟩ := h2
  exact ⟨_, _, _, _, _, rfl⟩

theorem NoDelayShape.step {k a b : Kcp} (h : NoDelayShape k a) (hb : NoDelayShape a b) (c : Prop) [Decidable c] :
    NoDelayShape k (if c then b else a) :=
  ite_ind (h.trans hb) h

theorem noDelay_shape (k : Kcp) (a b c d : Int) :
    ∃ nd mr iv fr nc, noDelay k a b c d = { k with nodelay := nd, rx_minrto := mr, interval := iv, fastresend := fr, nocwnd := nc } :=
  ((((NoDelayShape.refl k).step ⟨_, _, _, _, _, rfl⟩ (a ≥ 0)).step ⟨_, _, _, _, _, rfl⟩ (b ≥ 0)).step
    ⟨_, _, _, _, _, rfl⟩ (c ≥ 0)).step ⟨_, _, _, _, _, rfl⟩ (d ≥ 0)

theorem wndSize_shape (k : Kcp) (s r : Int) : ∃ sw rw, wndSize k s r = { k with snd_wnd := sw, rcv_wnd := rw } := by
  unfold wndSize
  simp only []
  split <;> split <;> exact ⟨_, _, rfl⟩

theorem send_shape (k : Kcp) (b : Bytes) : ∃ q, (send k b).k = { k with snd_queue := q } := by
  let P (r : SendRes) : Prop := ∃ q, r.k = { k with snd_queue := q }
  have h0 (r : Int) (p : Bool) : P ⟨k, r, p⟩ := ⟨k.snd_queue, rfl⟩
  have h1 (q : List Seg) (r : Int) (p : Bool) : P ⟨{ k with snd_queue := q }, r, p⟩ := ⟨q, rfl⟩
  show P (send k b)
  unfold send
  -- the exits of `send` in the order of its tests: empty buffer; more than 255 fragments; panic on the stream
  -- append; everything appended to the last segment; panic on a new segment; new segments queued
  exact ite_ind (h0 _ _) (ite_ind (h0 _ _) (ite_ind (h0 _ _) (ite_ind (h1 _ _ _) (ite_ind (h1 _ _ _) (h1 _ _ _)))))

theorem encodeHdr_length (conv : U32) (cmd frg : BitVec 8) (wnd : BitVec 16) (ts sn una : U32) (len : Nat) :
    (encodeHdr conv cmd frg wnd ts sn una len).length = IKCP_OVERHEAD := rfl

/-- the `uint16` truncation can only lower the advertised window -/
theorem wndUnused_le (k : Kcp) : (wndUnused k).toNat ≤ k.rcv_wnd.toNat - k.rcv_queue.length := by
  unfold wndUnused
  split
  · rw [BitVec.toNat_ofNat]; exact Nat.mod_le _ _
  · exact Nat.zero_le _

theorem wndUnused_eq (k : Kcp) (h : k.rcv_wnd.toNat - k.rcv_queue.length < 2^16) :
    (wndUnused k).toNat = k.rcv_wnd.toNat - k.rcv_queue.length := by
  unfold wndUnused
  split
  · rw [BitVec.toNat_ofNat]; exact Nat.mod_eq_of_lt h
  · show 0 = _; omega

theorem cwndOnAck_self (k : Kcp) : cwndOnAck k k.snd_una = k := by
  unfold cwndOnAck
  refine if_neg fun h => ?_
  have := h.2.1
  unfold itimediff at this
  simp at this

theorem clamp_bounds (minrto rto : U32) (hmin : minrto ≤ u32 IKCP_RTO_MAX) :
    minrto ≤ clampRto minrto rto ∧ clampRto minrto rto ≤ u32 IKCP_RTO_MAX := by
  unfold clampRto
  simp only []
  have hlo : minrto ≤ (if minrto ≥ rto then minrto else rto) :=
    ite_cases (P := fun x => minrto ≤ x) (fun _ => BitVec.le_refl _) (fun h => by bv_omega)
  exact ite_cases (P := fun x => minrto ≤ x ∧ x ≤ u32 IKCP_RTO_MAX) (fun h => ⟨hlo, h⟩)
    (fun _ => ⟨hmin, BitVec.le_refl _⟩)

theorem smooth_minrto (k : Kcp) (rtt : U32) : (smoothRtt k rtt).rx_minrto = k.rx_minrto := by
  obtain ⟨a, b, h⟩ := smoothRtt_shape k rtt
  rw [h]

theorem rtoMax_toNat : (u32 IKCP_RTO_MAX).toNat = 60000 := by decide

/-- every RTT sample (negative, huge, forged) leaves the connection RTO between the minimum and 60 s:
the clamp is the last operation of `update_ack` -/
theorem updateAck_bounds (k : Kcp) (rtt : U32) (hmin : k.rx_minrto ≤ u32 IKCP_RTO_MAX) :
    k.rx_minrto ≤ (updateAck k rtt).rx_rto ∧ (updateAck k rtt).rx_rto ≤ u32 IKCP_RTO_MAX ∧
    (updateAck k rtt).rx_minrto = k.rx_minrto := by
  have h := smooth_minrto k rtt
  unfold updateAck
  simp only [h]
  exact ⟨(clamp_bounds _ _ hmin).1, (clamp_bounds _ _ hmin).2, trivial⟩

theorem updateAck_rto (k : Kcp) (rtt : U32) (h : k.rx_minrto.toNat ≤ 60000) :
    k.rx_minrto.toNat ≤ (updateAck k rtt).rx_rto.toNat ∧ (updateAck k rtt).rx_rto.toNat ≤ 60000 := by
  have hb := updateAck_bounds k rtt (by rw [BitVec.le_def, rtoMax_toNat]; exact h)
  rw [BitVec.le_def, BitVec.le_def, rtoMax_toNat] at hb
  exact ⟨hb.1, hb.2.1⟩

end KcpVerif.Kcp
