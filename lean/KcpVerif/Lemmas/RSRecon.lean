/-
`RS.reconstructData` at the level of lists, `invert` and `combine` opaque (core Lean only).  On shards of
one size the checks pass and a closed form remains (`reconstructData_eq`); on a masked codeword the data
come back as soon as the rows of the FIRST `d` present shards have an inverse that reproduces them
(`reconstructData_mask`).  That inverse is the algebra, left to `Lemmas/RSBridge`.
-/
import KcpVerif.Lemmas.FecSpec

namespace KcpVerif.Lemmas.RSRecon
open KcpVerif.RS KcpVerif.Lemmas.FecSpec

@[simp] theorem mask_nil_left (ss : List Shard) : mask [] ss = [] := by
  simp [mask]

@[simp] theorem mask_nil_right (bs : List Bool) : mask bs [] = [] := by
  simp [mask]

theorem mask_cons (b : Bool) (bs : List Bool) (s : Shard) (ss : List Shard) :
    mask (b :: bs) (s :: ss) = (if b then some s else none) :: mask bs ss := by
  simp [mask]

theorem mask_length (bs : List Bool) (ss : List Shard) :
    (mask bs ss).length = min bs.length ss.length := by
  simp [mask]

theorem mask_take (n : Nat) (bs : List Bool) (ss : List Shard) :
    (mask bs ss).take n = mask (bs.take n) (ss.take n) := by
  simp [mask, List.take_zipWith]

theorem getElem?_mask {bs : List Bool} {ss : List Shard} {j : Nat} {s : Shard}
    (h : (mask bs ss)[j]? = some (some s)) : ss[j]? = some s := by
  unfold mask at h
  rw [List.getElem?_zipWith] at h
  cases hb : bs[j]? with
  | none => simp [hb] at h
  | some b =>
    cases hs : ss[j]? with
    | none => simp [hb, hs] at h
    | some t =>
      cases b <;> simp [hb, hs] at h
      rw [h]

theorem mem_mask {bs : List Bool} {ss : List Shard} {s : Shard} (h : some s ∈ mask bs ss) :
    s ∈ ss := by
  obtain ⟨j, hj, hjs⟩ := List.getElem_of_mem h
  exact List.mem_of_getElem? (getElem?_mask (j := j) (by rw [List.getElem?_eq_getElem hj, hjs]))

theorem countP_mask (bs : List Bool) (ss : List Shard) (hlen : bs.length = ss.length) :
    (mask bs ss).countP Option.isSome = bs.count true := by
  induction bs generalizing ss with
  | nil => simp
  | cons b bs ih =>
    cases ss with
    | nil => simp at hlen
    | cons s ss =>
      rw [mask_cons, List.countP_cons, List.count_cons, ih ss (by simpa using hlen)]
      cases b <;> simp

theorem all_isSome_mask (bs : List Bool) (ss : List Shard) (hlen : bs.length = ss.length) :
    (mask bs ss).all Option.isSome = bs.all id := by
  induction bs generalizing ss with
  | nil => simp
  | cons b bs ih =>
    cases ss with
    | nil => simp at hlen
    | cons s ss =>
      rw [mask_cons, List.all_cons, List.all_cons, ih ss (by simpa using hlen)]
      cases b <;> simp

theorem filterMap_mask (bs : List Bool) (ss : List Shard) (hlen : bs.length = ss.length)
    (hall : bs.all id = true) : (mask bs ss).filterMap id = ss := by
  induction bs generalizing ss with
  | nil =>
    cases ss with
    | nil => simp
    | cons s ss => simp at hlen
  | cons b bs ih =>
    cases ss with
    | nil => simp at hlen
    | cons s ss =>
      rw [List.all_cons, Bool.and_eq_true] at hall
      have hb : b = true := by simpa using hall.1
      subst hb
      rw [mask_cons, if_pos rfl, List.filterMap_cons_some (by rfl),
        ih ss (by simpa using hlen) hall.2]

theorem normalize_eq (l : List (Option Shard)) (hne : ∀ s, some s ∈ l → 0 < s.length) :
    normalize l = l := by
  unfold normalize
  conv => rhs; rw [← List.map_id l]
  apply List.map_congr_left
  intro o ho
  cases o with
  | none => rfl
  | some s =>
    have := hne s ho
    cases s with
    | nil => simp at this
    | cons _ _ => rfl

theorem shardSize_eq (L : Nat) (l : List (Option Shard)) (hL : 0 < L)
    (hsz : ∀ s, some s ∈ l → s.length = L) (hex : 0 < l.countP Option.isSome) :
    shardSize l = L := by
  induction l with
  | nil => simp at hex
  | cons o l ih =>
    cases o with
    | none =>
      exact ih (fun s hs => hsz s (List.mem_cons_of_mem _ hs)) (by simpa using hex)
    | some s =>
      have hsl := hsz s (List.mem_cons_self ..)
      cases s with
      | nil => simp at hsl; omega
      | cons _ _ => exact hsl

/-- the `ErrShardSize` check passes -/
theorem any_size_eq (L : Nat) (l : List (Option Shard)) (hsz : ∀ s, some s ∈ l → s.length = L) :
    l.any (fun o => match o with | some s => s.length != L | none => false) = false := by
  rw [List.any_eq_false]
  intro o ho
  cases o with
  | none => simp
  | some s => simp [hsz s ho]

theorem firstPresent_zero (i : Nat) (l : List (Option Shard)) : firstPresent 0 i l = [] := by
  cases l <;> rfl

theorem firstPresent_nil (k i : Nat) : firstPresent k i [] = [] := by
  cases k <;> rfl

theorem firstPresent_none (k i : Nat) (rest : List (Option Shard)) :
    firstPresent k i (none :: rest) = firstPresent k (i + 1) rest := by
  cases k with
  | zero => simp [firstPresent_zero]
  | succ k => rfl

theorem firstPresent_some (k i : Nat) (s : Shard) (rest : List (Option Shard)) :
    firstPresent (k + 1) i (some s :: rest) = (i, s) :: firstPresent k (i + 1) rest := rfl

theorem firstPresent_length (k i : Nat) (l : List (Option Shard))
    (h : k ≤ l.countP Option.isSome) : (firstPresent k i l).length = k := by
  induction l generalizing k i with
  | nil =>
    have : k = 0 := by simpa using h
    subst this; rfl
  | cons o l ih =>
    cases o with
    | none => rw [firstPresent_none]; exact ih k (i + 1) (by simpa using h)
    | some s =>
      cases k with
      | zero => rfl
      | succ k => rw [firstPresent_some, List.length_cons, ih k (i + 1) (by simpa using h)]

/-- positions are counted from `i` -/
theorem firstPresent_mem (k i : Nat) (l : List (Option Shard)) (js : Nat × Shard)
    (h : js ∈ firstPresent k i l) : i ≤ js.1 ∧ l[js.1 - i]? = some (some js.2) := by
  induction l generalizing k i with
  | nil => rw [firstPresent_nil] at h; cases h
  | cons o l ih =>
    have hstep : ∀ k, js ∈ firstPresent k (i + 1) l →
        i ≤ js.1 ∧ (o :: l)[js.1 - i]? = some (some js.2) := by
      intro k h'
      obtain ⟨h1, h2⟩ := ih _ _ h'
      have : js.1 - i = (js.1 - (i + 1)) + 1 := by omega
      exact ⟨by omega, by rw [this, List.getElem?_cons_succ]; exact h2⟩
    cases o with
    | none => rw [firstPresent_none] at h; exact hstep k h
    | some s =>
      cases k with
      | zero => rw [firstPresent_zero] at h; cases h
      | succ k =>
        rw [firstPresent_some, List.mem_cons] at h
        rcases h with rfl | h
        · exact ⟨Nat.le_refl _, by simp⟩
        · exact hstep k h

theorem firstPresent_pairwise (k i : Nat) (l : List (Option Shard)) :
    ((firstPresent k i l).map (·.1)).Pairwise (· < ·) := by
  induction l generalizing k i with
  | nil => rw [firstPresent_nil]; exact List.Pairwise.nil
  | cons o l ih =>
    cases o with
    | none => rw [firstPresent_none]; exact ih k (i + 1)
    | some s =>
      cases k with
      | zero => rw [firstPresent_zero]; exact List.Pairwise.nil
      | succ k =>
        rw [firstPresent_some, List.map_cons, List.pairwise_cons]
        refine ⟨?_, ih k (i + 1)⟩
        intro j hj
        obtain ⟨js, hjs, rfl⟩ := List.mem_map.1 hj
        exact (firstPresent_mem k (i + 1) l js hjs).1

theorem fillData_eq (len : Nat) (valid : List Shard) (l : List (Option Shard)) (rows : Matrix) :
    fillData len valid l rows
      = List.zipWith (fun o row => o.getD (combine len row valid)) l rows := by
  induction l generalizing rows with
  | nil => rfl
  | cons o l ih =>
    cases rows with
    | nil => cases o <;> rfl
    | cons row rows => cases o <;> simp only [fillData, List.zipWith_cons_cons, ih] <;> rfl

theorem fillData_mask_of_map (len : Nat) (valid : List Shard) (bs : List Bool) (ss : List Shard)
    (rows : Matrix) (hlen : bs.length = ss.length)
    (h : rows.map (fun row => combine len row valid) = ss) :
    fillData len valid (mask bs ss) rows = ss := by
  subst h
  rw [fillData_eq]
  induction bs generalizing rows with
  | nil => cases rows <;> simp_all
  | cons b bs ih =>
    cases rows with
    | nil => simp at hlen
    | cons row rows =>
      rw [List.map_cons, mask_cons, List.zipWith_cons_cons, ih rows (by simpa using hlen)]
      cases b <;> rfl

theorem reconstructData_eq (m : Matrix) (d L : Nat) (l : List (Option Shard))
    (hlen : l.length = m.length) (hL : 0 < L) (hsz : ∀ s, some s ∈ l → s.length = L)
    (hex : 0 < l.countP Option.isSome) :
    reconstructData m d l =
      if (l.take d).all Option.isSome then some ((l.take d).filterMap id)
      else if (firstPresent d 0 l).length < d then none
      else (invert ((firstPresent d 0 l).map fun iv => m.getD iv.1 [])).map
        (fillData L ((firstPresent d 0 l).map (·.2)) (l.take d)) := by
  unfold reconstructData
  dsimp only
  rw [normalize_eq l (fun s hs => by rw [hsz s hs]; exact hL), shardSize_eq L l hL hsz hex,
    if_neg (fun h => h hlen), if_neg (Nat.ne_of_gt hL)]
  refine (if_neg (ne_true_of_eq_false (any_size_eq L l hsz))).trans ?_
  cases invert ((firstPresent d 0 l).map fun iv => m.getD iv.1 []) <;> rfl

theorem reconstructData_mask (m : Matrix) (d p L : Nat) (cw : List Shard) (present : List Bool)
    (hd : 0 < d) (hL : 0 < L) (hm : m.length = d + p) (hcw : cw.length = d + p)
    (hsz : ∀ s ∈ cw, s.length = L) (hpl : present.length = d + p)
    (hcnt : d ≤ present.count true)
    (hdec : ∃ dec,
      invert ((firstPresent d 0 (mask present cw)).map fun iv => m.getD iv.1 []) = some dec ∧
      dec.map (fun row => combine L row ((firstPresent d 0 (mask present cw)).map (·.2)))
        = cw.take d) :
    reconstructData m d (mask present cw) = some (cw.take d) := by
  have hlen : present.length = cw.length := hpl.trans hcw.symm
  have hc := countP_mask present cw hlen
  have htl : (present.take d).length = (cw.take d).length := by
    rw [List.length_take, List.length_take, hpl, hcw]
  obtain ⟨dec, hinv, hmap⟩ := hdec
  rw [reconstructData_eq m d L _ (by rw [mask_length, hpl, hcw, hm, Nat.min_self]) hL
      (fun s hs => hsz s (mem_mask hs)) (by omega),
    firstPresent_length d 0 _ (by omega), if_neg (Nat.lt_irrefl d), mask_take, hinv, Option.map_some,
    fillData_mask_of_map L _ _ _ dec htl hmap]
  split
  · rename_i h
    rw [all_isSome_mask _ _ htl] at h
    rw [filterMap_mask _ _ htl h]
  · rfl

end KcpVerif.Lemmas.RSRecon
