import KcpVerif.Lemmas.SchedLive
/-!
For C17, liveness under fairness.

There is no state-based ranking that decreases with EVERY scheduler step: when a timer value equals
the deadline exactly (`v = ts`), the worker's strict `After` fails, it re-arms with duration 0 and
returns to the very same state (the spin of `Props.demoRun`, steps 24-26) — any number of times
while the clock stands still.  Only the divergence of time ends it.  So the argument starts after
the last deadline: from then on every step that is not a `tick` lowers `mu D`, hence eventually only
ticks happen; a task still pending would keep some step enabled for ever (enabledness only grows
with time), and fairness takes it.
-/
namespace KcpVerif.Sched

/-- only `readNow` and `fire` read the clock, and both guards are upward closed -/
theorem wstep_isSome_mono {m : Mode} {a b : Time} {w : Worker} {l : WLabel}
    (h : (wstep m a w l).isSome) (hab : a ≤ b) : (wstep m b w l).isSome := by
  obtain ⟨out, ho⟩ := Option.isSome_iff_exists.mp h
  cases wstep_inv ho with
  | exec hp hlt => exact (WStep.exec hp (Nat.lt_of_lt_of_le hlt hab)).isSome
  | @push t hp =>
    by_cases hlt : t.ts < b
    · exact (WStep.exec hp hlt).isSome
    · exact (WStep.push hp hlt).isSome
  | fire ha hc => exact (WStep.fire ha ⟨Nat.le_trans hc.1 hab, hc.2.1, Nat.le_trans hc.2.2 hab⟩).isSome
  | stop hp => exact (WStep.stop hp).isSome
  | drainRecv hp hc hv => exact (WStep.drainRecv hp hc hv).isSome
  | drainSkip hp hc => exact (WStep.drainSkip hp hc).isSome
  | reset hp => exact (WStep.reset hp).isSome
  | recvTimer hp hv => exact (WStep.recvTimer hp hv).isSome
  | pop hp hc => exact (WStep.pop hp hc).isSome
  | loopDone hp hnil => exact (WStep.loopDone hp hnil).isSome
  | loopArm hp hne hge => exact (WStep.loopArm hp hne hge).isSome

theorem step_isSome_mono {m : Mode} {s : State} {a b : Time} {l : Label}
    (h : (step m { s with now := a } l).isSome) (hab : a ≤ b) : (step m { s with now := b } l).isSome := by
  obtain ⟨s', hs⟩ := Option.isSome_iff_exists.mp h
  -- the guards of the stage-1 steps do not read `now`
  cases step_inv hs with
  | tick d => rfl
  | put hnew => exact (SStep.put (s := { s with now := b }) hnew).isSome
  | notify hp => exact (SStep.notify (s := { s with now := b }) hp).isSome
  | takeToken hc => exact (SStep.takeToken (s := { s with now := b }) hc).isSome
  | swap hg => exact (SStep.swap (s := { s with now := b }) hg).isSome
  | handoff hidle hb hw hsel => exact (SStep.handoff (s := { s with now := b }) hidle hb hw hsel).isSome
  | w hw ho =>
    obtain ⟨out', ho'⟩ := Option.isSome_iff_exists.mp (wstep_isSome_mono (by rw [ho]; rfl) hab)
    exact (SStep.w (s := { s with now := b }) hw ho').isSome


theorem nat_desc_le (f : Nat → Nat) {N : Nat} (hmono : ∀ n, N ≤ n → f (n + 1) ≤ f n) {n : Nat}
    (hn : N ≤ n) : f n ≤ f N := by
  induction hn with
  | refl => exact Nat.le_refl _
  | step hle ih => exact Nat.le_trans (hmono _ hle) ih

/-- a sequence that does not increase from `N` on and drops whenever `P` holds has `P` only finitely
    often -/
theorem nat_desc (f : Nat → Nat) (P : Nat → Prop) : ∀ (b N : Nat), f N ≤ b →
    (∀ n, N ≤ n → f (n + 1) ≤ f n) → (∀ n, N ≤ n → P n → f (n + 1) < f n) →
    ∃ N2, N ≤ N2 ∧ ∀ n, N2 ≤ n → ¬ P n := by
  intro b
  induction b with
  | zero =>
    intro N hb hmono hstrict
    refine ⟨N, Nat.le_refl _, fun n hn hp => ?_⟩
    have h1 := hstrict n hn hp
    have h2 := nat_desc_le f hmono hn
    omega
  | succ b ih =>
    intro N hb hmono hstrict
    by_cases hall : ∀ n, N ≤ n → ¬ P n
    · exact ⟨N, Nat.le_refl _, hall⟩
    · have : ∃ n, N ≤ n ∧ P n := by
        apply Classical.byContradiction
        intro hno
        exact hall (fun n hn hp => hno ⟨n, hn, hp⟩)
      obtain ⟨n, hn, hp⟩ := this
      have h1 := hstrict n hn hp
      have h2 := nat_desc_le f hmono hn
      obtain ⟨N2, hN2, hfin⟩ := ih (n + 1) (by omega)
        (fun x hx => hmono x (by omega)) (fun x hx => hstrict x (by omega))
      exact ⟨N2, by omega, hfin⟩

theorem step_sub_mono {m : Mode} {s s' : State} {l : Label} (hs : step m s l = some s') {t : Task}
    (ht : t ∈ s.sub) : t ∈ s'.sub := by
  cases step_inv hs with
  | put => exact List.mem_cons_of_mem _ ht
  | w => simpa using ht
  | _ => exact ht

/-- an infinite run from `NewTimedSched(k)`: label `lab n` leads from `st n` to `st (n + 1)` -/
structure IsRun (m : Mode) (k : Nat) (t0 : Time) (st : Nat → State) (lab : Nat → Label) : Prop where
  start : st 0 = init k t0
  next : ∀ n, step m (st n) (lab n) = some (st (n + 1))

namespace IsRun
variable {m : Mode} {k : Nat} {t0 : Time} {st : Nat → State} {lab : Nat → Label}

theorem reach (r : IsRun m k t0 st lab) : ∀ n, Reachable m k t0 (st n)
  | 0 => r.start ▸ Reachable.init
  | n + 1 => (r.reach n).step (r.next n)

theorem now_mono (r : IsRun m k t0 st lab) {a b : Nat} (hab : a ≤ b) : (st a).now ≤ (st b).now := by
  induction hab with
  | refl => exact Nat.le_refl _
  | step _ ih => exact Nat.le_trans ih (step_now_mono (r.next _))

theorem sub_mono (r : IsRun m k t0 st lab) {a b : Nat} (hab : a ≤ b) {t : Task} (ht : t ∈ (st a).sub) :
    t ∈ (st b).sub := by
  induction hab with
  | refl => exact ht
  | step _ ih => exact step_sub_mono (r.next _) ih

theorem noput_from (r : IsRun m k t0 st lab) {N : Nat} (hN : ∀ n, N ≤ n → ∀ id ts, lab n ≠ .put id ts)
    {a b : Nat} (ha : N ≤ a) (hab : a ≤ b) :
    (st b).sub = (st a).sub ∧ (st a).done.length ≤ (st b).done.length := by
  induction hab with
  | refl => exact ⟨rfl, Nat.le_refl _⟩
  | step hle ih =>
    have h1 := step_noput (r.next _) (hN _ (Nat.le_trans ha hle))
    exact ⟨h1.1.trans ih.1, Nat.le_trans ih.2 h1.2⟩

end IsRun


/-- `hprog`: the system never idles for ever while some action of the scheduler or of the runtime
    stays enabled; implied by weak fairness per action and by weak fairness per goroutine -/
theorem IsRun.eventually_quiescent_of_progress {m : Mode} {k : Nat} {t0 : Time} {st : Nat → State}
    {lab : Nat → Label} (r : IsRun m k t0 st lab) (hk : 0 < k) {N0 : Nat}
    (hpause : ∀ n, N0 ≤ n → ∀ id ts, lab n ≠ .put id ts)
    (hprog : ∀ l, (∀ id ts, l ≠ .put id ts) → (∀ d, l ≠ .tick d) →
      ∀ N, (∀ n, N ≤ n → (step m (st n) l).isSome) → ∃ n, N ≤ n ∧ ∀ d, lab n ≠ .tick d)
    (htime : ∀ T, ∃ n, T ≤ (st n).now) :
    ∃ N2, N0 ≤ N2 ∧ pendingTasks (st N2) = [] := by
  -- after N0 the set of submitted tasks is fixed; D bounds every deadline
  let D := maxTs (st N0).sub
  obtain ⟨n1, hn1⟩ := htime (D + 1)
  let Ns := max N0 n1
  have hNs0 : N0 ≤ Ns := Nat.le_max_left _ _
  have hpast : ∀ n, Ns ≤ n → Past D (st n) := by
    intro n hn
    refine ⟨?_, fun t ht => ?_⟩
    · have := r.now_mono (Nat.le_trans (Nat.le_max_right N0 n1) hn)
      exact Nat.lt_of_lt_of_le (Nat.lt_of_succ_le hn1) this
    · rw [(r.noput_from hpause (Nat.le_refl _) (Nat.le_trans hNs0 hn)).1] at ht
      exact le_maxTs ht
  -- the variant decreases with every non-tick step, so eventually only ticks happen
  have hle : ∀ n, Ns ≤ n → nonTicks [lab n] + mu D (st (n + 1)) ≤ mu D (st n) := fun n hn =>
    mu_le (r.reach n) (hpast n hn) (r.next n) (hpause n (Nat.le_trans hNs0 hn))
  obtain ⟨N2, hN2, honly⟩ := nat_desc (fun n => mu D (st n)) (fun n => ∀ d, lab n ≠ .tick d)
    (mu D (st Ns)) Ns (Nat.le_refl _)
    (fun n hn => Nat.le_trans (Nat.le_add_left _ _) (hle n hn))
    (fun n hn hnt => by
      have := hle n hn
      rw [nonTicks_of_not_tick hnt] at this
      show mu D (st (n + 1)) < mu D (st n)
      omega)
  have htick : ∀ n, N2 ≤ n → ∃ d, lab n = .tick d := by
    intro n hn
    apply Classical.byContradiction
    intro hno
    exact honly n hn (fun d hd => hno ⟨d, hd⟩)
  refine ⟨N2, Nat.le_trans hNs0 hN2, ?_⟩
  apply Classical.byContradiction
  intro hp
  -- from N2 on only the clock moves
  have hshape : ∀ j, ∃ e, st (N2 + j) = { st N2 with now := (st N2).now + e } := by
    intro j
    induction j with
    | zero => exact ⟨0, rfl⟩
    | succ j ih =>
      obtain ⟨e, he⟩ := ih
      obtain ⟨d, hd⟩ := htick (N2 + j) (Nat.le_add_right _ _)
      have hs := r.next (N2 + j)
      rw [hd, step_tick, he] at hs
      refine ⟨e + d, ?_⟩
      have := (Option.some.inj hs).symm
      rw [Nat.add_succ, this]
      simp [Nat.add_assoc]
  -- something other than a Put is enabled once enough time has passed, and stays enabled
  obtain ⟨d, l, hlput, hltick, hen⟩ := no_deadlock (r.reach N2) hk hp
  rw [run_tick_step] at hen
  obtain ⟨n3, hn3⟩ := htime ((st N2).now + d)
  let N3 := max N2 n3
  have hN32 : N2 ≤ N3 := Nat.le_max_left _ _
  have henabled : ∀ n, N3 ≤ n → (step m (st n) l).isSome := by
    intro n hn
    obtain ⟨e, he⟩ := hshape (n - N2)
    have hnn : N2 + (n - N2) = n := by omega
    rw [hnn] at he
    have hnow : (st N2).now + d ≤ (st N2).now + e := by
      have h1 := r.now_mono (Nat.le_trans (Nat.le_max_right N2 n3) hn)
      rw [he] at h1
      exact Nat.le_trans hn3 h1
    rw [he]
    exact step_isSome_mono hen hnow
  obtain ⟨n, hn, hl⟩ := hprog l hlput hltick N3 henabled
  obtain ⟨d', hd'⟩ := htick n (Nat.le_trans hN32 hn)
  exact hl d' hd'

/-- `fire` is fair as a class, because the value sent varies -/
theorem IsRun.eventually_quiescent {m : Mode} {k : Nat} {t0 : Time} {st : Nat → State}
    {lab : Nat → Label} (r : IsRun m k t0 st lab) (hk : 0 < k) {N0 : Nat}
    (hpause : ∀ n, N0 ≤ n → ∀ id ts, lab n ≠ .put id ts)
    (hfair : ∀ l, (∀ id ts, l ≠ .put id ts) → (∀ d, l ≠ .tick d) → (∀ i v, l ≠ .w i (.fire v)) →
      ∀ N, (∀ n, N ≤ n → (step m (st n) l).isSome) → ∃ n, N ≤ n ∧ lab n = l)
    (hfire : ∀ i N, (∀ n, N ≤ n → ∃ v, (step m (st n) (.w i (.fire v))).isSome) →
      ∃ n v, N ≤ n ∧ lab n = .w i (.fire v))
    (htime : ∀ T, ∃ n, T ≤ (st n).now) :
    ∃ N2, N0 ≤ N2 ∧ pendingTasks (st N2) = [] := by
  apply r.eventually_quiescent_of_progress hk hpause _ htime
  intro l hlput hltick N hen
  by_cases hf : ∃ i v, l = .w i (.fire v)
  · obtain ⟨i, v, rfl⟩ := hf
    obtain ⟨n, v', hn, hl⟩ := hfire i N (fun n hn => ⟨v, hen n hn⟩)
    exact ⟨n, hn, fun d hd => by rw [hl] at hd; cases hd⟩
  · obtain ⟨n, hn, hl⟩ := hfair l hlput hltick (fun i v he => hf ⟨i, v, he⟩) N hen
    exact ⟨n, hn, fun d hd => hltick d (hl ▸ hd)⟩

/-- who takes a step: a producer finishing its `Put`, the prepend goroutine (the `chTask`
    rendezvous is counted as its step), worker `i`, or the runtime running worker `i`'s timer;
    `Put` itself and the passing of time belong to the environment -/
inductive Owner
  | producer
  | prepend
  | worker (i : Nat)
  | runtime (i : Nat)
deriving DecidableEq, Repr

def Label.owner : Label → Option Owner
  | .tick _ => none
  | .put _ _ => none
  | .notify => some .producer
  | .takeToken => some .prepend
  | .swap => some .prepend
  | .handoff _ => some .prepend
  | .w i (.fire _) => some (.runtime i)
  | .w i _ => some (.worker i)

theorem owner_isSome {l : Label} (hp : ∀ id ts, l ≠ .put id ts) (ht : ∀ d, l ≠ .tick d) :
    ∃ g, l.owner = some g := by
  cases l with
  | tick d => exact absurd rfl (ht d)
  | put id ts => exact absurd rfl (hp id ts)
  | notify => exact ⟨_, rfl⟩
  | takeToken => exact ⟨_, rfl⟩
  | swap => exact ⟨_, rfl⟩
  | handoff i => exact ⟨_, rfl⟩
  | w i wl => cases wl <;> exact ⟨_, rfl⟩

theorem IsRun.eventually_quiescent_go {m : Mode} {k : Nat} {t0 : Time} {st : Nat → State}
    {lab : Nat → Label} (r : IsRun m k t0 st lab) (hk : 0 < k) {N0 : Nat}
    (hpause : ∀ n, N0 ≤ n → ∀ id ts, lab n ≠ .put id ts)
    (hfair : ∀ g N, (∀ n, N ≤ n → ∃ l, l.owner = some g ∧ (step m (st n) l).isSome) →
      ∃ n, N ≤ n ∧ (lab n).owner = some g)
    (htime : ∀ T, ∃ n, T ≤ (st n).now) :
    ∃ N2, N0 ≤ N2 ∧ pendingTasks (st N2) = [] := by
  apply r.eventually_quiescent_of_progress hk hpause _ htime
  intro l hlput hltick N hen
  obtain ⟨g, hg⟩ := owner_isSome hlput hltick
  obtain ⟨n, hn, hown⟩ := hfair g N (fun n hn => ⟨l, hg, hen n hn⟩)
  exact ⟨n, hn, fun d hd => by rw [hd] at hown; cases hown⟩

/-- a witness that the fairness hypotheses are satisfiable: one worker; the start-up timer value
    is consumed, task 1 (deadline 5) is submitted at time 0, pushed, the timer armed for 5; at
    time 6 it fires, the task runs; then only time passes -/
def fairPrefix : List Label :=
  [ .w 0 (.fire 0), .w 0 .recvTimer, .w 0 .loopEnd,
    .put 1 5, .notify, .takeToken, .swap, .handoff 0,
    .w 0 .readNow, .w 0 .stop, .w 0 .drain, .w 0 .reset,
    .tick 6, .w 0 (.fire 6), .w 0 .recvTimer, .w 0 (.pop ⟨1, 5⟩), .w 0 .loopEnd ]

def fairFin (m : Mode) : State := (run m (init 1 0) fairPrefix).getD (init 1 0)

/-- `17 = fairPrefix.length`; from there on only the clock moves -/
def fairSt (m : Mode) (n : Nat) : State :=
  if n < 17 then (run m (init 1 0) (fairPrefix.take n)).getD (init 1 0)
  else { fairFin m with now := 6 + (n - 17) }

def fairLab (n : Nat) : Label := fairPrefix.getD n (.tick 1)

def fairFinLit : State :=
  { now := 6, sub := [⟨1, 5⟩], pre := [], pend := 0, ntok := false, ppc := .idle, batch := [],
    ws := [{ pc := .select, heap := [], timer := ⟨none, none⟩, drained := true, armedAt := 0, usedNow := 0 }],
    done := [⟨⟨1, 5⟩, 6⟩], log := [.exec 1 6, .put 1 5 0] }

theorem fairFin_eq (m : Mode) : fairFin m = fairFinLit := by cases m <;> decide

theorem fairFin_dead (m : Mode) (x : Time) (l : Label) (hp : ∀ id ts, l ≠ .put id ts)
    (ht : ∀ d, l ≠ .tick d) : step m { fairFinLit with now := x } l = none := by
  cases l with
  | tick d => exact absurd rfl (ht d)
  | put id ts => exact absurd rfl (hp id ts)
  | notify => rfl
  | takeToken => rfl
  | swap => rfl
  | handoff i => rfl
  | w i wl =>
    cases i with
    | zero => cases wl <;> rfl
    | succ i => rfl

theorem fairSt_tail (m : Mode) (n : Nat) (h : 17 ≤ n) :
    fairSt m n = { fairFinLit with now := 6 + (n - 17) } := by
  simp only [fairSt, Nat.not_lt.mpr h, if_false, fairFin_eq]

theorem fairLab_tail (n : Nat) (h : 17 ≤ n) : fairLab n = .tick 1 := by
  have hlen : fairPrefix.length ≤ n := h
  simp [fairLab, List.getD, List.getElem?_eq_none hlen]

theorem fair_next_prefix (m : Mode) : ∀ n, n < 17 → step m (fairSt m n) (fairLab n) = some (fairSt m (n + 1)) := by
  cases m <;> decide

end KcpVerif.Sched
