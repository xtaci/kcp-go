/-
Operations of one KCP core with the ghost state of C01.

Ghost components (none of them is read by the model; they only record history):
* `dl`   contents of the segments popped from `rcv_queue` by `recv` so far ("delivered")
* `got`  the byte strings returned by the successful `recv` calls so far, in order
* `log`  contents of the segments that have been given a sequence number by `admitSegs` so far (`L`)
* `accB` stream mode: the bytes taken by `send` so far;  `accM` message mode: the messages accepted
* `wire` every datagram handed to `output` so far
* `dead` a modelled slice-bounds panic has happened (what the Go code does afterwards is not
  modelled; a dead core takes no further steps)
-/
import KcpVerif.Lemmas.KcpRecv
import KcpVerif.Lemmas.KcpSend
import KcpVerif.Lemmas.Fold

namespace KcpVerif.C01
open KcpVerif.Gen KcpVerif.Kcp KcpVerif.Frame KcpVerif.Recv KcpVerif.Send KcpVerif.Wire

-- the operations are used through their lemmas only; unfolding them when two states are compared is wasted work
attribute [local irreducible] Kcp.flush Kcp.input Kcp.send Kcp.recv

inductive Op where
  | send (buf : Bytes)
  | recv (buflen : Nat)
  | input (data : Bytes) (regular ackNoDelay : Bool) (now : U32)
  | flush (full : Bool) (now : U32)
  | update (now : U32)
  | setMtu (mtu : Int)
  | noDelay (nodelay interval resend nc : Int)
  | wndSize (snd rcv : Int)

structure GSt where
  k    : Kcp
  dl   : List Content := []
  got  : List Bytes := []
  log  : List Content := []
  accB : Bytes := []
  accM : List Bytes := []
  wire : List Bytes := []
  dead : Bool := false

/-- the bytes of `buffer` that `Send` puts into the queue: all of it on success, nothing when the
call is refused (−1 empty buffer, −2 more than 255 segments).  A refusal leaves the state untouched
(`C01_send_refused_takes_nothing`). -/
def sendTaken (k : Kcp) (buffer : Bytes) : Bytes :=
  if (send k buffer).ret = 0 then buffer else []

def step (s : GSt) (op : Op) : GSt :=
  if s.dead then s else
  match op with
  | .send buf =>
    if (send s.k buf).panic then { s with dead := true } else
    { s with k := (send s.k buf).k, accB := s.accB ++ sendTaken s.k buf,
             accM := if (send s.k buf).ret = 0 then s.accM ++ [buf] else s.accM }
  | .recv buflen =>
    if (recv s.k buflen).n < 0 then s else
    { s with k := (recv s.k buflen).k,
             dl := s.dl ++ (s.k.rcv_queue.take (popCount s.k.rcv_queue)).map content,
             got := s.got ++ [(recv s.k buflen).data] }
  | .input data regular ackNoDelay now =>
    if (input s.k data regular ackNoDelay now).panic then { s with dead := true } else
    { s with k := (input s.k data regular ackNoDelay now).k,
             log := s.log ++ admitted s.k (input s.k data regular ackNoDelay now).k,
             wire := s.wire ++ (input s.k data regular ackNoDelay now).outs }
  | .flush full now =>
    if (flush s.k full now).panic then { s with dead := true } else
    { s with k := (flush s.k full now).k, log := s.log ++ admitted s.k (flush s.k full now).k,
             wire := s.wire ++ (flush s.k full now).outs }
  | .update now =>
    if (update s.k now).panic then { s with dead := true } else
    { s with k := (update s.k now).k, log := s.log ++ admitted s.k (update s.k now).k,
             wire := s.wire ++ (update s.k now).outs }
  | .setMtu mtu => { s with k := (setMtu s.k mtu).1 }
  | .noDelay a b c d => { s with k := noDelay s.k a b c d }
  | .wndSize a b => { s with k := wndSize s.k a b }

/-- the three operations that may transmit, with what they return when they do not panic -/
inductive Tx (k : Kcp) : Op → Kcp → List Bytes → Prop
  | input (d : Bytes) (r a : Bool) (now : U32) (hp : (input k d r a now).panic = false) :
      Tx k (.input d r a now) (input k d r a now).k (input k d r a now).outs
  | flush (full : Bool) (now : U32) (hp : (flush k full now).panic = false) :
      Tx k (.flush full now) (flush k full now).k (flush k full now).outs
  | update (now : U32) (hp : (update k now).panic = false) : Tx k (.update now) (update k now).k (update k now).outs

inductive Setter (k : Kcp) : Kcp → Prop
  | setMtu (m : Int) : Setter k (setMtu k m).1
  | noDelay (a b c d : Int) : Setter k (noDelay k a b c d)
  | wndSize (a b : Int) : Setter k (wndSize k a b)

inductive Panics (k : Kcp) : Op → Prop
  | send (buf : Bytes) (hp : (send k buf).panic = true) : Panics k (.send buf)
  | input (d : Bytes) (r a : Bool) (now : U32) (hp : (input k d r a now).panic = true) : Panics k (.input d r a now)
  | flush (full : Bool) (now : U32) (hp : (flush k full now).panic = true) : Panics k (.flush full now)
  | update (now : U32) (hp : (update k now).panic = true) : Panics k (.update now)

/-- `same`: a dead endpoint or a refused `Recv`; `die`: a modelled panic; the others: the operation takes effect -/
theorem step_cases {P : GSt → Prop} (s : GSt) (op : Op) (same : P s)
    (die : Panics s.k op → P { s with dead := true })
    (send : ∀ buf, op = .send buf → s.dead = false → (send s.k buf).panic = false →
      P { s with k := (send s.k buf).k, accB := s.accB ++ sendTaken s.k buf,
                 accM := if (send s.k buf).ret = 0 then s.accM ++ [buf] else s.accM })
    (recv : ∀ n, ¬ (recv s.k n).n < 0 →
      P { s with k := (recv s.k n).k, dl := s.dl ++ (s.k.rcv_queue.take (popCount s.k.rcv_queue)).map content,
                 got := s.got ++ [(recv s.k n).data] })
    (tx : ∀ k' outs, Tx s.k op k' outs → P { s with k := k', log := s.log ++ admitted s.k k', wire := s.wire ++ outs })
    (set : ∀ k', Setter s.k k' → P { s with k := k' }) : P (step s op) := by
  unfold step
  refine ite_cases (fun _ => same) (fun hd => ?_)
  have hd : s.dead = false := by simpa using hd
  cases op with
  | send buf => exact ite_cases (fun hp => die (.send buf hp)) (fun hp => send buf rfl hd (by simpa using hp))
  | recv n => exact ite_cases (fun _ => same) (recv n)
  | input d r a now =>
    exact ite_cases (fun hp => die (.input d r a now hp)) (fun hp => tx _ _ (.input d r a now (by simpa using hp)))
  | flush full now =>
    exact ite_cases (fun hp => die (.flush full now hp)) (fun hp => tx _ _ (.flush full now (by simpa using hp)))
  | update now => exact ite_cases (fun hp => die (.update now hp)) (fun hp => tx _ _ (.update now (by simpa using hp)))
  | setMtu m => exact set _ (.setMtu m)
  | noDelay a b c d => exact set _ (.noDelay a b c d)
  | wndSize a b => exact set _ (.wndSize a b)

def run (s : GSt) (ops : List Op) : GSt := ops.foldl step s

theorem run_append (s : GSt) (a b : List Op) : run s (a ++ b) = run (run s a) b := by
  unfold run; rw [List.foldl_append]

theorem run_snoc (s : GSt) (a : List Op) (op : Op) : run s (a ++ [op]) = step (run s a) op := by
  rw [run_append]; rfl

/-- an endpoint before any traffic: all queues empty, nothing in flight; the initial sequence
numbers are arbitrary (C12: the core may start anywhere in the 32-bit space) -/
structure Fresh (k : Kcp) : Prop where
  rq : k.rcv_queue = []
  rb : k.rcv_buf = []
  sq : k.snd_queue = []
  sb : k.snd_buf = []
  su : k.snd_una = k.snd_nxt

theorem fresh_new (conv : U32) : Fresh (Kcp.new conv) := ⟨rfl, rfl, rfl, rfl, rfl⟩

def bytesOf (l : List Content) : Bytes := (l.map (·.2)).flatten

theorem bytesOf_append (a b : List Content) : bytesOf (a ++ b) = bytesOf a ++ bytesOf b := by
  unfold bytesOf; simp

theorem data_flatten (q : List Seg) : (q.map (·.data)).flatten = bytesOf (q.map content) := by
  unfold bytesOf content; simp [List.map_map, Function.comp_def]

theorem send_rcvSame (k : Kcp) (buf : Bytes) : RcvSame k (send k buf).k := by
  rw [send_k]; exact ⟨rfl, rfl, rfl, rfl⟩

theorem recv_sndSame (k : Kcp) (buflen : Nat) : SndSame k (recv k buflen).k := by
  obtain ⟨_, _, _, _, e⟩ := recv_shape k buflen
  rw [e]
  exact ⟨rfl, rfl, rfl, rfl, rfl, rfl, rfl⟩

theorem Setter.shape {k k' : Kcp} (h : Setter k k') :
    ∃ mt ms bl nd mr iv fr nc sw rv,
      k' = { k with mtu := mt, mss := ms, bufLen := bl, nodelay := nd, rx_minrto := mr, interval := iv, fastresend := fr,
                    nocwnd := nc, snd_wnd := sw, rcv_wnd := rv } := by
  cases h with
  | setMtu m =>
    obtain ⟨a, b, c, e⟩ := setMtu_shape k m
    exact ⟨a, b, c, k.nodelay, k.rx_minrto, k.interval, k.fastresend, k.nocwnd, k.snd_wnd, k.rcv_wnd, e⟩
  | noDelay a b c d =>
    obtain ⟨nd, mr, iv, fr, nc, e⟩ := noDelay_shape k a b c d
    exact ⟨k.mtu, k.mss, k.bufLen, nd, mr, iv, fr, nc, k.snd_wnd, k.rcv_wnd, e⟩
  | wndSize a b =>
    obtain ⟨sw, rv, e⟩ := wndSize_shape k a b
    exact ⟨k.mtu, k.mss, k.bufLen, k.nodelay, k.rx_minrto, k.interval, k.fastresend, k.nocwnd, sw, rv, e⟩

theorem Setter.rcvSame {k k' : Kcp} (h : Setter k k') : RcvSame k k' := by
  obtain ⟨_, _, _, _, _, _, _, _, _, _, e⟩ := h.shape
  rw [e]
  exact ⟨rfl, rfl, rfl, rfl⟩

/-- the network hands this endpoint only datagrams whose PUSH frames are genuine -/
def OpGenuine (G : U32 → Content) (conv : U32) : Op → Prop
  | .input data _ _ _ => GenuineIn G conv data
  | _ => True

instance (G : U32 → Content) (conv : U32) (op : Op) : Decidable (OpGenuine G conv op) := by
  cases op <;> unfold OpGenuine <;> infer_instance

structure InvRG (G : U32 → Content) (sn0 conv : U32) (s : GSt) (n : Nat) : Prop where
  inv  : InvR G sn0 s.k s.dl n
  conv : s.k.conv = conv
  got  : s.got.flatten = bytesOf s.dl

theorem InvRG.same {G : U32 → Content} {sn0 conv : U32} {s s' : GSt} {n : Nat} (h : InvRG G sn0 conv s n)
    (hk : RcvSame s.k s'.k) (hdl : s'.dl = s.dl) (hgot : s'.got = s.got) : InvRG G sn0 conv s' n :=
  ⟨by rw [hdl]; exact h.inv.same hk, hk.conv.trans h.conv, by rw [hgot, hdl]; exact h.got⟩

theorem step_invRG {G : U32 → Content} {sn0 conv : U32} {s : GSt} {n : Nat}
    (h : InvRG G sn0 conv s n) (op : Op) (hg : OpGenuine G conv op) :
    ∃ n', InvRG G sn0 conv (step s op) n' := by
  refine step_cases (P := fun s' => ∃ n', InvRG G sn0 conv s' n') s op ⟨n, h⟩ (fun _ => ⟨n, h.same (RcvSame.refl _) rfl rfl⟩)
    (fun buf _ _ _ => ⟨n, h.same (send_rcvSame _ _) rfl rfl⟩) (fun m hn => ?_) (fun k' outs htx => ?_)
    (fun k' hs => ⟨n, h.same hs.rcvSame rfl rfl⟩)
  · rcases recv_inv h.inv m with ⟨hneg, _, _⟩ | ⟨_, _, hdata, _, _, n', hi⟩
    · exact absurd hneg hn
    · refine ⟨n', ⟨hi, (recv_sndSame s.k m).conv.trans h.conv, ?_⟩⟩
      show (s.got ++ [(recv s.k m).data]).flatten = _
      rw [List.flatten_append, h.got, bytesOf_append, hdata, data_flatten]
      simp
  · cases htx with
    | input d r a now _ =>
      obtain ⟨n', hi⟩ := input_inv h.inv d r a now (by rw [h.conv]; exact hg)
      exact ⟨n', ⟨hi, (input_conv _ _ _ _ _).trans h.conv, h.got⟩⟩
    | flush full now _ => exact ⟨n, h.same (flush_keep _ _ _).rcvSame rfl rfl⟩
    | update now _ => exact ⟨n, h.same (update_keep _ _).rcvSame rfl rfl⟩

theorem run_invRG {G : U32 → Content} {sn0 conv : U32} (ops : List Op) (s : GSt) (n : Nat) (h : InvRG G sn0 conv s n)
    (hg : ∀ op ∈ ops, OpGenuine G conv op) : ∃ n', InvRG G sn0 conv (run s ops) n' :=
  foldl_inv_mem (P := fun s => ∃ n, InvRG G sn0 conv s n) ops (fun _ op ho ⟨_, h⟩ => step_invRG h op (hg op ho)) s ⟨n, h⟩

theorem fresh_invRG (G : U32 → Content) (k : Kcp) (hf : Fresh k) : InvRG G k.rcv_nxt k.conv { k := k } 0 :=
  ⟨⟨by simp, by simp [hf.rq, gRange], by rw [hf.rb]; exact BufOk.nil _ _⟩, rfl, rfl⟩

structure SndQ (k k' : Kcp) : Prop where
  snd_una   : k'.snd_una = k.snd_una
  snd_nxt   : k'.snd_nxt = k.snd_nxt
  snd_queue : k'.snd_queue = k.snd_queue
  snd_buf   : k'.snd_buf = k.snd_buf

theorem _root_.KcpVerif.Frame.SndSame.sndQ {k k' : Kcp} (h : SndSame k k') : SndQ k k' :=
  ⟨h.snd_una, h.snd_nxt, h.snd_queue, h.snd_buf⟩

theorem Setter.sndQ {k k' : Kcp} (h : Setter k k') : SndQ k k' := by
  obtain ⟨_, _, _, _, _, _, _, _, _, _, e⟩ := h.shape
  rw [e]
  exact ⟨rfl, rfl, rfl, rfl⟩

theorem Tx.invS {sn0 : U32} {k k' : Kcp} {L : List Content} {op : Op} {outs : List Bytes} (h : InvS sn0 k L)
    (htx : Tx k op k' outs) :
    InvS sn0 k' (L ++ admitted k k') ∧ ∀ G, Agree G sn0 (L ++ admitted k k') → ∀ o ∈ outs, Framed G o := by
  cases htx with
  | input d r a now hp => exact ⟨(input_invS h d r a now).1, fun G hG => (input_invS h d r a now).2 G hG hp⟩
  | flush full now hp => exact ⟨(flush_invS h full now).1, fun G hG => (flush_invS h full now).2 G hG hp⟩
  | update now hp => exact ⟨(update_invS h now).1, fun G hG => (update_invS h now).2 G hG hp⟩

/-- the log is consistent with the core, and everything emitted so far is made of frames whose PUSH
members carry the logged content of their sequence number (for every content function `G` that
agrees with the log) -/
structure InvSG (sn0 : U32) (s : GSt) : Prop where
  inv  : InvS sn0 s.k s.log
  wire : ∀ G, Agree G sn0 s.log → ∀ o ∈ s.wire, Framed G o

theorem step_invSG {sn0 : U32} {s : GSt} (h : InvSG sn0 s) (op : Op) :
    InvSG sn0 (step s op) ∧ ∃ X, (step s op).log = s.log ++ X := by
  have same (s' : GSt) (hq : SndQ s.k s'.k) (hl : s'.log = s.log) (hw : s'.wire = s.wire) :
      InvSG sn0 s' ∧ ∃ X, s'.log = s.log ++ X :=
    ⟨⟨by rw [hl]; exact h.inv.congr hq.snd_nxt hq.snd_una hq.snd_buf hq.snd_queue, by rw [hl, hw]; exact h.wire⟩,
      [], by rw [hl, List.append_nil]⟩
  refine step_cases (P := fun s' => InvSG sn0 s' ∧ ∃ X, s'.log = s.log ++ X) s op ⟨h, [], by simp⟩
    (fun _ => same _ ⟨rfl, rfl, rfl, rfl⟩ rfl rfl) (fun buf _ _ hp => ⟨⟨send_invS h.inv buf hp, h.wire⟩, [], by simp⟩)
    (fun m _ => same _ (recv_sndSame _ _).sndQ rfl rfl)
    (fun k' outs htx => ?_) (fun k' hs => same _ hs.sndQ rfl rfl)
  obtain ⟨hi, hw⟩ := htx.invS h.inv
  refine ⟨⟨hi, fun G hG o ho => ?_⟩, _, rfl⟩
  rcases List.mem_append.mp ho with h1 | h1
  · exact h.wire G hG.prefix o h1
  · exact hw G hG o h1

theorem run_invSG {sn0 : U32} (ops : List Op) (s : GSt) (h : InvSG sn0 s) :
    InvSG sn0 (run s ops) ∧ ∃ X, (run s ops).log = s.log ++ X :=
  foldl_inv (P := fun t => InvSG sn0 t ∧ ∃ X, t.log = s.log ++ X)
    (fun t op ⟨ht, X, e⟩ => by
      obtain ⟨h1, X1, e1⟩ := step_invSG ht op
      exact ⟨h1, X ++ X1, by rw [e1, e, List.append_assoc]⟩)
    ops s ⟨h, [], by simp⟩

theorem fresh_invSG (k : Kcp) (hf : Fresh k) : InvSG k.snd_nxt { k := k } :=
  ⟨InvS.fresh k hf.sq hf.sb hf.su, fun _ _ o ho => by cases ho⟩

theorem step_send (s : GSt) (buf : Bytes) (hd : s.dead = false) (hp : (send s.k buf).panic = false) :
    step s (.send buf) =
      { s with k := (send s.k buf).k, accB := s.accB ++ sendTaken s.k buf,
               accM := if (send s.k buf).ret = 0 then s.accM ++ [buf] else s.accM } := by
  unfold step
  rw [if_neg (by simp [hd])]
  simp only []
  rw [if_neg (by simp [hp])]

theorem step_tx {g : GSt} {o : Op} {k' : Kcp} {outs : List Bytes} (hd : g.dead = false) (h : Tx g.k o k' outs) :
    step g o = { g with k := k', log := g.log ++ admitted g.k k', wire := g.wire ++ outs } := by
  cases h <;>
  · rename_i hp
    unfold step
    rw [if_neg (by simp [hd])]
    simp only []
    rw [if_neg (by simp [hp])]

theorem step_input_runt (g : GSt) (d : Bytes) (r a : Bool) (now : U32) (h : d.length < IKCP_OVERHEAD) :
    step g (.input d r a now) = g := by
  unfold step
  refine ite_ind (P := fun g' : GSt => g' = g) rfl ?_
  simp only []
  rw [Kcp.input_eq, if_pos h, if_neg Bool.false_ne_true, admitted_self _ _ rfl, List.append_nil, List.append_nil]

theorem step_recv_alive (g : GSt) (n : Nat) (hd : g.dead = false) (hok : 0 ≤ (recv g.k n).n) :
    step g (.recv n) = { g with k := (recv g.k n).k,
                                dl := g.dl ++ (g.k.rcv_queue.take (popCount g.k.rcv_queue)).map content,
                                got := g.got ++ [(recv g.k n).data] } := by
  unfold step
  rw [if_neg (by simp [hd])]
  simp only []
  rw [if_neg (by omega)]

theorem step_cfg_alive (g : GSt) (hd : g.dead = false) :
    (∀ a b c d, step g (.noDelay a b c d) = { g with k := noDelay g.k a b c d }) ∧
    (∀ a b, step g (.wndSize a b) = { g with k := wndSize g.k a b }) ∧
    (∀ m, step g (.setMtu m) = { g with k := (setMtu g.k m).1 }) := by
  refine ⟨fun a b c d => ?_, fun a b => ?_, fun m => ?_⟩ <;>
  · unfold step
    rw [if_neg (by simp [hd])]

theorem step_send_mss (g : GSt) (c : Bytes) : (step g (.send c)).k.mss = g.k.mss := by
  unfold step
  refine ite_ind (P := fun g' : GSt => g'.k.mss = g.k.mss) rfl ?_
  exact ite_ind (P := fun g' : GSt => g'.k.mss = g.k.mss) rfl (by show (send g.k c).k.mss = _; rw [send_k])

end KcpVerif.C01
