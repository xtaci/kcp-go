/-
The chunking loop of `WriteBuffers` (`Model/Sess.lean`: `sendChunks`, `sendAll`) as a run of core `Send`s: each carries
at most `mss` bytes, so none fragments and none is refused with −2, and while `mss > 0` they take exactly the bytes of
the slices.
-/
import KcpVerif.Model.Sess
import KcpVerif.Lemmas.KcpFrg

namespace KcpVerif.C01
open KcpVerif.Kcp KcpVerif.Frame

/-- `g'` has the reader's ghosts, the log and the wire of `g` — and is alive, whatever `g` was -/
structure SameG (g g' : GSt) : Prop where
  got  : g'.got = g.got
  log  : g'.log = g.log
  wire : g'.wire = g.wire
  dead : g'.dead = false

theorem SameG.trans {a b c : GSt} (h1 : SameG a b) (h2 : SameG b c) : SameG a c :=
  ⟨h2.got.trans h1.got, h2.log.trans h1.log, h2.wire.trans h1.wire, h2.dead⟩

def ChunkOps (mss : Nat) (ops : List Op) : Prop := ∀ o ∈ ops, ∃ c : Bytes, o = .send c ∧ c.length ≤ mss

theorem ChunkOps.chunked : ∀ {ops : List Op} {g : GSt}, ChunkOps g.k.mss.toNat ops → Chunked g ops
  | [], _, _ => trivial
  | o :: ops, g, h => by
    obtain ⟨c, rfl, hc⟩ := h o (List.mem_cons_self ..)
    refine ⟨fun c' e => by cases e; exact hc, ChunkOps.chunked fun o ho => ?_⟩
    rw [step_send_mss]
    exact h o (List.mem_cons_of_mem _ ho)

theorem step_send_chunk (g : GSt) (c : Bytes) (hd : g.dead = false) (hp : (send g.k c).panic = false)
    (hle : c.length ≤ g.k.mss.toNat) :
    (step g (.send c)).k = (send g.k c).k ∧ SameG g (step g (.send c)) ∧ (step g (.send c)).accB = g.accB ++ c := by
  rw [step_send g c hd hp]
  exact ⟨rfl, ⟨rfl, rfl, rfl, hd⟩, by show g.accB ++ sendTaken g.k c = _; rw [sendTaken_chunk g.k c hle]⟩

theorem sendChunks_mss (fuel : Nat) : ∀ (k : Kcp) (b : Bytes), (Sess.sendChunks fuel k b).k.mss = k.mss := by
  induction fuel with
  | zero => intro k b; rfl
  | succ fuel ih =>
    intro k b
    unfold Sess.sendChunks
    split
    · simp only []; rw [send_k]
    · simp only []
      split
      · simp only []; rw [send_k]
      · rw [ih]; rw [send_k]

/-- the last conjunct needs `mss > 0`: with `mss = 0` the loop spends its fuel on empty `Send`s and takes nothing -/
theorem sendChunks_run (fuel : Nat) : ∀ (b : Bytes) (g : GSt), g.dead = false →
    (Sess.sendChunks fuel g.k b).panic = false →
    ∃ ops : List Op, ChunkOps g.k.mss.toNat ops ∧ SameG g (run g ops) ∧ (run g ops).k = (Sess.sendChunks fuel g.k b).k ∧
      (0 < g.k.mss.toNat → b.length < fuel → (run g ops).accB = g.accB ++ b) := by
  induction fuel with
  | zero => intro b g hd _; exact ⟨[], (fun o ho => by cases ho), ⟨rfl, rfl, rfl, hd⟩, rfl, fun _ hf => by omega⟩
  | succ fuel ih =>
    intro b g hd hp
    unfold Sess.sendChunks at hp ⊢
    by_cases hle : b.length ≤ g.k.mss.toNat
    · rw [if_pos hle] at hp ⊢
      simp only [] at hp ⊢
      obtain ⟨h1, h2, h3⟩ := step_send_chunk g b hd hp hle
      exact ⟨[.send b], fun o ho => by rw [List.mem_singleton.mp ho]; exact ⟨b, rfl, hle⟩, h2, h1, fun _ _ => h3⟩
    · rw [if_neg hle] at hp ⊢
      simp only [] at hp ⊢
      by_cases hp1 : (send g.k (b.take g.k.mss.toNat)).panic = true
      · rw [if_pos hp1] at hp; cases hp
      · rw [if_neg hp1] at hp ⊢
        have hlt : (b.take g.k.mss.toNat).length ≤ g.k.mss.toNat := by rw [List.length_take]; omega
        obtain ⟨h1, h2, h3⟩ := step_send_chunk g (b.take g.k.mss.toNat) hd (by simpa using hp1) hlt
        have hmss : (step g (.send (b.take g.k.mss.toNat))).k.mss = g.k.mss := step_send_mss g _
        rw [← h1] at hp ⊢
        obtain ⟨ops, ho, hs, hk', ha⟩ := ih (b.drop g.k.mss.toNat) (step g (.send (b.take g.k.mss.toNat))) h2.dead hp
        rw [hmss] at ho ha
        refine ⟨.send (b.take g.k.mss.toNat) :: ops, fun o hmem => ?_, h2.trans hs, hk', fun hm hf => ?_⟩
        · rcases List.mem_cons.mp hmem with h | h
          · rw [h]; exact ⟨_, rfl, hlt⟩
          · exact ho o h
        · show (run (step g (.send (b.take g.k.mss.toNat))) ops).accB = _
          rw [ha hm (by rw [List.length_drop]; omega), h3, List.append_assoc, List.take_append_drop]

theorem sendAll_run : ∀ (v : List Bytes) (g : GSt), g.dead = false → (Sess.sendAll v g.k).panic = false →
    ∃ ops : List Op, ChunkOps g.k.mss.toNat ops ∧ SameG g (run g ops) ∧ (run g ops).k = (Sess.sendAll v g.k).k ∧
      (0 < g.k.mss.toNat → (run g ops).accB = g.accB ++ v.flatten) := by
  intro v
  induction v with
  | nil =>
    intro g hd _
    exact ⟨[], (fun o ho => by cases ho), ⟨rfl, rfl, rfl, hd⟩, rfl, fun _ => (List.append_nil _).symm⟩
  | cons b rest ih =>
    intro g hd hp
    unfold Sess.sendAll at hp ⊢
    simp only [] at hp ⊢
    by_cases hp1 : (Sess.sendChunks (b.length + 1) g.k b).panic = true
    · rw [if_pos hp1] at hp; rw [hp1] at hp; cases hp
    · rw [if_neg hp1] at hp ⊢
      obtain ⟨ops1, ho1, hs1, hk1, ha1⟩ := sendChunks_run (b.length + 1) b g hd (by simpa using hp1)
      rw [← hk1] at hp ⊢
      obtain ⟨ops2, ho2, hs2, hk2, ha2⟩ := ih (run g ops1) hs1.dead hp
      rw [hk1, sendChunks_mss] at ho2 ha2
      refine ⟨ops1 ++ ops2, fun o hmem => ?_, ?_, ?_, fun hm => ?_⟩
      · rcases List.mem_append.mp hmem with h | h
        · exact ho1 o h
        · exact ho2 o h
      · rw [run_append]; exact hs1.trans hs2
      · rw [run_append]; exact hk2
      · rw [run_append, ha2 hm, ha1 hm (Nat.lt_succ_self _), List.append_assoc, List.flatten_cons]

end KcpVerif.C01
