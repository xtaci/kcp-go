/-
Window bookkeeping, per endpoint.  On a contiguous send buffer a datagram of control frames that all carry the same
`(una, wnd)` leaves the sender with exactly that pair; phase 4 never admits beyond `snd_una + min(snd_wnd, rmt_wnd)`.
-/
import KcpVerif.Lemmas.SysCleanB

namespace KcpVerif.SysC
open KcpVerif.Kcp KcpVerif.Live KcpVerif.Wire KcpVerif.SysW

/-- the send buffer holds exactly the sequence numbers `snd_una … snd_nxt − 1`, in order -/
def Contig (base : U32) (k : Kcp) : Prop :=
  k.snd_buf.map (fun x => o base x.sn) = List.range' (o base k.snd_una) k.snd_buf.length ∧
  o base k.snd_una + k.snd_buf.length = o base k.snd_nxt

theorem Contig.mem {base : U32} {k : Kcp} (hc : Contig base k) {x : Seg} (hx : x ∈ k.snd_buf) :
    o base k.snd_una ≤ o base x.sn ∧ o base x.sn < o base k.snd_nxt := by
  have hm : o base x.sn ∈ k.snd_buf.map (fun x => o base x.sn) := List.mem_map.mpr ⟨x, hx, rfl⟩
  rw [hc.1] at hm
  have := List.mem_range'_1.mp hm
  have := hc.2
  omega

theorem Contig.o_nil {base : U32} {k : Kcp} (h : Contig base k) (hb : k.snd_buf = []) :
    o base k.snd_nxt = o base k.snd_una := by
  have := h.2
  rw [hb] at this
  exact this.symm

theorem una_eq_nxt {base : U32} {k : Kcp} (h : Contig base k) (hb : k.snd_buf = []) : k.snd_nxt = k.snd_una :=
  o_inj base _ _ (h.o_nil hb)

theorem Contig.head {base : U32} {k : Kcp} (hc : Contig base k) {y : Seg} {r : List Seg} (hb : k.snd_buf = y :: r) :
    y.sn = k.snd_una := by
  have h1 := hc.1
  rw [hb] at h1
  simp only [List.map_cons, List.length_cons, List.range'_succ, List.cons.injEq] at h1
  exact o_inj base _ _ h1.1

theorem Contig.cons {base : U32} {k : Kcp} (hc : Contig base k) {x : Seg} {rest : List Seg} (hb : k.snd_buf = x :: rest) :
    o base k.snd_una + (rest.length + 1) = o base k.snd_nxt := by
  have := hc.2; rw [hb] at this; exact this

/-- dropping `m` segments from the front moves `snd_una` to the new head — to `snd_nxt` if none is left —, `m` further -/
theorem Contig.drop {base : U32} {k : Kcp} (hc : Contig base k) {m : Nat} (hm : m ≤ k.snd_buf.length) :
    o base (headSn k.snd_nxt (k.snd_buf.drop m)) = o base k.snd_una + m ∧
    Contig base { k with snd_buf := k.snd_buf.drop m,
                         snd_una := headSn k.snd_nxt (k.snd_buf.drop m) } := by
  have hlen := hc.2
  have hmap : (k.snd_buf.drop m).map (fun x => o base x.sn) =
      List.range' (o base k.snd_una + m) (k.snd_buf.length - m) := by
    rw [List.map_drop, hc.1, List.drop_range', Nat.mul_one]
  have hsu : o base (headSn k.snd_nxt (k.snd_buf.drop m)) = o base k.snd_una + m := by
    cases hd : k.snd_buf.drop m with
    | nil =>
      have hl := congrArg List.length hd
      simp only [List.length_drop, List.length_nil] at hl
      show o base k.snd_nxt = _
      omega
    | cons s t =>
      rw [hd] at hmap
      have hl := congrArg List.length hmap
      simp only [List.map_cons, List.length_cons, List.length_range'] at hl
      rw [show k.snd_buf.length - m = (k.snd_buf.length - m - 1) + 1 by omega, List.map_cons, List.range'_succ,
        List.cons.injEq] at hmap
      exact hmap.1
  refine ⟨hsu, ?_⟩
  generalize (headSn k.snd_nxt (k.snd_buf.drop m)) = su at hsu
  exact ⟨by show (k.snd_buf.drop m).map _ = List.range' (o base su) (k.snd_buf.drop m).length
            rw [hsu, hmap, List.length_drop],
    by show o base su + (k.snd_buf.drop m).length = o base k.snd_nxt
       rw [hsu, List.length_drop]; omega⟩

theorem unaCount_contig (base u : U32) : ∀ (l : List Seg) (a : Nat),
    l.map (fun x => o base x.sn) = List.range' a l.length → a ≤ o base u → o base u ≤ a + l.length →
    a + l.length < 2 ^ 31 → unaCount u l = o base u - a := by
  intro l
  induction l with
  | nil => intro a _ h1 h2 _; simp only [List.length_nil] at h2; simp [unaCount]; omega
  | cons s rest ih =>
    intro a hm h1 h2 h3
    simp only [List.map_cons, List.length_cons, List.range'_succ, List.cons.injEq] at hm h2 h3
    have hi := itd base u s.sn (by omega) (by rw [hm.1]; omega)
    unfold unaCount
    split
    · rw [ih (a + 1) hm.2 (by omega) (by omega) (by omega)]; omega
    · omega

theorem inPre_contig (base : U32) (w : BitVec 16) (u : U32) (k : Kcp) (hna : ∀ x ∈ k.snd_buf, x.acked = false)
    (hc : Contig base k)
    (h1 : o base k.snd_una ≤ o base u) (h2 : o base u ≤ o base k.snd_nxt) (h3 : o base k.snd_nxt < 2 ^ 31) :
    (inPre true w u k).snd_una = u ∧ Contig base (inPre true w u k) := by
  have hlen := hc.2
  have hcnt := unaCount_contig base u k.snd_buf (o base k.snd_una) hc.1 h1 (by omega) (by omega)
  obtain ⟨hsu, hcon⟩ := hc.drop (m := unaCount u k.snd_buf) (by omega)
  rw [inPre_true w u k hna]
  exact ⟨o_inj base _ _ (hsu.trans (by omega)), hcon⟩

theorem inFr_ackLike (base : U32) (st : InLoop) (fr : Frm)
    (hna : ∀ x ∈ st.k.snd_buf, x.acked = false)
    (hs : Sorted base st.k.snd_buf) (hb : ∀ x ∈ st.k.snd_buf, o base x.sn < o base st.k.snd_nxt)
    (hn : o base st.k.snd_nxt < 2 ^ 31) (hf : AckLike base st.k.snd_nxt fr) :
    ∃ c su pr, (inFr true st fr).k =
        { st.k with rmt_wnd := fr.wnd.setWidth 32, snd_buf := st.k.snd_buf.drop c, snd_una := su, probe := pr } ∧
      (∀ x ∈ st.k.snd_buf.drop c, o base fr.una ≤ o base x.sn) ∧
      (inFr true st fr).panic = st.panic ∧ (inFr true st fr).ret = st.ret ∧
      (Contig base st.k → o base st.k.snd_una ≤ o base fr.una → su = fr.una ∧ Contig base (inFr true st fr).k) := by
  obtain ⟨hcmd, hu, hack⟩ := hf
  obtain ⟨c, su, hpre, hge, hsu1, hsu2⟩ := inPre_clean base fr.wnd fr.una st.k hna hs hb hn hu
  obtain ⟨pr, hk, hp, hr⟩ := inFr_noPush base st fr hcmd
    (fun hA => by rw [hpre]; exact Nat.lt_of_lt_of_le (hack hA) hsu1) (by rw [hpre]; show o base su < _; omega)
  refine ⟨c, su, pr, by rw [hk, hpre], hge, hp, hr, fun hc h1 => ?_⟩
  obtain ⟨p1, p2⟩ := inPre_contig base fr.wnd fr.una st.k hna hc h1 hu hn
  rw [hk]
  rw [hpre] at p1
  exact ⟨p1, p2⟩

theorem inFrs_ackLike (base : U32) (frs : List Frm) : ∀ (st : InLoop),
    (∀ x ∈ st.k.snd_buf, x.acked = false) → Sorted base st.k.snd_buf → (∀ x ∈ st.k.snd_buf, o base x.sn < o base st.k.snd_nxt) →
    o base st.k.snd_nxt < 2 ^ 31 → (∀ fr ∈ frs, AckLike base st.k.snd_nxt fr) → st.panic = false →
    ∃ c su pr rw, (inFrs true frs st).k =
        { st.k with rmt_wnd := rw, snd_buf := st.k.snd_buf.drop c, snd_una := su, probe := pr } ∧
      (∀ fr ∈ frs, ∀ x ∈ st.k.snd_buf.drop c, o base fr.una ≤ o base x.sn) ∧
      (inFrs true frs st).panic = false ∧ (inFrs true frs st).ret = st.ret ∧
      (frs ≠ [] → Contig base st.k → ∀ u w, (∀ fr ∈ frs, fr.una = u ∧ fr.wnd = w) → o base st.k.snd_una ≤ o base u →
        su = u ∧ rw = w.setWidth 32 ∧ Contig base (inFrs true frs st).k) := by
  induction frs with
  | nil =>
    intro st _ _ _ _ _ hp
    exact ⟨0, st.k.snd_una, st.k.probe, st.k.rmt_wnd, rfl, fun fr hfr => by simp at hfr, hp, rfl, fun h => absurd rfl h⟩
  | cons fr rest ih =>
    intro st hna hs hb hn hf hp
    obtain ⟨c, su, pr, hk, hge, hpan, hret, hcon⟩ := inFr_ackLike base st fr hna hs hb hn (hf fr (List.mem_cons_self ..))
    have hbuf : (inFr true st fr).k.snd_buf = st.k.snd_buf.drop c := by rw [hk]
    have hnxt : (inFr true st fr).k.snd_nxt = st.k.snd_nxt := by rw [hk]
    unfold inFrs
    rw [if_neg (by rw [hpan, hp]; simp)]
    obtain ⟨c2, su2, pr2, rw2, hk2, hge2, hpan2, hret2, hcon2⟩ := ih (inFr true st fr)
      (by rw [hbuf]; exact fun x hx => hna x (List.mem_of_mem_drop hx))
      (by rw [hbuf]; exact hs.drop c)
      (by rw [hbuf, hnxt]; exact fun x hx => hb x (List.mem_of_mem_drop hx))
      (by rw [hnxt]; exact hn)
      (by rw [hnxt]; exact fun x hx => hf x (List.mem_cons_of_mem _ hx))
      (by rw [hpan]; exact hp)
    refine ⟨c + c2, su2, pr2, rw2, ?_, ?_, hpan2, by rw [hret2, hret], fun _ hc u w hall h1 => ?_⟩
    · rw [hk2, hk]
      simp only [List.drop_drop]
    · intro f hfm x hx
      rw [← List.drop_drop] at hx
      rcases List.mem_cons.mp hfm with rfl | hfm
      · exact hge x (List.mem_of_mem_drop hx)
      · exact hge2 f hfm x (by rw [hbuf]; exact hx)
    · obtain ⟨hu, hw⟩ := hall fr (List.mem_cons_self ..)
      obtain ⟨e1, c1⟩ := hcon hc (by rw [hu]; exact h1)
      cases rest with
      | nil =>
        -- the loop ends here: what is left is what this frame left
        have e : (inFrs true [] (inFr true st fr)).k = (inFr true st fr).k := rfl
        rw [e, hk] at hk2
        have a1 : su = su2 := congrArg Kcp.snd_una hk2
        have a2 : fr.wnd.setWidth 32 = rw2 := congrArg Kcp.rmt_wnd hk2
        exact ⟨by rw [← a1, e1, hu], by rw [← a2, hw], c1⟩
      | cons f2 r2 =>
        have hsu : (inFr true st fr).k.snd_una = u := by rw [hk]; exact e1.trans hu
        exact hcon2 (by simp) c1 u w (fun x hx => hall x (List.mem_cons_of_mem _ hx)) (by rw [hsu]; exact Nat.le_refl _)

theorem flush_nxt_bound (base : U32) (k : Kcp) (now : U32)
    (hn : o base (flush k true now).k.snd_nxt < 2 ^ 31) (hn0 : o base k.snd_nxt ≤ o base (flush k true now).k.snd_nxt)
    (hs : o base k.snd_una + min k.snd_wnd.toNat k.rmt_wnd.toNat < 2 ^ 32) :
    (flush k true now).k.snd_nxt = k.snd_nxt ∨
    o base (flush k true now).k.snd_nxt ≤ o base k.snd_una + min k.snd_wnd.toNat k.rmt_wnd.toNat := by
  obtain ⟨pw, tp, st, ss, cw, inc, hk⟩ := flush_frame k true now
  have e1 : (flush k true now).k.snd_nxt = (flAd k now).nxt := by rw [hk]
  rw [e1] at hn hn0 ⊢
  -- whatever phase 4 admits passed the window test just before
  have hb : (flAd k now).nxt = k.snd_nxt ∨ itimediff ((flAd k now).nxt - 1) (k.snd_una + effWnd k) < 0 := by
    rw [flAd_eq]
    exact admitSegs_carry (I := fun _ n => n = k.snd_nxt ∨ itimediff (n - 1) (k.snd_una + effWnd k) < 0) k.conv k.snd_una
      (effWnd k) now (fun s buf nxt _ hg => Or.inr (by
        have : nxt + 1 - 1 = nxt := by bv_omega
        rw [this]; omega)) k.snd_queue k.snd_buf k.snd_nxt 0 (Or.inl rfl)
  rcases hb with hb | hb
  · exact Or.inl hb
  · by_cases hz : (flAd k now).nxt = k.snd_nxt
    · exact Or.inl hz
    · right
      have hle := effWnd_le k
      have hpos : 0 < o base (flAd k now).nxt := by
        have : o base (flAd k now).nxt ≠ o base k.snd_nxt := fun c => hz (o_inj base _ _ c)
        omega
      have ho1 := o_pred base (flAd k now).nxt hpos
      have ho2 : o base (k.snd_una + effWnd k) = o base k.snd_una + (effWnd k).toNat := by
        have := o_add base k.snd_una (effWnd k).toNat (by omega)
        unfold u32 at this
        rw [BitVec.ofNat_toNat, BitVec.setWidth_eq] at this
        exact this
      -- the signed comparison is the comparison of offsets unless the bound is beyond 2^31, and then it holds anyway
      by_cases hbig : o base k.snd_una + (effWnd k).toNat < 2 ^ 31
      · have hi := itd base ((flAd k now).nxt - 1) (k.snd_una + effWnd k) (by omega) (by omega)
        omega
      · omega

end KcpVerif.SysC
