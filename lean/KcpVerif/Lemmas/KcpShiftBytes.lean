/-
C12 — the shift of an INCOMING datagram on wire bytes (`shiftIn`), the correspondence between the shifted
bytes and the header fields read by `inputLoop`, and the consistency of the two shift conventions: what
endpoint A adds to an OUTGOING header (`OutRel σ`) is what its peer B's `shiftIn σ.swap` adds to the same
header when it comes in.
-/
import KcpVerif.Lemmas.KcpShiftBasic
import KcpVerif.Lemmas.WrapCodec

namespace KcpVerif.Shift
open KcpVerif.Gen KcpVerif.Kcp

/-- add `dt` to `ts` (bytes 8–11), `ds` to `sn` (12–15), `du` to `una` (16–19); everything else unchanged -/
def hdrShift (dt ds du : U32) (data : Bytes) : Bytes :=
  data.take 8 ++ (le32 (rd32 data 8 + dt) ++ (le32 (rd32 data 12 + ds) ++ (le32 (rd32 data 16 + du) ++ data.drop 20)))

theorem hdrShift_eq (dt ds du : U32) (data : Bytes) :
    hdrShift dt ds du data =
      hdrCat (data.take 8) (rd32 data 8 + dt) (rd32 data 12 + ds) (rd32 data 16 + du) (data.drop 20) := rfl

section
variable (dt ds du : U32) {data : Bytes} (hl : 24 ≤ data.length)
include hl

theorem take8_length : (data.take 8).length = 8 := by
  rw [List.length_take]; omega

theorem hdrShift_byteAt {i : Nat} (hi : i < 8 ∨ 20 ≤ i) : byteAt (hdrShift dt ds du data) i = byteAt data i := by
  rw [hdrShift_eq]
  cases hi with
  | inl h => exact (hdrCat_pre (take8_length hl) _ _ _ _ h).trans (byteAt_take h)
  | inr h =>
    obtain ⟨j, rfl⟩ := Nat.exists_eq_add_of_le h
    exact (hdrCat_tl (take8_length hl) _ _ _ _ j).trans byteAt_drop

theorem hdrShift_length : (hdrShift dt ds du data).length = data.length := by
  rw [hdrShift_eq, hdrCat_length (take8_length hl), List.length_drop]
  omega

theorem hdrShift_fields :
    rd32 (hdrShift dt ds du data) 0 = rd32 data 0 ∧ byteAt (hdrShift dt ds du data) 4 = byteAt data 4 ∧
    byteAt (hdrShift dt ds du data) 5 = byteAt data 5 ∧ rd16 (hdrShift dt ds du data) 6 = rd16 data 6 ∧
    rd32 (hdrShift dt ds du data) 8 = rd32 data 8 + dt ∧ rd32 (hdrShift dt ds du data) 12 = rd32 data 12 + ds ∧
    rd32 (hdrShift dt ds du data) 16 = rd32 data 16 + du ∧ rd32 (hdrShift dt ds du data) 20 = rd32 data 20 := by
  obtain ⟨m8, m12, m16, _⟩ := hdrCat_mid (take8_length hl) (rd32 data 8 + dt) (rd32 data 12 + ds) (rd32 data 16 + du)
    (data.drop 20)
  exact ⟨rd32_congr fun i _ h => hdrShift_byteAt dt ds du hl (Or.inl (by omega)),
    hdrShift_byteAt dt ds du hl (Or.inl (by decide)), hdrShift_byteAt dt ds du hl (Or.inl (by decide)),
    rd16_congr fun i _ h => hdrShift_byteAt dt ds du hl (Or.inl (by omega)), m8, m12, m16,
    rd32_congr fun i h _ => hdrShift_byteAt dt ds du hl (Or.inr h)⟩

end

/-- what is added to (`ts`, `sn`, `una`) of an INCOMING segment with command `cmd`:
* PUSH: `ts` is the peer's clock (`u`), `sn` lives in our receive space (`b`), `una` in our send space (`a`);
* ACK:  `ts` is our own clock echoed (`t`), `sn` and `una` live in our send space (`a`);
* WASK / WINS (and anything else): only `una` is read (`a`). -/
def inDeltas (σ : Sigma) (cmd : Nat) : U32 × U32 × U32 :=
  if cmd = IKCP_CMD_PUSH then (σ.u, σ.b, σ.a)
  else if cmd = IKCP_CMD_ACK then (σ.t, σ.a, σ.a)
  else (0, 0, σ.a)

def shiftHd (σ : Sigma) (data : Bytes) : Bytes :=
  (hdrShift (inDeltas σ (BitVec.ofNat 8 (byteAt data 4)).toNat).1 (inDeltas σ (BitVec.ofNat 8 (byteAt data 4)).toNat).2.1
    (inDeltas σ (BitVec.ofNat 8 (byteAt data 4)).toNat).2.2 data).take IKCP_OVERHEAD

/-- walk the datagram exactly as `Input` does (24-byte header, `len` payload bytes, next segment)
and shift every header; payload bytes and a malformed tail are left alone -/
def shiftInF (σ : Sigma) : Nat → Bytes → Bytes
  | 0, data => data
  | fuel + 1, data =>
    if data.length < IKCP_OVERHEAD then data else
    if (data.drop IKCP_OVERHEAD).length < (rd32 data 20).toNat then shiftHd σ data ++ data.drop IKCP_OVERHEAD
    else shiftHd σ data ++ ((data.drop IKCP_OVERHEAD).take (rd32 data 20).toNat
      ++ shiftInF σ fuel ((data.drop IKCP_OVERHEAD).drop (rd32 data 20).toNat))

def shiftIn (σ : Sigma) (data : Bytes) : Bytes := shiftInF σ (data.length / IKCP_OVERHEAD + 1) data


theorem shiftHd_length (σ : Sigma) (data : Bytes) (hl : 24 ≤ data.length) : (shiftHd σ data).length = 24 := by
  unfold shiftHd
  rw [List.length_take, hdrShift_length _ _ _ hl]
  simp only [IKCP_OVERHEAD]; omega

theorem shiftInF_length (σ : Sigma) (fuel : Nat) (data : Bytes) : (shiftInF σ fuel data).length = data.length := by
  induction fuel generalizing data with
  | zero => rfl
  | succ fuel ih =>
    unfold shiftInF
    by_cases c : data.length < IKCP_OVERHEAD
    · simp only [if_pos c]
    simp only [if_neg c]
    have hl : 24 ≤ data.length := by simp only [IKCP_OVERHEAD] at c; omega
    split
    · simp only [List.length_append, shiftHd_length σ data hl, List.length_drop, IKCP_OVERHEAD]; omega
    · rename_i c2
      simp only [List.length_append, shiftHd_length σ data hl, List.length_drop, List.length_take, ih, IKCP_OVERHEAD] at c2 ⊢
      omega

theorem shiftIn_length (σ : Sigma) (data : Bytes) : (shiftIn σ data).length = data.length :=
  shiftInF_length σ _ data

theorem shiftInF_nil (σ : Sigma) (n : Nat) : shiftInF σ n [] = [] := by
  cases n with
  | zero => rfl
  | succ n => rfl

theorem shiftInF_succ (σ : Sigma) (fuel : Nat) (data : Bytes) :
    shiftInF σ (fuel + 1) data =
      if data.length < IKCP_OVERHEAD then data else
      if (data.drop IKCP_OVERHEAD).length < (rd32 data 20).toNat then shiftHd σ data ++ data.drop IKCP_OVERHEAD
      else shiftHd σ data ++ ((data.drop IKCP_OVERHEAD).take (rd32 data 20).toNat
        ++ shiftInF σ fuel ((data.drop IKCP_OVERHEAD).drop (rd32 data 20).toNat)) := rfl

theorem shiftInF_succ_form (σ : Sigma) (fuel : Nat) (data : Bytes) (hl : ¬ data.length < IKCP_OVERHEAD) :
    ∃ rest, shiftInF σ (fuel + 1) data = shiftHd σ data ++ rest ∧
      rest.length = (data.drop IKCP_OVERHEAD).length ∧
      (¬ (data.drop IKCP_OVERHEAD).length < (rd32 data 20).toNat →
        rest.take (rd32 data 20).toNat = (data.drop IKCP_OVERHEAD).take (rd32 data 20).toNat ∧
        rest.drop (rd32 data 20).toNat = shiftInF σ fuel ((data.drop IKCP_OVERHEAD).drop (rd32 data 20).toNat)) := by
  rw [shiftInF_succ]
  simp only [if_neg hl]
  by_cases c : (data.drop IKCP_OVERHEAD).length < (rd32 data 20).toNat
  · simp only [if_pos c]
    exact ⟨_, rfl, rfl, fun hc => absurd c hc⟩
  · simp only [if_neg c]
    refine ⟨_, rfl, ?_, fun _ => ⟨?_, ?_⟩⟩
    · simp only [List.length_append, List.length_take, shiftInF_length, List.length_drop] at c ⊢
      omega
    · have hA : (rd32 data 20).toNat ≤ ((data.drop IKCP_OVERHEAD).take (rd32 data 20).toNat).length := by
        rw [List.length_take]; omega
      rw [List.take_append_of_le_length hA, List.take_take, Nat.min_self]
    · have hA : (rd32 data 20).toNat ≤ ((data.drop IKCP_OVERHEAD).take (rd32 data 20).toNat).length := by
        rw [List.length_take]; omega
      have hB : ((data.drop IKCP_OVERHEAD).take (rd32 data 20).toNat).length ≤ (rd32 data 20).toNat := by
        rw [List.length_take]; omega
      rw [List.drop_append_of_le_length hA, List.drop_of_length_le hB, List.nil_append]

theorem shiftHd_fields (σ : Sigma) (data rest : Bytes) (hl : 24 ≤ data.length) :
    rd32 (shiftHd σ data ++ rest) 0 = rd32 data 0 ∧
    byteAt (shiftHd σ data ++ rest) 4 = byteAt data 4 ∧
    byteAt (shiftHd σ data ++ rest) 5 = byteAt data 5 ∧
    rd16 (shiftHd σ data ++ rest) 6 = rd16 data 6 ∧
    rd32 (shiftHd σ data ++ rest) 8 = rd32 data 8 + (inDeltas σ (BitVec.ofNat 8 (byteAt data 4)).toNat).1 ∧
    rd32 (shiftHd σ data ++ rest) 12 = rd32 data 12 + (inDeltas σ (BitVec.ofNat 8 (byteAt data 4)).toNat).2.1 ∧
    rd32 (shiftHd σ data ++ rest) 16 = rd32 data 16 + (inDeltas σ (BitVec.ofNat 8 (byteAt data 4)).toNat).2.2 ∧
    rd32 (shiftHd σ data ++ rest) 20 = rd32 data 20 ∧
    (shiftHd σ data ++ rest).drop IKCP_OVERHEAD = rest := by
  have h24 := shiftHd_length σ data hl
  obtain ⟨g0, g4, g5, g6, g8, g12, g16, g20⟩ := hdrShift_fields (inDeltas σ (BitVec.ofNat 8 (byteAt data 4)).toNat).1
    (inDeltas σ (BitVec.ofNat 8 (byteAt data 4)).toNat).2.1 (inDeltas σ (BitVec.ofNat 8 (byteAt data 4)).toNat).2.2 hl
  have key {i : Nat} (hi : i < 24) : byteAt (shiftHd σ data ++ rest) i =
      byteAt (hdrShift (inDeltas σ (BitVec.ofNat 8 (byteAt data 4)).toNat).1
        (inDeltas σ (BitVec.ofNat 8 (byteAt data 4)).toNat).2.1 (inDeltas σ (BitVec.ofNat 8 (byteAt data 4)).toNat).2.2 data) i :=
    (byteAt_append_left (h24.symm ▸ hi)).trans (byteAt_take hi)
  exact ⟨(rd32_congr fun i _ h => key (by omega)).trans g0, (key (by decide)).trans g4, (key (by decide)).trans g5,
    (rd16_congr fun i _ h => key (by omega)).trans g6, (rd32_congr fun i _ h => key (by omega)).trans g8,
    (rd32_congr fun i _ h => key (by omega)).trans g12, (rd32_congr fun i _ h => key (by omega)).trans g16,
    (rd32_congr fun i _ h => key (by omega)).trans g20, List.drop_left' h24⟩

/-- the peer's view of the same shift: its send space is our receive space, its clock our peer clock -/
def Sigma.swap (σ : Sigma) : Sigma := ⟨σ.b, σ.a, σ.u, σ.t⟩

theorem inDeltas_swap (σ : Sigma) :
    inDeltas σ.swap IKCP_CMD_PUSH = (σ.t, σ.a, σ.b) ∧ inDeltas σ.swap IKCP_CMD_ACK = (σ.u, σ.b, σ.b) ∧
    inDeltas σ.swap IKCP_CMD_WASK = (0, 0, σ.b) ∧ inDeltas σ.swap IKCP_CMD_WINS = (0, 0, σ.b) := by
  refine ⟨?_, ?_, ?_, ?_⟩ <;> simp [inDeltas, Sigma.swap, IKCP_CMD_PUSH, IKCP_CMD_ACK, IKCP_CMD_WASK, IKCP_CMD_WINS]

theorem shiftIn_single (σ : Sigma) (conv : U32) (cmd frg : BitVec 8) (wnd : BitVec 16) (ts sn una : U32)
    (data : Bytes) (hlen : data.length < 2 ^ 32) :
    shiftIn σ (encodeHdr conv cmd frg wnd ts sn una data.length ++ data) =
      encodeHdr conv cmd frg wnd (ts + (inDeltas σ cmd.toNat).1) (sn + (inDeltas σ cmd.toNat).2.1)
        (una + (inDeltas σ cmd.toNat).2.2) data.length ++ data := by
  have hp : (le32 conv ++ [UInt8.ofNat cmd.toNat, UInt8.ofNat frg.toNat] ++ le16 wnd).length = 8 := rfl
  obtain ⟨_, r4, _, _, r8, r12, r16, r20⟩ := encodeHdr_reads conv cmd frg wnd ts sn una data.length data _ rfl
  -- the datagram in `hdrCat` form
  have hD : encodeHdr conv cmd frg wnd ts sn una data.length ++ data = _ :=
    (congrArg (· ++ data) (encodeHdr_cat conv cmd frg wnd ts sn una data.length)).trans (hdrCat_append _ _ _ _ _ _)
  have hDl : (encodeHdr conv cmd frg wnd ts sn una data.length ++ data).length = 24 + data.length := by
    rw [List.length_append, encodeHdr_length]; rfl
  have hdrop : (encodeHdr conv cmd frg wnd ts sn una data.length ++ data).drop IKCP_OVERHEAD = data :=
    List.drop_left' (encodeHdr_length _ _ _ _ _ _ _ _)
  rw [encodeHdr_cat conv cmd frg wnd (ts + _)]
  generalize encodeHdr conv cmd frg wnd ts sn una data.length ++ data = D at r4 r8 r12 r16 r20 hD hDl hdrop ⊢
  have hl : (rd32 D 20).toNat = data.length := by
    rw [r20]; simp only [u32, BitVec.toNat_ofNat]; exact Nat.mod_eq_of_lt hlen
  unfold shiftIn
  rw [shiftInF_succ]
  have c0 : ¬ D.length < IKCP_OVERHEAD := by simp only [IKCP_OVERHEAD]; omega
  simp only [if_neg c0, hdrop, hl, Nat.lt_irrefl, if_false, List.take_length, List.drop_length, shiftInF_nil,
    List.append_nil]
  congr 1
  unfold shiftHd
  rw [r4, hdrShift_eq, r8, r12, r16, hD, hdrCat_take hp, hdrCat_drop hp]
  show (hdrCat _ _ _ _ _).take 24 = _
  rw [hdrCat_take24 hp, show (le32 (u32 data.length) ++ data).take 4 = le32 (u32 data.length) from List.take_left' rfl]

end KcpVerif.Shift
