/-
C12 — shift simulation for `Input`: one accepted segment along the stages of the loop body `Kcp.inBody`, the
parse loop over wire bytes, and the tail (rtt, cwnd, flush).
-/
import KcpVerif.Lemmas.KcpShiftRecv
import KcpVerif.Lemmas.KcpShiftAck
import KcpVerif.Lemmas.KcpShiftFlush
import KcpVerif.Lemmas.KcpShiftBytes

namespace KcpVerif.Shift
open KcpVerif.Gen KcpVerif.Kcp

/-- `latest` (our own clock, echoed by an ACK) is live only once an ACK has been seen -/
structure ISim (σ : Sigma) (st st' : InLoop) : Prop where
  k        : Sim σ st.k st'.k
  latest   : st.updRtt = true → st'.latest = st.latest + σ.t
  updRtt   : st'.updRtt = st.updRtt
  flushSeg : st'.flushSeg = st.flushSeg
  ret      : st'.ret = st.ret
  panic    : st'.panic = st.panic

theorem inSt1_sim {σ : Sigma} {st st' : InLoop} (h : ISim σ st st') (regular : Bool) (wnd : BitVec 16)
    (una : U32) : ISim σ (inSt1 regular wnd una st) (inSt1 regular wnd (una + σ.a) st') := by
  have h1 : Sim σ (if regular then { st.k with rmt_wnd := wnd.setWidth 32 } else st.k)
      (if regular then { st'.k with rmt_wnd := wnd.setWidth 32 } else st'.k) :=
    ite_rel Iff.rfl (fun _ => { h.k with rmt_wnd := rfl }) (fun _ => h.k)
  unfold inSt1
  simp only []
  generalize (if regular then { st.k with rmt_wnd := wnd.setWidth 32 } else st.k) = k1 at h1 ⊢
  generalize (if regular then { st'.k with rmt_wnd := wnd.setWidth 32 } else st'.k) = k1' at h1 ⊢
  obtain ⟨p1, p2⟩ := parseUna_sim h1 una
  have e : (st'.flushSeg || decide ((parseUna k1' (una + σ.a)).2 > 0)) =
      (st.flushSeg || decide ((parseUna k1 una).2 > 0)) := by rw [p2, h.flushSeg]
  exact { h with k := shrinkBuf_shift p1, flushSeg := e }

theorem inAck_sim {σ : Sigma} {st st' : InLoop} (h : ISim σ st st') (sn ts : U32) :
    ISim σ (inAck st sn ts) (inAck st' (sn + σ.a) (ts + σ.t)) := by
  unfold inAck
  obtain ⟨f1, f2⟩ := parseFastack_sim (shrinkBuf_shift (parseAck_sim h.k sn)) sn ts
  have e : (st'.flushSeg || (parseFastack (shrinkBuf (parseAck st'.k (sn + σ.a))) (sn + σ.a) (ts + σ.t)).2) =
      (st.flushSeg || (parseFastack (shrinkBuf (parseAck st.k sn)) sn ts).2) := by rw [f2, h.flushSeg]
  exact { h with k := f1, flushSeg := e, updRtt := rfl, latest := fun _ => rfl }

theorem inPush_sim {σ : Sigma} {st st' : InLoop} (h : ISim σ st st') (seg : Seg) :
    ISim σ (inPush st seg) (inPush st' (shRcv σ seg)) := by
  have c1 : itimediff (shRcv σ seg).sn (st'.k.rcv_nxt + st'.k.rcv_wnd) = itimediff seg.sn (st.k.rcv_nxt + st.k.rcv_wnd) := by
    rw [h.k.rcv_nxt, h.k.rcv_wnd]; exact itd_shift_add _ _ _ _
  have c2 : itimediff (shRcv σ seg).sn st'.k.rcv_nxt = itimediff seg.sn st.k.rcv_nxt := by
    rw [h.k.rcv_nxt]; exact itd_shift _ _ _
  have h2 : Sim σ { st.k with acklist := st.k.acklist ++ [Ack.mk seg.sn seg.ts] }
      { st'.k with acklist := st'.k.acklist ++ [Ack.mk (shRcv σ seg).sn (shRcv σ seg).ts] } := by
    have e : st'.k.acklist ++ [Ack.mk (shRcv σ seg).sn (shRcv σ seg).ts] =
        (st.k.acklist ++ [Ack.mk seg.sn seg.ts]).map (shAck σ) := by
      rw [h.k.acklist, List.map_append]; rfl
    exact { h.k with acklist := e }
  obtain ⟨q1, _, q3⟩ := parseData_sim h2 seg
  unfold inPush
  refine ite_rel (by rw [c1]) (fun _ => ?_) (fun _ => h)
  exact ite_rel (by rw [c2]) (fun _ => { h with k := q1, panic := q3 }) (fun _ => { h with k := h2 })

theorem inBody_sim {σ : Sigma} {st st' : InLoop} (h : ISim σ st st') (regular : Bool) (data rest : Bytes)
    (hl : 24 ≤ data.length)
    (hp : rest.take (rd32 data 20).toNat = (data.drop IKCP_OVERHEAD).take (rd32 data 20).toNat) :
    ISim σ (inBody regular data st) (inBody regular (shiftHd σ data ++ rest) st') := by
  obtain ⟨f0, f4, f5, f6, f8, f12, f16, f20, fd⟩ := shiftHd_fields σ data rest hl
  have hPA : ¬ (IKCP_CMD_ACK = IKCP_CMD_PUSH) := by decide
  unfold inBody
  simp only [f0, f4, f5, f6, f8, f12, f16, f20, fd, hp]
  generalize BitVec.ofNat 8 (byteAt data 4) = cmd
  by_cases cA : cmd.toNat = IKCP_CMD_ACK
  · simp only [inDeltas, cA, if_neg hPA, if_true]
    exact inAck_sim (inSt1_sim h regular _ _) _ _
  simp only [if_neg cA]
  by_cases cP : cmd.toNat = IKCP_CMD_PUSH
  · simp only [if_pos cP, inDeltas]
    exact inPush_sim (inSt1_sim h regular _ _) _
  simp only [if_neg cP, inDeltas, if_neg cA]
  have h1 := inSt1_sim h regular (rd16 data 6) (rd32 data 16)
  exact ite_rel Iff.rfl
    (fun _ => { h1 with k := { h1.k with probe := congrArg (· ||| u32 IKCP_ASK_TELL) h1.k.probe } }) (fun _ => h1)

theorem inputLoop_sim {σ : Sigma} (regular : Bool) (fuel : Nat) (data : Bytes) (st st' : InLoop)
    (h : ISim σ st st') :
    ISim σ (inputLoop regular fuel data st) (inputLoop regular fuel (shiftInF σ fuel data) st') := by
  induction fuel generalizing data st st' with
  | zero => exact h
  | succ fuel ih =>
    rw [Kcp.inputLoop_succ, Kcp.inputLoop_succ]
    by_cases c0 : data.length < IKCP_OVERHEAD
    · have e : shiftInF σ (fuel + 1) data = data := by rw [shiftInF_succ]; simp only [if_pos c0]
      rw [e]; simp only [if_pos c0]; exact h
    have hl : 24 ≤ data.length := by simp only [IKCP_OVERHEAD] at c0; omega
    obtain ⟨rest, hD, hrl, hrt⟩ := shiftInF_succ_form σ fuel data c0
    obtain ⟨f0, f4, _, _, _, _, _, f20, fd⟩ := shiftHd_fields σ data rest hl
    have hlen : (shiftHd σ data ++ rest).length = data.length := by
      rw [← hD, shiftInF_length]
    rw [hD]
    simp only [hlen, f0, f4, f20, fd, hrl, h.k.conv]
    simp only [if_neg c0]
    refine ite_rel Iff.rfl (fun _ => { h with ret := rfl }) (fun _ => ?_)
    refine ite_rel Iff.rfl (fun _ => { h with ret := rfl }) (fun c2 => ?_)
    refine ite_rel Iff.rfl (fun _ => { h with ret := rfl }) (fun _ => ?_)
    obtain ⟨ht, hdr⟩ := hrt (fun hc => c2 (Or.inl hc))
    rw [hdr]
    have hp := inBody_sim h regular data rest hl ht
    exact ite_rel (by rw [hp.panic]) (fun _ => hp) (fun _ => ih _ _ _ hp)

structure InRel (σ : Sigma) (r r' : InRes) : Prop where
  k     : Sim σ r.k r'.k
  ret   : r'.ret = r.ret
  outs  : All₂ (OutRel σ) r.outs r'.outs
  panic : r'.panic = r.panic

/-- the RTT sample is `now - latest`, a difference of two readings of our own clock -/
theorem inputK1_sim {σ : Sigma} {st st' : InLoop} (h : ISim σ st st') (regular : Bool) (now : U32) :
    Sim σ (inputK1 st regular now) (inputK1 st' regular (now + σ.t)) := by
  unfold inputK1
  rw [h.updRtt]
  refine ite_rel (and_congr_right fun cu => by rw [h.latest cu, itd_shift]) (fun c => ?_) (fun _ => h.k)
  rw [h.latest c.1, sub_shift]
  exact updateAck_sim h.k _

theorem InRel.ofFlush {σ : Sigma} {r r' : FlushRes} (h : FlushRel σ r r') :
    InRel σ ⟨r.k, 0, r.outs, r.panic⟩ ⟨r'.k, 0, r'.outs, r'.panic⟩ :=
  ⟨h.k, rfl, h.outs, h.panic⟩

theorem inputFin_sim {σ : Sigma} {k k' : Kcp} (h : Sim σ k k') (flushSeg ackNoDelay : Bool) (now : U32) :
    InRel σ (inputFin k flushSeg ackNoDelay now) (inputFin k' flushSeg ackNoDelay (now + σ.t)) := by
  have hlen : k'.acklist.length = k.acklist.length := by rw [h.acklist, List.length_map]
  unfold inputFin
  rw [hlen, h.mtu]
  refine ite_rel Iff.rfl (fun _ => InRel.ofFlush (flush_sim h true now)) (fun _ => ?_)
  refine ite_rel Iff.rfl (fun _ => InRel.ofFlush (flush_sim h false now)) (fun _ => ?_)
  exact ite_rel Iff.rfl (fun _ => InRel.ofFlush (flush_sim h false now)) (fun _ => ⟨h, rfl, All₂.nil, rfl⟩)

theorem inputTail_sim {σ : Sigma} {st st' : InLoop} (h : ISim σ st st') (oldUna : U32)
    (regular ackNoDelay : Bool) (now : U32) :
    InRel σ (inputTail oldUna st regular ackNoDelay now)
      (inputTail (oldUna + σ.a) st' regular ackNoDelay (now + σ.t)) := by
  unfold inputTail
  rw [h.panic, h.ret, h.flushSeg]
  refine ite_rel Iff.rfl (fun _ => ⟨h.k, rfl, All₂.nil, rfl⟩) (fun _ => ?_)
  exact ite_rel Iff.rfl (fun _ => ⟨h.k, rfl, All₂.nil, rfl⟩)
    (fun _ => inputFin_sim (cwndOnAck_sim (inputK1_sim h regular now) oldUna) _ _ _)

theorem input_sim {σ : Sigma} {k k' : Kcp} (h : Sim σ k k') (data : Bytes) (regular ackNoDelay : Bool) (now : U32) :
    InRel σ (input k data regular ackNoDelay now) (input k' (shiftIn σ data) regular ackNoDelay (now + σ.t)) := by
  rw [Kcp.input_eq, Kcp.input_eq, shiftIn_length, h.snd_una]
  have h0 : ISim σ { k := k } { k := k' } := ⟨h, (fun hc => Bool.noConfusion hc), rfl, rfl, rfl, rfl⟩
  exact ite_rel Iff.rfl (fun _ => ⟨h, rfl, All₂.nil, rfl⟩)
    (fun _ => inputTail_sim (inputLoop_sim regular (data.length / IKCP_OVERHEAD + 1) data _ _ h0) _ _ _ _)

end KcpVerif.Shift
