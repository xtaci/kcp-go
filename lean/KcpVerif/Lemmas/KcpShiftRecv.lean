/-
C12 — shift simulation, receive path.  The list loops commute with `shRcv σ` by their `_map` forms in
`Lemmas/KcpLoops`.
-/
import KcpVerif.Lemmas.KcpShiftBasic
import KcpVerif.Lemmas.KcpOps

namespace KcpVerif.Shift
open KcpVerif.Gen KcpVerif.Kcp

@[simp] theorem shRcv_sn (σ : Sigma) (s : Seg) : (shRcv σ s).sn = s.sn + σ.b := rfl
@[simp] theorem shRcv_frg (σ : Sigma) (s : Seg) : (shRcv σ s).frg = s.frg := rfl
@[simp] theorem shRcv_data (σ : Sigma) (s : Seg) : (shRcv σ s).data = s.data := rfl

theorem moveReady_sim {σ : Sigma} {k k' : Kcp} (h : Sim σ k k') : Sim σ (moveReady k) (moveReady k') := by
  have e : moveLoop k'.rcv_wnd.toNat k'.rcv_buf k'.rcv_queue k'.rcv_nxt =
      ⟨(moveLoop k.rcv_wnd.toNat k.rcv_buf k.rcv_queue k.rcv_nxt).buf.map (shRcv σ),
       (moveLoop k.rcv_wnd.toNat k.rcv_buf k.rcv_queue k.rcv_nxt).q.map (shRcv σ),
       (moveLoop k.rcv_wnd.toNat k.rcv_buf k.rcv_queue k.rcv_nxt).nxt + σ.b⟩ := by
    rw [h.rcv_wnd, h.rcv_buf, h.rcv_queue, h.rcv_nxt, moveLoop_map (shRcv σ) σ.b (fun _ => rfl)]
  unfold moveReady
  exact { h with rcv_buf := congrArg MoveRes.buf e, rcv_queue := congrArg MoveRes.q e,
                 rcv_nxt := congrArg MoveRes.nxt e }

theorem peekSize_sim {σ : Sigma} {k k' : Kcp} (h : Sim σ k k') : peekSize k' = peekSize k := by
  unfold peekSize
  rw [h.rcv_queue]
  cases hq : k.rcv_queue with
  | nil => rfl
  | cons s rest =>
    simp only [List.map_cons, shRcv_frg, shRcv_data, List.length_cons, List.length_map]
    rw [← List.map_cons, peekSum_map (shRcv σ) (fun _ => rfl) (fun _ => rfl)]

theorem popMsg_sim {σ : Sigma} {k k' : Kcp} (h : Sim σ k k') :
    popMsg k'.rcv_queue = ⟨(popMsg k.rcv_queue).data, (popMsg k.rcv_queue).rest.map (shRcv σ)⟩ := by
  rw [h.rcv_queue, popMsg_map (shRcv σ) (fun _ => rfl) (fun _ => rfl)]

theorem recvK_sim {σ : Sigma} {k k' : Kcp} (h : Sim σ k k') : Sim σ (recvK k) (recvK k') := by
  have h2 : Sim σ (moveReady { k with rcv_queue := (popMsg k.rcv_queue).rest })
      (moveReady { k' with rcv_queue := (popMsg k'.rcv_queue).rest }) :=
    moveReady_sim { h with rcv_queue := congrArg PopRes.rest (popMsg_sim h) }
  have hlen : k'.rcv_queue.length = k.rcv_queue.length := by rw [h.rcv_queue, List.length_map]
  have hlen2 := congrArg List.length h2.rcv_queue
  rw [List.length_map] at hlen2
  unfold recvK
  simp only []
  generalize moveReady { k with rcv_queue := (popMsg k.rcv_queue).rest } = K1 at h2 hlen2 ⊢
  generalize moveReady { k' with rcv_queue := (popMsg k'.rcv_queue).rest } = K1' at h2 hlen2 ⊢
  exact ite_rel (by rw [hlen2, h2.rcv_wnd, hlen, h.rcv_wnd])
    (fun _ => { h2 with probe := congrArg (· ||| u32 IKCP_ASK_TELL) h2.probe }) (fun _ => h2)

theorem recv_sim {σ : Sigma} {k k' : Kcp} (h : Sim σ k k') (buflen : Nat) :
    Sim σ (recv k buflen).k (recv k' buflen).k ∧ (recv k' buflen).n = (recv k buflen).n ∧
      (recv k' buflen).data = (recv k buflen).data := by
  let R (r r' : RecvRes) : Prop := Sim σ r.k r'.k ∧ r'.n = r.n ∧ r'.data = r.data
  rw [recv_eq, recv_eq, peekSize_sim h, congrArg PopRes.data (popMsg_sim h)]
  exact ite_rel (R := R) Iff.rfl (fun _ => ⟨h, rfl, rfl⟩) fun _ =>
    ite_rel (R := R) Iff.rfl (fun _ => ⟨h, rfl, rfl⟩) fun _ => ⟨recvK_sim h, rfl, rfl⟩

theorem send_congr (k k' : Kcp) (hm : k'.mss = k.mss) (hs : k'.stream = k.stream)
    (hq : k'.snd_queue = k.snd_queue) (b : Bytes) :
    (send k' b).ret = (send k b).ret ∧ (send k' b).panic = (send k b).panic ∧
      (send k' b).k.snd_queue = (send k b).k.snd_queue := by
  unfold send
  simp only [hm, hs, hq, apply_ite SendRes.ret, apply_ite SendRes.panic, apply_ite SendRes.k, apply_ite Kcp.snd_queue,
    and_self]

theorem send_sim {σ : Sigma} {k k' : Kcp} (h : Sim σ k k') (buffer : Bytes) :
    Sim σ (send k buffer).k (send k' buffer).k ∧ (send k' buffer).ret = (send k buffer).ret ∧
      (send k' buffer).panic = (send k buffer).panic := by
  obtain ⟨hr, hp, hq⟩ := send_congr k k' h.mss h.stream h.snd_queue buffer
  refine ⟨?_, hr, hp⟩
  have hf : Fresh (send k buffer).k.snd_queue :=
    send_queue_forall (·.xmit = 0) k buffer h.fresh (fun _ _ => rfl) (fun _ _ hs => hs)
  obtain ⟨q, e⟩ := send_shape k buffer
  obtain ⟨q', e'⟩ := send_shape k' buffer
  rw [e, e'] at hq
  rw [e] at hf
  rw [e, e']
  exact { h with snd_queue := hq, fresh := hf }

theorem any_sn_shift (σ : Sigma) (sn : U32) (l : List Seg) :
    (l.map (shRcv σ)).any (fun x => x.sn = sn + σ.b) = l.any (fun x => x.sn = sn) := by
  induction l with
  | nil => rfl
  | cons x rest ih => simp only [List.map_cons, List.any_cons, shRcv_sn, eq_shift, ih]

theorem parseData_sim {σ : Sigma} {k k' : Kcp} (h : Sim σ k k') (s : Seg) :
    Sim σ (parseData k s).k (parseData k' (shRcv σ s)).k ∧
      (parseData k' (shRcv σ s)).rep = (parseData k s).rep ∧
      (parseData k' (shRcv σ s)).panic = (parseData k s).panic := by
  have c1 : itimediff (shRcv σ s).sn (k'.rcv_nxt + k'.rcv_wnd) = itimediff s.sn (k.rcv_nxt + k.rcv_wnd) := by
    rw [h.rcv_nxt, h.rcv_wnd, shRcv_sn, itd_shift_add]
  have c2 : itimediff (shRcv σ s).sn k'.rcv_nxt = itimediff s.sn k.rcv_nxt := by
    rw [h.rcv_nxt, shRcv_sn, itd_shift]
  have c3 : k'.rcv_buf.any (fun x => x.sn = (shRcv σ s).sn) = k.rcv_buf.any (fun x => x.sn = s.sn) := by
    rw [h.rcv_buf]; exact any_sn_shift σ s.sn k.rcv_buf
  have e : heapInsert (shRcv σ s) k'.rcv_buf = (heapInsert s k.rcv_buf).map (shRcv σ) := by
    rw [h.rcv_buf, heapInsert_map (shRcv σ) (fun a b => itd_shift a.sn b.sn σ.b)]
  let R (r r' : DataRes) : Prop := Sim σ r.k r'.k ∧ r'.rep = r.rep ∧ r'.panic = r.panic
  unfold parseData
  refine ite_rel (R := R) (by rw [c1, c2]) (fun _ => ⟨h, rfl, rfl⟩) (fun _ => ?_)
  refine ite_rel (R := R) (by rw [c3]) (fun _ => ⟨moveReady_sim h, rfl, rfl⟩) (fun _ => ?_)
  exact ite_rel (R := R) Iff.rfl (fun _ => ⟨h, rfl, rfl⟩)
    (fun _ => ⟨moveReady_sim { h with rcv_buf := e }, rfl, rfl⟩)

end KcpVerif.Shift
