/-
C15 (ownership, FEC decoder): the instrumented decoder `Model/FecOwn` against the sanitizer, in the
frame style of `Lemmas/KcpOwnCount`.  What `decode` does to the pool is listed once, branch by branch
(`decodeO_cases`); the holding count is read off it, and "nothing is dropped" in `Props/C15Fec`.  Core Lean only.
-/
import KcpVerif.Model.FecOwn
import KcpVerif.Lemmas.KcpOwnPool

namespace KcpVerif.FecOwn
open KcpVerif.Fec KcpVerif.Own

def cntP (id : Nat) : List PktO → Nat
  | [] => 0
  | q :: l => oc (some q.buf) id + cntP id l

def cntS (id : Nat) : List SetO → Nat
  | [] => 0
  | s :: l => cntP id s.pkts + cntS id l

def cntI (id : Nat) : List Nat → Nat
  | [] => 0
  | j :: l => oc (some j) id + cntI id l

theorem cntI_eq_count (id : Nat) (l : List Nat) : cntI id l = l.count id := by
  induction l with
  | nil => rfl
  | cons j l ih => simp [cntI, oc, ih, List.count_cons, Nat.add_comm]

theorem cntP_append (id : Nat) (a b : List PktO) : cntP id (a ++ b) = cntP id a + cntP id b := by
  induction a with
  | nil => simp [cntP]
  | cons x a ih => simp only [List.cons_append, cntP, ih]; omega

theorem putPkts_W (l : List PktO) (g : Ghost) (F : Nat → Nat) (h : W g (fun id => cntP id l + F id)) :
    W (putPkts l g) F := by
  induction l generalizing g with
  | nil => exact h.congr (fun id => by simp [cntP])
  | cons q rest ih =>
    unfold putPkts
    exact ih _ h.assoc.recycle

theorem usePkts_W (l : List PktO) (g : Ghost) (F : Nat → Nat) (h : W g (fun id => cntP id l + F id)) :
    W (usePkts l g) (fun id => cntP id l + F id) := by
  induction l generalizing g F with
  | nil => exact h
  | cons q rest ih =>
    unfold usePkts
    have h2 : W (g.use (some q.buf)) (fun id => cntP id rest + (oc (some q.buf) id + F id)) :=
      h.assoc.use.congr (fun id => by omega)
    exact (ih _ _ h2).congr (fun id => by simp only [cntP]; omega)

theorem putSets_W (l : List SetO) (g : Ghost) (F : Nat → Nat) (h : W g (fun id => cntS id l + F id)) :
    W (putSets l g) F := by
  induction l generalizing g with
  | nil => exact h.congr (fun id => by simp [cntS])
  | cons s rest ih =>
    unfold putSets
    exact ih _ (putPkts_W _ _ _ h.assoc)

theorem getN_W (n : Nat) (g : Ghost) (F : Nat → Nat) (h : W g F) :
    W (getN n g).g (fun id => cntI id (getN n g).ids + F id) := by
  induction n generalizing g F with
  | zero => exact h.congr (fun id => by simp [getN, cntI])
  | succ n ih =>
    have h1 := ih g.get _ h.get
    unfold getN
    exact h1.congr (fun id => by simp only [cntI]; omega)

theorem putIds_W (l : List Nat) (g : Ghost) (F : Nat → Nat) (h : W g (fun id => cntI id l + F id)) :
    W (putIds l g) F := by
  induction l generalizing g with
  | nil => exact h.congr (fun id => by simp [cntI])
  | cons j rest ih =>
    unfold putIds
    exact ih _ h.assoc.recycle

theorem release_W (l : List Nat) (g : Ghost) (F : Nat → Nat) (h : W g (fun id => cntI id l + F id)) :
    W (release l g) F := by
  induction l generalizing g with
  | nil => exact h.congr (fun id => by simp [cntI])
  | cons j rest ih =>
    unfold release
    exact ih _ h.assoc.use.recycle

theorem storeO_cnt (id : Nat) (s : SetO) (l : List SetO) :
    cntS id (storeO s l) + cntP id ((lookupO s.id l).getD { id := s.id, pkts := [] }).pkts =
      cntS id l + cntP id s.pkts := by
  induction l with
  | nil => simp [storeO, lookupO, cntS, cntP]
  | cons t rest ih =>
    unfold storeO lookupO
    split
    · simp only [cntS, Option.getD_some]; omega
    · simp only [cntS]; omega

theorem discardO_W (n : Nat) (newest : BitVec 32) (l : List SetO) (g : Ghost) (F : Nat → Nat)
    (h : W g (fun id => cntS id l + F id)) :
    W (discardO n newest l g).g (fun id => cntS id (discardO n newest l g).sets + F id) := by
  induction l generalizing g F with
  | nil => exact h
  | cons s rest ih =>
    unfold discardO
    split
    · have h1 : W g (fun id => cntS id rest + (cntP id s.pkts + F id)) :=
        h.congr (fun id => by simp only [cntS]; omega)
      exact (ih g _ h1).congr (fun id => by simp only [cntS]; omega)
    · exact ih _ _ (putPkts_W _ _ _ h.assoc)

/-- the packets of group `sid` once `inp` has been copied into the next fresh buffer -/
def withNew (o : DecO) (inp : Fec.Bytes) (sid : BitVec 32) : List PktO :=
  ((lookupO sid o.sets).getD { id := sid, pkts := [] }).pkts ++ [{ p := inp, buf := o.gh.next }]

theorem withNew_cnt (id : Nat) (o : DecO) (inp : Fec.Bytes) (sid : BitVec 32) (l : List PktO) :
    cntS id (storeO { id := sid, pkts := l } o.sets) + cntP id (withNew o inp sid) =
      oc (some o.gh.next) id + (cntS id o.sets + cntP id l) := by
  have := storeO_cnt id { id := sid, pkts := l } o.sets
  unfold withNew
  rw [cntP_append]
  simp only [cntP] at this ⊢
  omega

/-- **`decode`, case by case**, as far as the pool is concerned.  `same`: too short, replayed, duplicate,
or a tuning round that changes nothing; `recovered` / `failed`: the `m` fresh buffers for the missing
shards go to the caller, or are recycled at once because reconstruction failed. -/
theorem decodeO_cases {P : List SetO → Ghost → List Nat → Prop} (C : CodecNew) (o : DecO) (inp : Fec.Bytes)
    (same : P o.sets o.gh [])
    (retuned : P [] (putSets o.sets o.gh) [])
    (waiting : ∀ (n : Nat) (newest sid : BitVec 32),
      P (discardO n newest (storeO { id := sid, pkts := withNew o inp sid } o.sets) o.gh.get).sets
        (discardO n newest (storeO { id := sid, pkts := withNew o inp sid } o.sets) o.gh.get).g [])
    (allData : ∀ (n : Nat) (newest sid : BitVec 32),
      P (discardO n newest (storeO { id := sid, pkts := [] } o.sets)
          (putPkts (withNew o inp sid) (usePkts (withNew o inp sid) o.gh.get))).sets
        (discardO n newest (storeO { id := sid, pkts := [] } o.sets)
          (putPkts (withNew o inp sid) (usePkts (withNew o inp sid) o.gh.get))).g [])
    (recovered : ∀ (n : Nat) (newest sid : BitVec 32) (m : Nat),
      P (discardO n newest (storeO { id := sid, pkts := [] } o.sets) (putPkts (withNew o inp sid)
          (getN m (usePkts (withNew o inp sid) (usePkts (withNew o inp sid) o.gh.get))).g)).sets
        (discardO n newest (storeO { id := sid, pkts := [] } o.sets) (putPkts (withNew o inp sid)
          (getN m (usePkts (withNew o inp sid) (usePkts (withNew o inp sid) o.gh.get))).g)).g
        (getN m (usePkts (withNew o inp sid) (usePkts (withNew o inp sid) o.gh.get))).ids)
    (failed : ∀ (n : Nat) (newest sid : BitVec 32) (m : Nat),
      P (discardO n newest (storeO { id := sid, pkts := [] } o.sets) (putPkts (withNew o inp sid)
          (putIds (getN m (usePkts (withNew o inp sid) (usePkts (withNew o inp sid) o.gh.get))).ids
            (getN m (usePkts (withNew o inp sid) (usePkts (withNew o inp sid) o.gh.get))).g))).sets
        (discardO n newest (storeO { id := sid, pkts := [] } o.sets) (putPkts (withNew o inp sid)
          (putIds (getN m (usePkts (withNew o inp sid) (usePkts (withNew o inp sid) o.gh.get))).ids
            (getN m (usePkts (withNew o inp sid) (usePkts (withNew o inp sid) o.gh.get))).g))).g []) :
    P (decodeO C o inp).o.sets (decodeO C o inp).o.gh (decodeO C o inp).rbufs := by
  -- one copy of `decodeO` under an opaque predicate, taken apart from the top: no pass over the whole term
  suffices hQ : ∀ Q : DecOutO → Prop, (∀ r : DecOutO, P r.o.sets r.o.gh r.rbufs → Q r) → Q (decodeO C o inp) from
    hQ (fun r => P r.o.sets r.o.gh r.rbufs) (fun _ h => h)
  intro Q hQ
  unfold decodeO
  refine ite_cases (fun _ => hQ _ same) (fun _ => ?_)
  refine ite_cases (fun _ => hQ _ same) (fun _ => ?_)
  refine ite_cases (fun _ => ite_cases (fun _ => hQ _ retuned) (fun _ => hQ _ same)) (fun _ => ?_)
  refine ite_cases (fun _ => hQ _ same) (fun _ => ?_)
  refine ite_cases (fun _ => ?_) (fun _ => hQ _ (waiting _ _ _))
  refine ite_cases (fun _ => hQ _ (allData _ _ _)) (fun _ => ?_)
  simp only []
  split
  · exact hQ _ (recovered _ _ _ _)
  · exact hQ _ (failed _ _ _ _)

theorem decodeO_W (C : CodecNew) (o : DecO) (inp : Fec.Bytes) (F : Nat → Nat)
    (h : W o.gh (fun id => cntS id o.sets + F id)) :
    W (decodeO C o inp).o.gh
      (fun id => cntS id (decodeO C o inp).o.sets + (cntI id (decodeO C o inp).rbufs + F id)) := by
  -- the group is complete: its packets are read, and leave the map
  have popped : ∀ sid, W (usePkts (withNew o inp sid) o.gh.get) (fun id => cntP id (withNew o inp sid) +
      (cntS id (storeO { id := sid, pkts := [] } o.sets) + F id)) := fun sid =>
    usePkts_W _ _ _ (h.get.congr (fun id => by have := withNew_cnt id o inp sid []; simp only [cntP] at this; omega))
  refine decodeO_cases (P := fun s g ids => W g (fun id => cntS id s + (cntI id ids + F id))) C o inp
    ?_ ?_ (fun n newest sid => ?_) (fun n newest sid => ?_) (fun n newest sid m => ?_) (fun n newest sid m => ?_)
  · exact h.congr (fun id => by simp only [cntI]; omega)
  · exact (putSets_W _ _ _ h).congr (fun id => by simp only [cntS, cntI]; omega)
  · have h1 : W o.gh.get (fun id => cntS id (storeO { id := sid, pkts := withNew o inp sid } o.sets) + F id) :=
      h.get.congr (fun id => by have := withNew_cnt id o inp sid (withNew o inp sid); omega)
    exact (discardO_W _ _ _ _ _ h1).congr (fun id => by simp only [cntI]; omega)
  · exact (discardO_W _ _ _ _ _ (putPkts_W _ _ _ (popped sid))).congr (fun id => by simp only [cntI]; omega)
  · have h4 := getN_W m _ _ (usePkts_W _ _ _ (popped sid))
    exact discardO_W _ _ _ _ _ (putPkts_W _ _ _ (h4.congr (fun id => by omega)))
  · have h4 := getN_W m _ _ (usePkts_W _ _ _ (popped sid))
    exact (discardO_W _ _ _ _ _ (putPkts_W _ _ _ (putIds_W _ _ _ h4))).congr (fun id => by simp only [cntI]; omega)

theorem putPkts_lost (l : List PktO) (g : Ghost) : (putPkts l g).lost = g.lost := by
  induction l generalizing g with
  | nil => rfl
  | cons q r ih => unfold putPkts; rw [ih, recycle_lost]

theorem usePkts_lost (l : List PktO) (g : Ghost) : (usePkts l g).lost = g.lost := by
  induction l generalizing g with
  | nil => rfl
  | cons q r ih => unfold usePkts; rw [ih, use_lost]

theorem putSets_lost (l : List SetO) (g : Ghost) : (putSets l g).lost = g.lost := by
  induction l generalizing g with
  | nil => rfl
  | cons q r ih => unfold putSets; rw [ih, putPkts_lost]

theorem getN_lost (n : Nat) (g : Ghost) : (getN n g).g.lost = g.lost := by
  induction n generalizing g with
  | zero => rfl
  | succ n ih => unfold getN; exact ih g.get

theorem putIds_lost (l : List Nat) (g : Ghost) : (putIds l g).lost = g.lost := by
  induction l generalizing g with
  | nil => rfl
  | cons q r ih => unfold putIds; rw [ih, recycle_lost]

theorem release_lost (l : List Nat) (g : Ghost) : (release l g).lost = g.lost := by
  induction l generalizing g with
  | nil => rfl
  | cons q r ih => unfold release; rw [ih, recycle_lost, use_lost]

theorem discardO_lost (n : Nat) (nw : BitVec 32) (l : List SetO) (g : Ghost) : (discardO n nw l g).g.lost = g.lost := by
  induction l generalizing g with
  | nil => rfl
  | cons q r ih =>
    unfold discardO
    split
    · exact ih g
    · rw [ih, putPkts_lost]

theorem decodeRel_W (C : CodecNew) (o : DecO) (inp : Fec.Bytes) (h : W o.gh (fun id => cntS id o.sets)) :
    W (decodeRel C o inp).gh (fun id => cntS id (decodeRel C o inp).sets) := by
  have h1 := decodeO_W C o inp (fun _ => 0) (h.congr (fun id => by omega))
  unfold decodeRel
  simp only []
  exact release_W _ _ _ (h1.congr (fun id => by omega))

end KcpVerif.FecOwn
