/-
`Read`, `WriteBuffers` and `packetInput` of `Model/Sess.lean`, each as one equation per branch.
-/
import KcpVerif.Model.Sess
import KcpVerif.Lemmas.KcpRecv

namespace KcpVerif.C01
open KcpVerif.Kcp

theorem read_leftover (s : Sess) (blen : Nat) (h : s.bufptr.length > 0) :
    s.read blen = ⟨{ s with bufptr := s.bufptr.drop (min blen s.bufptr.length) }, false,
      s.bufptr.take (min blen s.bufptr.length)⟩ := by
  unfold Sess.read; rw [if_pos h]

theorem read_blocked (s : Sess) (blen : Nat) (h0 : s.bufptr.length = 0) (hp : ¬ s.k.peekSize > 0) :
    s.read blen = ⟨s, true, []⟩ := by
  unfold Sess.read; rw [if_neg (by omega), if_neg hp]

/-- `max blen size`: `Read` receives into the caller's buffer if the message fits, else into `recvbuf[:size]` -/
theorem read_fresh (s : Sess) (blen : Nat) (h0 : s.bufptr.length = 0) (hp : s.k.peekSize > 0) :
    recv s.k (max blen s.k.peekSize.toNat) =
        ⟨recvK s.k, (popMsg s.k.rcv_queue).data.length, (popMsg s.k.rcv_queue).data⟩ ∧
      s.read blen = ⟨{ s with k := recvK s.k, bufptr := (popMsg s.k.rcv_queue).data.drop blen }, false,
        (popMsg s.k.rcv_queue).data.take blen⟩ := by
  have h1 : ¬ s.k.peekSize < 0 := by omega
  have hlen := Recv.peekSize_eq s.k h1
  refine ⟨recv_ok s.k _ h1 (by omega), ?_⟩
  unfold Sess.read
  rw [if_neg (by omega), if_pos hp]
  by_cases hc : (blen : Int) ≥ s.k.peekSize
  · rw [if_pos hc, recv_ok s.k blen h1 (by omega), List.drop_of_length_le (by omega), List.take_of_length_le (by omega),
      ← List.length_eq_zero_iff.mp h0]
  · rw [if_neg hc, recv_ok s.k _ h1 (by omega)]
    simp only []
    rw [Nat.min_eq_left (by omega)]

theorem read_cases (s : Sess) (blen : Nat) :
    ((s.read blen).s.k = s.k ∧ (s.read blen).data ++ (s.read blen).s.bufptr = s.bufptr) ∨
    (s.bufptr = [] ∧ ∃ n, 0 ≤ (recv s.k n).n ∧ (s.read blen).s.k = (recv s.k n).k ∧
      (s.read blen).data ++ (s.read blen).s.bufptr = (recv s.k n).data) := by
  by_cases h0 : s.bufptr.length = 0
  · by_cases hp : s.k.peekSize > 0
    · obtain ⟨e1, e2⟩ := read_fresh s blen h0 hp
      rw [e2]
      exact Or.inr ⟨List.length_eq_zero_iff.mp h0, _, by rw [e1]; exact Int.natCast_nonneg _, by rw [e1],
        by rw [e1]; exact List.take_append_drop _ _⟩
    · rw [read_blocked s blen h0 hp]
      exact Or.inl ⟨rfl, rfl⟩
  · rw [read_leftover s blen (by omega)]
    exact Or.inl ⟨rfl, List.take_append_drop _ _⟩

theorem wb_blocked (s : Sess) (v : List Bytes) (now : U32) (h : ¬ s.k.waitSnd < s.k.snd_wnd.toNat) :
    s.writeBuffers v now = ⟨s, true, 0, [], false⟩ := by
  unfold Sess.writeBuffers; rw [if_neg h]

theorem wb_panic (s : Sess) (v : List Bytes) (now : U32) (h : s.k.waitSnd < s.k.snd_wnd.toNat)
    (hp : (Sess.sendAll v s.k).panic = true) :
    s.writeBuffers v now = ⟨{ s with k := (Sess.sendAll v s.k).k }, false, 0, [], true⟩ := by
  unfold Sess.writeBuffers; rw [if_pos h]; simp only []; rw [if_pos hp]

/-- the flush rule of `WriteBuffers` -/
def wbFlush (s : Sess) (v : List Bytes) : Prop :=
  (Sess.sendAll v s.k).k.waitSnd ≥ (Sess.sendAll v s.k).k.snd_wnd.toNat ∨ ¬ s.writeDelay

theorem wb_flush (s : Sess) (v : List Bytes) (now : U32) (h : s.k.waitSnd < s.k.snd_wnd.toNat)
    (hp : (Sess.sendAll v s.k).panic = false) (hc : wbFlush s v) :
    s.writeBuffers v now = ⟨{ s with k := ((Sess.sendAll v s.k).k.flush true now).k }, false, (v.map List.length).sum,
      ((Sess.sendAll v s.k).k.flush true now).outs, ((Sess.sendAll v s.k).k.flush true now).panic⟩ := by
  unfold Sess.writeBuffers; rw [if_pos h]; simp only []
  rw [if_neg (by simp [hp])]
  unfold wbFlush at hc
  rw [if_pos hc]

theorem wb_noflush (s : Sess) (v : List Bytes) (now : U32) (h : s.k.waitSnd < s.k.snd_wnd.toNat)
    (hp : (Sess.sendAll v s.k).panic = false) (hc : ¬ wbFlush s v) :
    s.writeBuffers v now = ⟨{ s with k := (Sess.sendAll v s.k).k }, false, (v.map List.length).sum, [], false⟩ := by
  unfold Sess.writeBuffers; rw [if_pos h]; simp only []
  rw [if_neg (by simp [hp])]
  unfold wbFlush at hc
  rw [if_neg hc]

theorem wb_admitted (s : Sess) (v : List Bytes) (now : U32) (hp : ¬ (s.writeBuffers v now).panic = true)
    (hb : ¬ (s.writeBuffers v now).blocked = true) :
    s.k.waitSnd < s.k.snd_wnd.toNat ∧ (Sess.sendAll v s.k).panic = false := by
  by_cases hadm : s.k.waitSnd < s.k.snd_wnd.toNat
  case neg => rw [wb_blocked s v now hadm] at hb; exact absurd rfl hb
  refine ⟨hadm, ?_⟩
  cases hpp : (Sess.sendAll v s.k).panic with
  | false => rfl
  | true => rw [wb_panic s v now hadm hpp] at hp; exact absurd rfl hp

theorem packetInput_cases (s : Sess) (d : Bytes) (now : U32) :
    s.packetInput d now = ⟨s, [], false⟩ ∨
    s.packetInput d now = ⟨{ s with k := (input s.k d true s.ackNoDelay now).k },
      (input s.k d true s.ackNoDelay now).outs, (input s.k d true s.ackNoDelay now).panic⟩ := by
  unfold Sess.packetInput
  split
  · left; rfl
  · right; rfl

end KcpVerif.C01
