import KcpVerif.Model.Ring
import KcpVerif.Lemmas.Serial
/-!
The specification of the ring buffer (`WF`, `abs`, `Rep`) and its proofs, which work in logical
coordinates: `Rep r q` says that for every `k` below the capacity the slot at physical index `idx k`
holds `q[k]?` (`Rep.slot`, `Rep.of_slots`), and each operation is described by what it does to the
slot at `idx k`.
-/
namespace KcpVerif

namespace Ring
variable {α β : Type}

theorem length_slice (l : List β) (a b : Nat) : (slice l a b).length = min (b - a) (l.length - a) := by
  simp [slice]

theorem getElem?_slice (l : List β) (a b i : Nat) :
    (slice l a b)[i]? = if i < b - a then l[a + i]? else none := by
  simp [slice, List.getElem?_take]

theorem length_blit (dst : List β) (off : Nat) (src : List β) : (blit dst off src).length = dst.length := by
  simp only [blit, List.length_append, List.length_take, List.length_drop]
  omega

theorem getElem?_blit (dst : List β) (off : Nat) (src : List β) (i : Nat) :
    (blit dst off src)[i]? =
      if off ≤ i ∧ i < off + src.length ∧ i < dst.length then src[i - off]? else dst[i]? := by
  by_cases hd : i < dst.length
  · simp only [blit, List.getElem?_append, List.length_append, List.length_take, List.getElem?_take,
      List.getElem?_drop]
    by_cases h1 : i < off
    · rw [if_pos (by omega), if_pos (by omega), if_pos h1, if_neg (by omega)]
    · by_cases h2 : i < off + src.length
      · rw [if_pos (by omega), if_neg (by omega), if_pos (by omega), if_pos (by omega)]
        congr 1
        omega
      · rw [if_neg (by omega), if_neg (by omega)]
        congr 1
        omega
  · rw [List.getElem?_eq_none (by rw [length_blit]; omega), if_neg (by omega), List.getElem?_eq_none (by omega)]

theorem clearRange_eq_blit (l : List (Option α)) (a b : Nat) :
    clearRange l a b = blit l a (List.replicate (min b l.length - a) none) := by
  unfold clearRange blit
  rw [List.length_replicate,
    List.take_of_length_le (l := List.replicate _ _) (by rw [List.length_replicate]; omega)]
  congr 2
  omega

theorem length_clearRange (l : List (Option α)) (a b : Nat) : (clearRange l a b).length = l.length := by
  rw [clearRange_eq_blit, length_blit]

theorem getElem?_clearRange (l : List (Option α)) (a b i : Nat) :
    (clearRange l a b)[i]? = if a ≤ i ∧ i < b ∧ i < l.length then some none else l[i]? := by
  rw [clearRange_eq_blit, getElem?_blit, List.length_replicate, List.getElem?_replicate]
  by_cases h : a ≤ i ∧ i < b ∧ i < l.length
  · rw [if_pos h, if_pos (by omega), if_pos (by omega)]
  · rw [if_neg h, if_neg (by omega)]

/-- physical index of the `k`-th element counted from the head -/
def idx (r : Ring α) (k : Nat) : Nat :=
  if r.head + k < r.size then r.head + k else r.head + k - r.size

/-- slot `i` lies in the live range `[head, tail)` read circularly -/
def Live (r : Ring α) (i : Nat) : Prop :=
  if r.head ≤ r.tail then r.head ≤ i ∧ i < r.tail else r.head ≤ i ∨ i < r.tail

instance (r : Ring α) (i : Nat) : Decidable (r.Live i) := by unfold Live; infer_instance

/-- Well-formed ring: at least two slots (one is always kept empty), both indices inside the
slice, every slot outside the live range holds the zero value (`none`: nothing is retained
there) and every slot inside holds an element. -/
structure WF (r : Ring α) : Prop where
  size_ge : 2 ≤ r.size
  head_lt : r.head < r.size
  tail_lt : r.tail < r.size
  dead : ∀ i, i < r.size → ¬ r.Live i → r.elems[i]? = some none
  live : ∀ i, i < r.size → r.Live i → ∃ a, r.elems[i]? = some (some a)

def liveSlots (r : Ring α) : List (Option α) :=
  if r.head ≤ r.tail then slice r.elems r.head r.tail else r.elems.drop r.head ++ r.elems.take r.tail

/-- the queue a ring represents: the contents of the live range, head first -/
def abs (r : Ring α) : List α := r.liveSlots.filterMap id

/-- `Rep r q`: `r` is well formed and represents the queue `q` (pointwise form used in proofs;
`rep_iff` in Lemmas/RingIter shows it is `WF r ∧ abs r = q`). -/
structure Rep (r : Ring α) (q : List α) : Prop where
  size_ge : 2 ≤ r.size
  head_lt : r.head < r.size
  tail_lt : r.tail < r.size
  len_eq : r.len = q.length
  live : ∀ k, k < q.length → r.elems[r.idx k]? = some q[k]?
  dead : ∀ i, i < r.size → ¬ r.Live i → r.elems[i]? = some none

/-! ### index arithmetic: `len`, `idx`, `Live` as disjunctions, since `omega` does not look into `if` -/

theorem len_spec (r : Ring α) :
    (r.head ≤ r.tail ∧ r.len = r.tail - r.head) ∨ (r.tail < r.head ∧ r.len = r.size - r.head + r.tail) := by
  unfold len; split <;> omega

theorem idx_spec (r : Ring α) (k : Nat) :
    (r.head + k < r.size ∧ r.idx k = r.head + k) ∨ (r.size ≤ r.head + k ∧ r.idx k = r.head + k - r.size) := by
  unfold idx; split <;> omega

theorem live_iff (r : Ring α) (i : Nat) :
    r.Live i ↔ (r.head ≤ r.tail ∧ r.head ≤ i ∧ i < r.tail) ∨ (r.tail < r.head ∧ (r.head ≤ i ∨ i < r.tail)) := by
  unfold Live; split <;> omega

theorem idx_eq_mod {r : Ring α} (hh : r.head < r.size) {k : Nat} (hk : k ≤ r.size) :
    r.idx k = (r.head + k) % r.size := by
  rw [Serial.add_mod_cases r.head k r.size (by omega) hk, Nat.mod_eq_of_lt hh]
  rfl

theorem idx_zero {r : Ring α} (hh : r.head < r.size) : r.idx 0 = r.head := by
  have := idx_spec r 0
  omega

theorem idx_lt {r : Ring α} (hh : r.head < r.size) {k : Nat} (hk : k < r.size) : r.idx k < r.size := by
  have := idx_spec r k
  omega

theorem idx_inj {r : Ring α} {j k : Nat} (hj : j < r.size) (hk : k < r.size) (h : r.idx j = r.idx k) :
    j = k := by
  have := idx_spec r j
  have := idx_spec r k
  omega

theorem exists_idx {r : Ring α} (hh : r.head < r.size) {i : Nat} (hi : i < r.size) :
    ∃ k, k < r.size ∧ r.idx k = i := by
  by_cases hc : r.head ≤ i
  · refine ⟨i - r.head, by omega, ?_⟩
    have := idx_spec r (i - r.head)
    omega
  · refine ⟨i + r.size - r.head, by omega, ?_⟩
    have := idx_spec r (i + r.size - r.head)
    omega

theorem idx_succ {r : Ring α} (hh : r.head < r.size) {k : Nat} (hk : k < r.size) :
    r.idx (k + 1) = (r.idx k + 1) % r.size := by
  rw [idx_eq_mod hh hk, idx_eq_mod hh (Nat.le_of_lt hk), Nat.mod_add_mod, Nat.add_assoc]

theorem live_idx_iff {r : Ring α} (hh : r.head < r.size) (ht : r.tail < r.size) {k : Nat} (hk : k < r.size) :
    r.Live (r.idx k) ↔ k < r.len := by
  rw [live_iff]
  have := len_spec r
  have := idx_spec r k
  omega

theorem len_lt {r : Ring α} (hh : r.head < r.size) (ht : r.tail < r.size) : r.len < r.size := by
  have := len_spec r
  omega

theorem tail_eq_idx_len {r : Ring α} (hh : r.head < r.size) (ht : r.tail < r.size) : r.tail = r.idx r.len := by
  have := len_spec r
  have := idx_spec r r.len
  omega

theorem len_of_tail {r : Ring α} (hh : r.head < r.size) {m : Nat} (hm : m < r.size) (ht : r.tail = r.idx m) :
    r.len = m := by
  have h3 : r.tail < r.size := by rw [ht]; exact idx_lt hh hm
  exact idx_inj (len_lt hh h3) hm ((tail_eq_idx_len hh h3).symm.trans ht)

theorem idx_shift {r r' : Ring α} (hr : r.head < r.size) (hs : r'.size = r.size) {m : Nat}
    (hh : r'.head = r.idx m) (hm : m < r.size) {k : Nat} (hk : k ≤ r.size) :
    r'.idx k = (r.head + (m + k)) % r.size := by
  rw [idx_eq_mod (by rw [hs, hh]; exact idx_lt hr hm) (by rw [hs]; exact hk), hs, hh,
    idx_eq_mod hr (Nat.le_of_lt hm), Nat.mod_add_mod, Nat.add_assoc]

theorem idx_shift_lt {r r' : Ring α} (hr : r.head < r.size) (hs : r'.size = r.size) {m : Nat}
    (hh : r'.head = r.idx m) {k : Nat} (hk : m + k < r.size) : r'.idx k = r.idx (m + k) := by
  rw [idx_shift hr hs hh (by omega) (by omega), idx_eq_mod hr (Nat.le_of_lt hk)]

theorem idx_shift_ge {r r' : Ring α} (hr : r.head < r.size) (hs : r'.size = r.size) {m : Nat}
    (hh : r'.head = r.idx m) (hm : m < r.size) {k : Nat} (hk : k < r.size) (hc : r.size ≤ m + k) :
    r'.idx k = r.idx (m + k - r.size) := by
  rw [idx_shift hr hs hh hm (Nat.le_of_lt hk), idx_eq_mod hr (by omega),
    ← Nat.add_mod_right (r.head + (m + k - r.size))]
  congr 1
  omega

theorem Rep.length_lt {r : Ring α} {q : List α} (h : Rep r q) : q.length < r.size := by
  rw [← h.len_eq]
  exact len_lt h.head_lt h.tail_lt

theorem Rep.tail_eq {r : Ring α} {q : List α} (h : Rep r q) : r.tail = r.idx q.length := by
  rw [← h.len_eq]
  exact tail_eq_idx_len h.head_lt h.tail_lt

theorem Rep.slot {r : Ring α} {q : List α} (h : Rep r q) {k : Nat} (hk : k < r.size) :
    r.elems[r.idx k]? = some q[k]? := by
  by_cases hq : k < q.length
  · exact h.live k hq
  · rw [List.getElem?_eq_none (Nat.le_of_not_lt hq)]
    apply h.dead _ (idx_lt h.head_lt hk)
    rw [live_idx_iff h.head_lt h.tail_lt hk, h.len_eq]
    exact hq

theorem Rep.of_slots {r : Ring α} {q : List α} (h1 : 2 ≤ r.size) (h2 : r.head < r.size) (hq : q.length < r.size)
    (ht : r.tail = r.idx q.length) (hs : ∀ k, k < r.size → r.elems[r.idx k]? = some q[k]?) : Rep r q := by
  have h3 : r.tail < r.size := by rw [ht]; exact idx_lt h2 hq
  have h4 : r.len = q.length := len_of_tail h2 hq ht
  refine ⟨h1, h2, h3, h4, fun k hk => hs k (by omega), ?_⟩
  intro i hi hl
  obtain ⟨k, hk, rfl⟩ := exists_idx h2 hi
  rw [live_idx_iff h2 h3 hk, h4] at hl
  rw [hs k hk, List.getElem?_eq_none (Nat.le_of_not_lt hl)]

/-- the common part of `Pop` and `Discard`: the head moves `m ≤ |q|` positions on, the slots it passes
are cleared, the others keep their contents -/
theorem Rep.advance {r r' : Ring α} {q : List α} (h : Rep r q) {m : Nat} (hm : m ≤ q.length)
    (hs : r'.size = r.size) (hh : r'.head = r.idx m) (ht : r'.tail = r.tail)
    (he : ∀ j, j < r.size → r'.elems[r.idx j]? = if j < m then some none else r.elems[r.idx j]?) :
    Rep r' (q.drop m) := by
  have hq := h.length_lt
  have hm' : m < r.size := by omega
  apply Rep.of_slots
  · rw [hs]; exact h.size_ge
  · rw [hs, hh]; exact idx_lt h.head_lt hm'
  · rw [hs, List.length_drop]; omega
  · rw [ht, h.tail_eq, List.length_drop, idx_shift_lt h.head_lt hs hh (by omega)]
    congr 1
    omega
  · intro k hk
    rw [hs] at hk
    rw [List.getElem?_drop]
    by_cases hc : m + k < r.size
    · rw [idx_shift_lt h.head_lt hs hh hc, he _ hc, if_neg (by omega), h.slot hc]
    · rw [idx_shift_ge h.head_lt hs hh hm' hk (by omega), he _ (by omega), if_pos (by omega),
        List.getElem?_eq_none (by omega)]

theorem lt_growSize {n : Nat} (h : 1 ≤ n) : n < growSize n := by
  unfold growSize
  split
  · assumption
  · split <;> omega

theorem size_grow (r : Ring α) : r.grow.size = growSize r.size := by
  simp only [grow, size]
  split <;> simp [length_blit]

theorem head_grow (r : Ring α) : r.grow.head = 0 := rfl
theorem tail_grow (r : Ring α) : r.grow.tail = r.len := rfl

/-- the inner `if` is the number of slots `grow` copies: `len`, except all of them when `head = tail` -/
theorem getElem?_grow (r : Ring α) (hh : r.head < r.size) (ht : r.tail < r.size) (k : Nat) :
    r.grow.elems[k]? =
      if k < (if r.head < r.tail then r.tail - r.head else r.size - r.head + r.tail) then r.elems[r.idx k]?
      else if k < growSize r.size then some none else none := by
  have hg := lt_growSize (n := r.size) (by omega)
  have hi := idx_spec r k
  have hsz : r.elems.length = r.size := rfl
  simp only [Ring.grow]
  split
  · next hc =>
    rw [getElem?_blit, length_slice, List.length_replicate, getElem?_slice, List.getElem?_replicate]
    by_cases hk : k < r.tail - r.head
    · rw [if_pos hk, if_pos (by omega), if_pos (by omega)]
      congr 1
      omega
    · rw [if_neg hk, if_neg (by omega)]
  · next hc =>
    rw [getElem?_blit, getElem?_blit, length_blit, List.length_replicate, List.length_drop, List.length_take,
      List.getElem?_take, List.getElem?_drop, List.getElem?_replicate]
    by_cases hk : k < r.size - r.head
    · rw [if_neg (by omega), if_pos (by omega), if_pos (by omega)]
      congr 1
      omega
    · by_cases hk' : k < r.size - r.head + r.tail
      · rw [if_pos hk', if_pos (by omega), if_pos (by omega)]
        congr 1
        omega
      · rw [if_neg hk', if_neg (by omega), if_neg (by omega)]

theorem Rep.grow {r : Ring α} {q : List α} (h : Rep r q) : Rep r.grow q := by
  have hq := h.length_lt
  have hg := lt_growSize (n := r.size) (by omega)
  have hl := len_spec r
  have hi : ∀ k, k < growSize r.size → r.grow.idx k = k := by
    intro k hk
    have := idx_spec r.grow k
    rw [head_grow, size_grow] at this
    omega
  apply Rep.of_slots
  · rw [size_grow]; have := h.size_ge; omega
  · rw [size_grow, head_grow]; omega
  · rw [size_grow]; omega
  · rw [hi _ (by omega), tail_grow, h.len_eq]
  · intro k hk
    rw [size_grow] at hk
    have h2 := h.head_lt
    have h3 := h.tail_lt
    have h4 := h.len_eq
    rw [hi k hk, getElem?_grow r h2 h3]
    by_cases hc : k < (if r.head < r.tail then r.tail - r.head else r.size - r.head + r.tail)
    · rw [if_pos hc]
      apply h.slot
      split at hc <;> omega
    · rw [if_neg hc, if_pos hk, List.getElem?_eq_none]
      split at hc <;> omega

theorem isFull_iff {r : Ring α} (hh : r.head < r.size) (ht : r.tail < r.size) :
    r.isFull = true ↔ r.len + 1 = r.size := by
  unfold isFull
  rw [beq_iff_eq, tail_eq_idx_len hh ht, ← idx_succ hh (len_lt hh ht)]
  have := idx_spec r (r.len + 1)
  omega

/-- `Push` after the optional `grow` -/
def pushRaw (r : Ring α) (v : α) : Ring α :=
  { r with elems := r.elems.set r.tail (some v), tail := (r.tail + 1) % r.size }

theorem push_eq (r : Ring α) (v : α) : r.push v = pushRaw (if r.isFull then r.grow else r) v := rfl

theorem Rep.pushRaw {r : Ring α} {q : List α} (h : Rep r q) (hf : r.len + 1 ≠ r.size) (v : α) :
    Rep (pushRaw r v) (q ++ [v]) := by
  have hq := h.length_lt
  have hl := h.len_eq
  have hs : (Ring.pushRaw r v).size = r.size := List.length_set
  have hi : ∀ k, (Ring.pushRaw r v).idx k = r.idx k := fun k => by unfold idx; rw [hs]; rfl
  apply Rep.of_slots
  · rw [hs]; exact h.size_ge
  · rw [hs]; exact h.head_lt
  · rw [hs, List.length_append, List.length_singleton]; omega
  · rw [hi, List.length_append, List.length_singleton, idx_succ h.head_lt hq, ← h.tail_eq]
    rfl
  · intro k hk
    rw [hs] at hk
    rw [hi]
    show (r.elems.set r.tail (some v))[r.idx k]? = _
    by_cases hc : k = q.length
    · rw [hc, ← h.tail_eq, List.getElem?_set_self h.tail_lt, List.getElem?_concat_length]
    · have hne : r.tail ≠ r.idx k := fun e => hc (idx_inj hk hq (e.symm.trans h.tail_eq))
      rw [List.getElem?_set_ne hne, h.slot hk, List.getElem?_append]
      split
      · rfl
      · rw [List.getElem?_eq_none (by omega), List.getElem?_eq_none (by simp only [List.length_singleton]; omega)]

theorem Rep.isFull_iff {r : Ring α} {q : List α} (h : Rep r q) : r.isFull = true ↔ q.length + 1 = r.size := by
  rw [Ring.isFull_iff h.head_lt h.tail_lt, h.len_eq]

theorem Rep.push {r : Ring α} {q : List α} (h : Rep r q) (v : α) : Rep (r.push v) (q ++ [v]) := by
  rw [push_eq]
  split
  · next hf =>
    have hg := h.grow
    apply hg.pushRaw
    have := lt_growSize (n := r.size) (by have := h.size_ge; omega)
    have := size_grow r
    have := h.isFull_iff.1 hf
    have := hg.len_eq
    omega
  · next hf =>
    apply h.pushRaw
    rw [h.len_eq]
    exact fun hc => hf (h.isFull_iff.2 hc)

theorem size_push (r : Ring α) (v : α) : (r.push v).size = if r.isFull then growSize r.size else r.size := by
  rw [push_eq]
  show (List.set _ _ _).length = _
  rw [List.length_set]
  split
  · exact size_grow r
  · rfl

theorem Rep.len_zero_iff {r : Ring α} {q : List α} (h : Rep r q) : r.len = 0 ↔ q = [] := by
  rw [h.len_eq]; exact List.length_eq_zero_iff

theorem Rep.peek {r : Ring α} {q : List α} (h : Rep r q) : r.peek = q.head?.map some := by
  unfold Ring.peek
  split
  · next h0 => rw [h.len_zero_iff.1 h0]; rfl
  · next h0 =>
    have hl := h.slot (k := 0) (by have := h.size_ge; omega)
    rw [idx_zero h.head_lt] at hl
    cases q with
    | nil => exact absurd (h.len_zero_iff.2 rfl) h0
    | cons a q => exact hl

theorem Rep.pop_fst {r : Ring α} {q : List α} (h : Rep r q) : (r.pop).1 = q.head?.map some := by
  rw [← h.peek]
  unfold Ring.pop Ring.peek
  split <;> rfl

theorem Rep.pop_snd {r : Ring α} {q : List α} (h : Rep r q) : Rep (r.pop).2 q.tail := by
  unfold Ring.pop
  split
  · next h0 =>
    have e := h.len_zero_iff.1 h0
    subst e
    exact h
  · next h0 =>
    rw [← List.drop_one]
    have hq : 1 ≤ q.length := by have := h.len_eq; omega
    have h2 := h.head_lt
    refine h.advance hq ?_ ?_ rfl ?_
    · exact List.length_set
    · show (r.head + 1) % r.size = r.idx 1
      rw [idx_succ h2 (by omega), idx_zero h2]
    · intro j hj
      show (r.elems.set r.head none)[r.idx j]? = _
      by_cases hc : j < 1
      · have : j = 0 := by omega
        rw [this, idx_zero h2, List.getElem?_set_self h2, if_pos (by omega)]
      · have hne : r.head ≠ r.idx j := fun e => hc (by
          have := idx_inj (by omega) hj ((idx_zero h2).trans e)
          omega)
        rw [List.getElem?_set_ne hne, if_neg hc]

theorem getElem?_clear (r : Ring α) (i : Nat) :
    r.clear.elems[i]? =
      if r.Live i ∧ i < r.size then some none else r.elems[i]? := by
  have hsz : r.elems.length = r.size := rfl
  simp only [Ring.clear, Live]
  split
  · rw [getElem?_clearRange]
    by_cases hc : r.head ≤ i ∧ i < r.tail ∧ i < r.elems.length
    · rw [if_pos hc, if_pos (by omega)]
    · rw [if_neg hc, if_neg (by omega)]
  · rw [getElem?_clearRange, getElem?_clearRange, length_clearRange]
    by_cases hc : i < r.tail ∧ i < r.elems.length
    · rw [if_pos (by omega), if_pos (by omega)]
    · rw [if_neg (by omega)]
      by_cases hc' : r.head ≤ i ∧ i < r.elems.length
      · rw [if_pos (by omega), if_pos (by omega)]
      · rw [if_neg (by omega), if_neg (by omega)]

theorem getElem?_clear_of_dead {r : Ring α} (hd : ∀ i, i < r.size → ¬ r.Live i → r.elems[i]? = some none)
    {i : Nat} (hi : i < r.size) : r.clear.elems[i]? = some none := by
  rw [getElem?_clear]
  split
  · rfl
  · next hn => exact hd i hi (fun hl => hn ⟨hl, hi⟩)

theorem size_clear (r : Ring α) : r.clear.size = r.size := by
  simp only [Ring.clear, size]; split <;> simp [length_clearRange]

theorem Rep.clear {r : Ring α} {q : List α} (h : Rep r q) : Rep r.clear [] := by
  have h1 := h.size_ge
  apply Rep.of_slots
  · rw [size_clear]; exact h1
  · rw [size_clear]; show 0 < r.size; omega
  · rw [size_clear]; show 0 < r.size; omega
  · exact (idx_zero (r := r.clear) (by rw [size_clear]; show 0 < r.size; omega)).symm
  · intro k hk
    rw [List.getElem?_nil]
    exact getElem?_clear_of_dead h.dead (by rw [← size_clear]; exact idx_lt (by show 0 < _; omega) hk)

theorem discard_fst (r : Ring α) (n : Nat) : (r.discard n).1 = min n r.len := by
  simp only [discard]
  split
  · rfl
  · split <;> rfl

/-- what the non-`Clear` branches of `Discard` clear is the live range of the ring cut at the new head -/
theorem discard_snd (r : Ring α) (hh : r.head < r.size) (ht : r.tail < r.size) (n : Nat) :
    (r.discard n).2 = if min n r.len = r.len then r.clear else
      { r with elems := ({ r with tail := r.idx (min n r.len) } : Ring α).clear.elems,
               head := r.idx (min n r.len) } := by
  have him := idx_spec r (min n r.len)
  have hl := len_lt hh ht
  by_cases h0 : min n r.len = r.len
  · simp only [discard]
    rw [if_pos h0, if_pos h0]
  · rw [if_neg h0]
    by_cases hc : r.head + min n r.len < r.size
    · rw [show r.idx (min n r.len) = r.head + min n r.len by omega]
      simp only [discard, Ring.clear]
      rw [if_neg h0, if_pos hc, if_pos (Nat.le_add_right _ _)]
    · rw [show r.idx (min n r.len) = r.head + min n r.len - r.size by omega]
      simp only [discard, Ring.clear]
      rw [if_neg h0, if_neg hc, if_neg (by omega)]
      rfl

theorem Rep.discard_fst {r : Ring α} {q : List α} (h : Rep r q) (n : Nat) :
    (r.discard n).1 = min n q.length := by
  rw [Ring.discard_fst, h.len_eq]

theorem Rep.discard_snd {r : Ring α} {q : List α} (h : Rep r q) (n : Nat) :
    Rep (r.discard n).2 (q.drop n) := by
  have hq := h.length_lt
  rw [Ring.discard_snd r h.head_lt h.tail_lt, h.len_eq]
  split
  · next hc =>
    rw [List.drop_eq_nil_of_le (by omega)]
    exact h.clear
  · next hc =>
    rw [show min n q.length = n by omega]
    have hn : n < r.size := by omega
    refine h.advance (by omega) (size_clear _) rfl rfl ?_
    intro j hj
    -- in the cut ring the live positions are those below `n`
    have hl := live_idx_iff (r := { r with tail := r.idx n }) h.head_lt (idx_lt h.head_lt hn) hj
    rw [len_of_tail (r := { r with tail := r.idx n }) h.head_lt hn rfl] at hl
    show ({ r with tail := r.idx n } : Ring α).clear.elems[r.idx j]? = _
    rw [getElem?_clear]
    by_cases hjm : j < n
    · rw [if_pos hjm, if_pos ⟨hl.2 hjm, idx_lt h.head_lt hj⟩]
    · rw [if_neg hjm, if_neg (fun hc => hjm (hl.1 hc.1))]

end Ring
end KcpVerif
