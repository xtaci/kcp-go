/-
The history invariant of the sender's FEC stage (`Lemmas/C01FecEnc.lean`) over the operations of a
session and over runs of the two-session system.
-/
import KcpVerif.Lemmas.C01FecEnc

namespace KcpVerif.C01
open KcpVerif.Gen
open KcpVerif.Fec KcpVerif.Lemmas.FecSpec KcpVerif.Lemmas.FecEnc
open KcpVerif.SessFec

theorem hist_skip {C : CodecNew} {d p : Nat} {e : Encoder} {W CW : List Bytes}
    (h : Hist C d p e W CW) (o : Bytes) (ho : o.length < IKCP_OVERHEAD) : Hist C d p e W (CW ++ [o]) := by
  intro hw
  obtain ⟨gs, bs, H, hcnt⟩ := h hw.mono
  refine ⟨gs, bs, H.core_mono (fun x hx => List.mem_append_left _ hx), ?_⟩
  rw [bigCount_append, hcnt, bigCount_small o ho]
  rfl

theorem pp_cons_small (e : Encoder) (hs : Nat) (o : Bytes) (rest : List Bytes) (gap : Int)
    (h : o.length < IKCP_OVERHEAD) :
    postProcess (some e) hs (o :: rest) gap = postProcess (some e) hs rest gap := by
  rw [postProcess]; rw [if_pos h]

theorem pp_cons_big (e : Encoder) (hs : Nat) (o : Bytes) (rest : List Bytes) (gap : Int)
    (h : ¬ o.length < IKCP_OVERHEAD) {r : Fec.EncOut}
    (hr : e.encode (List.replicate hs 0 ++ o) (decide (gap < (maxFECEncodeLatency : Int))) = r) :
    postProcess (some e) hs (o :: rest) gap =
      if r.panic then ⟨some e, [], true⟩ else
      ⟨(postProcess (some r.st) hs rest 0).enc, r.data :: (r.parity ++ (postProcess (some r.st) hs rest 0).wire),
       (postProcess (some r.st) hs rest 0).panic⟩ := by
  subst hr
  rw [postProcess]; rw [if_neg h]

theorem hist_pp {C : CodecNew} (hC : Lawful C) {d p : Nat} : ∀ (outs : List Bytes) (e : Encoder) (W CW : List Bytes)
    (gap : Int), Hist C d p e W CW →
    (postProcess (some e) fecHeaderSizePlus2 outs gap).panic = false →
    ∃ e', (postProcess (some e) fecHeaderSizePlus2 outs gap).enc = some e' ∧
      Hist C d p e' (W ++ (postProcess (some e) fecHeaderSizePlus2 outs gap).wire) (CW ++ outs) := by
  intro outs
  induction outs with
  | nil =>
    intro e W CW gap h _
    rw [postProcess_nil]
    exact ⟨e, rfl, by simpa using h⟩
  | cons o rest ih =>
    intro e W CW gap h hp
    by_cases ho : o.length < IKCP_OVERHEAD
    · rw [pp_cons_small e _ o rest gap ho] at hp ⊢
      obtain ⟨e', h1, h2⟩ := ih e W (CW ++ [o]) gap (hist_skip h o ho) hp
      exact ⟨e', h1, by rw [List.append_assoc] at h2; exact h2⟩
    · rw [pp_cons_big e _ o rest gap ho rfl] at hp ⊢
      generalize hc : decide (gap < (maxFECEncodeLatency : Int)) = cont at hp ⊢
      by_cases hpe : (e.encode (List.replicate fecHeaderSizePlus2 0 ++ o) cont).panic = true
      · rw [if_pos hpe] at hp; cases hp
      · rw [if_neg hpe] at hp ⊢
        have hstep := hist_encode hC h o (by omega) cont (by simpa using hpe)
        obtain ⟨e', h1, h2⟩ := ih _ _ _ 0 hstep hp
        refine ⟨e', h1, ?_⟩
        simp only [] at h2 ⊢
        rw [List.append_assoc, List.append_assoc] at h2
        exact h2

theorem pp_some (hs : Nat) : ∀ (outs : List Bytes) (e : Encoder) (gap : Int),
    ∃ e', (postProcess (some e) hs outs gap).enc = some e' := by
  intro outs
  induction outs with
  | nil => intro e gap; rw [postProcess_nil]; exact ⟨e, rfl⟩
  | cons o rest ih =>
    intro e gap
    by_cases ho : o.length < IKCP_OVERHEAD
    · rw [pp_cons_small e _ o rest gap ho]; exact ih e gap
    · rw [pp_cons_big e _ o rest gap ho rfl]
      split
      · exact ⟨e, rfl⟩
      · exact ih _ 0

structure EncOk (C : CodecNew) (d p : Nat) (f : FecG) : Prop where
  hs   : f.x.headerSize = fecHeaderSizePlus2
  hist : ∃ e, f.x.enc = some e ∧ Hist C d p e f.wire f.cwire

theorem fecStep_encOk {C : CodecNew} (hC : Lawful C) {d p : Nat} {f : FecG} (h : EncOk C d p f) (op : FecOp) :
    EncOk C d p (fecStep C f op) ∧ ∃ X, (fecStep C f op).cwire = f.cwire ++ X := by
  obtain ⟨outs, gap, st⟩ := fecStep_pp C f op
  obtain ⟨e, he, hh⟩ := h.hist
  have hok := st.ok
  rw [he, h.hs] at hok
  obtain ⟨e', g1, g2⟩ := hist_pp hC outs e f.wire f.cwire gap hh hok
  rw [← h.hs, ← he] at g1 g2
  refine ⟨⟨st.hs.trans h.hs, e', st.enc.trans g1, ?_⟩, outs, st.cwire⟩
  rw [st.wire, st.cwire]
  exact g2

theorem encOk_genuine {C : CodecNew} {d p : Nat} {f : FecG} (h : EncOk C d p f) (hw : NoWrap d p f.cwire) :
    EncGenuine C d p f := by
  obtain ⟨e, _, hh⟩ := h.hist
  obtain ⟨gs, bs, H, hcnt⟩ := hh hw
  exact hist_genuine H (hw.below hcnt H.len)

/-- the core's output only grows, so the range hypothesis at the end of the run gives it at every delivery -/
theorem fsrun_genuine {C : CodecNew} (hC : Lawful C) {d p : Nat} : ∀ (ops : List FSOp) (s : FecSys),
    EncOk C d p s.A → (∃ X, (fsrun C s ops).A.cwire = s.A.cwire ++ X) ∧
      (NoWrap d p (fsrun C s ops).A.cwire → FecRunGenuine C d p s ops) := by
  intro ops
  induction ops with
  | nil => intro s _; exact ⟨⟨[], (List.append_nil _).symm⟩, fun _ => trivial⟩
  | cons op rest ih =>
    intro s h
    have hA : EncOk C d p (fsstep C s op).A ∧ ∃ Y, (fsstep C s op).A.cwire = s.A.cwire ++ Y := by
      rcases fsstep_A C s op with e | ⟨o, e⟩
      · rw [e]; exact ⟨h, [], (List.append_nil _).symm⟩
      · rw [e]; exact fecStep_encOk hC h o
    obtain ⟨hA, Y, hY⟩ := hA
    obtain ⟨⟨X, hX⟩, hrest⟩ := ih (fsstep C s op) hA
    have hgrow : (fsrun C s (op :: rest)).A.cwire = s.A.cwire ++ (Y ++ X) := by
      show (fsrun C (fsstep C s op) rest).A.cwire = _
      rw [hX, hY, List.append_assoc]
    refine ⟨⟨_, hgrow⟩, fun hw => ⟨?_, hrest hw⟩⟩
    cases op with
    | a o => trivial
    | b o => trivial
    | dlv i now gap =>
      rw [hgrow] at hw
      exact encOk_genuine h hw.mono

theorem encOk_fresh {C : CodecNew} {d p : Nat} {e0 : Encoder} (hnew : Encoder.new C d p 0 = some e0)
    (x : SessFec) (he : x.enc = some e0) (hs : x.headerSize = fecHeaderSizePlus2) : EncOk C d p { x := x } := by
  refine ⟨hs, e0, he, fun _ => ?_⟩
  have hinv := inv_new hnew
  unfold Encoder.new at hnew
  split at hnew
  · cases hnew
  · injection hnew with e
    subst e
    exact ⟨[], [],
      { fill := ⟨hinv, rfl, rfl,
          by show (0 : BitVec 32) = BitVec.ofNat 32 (0 * (d + p)) + BitVec.ofNat 32 0; rw [Nat.zero_mul]; rfl,
          rfl, rfl, rfl⟩, eo := rfl,
        len := hinv.d_pos, bsok := nofun, bspl := nofun, gsok := fun i G hG => by simp at hG, gspl := nofun,
        wire := nofun },
      by rw [List.length_nil, Nat.zero_mul]; rfl⟩

end KcpVerif.C01
