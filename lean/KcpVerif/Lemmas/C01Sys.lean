/-
Composition for C01 (DESIGN.md 7.1, `C01_core`): two KCP cores `A` (writer) and `B` (reader) and a
network that can only replay what `A` has emitted — any datagram `A` ever handed to `output`, at any
later time, any number of times, in any order, or never.  `A` itself may be fed arbitrary bytes
(in particular everything `B` emits), and both ends run arbitrary local operations.
-/
import KcpVerif.Lemmas.C01Ops

namespace KcpVerif.C01
open KcpVerif.Gen KcpVerif.Kcp KcpVerif.Recv KcpVerif.Send

structure Sys where
  A : GSt
  B : GSt

inductive SOp where
  /-- `A` performs any operation with any arguments (including `input` of arbitrary bytes) -/
  | a (op : Op)
  /-- `B` performs any operation other than `input` -/
  | b (op : Op)
  /-- the network delivers to `B` the `i`-th datagram `A` has emitted so far (replay, reorder, duplicate) -/
  | dlv (i : Nat) (regular ackNoDelay : Bool) (now : U32)

def isInput : Op → Bool
  | .input .. => true
  | _ => false

def sstep (s : Sys) : SOp → Sys
  | .a op => { s with A := step s.A op }
  | .b op => if isInput op then s else { s with B := step s.B op }
  | .dlv i regular ackNoDelay now =>
    match s.A.wire[i]? with
    | some d => { s with B := step s.B (.input d regular ackNoDelay now) }
    | none => s

def srun (s : Sys) (ops : List SOp) : Sys := ops.foldl sstep s

theorem sstep_cases {P : Sys → Prop} (s : Sys) (op : SOp) (same : P s) (a : ∀ o, P { s with A := step s.A o })
    (b : ∀ o, isInput o = false → P { s with B := step s.B o })
    (dlv : ∀ d ∈ s.A.wire, ∀ r a now, P { s with B := step s.B (.input d r a now) }) : P (sstep s op) := by
  cases op with
  | a o => exact a o
  | b o => exact ite_cases (fun _ => same) (fun h => b o (by simpa using h))
  | dlv i r ack now =>
    show P (match s.A.wire[i]? with
      | some d => { s with B := step s.B (.input d r ack now) }
      | none => s)
    cases hd : s.A.wire[i]? with
    | none => exact same
    | some d => exact dlv d (List.mem_of_getElem? hd) r ack now

theorem sstep_A (s : Sys) (op : SOp) : (sstep s op).A = s.A ∨ ∃ o, (sstep s op).A = step s.A o :=
  sstep_cases (P := fun s' => s'.A = s.A ∨ ∃ o, s'.A = step s.A o) s op (Or.inl rfl) (fun o => Or.inr ⟨o, rfl⟩)
    (fun _ _ => Or.inl rfl) (fun _ _ _ _ _ => Or.inl rfl)

theorem srun_append (S : Sys) (a b : List SOp) : srun S (a ++ b) = srun (srun S a) b := by
  unfold srun; rw [List.foldl_append]

theorem srun_mapA (ops : List Op) : ∀ S : Sys, srun S (ops.map .a) = { S with A := run S.A ops } := by
  induction ops with
  | nil => intro S; rfl
  | cons o rest ih => intro S; exact ih _

theorem srun_mapB (ops : List Op) (hn : ∀ o ∈ ops, isInput o = false) :
    ∀ S : Sys, srun S (ops.map .b) = { S with B := run S.B ops } := by
  induction ops with
  | nil => intro S; rfl
  | cons o rest ih =>
    intro S
    have h1 : sstep S (.b o) = { S with B := step S.B o } := by
      simp [sstep, hn o (List.mem_cons_self ..)]
    show srun (sstep S (.b o)) (rest.map .b) = _
    rw [h1, ih (fun o ho => hn o (List.mem_cons_of_mem _ ho))]
    rfl

/-- `Input`s at `B` of datagrams `A` has emitted, or too short to have any effect, are deliveries -/
theorem srun_deliver (a : Bool) (now : U32) : ∀ (calls : List (Bytes × Bool)) (S : Sys),
    (∀ cl ∈ calls, cl.1 ∈ S.A.wire ∨ cl.1.length < IKCP_OVERHEAD) →
    ∃ cops : List SOp, srun S cops = { S with B := run S.B (calls.map fun cl => Op.input cl.1 cl.2 a now) } := by
  intro calls
  induction calls with
  | nil => intro S _; exact ⟨[], rfl⟩
  | cons cl rest ih =>
    intro S hall
    have hrest := fun x hx => hall x (List.mem_cons_of_mem _ hx)
    rcases hall cl (List.mem_cons_self ..) with hw | hs
    · obtain ⟨i, hi⟩ := List.getElem?_of_mem hw
      obtain ⟨cops, h⟩ := ih { S with B := step S.B (.input cl.1 cl.2 a now) } hrest
      refine ⟨.dlv i cl.2 a now :: cops, ?_⟩
      show srun (sstep S (.dlv i cl.2 a now)) cops = _
      rw [show sstep S (.dlv i cl.2 a now) = { S with B := step S.B (.input cl.1 cl.2 a now) } by simp [sstep, hi], h]
      rfl
    · obtain ⟨cops, h⟩ := ih S hrest
      refine ⟨cops, ?_⟩
      show _ = { S with B := run (step S.B (.input cl.1 cl.2 a now)) _ }
      rw [h, step_input_runt _ _ _ _ _ hs]

theorem opGenuine_of_not_input (G : U32 → Content) (conv : U32) {o : Op} (h : isInput o = false) : OpGenuine G conv o := by
  cases o with
  | input d r a now => cases h
  | _ => trivial

/-- the writer's log is consistent, and the reader's invariant holds against every content
function that agrees with the writer's log -/
structure SysInv (sn0 conv : U32) (s : Sys) : Prop where
  snd : InvSG sn0 s.A
  rcv : ∀ G, Agree G sn0 s.A.log → ∃ n, InvRG G sn0 conv s.B n

theorem sstep_inv {sn0 conv : U32} {s : Sys} (h : SysInv sn0 conv s) (op : SOp) : SysInv sn0 conv (sstep s op) := by
  have stepB (o : Op) (hg : ∀ G, Agree G sn0 s.A.log → OpGenuine G conv o) : SysInv sn0 conv { s with B := step s.B o } :=
    ⟨h.snd, fun G hG => by obtain ⟨n, hn⟩ := h.rcv G hG; exact step_invRG hn o (hg G hG)⟩
  refine sstep_cases (P := SysInv sn0 conv) s op h (fun o => ?_) (fun o hi => stepB o fun G _ => opGenuine_of_not_input G conv hi)
    (fun d hd r a now => stepB _ fun G hG => (h.snd.wire G hG d hd).genuineIn conv)
  obtain ⟨h1, X, hX⟩ := step_invSG h.snd o
  refine ⟨h1, fun G hG => h.rcv G ?_⟩
  have : Agree G sn0 (s.A.log ++ X) := by rw [← hX]; exact hG
  exact this.prefix

theorem srun_inv {sn0 conv : U32} (ops : List SOp) : ∀ s : Sys, SysInv sn0 conv s → SysInv sn0 conv (srun s ops) :=
  foldl_inv (fun _ op h => sstep_inv h op) ops

theorem fresh_sysInv (kA kB : Kcp) (hA : Fresh kA) (hB : Fresh kB) (hsn : kB.rcv_nxt = kA.snd_nxt) :
    SysInv kA.snd_nxt kB.conv ⟨{ k := kA }, { k := kB }⟩ :=
  ⟨fresh_invSG kA hA, fun G _ => ⟨0, by rw [← hsn]; exact fresh_invRG G kB hB⟩⟩

/-- `G sn := L[sn − sn0]`; outside the log an empty final fragment, so that `bytesOf_gRange_gOf` holds beyond `|L|` -/
def gOf (sn0 : U32) (L : List Content) : U32 → Content := fun sn => L.getD (sn - sn0).toNat (0, [])

theorem gOf_at (sn0 : U32) (L : List Content) (i : Nat) (hi : i < 2 ^ 32) :
    gOf sn0 L (sn0 + BitVec.ofNat 32 i) = L.getD i (0, []) := by
  unfold gOf
  have e : sn0 + BitVec.ofNat 32 i - sn0 = BitVec.ofNat 32 i := by bv_omega
  rw [e, BitVec.toNat_ofNat, Nat.mod_eq_of_lt hi]

theorem gOf_agree (sn0 : U32) (L : List Content) (h : L.length ≤ 2 ^ 32) : Agree (gOf sn0 L) sn0 L := by
  intro i c hc
  have hlt : i < L.length := lt_of_getElem? hc
  rw [gOf_at sn0 L i (by omega), List.getD_eq_getElem?_getD, hc]; rfl

theorem gRange_agree {G : U32 → Content} {sn0 : U32} {L : List Content} (hG : Agree G sn0 L) (n : Nat)
    (hn : n ≤ L.length) : gRange G sn0 n = L.take n := by
  apply List.ext_getElem?
  intro i
  by_cases hi : i < n
  · have hl : i < L.length := by omega
    rw [gRange_get G sn0 n i hi, List.getElem?_take, if_pos hi, List.getElem?_eq_getElem hl]
    exact congrArg some (hG i _ (List.getElem?_eq_getElem hl))
  · rw [List.getElem?_eq_none (by rw [gRange_length]; omega),
      List.getElem?_eq_none (by rw [List.length_take]; omega)]

theorem bytesOf_gRange_gOf (sn0 : U32) (L : List Content) : ∀ m, m ≤ 2 ^ 32 →
    bytesOf (gRange (gOf sn0 L) sn0 m) = bytesOf (L.take m) := by
  intro m
  induction m with
  | zero => intro _; rfl
  | succ m ih =>
    intro hm
    rw [gRange_succ, bytesOf_append, ih (by omega), List.take_add_one, bytesOf_append, gOf_at sn0 L m (by omega),
      List.getD_eq_getElem?_getD]
    congr 1
    cases L[m]? with
    | none => rfl
    | some c => simp [bytesOf]

theorem bytesOf_take_prefix (L : List Content) (m : Nat) : bytesOf (L.take m) <+: bytesOf L := by
  refine ⟨bytesOf (L.drop m), ?_⟩
  rw [← bytesOf_append, List.take_append_drop]

end KcpVerif.C01
