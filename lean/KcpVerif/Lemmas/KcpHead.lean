/-
`HeadLive` (the head of `snd_buf` is not flagged acked and `snd_una` is its `sn`) together with
"nothing in `snd_queue` is flagged" as an invariant over all operations.  Core Lean only.
-/
import KcpVerif.Lemmas.KcpLiveOps
import KcpVerif.Lemmas.KcpLive

namespace KcpVerif.Live
open KcpVerif.Kcp

def LiveInv (k : Kcp) : Prop := HeadLive k ∧ ∀ s ∈ k.snd_queue, s.acked = false

def SndSame4 (a b : Kcp) : Prop :=
  a.snd_buf = b.snd_buf ∧ a.snd_queue = b.snd_queue ∧ a.snd_una = b.snd_una ∧ a.snd_nxt = b.snd_nxt

theorem SndSame4.trans {a b c : Kcp} (h1 : SndSame4 a b) (h2 : SndSame4 b c) : SndSame4 a c :=
  ⟨h1.1.trans h2.1, h1.2.1.trans h2.2.1, h1.2.2.1.trans h2.2.2.1, h1.2.2.2.trans h2.2.2.2⟩

theorem flSeg_id (k : Kcp) (full : Bool) (now : U32) (n : Nat) (s : Seg) :
    (flSeg k full now n s).acked = s.acked ∧ (flSeg k full now n s).sn = s.sn :=
  ⟨flSeg_key (key := Seg.acked) (fun _ _ _ _ _ _ _ _ => rfl) k full now n s,
   flSeg_key (key := Seg.sn) (fun _ _ _ _ _ _ _ _ => rfl) k full now n s⟩

/-- the head stays the head, phase 5 writing neither `acked` nor `sn`; into an empty buffer admission puts the
first queued segment, not flagged, numbered `snd_nxt = snd_una` -/
theorem flush_live (k : Kcp) (full : Bool) (now : U32) (h : LiveInv k) : LiveInv (flush k full now).k := by
  obtain ⟨m, hm, hq, hb, hn, hu⟩ := flush_snd k full now
  refine ⟨?_, by rw [hq]; exact fun s hs => h.2 s (List.mem_of_mem_drop hs)⟩
  have hl := h.1
  unfold HeadLive at hl ⊢
  rw [hb, hn, hu]
  cases hbuf : k.snd_buf with
  | cons s rest =>
    rw [hbuf] at hl
    simp only [List.cons_append, List.map_cons]
    rw [(flSeg_id k full now m s).1, (flSeg_id k full now m s).2]
    exact hl
  | nil =>
    rw [hbuf] at hl
    simp only [List.nil_append]
    cases m with
    | zero => simp only [List.take_zero, stampSegs, List.map_nil]; rw [hl]; simp [u32]
    | succ j =>
      cases hqu : k.snd_queue with
      | nil => rw [hqu] at hm; exact absurd hm (by simp)
      | cons q0 qr =>
        simp only [List.take_succ_cons, stampSegs, List.map_cons]
        rw [(flSeg_id k full now (j + 1) _).1, (flSeg_id k full now (j + 1) _).2]
        exact ⟨h.2 q0 (by rw [hqu]; exact List.mem_cons_self), hl⟩

theorem send_live (k : Kcp) (b : Bytes) (h : LiveInv k) : LiveInv (send k b).k := by
  have hq := send_queue_forall (fun s => s.acked = false) k b h.2 (fun _ _ => rfl) (fun _ _ hs => hs)
  obtain ⟨q, e⟩ := send_shape k b
  rw [e] at hq ⊢
  exact ⟨h.1, hq⟩

/-- `shrink_buf` ends the `una` prologue and follows `parse_ack`: both leave a live head -/
theorem live_steps : Kcp.Steps (fun a b => LiveInv a → LiveInv b) :=
  keeps_steps flush_live
    (huna := fun k una h => by
      obtain ⟨b, u, e⟩ := shrinkUna_shape k una
      exact ⟨headLive_steps.una k una h.1, by rw [e]; exact h.2⟩)
    (hack := fun k sn ts h => by
      obtain ⟨b, u, e⟩ := ackPath_shape k sn ts
      exact ⟨headLive_steps.ack k sn ts h.1, by rw [e]; exact h.2⟩)

theorem input_live (k : Kcp) (data : Bytes) (regular ackNoDelay : Bool) (now : U32) (h : LiveInv k) :
    LiveInv (input k data regular ackNoDelay now).k :=
  live_steps.input k data regular ackNoDelay now h

theorem step_live (k : Kcp) (op : Op) (h : LiveInv k) : LiveInv (step k op) :=
  inv_step (ok := fun _ _ => True) live_steps k op h trivial (hsend := fun k b _ => send_live k b)

theorem run_live (k : Kcp) (ops : List Op) (h : LiveInv k) : LiveInv (run k ops) :=
  inv_run step_live k ops h

theorem new_live (conv : U32) : LiveInv (Kcp.new conv) :=
  ⟨rfl, fun s hs => by simp [Kcp.new] at hs⟩

end KcpVerif.Live
