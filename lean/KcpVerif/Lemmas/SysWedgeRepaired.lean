/-
The fault history of the acked-head wedge (Lemmas/SysDrainCex.lean) replayed on the REPAIRED model
(`Sys.step`): same cores, same events, same two faults (one reordering, one loss).
-/
import KcpVerif.Lemmas.SysDrainCex

namespace KcpVerif.SysC
open KcpVerif.Kcp KcpVerif.Sys

/-- B's first datagram, `X0 = [ACK 0, una 1, wnd 1]`, is flushed -/
def rep1 : State := Sys.run (Sys.init wedgeA wedgeB 0 1000) [.send [0], .flushA, .dlvB, .read, .flushB]
/-- `X0` held back; segments 1 and 2; B queues 1, keeps 2 in the reorder buffer; A inputs `[ACK 2, una 2, wnd 0]` -/
def rep2 : State := Sys.run { rep1 with ba := [] } [.send [1], .send [2], .flushA, .dlvB, .flushB, .dlvA]
/-- the stale `X0` arrives; the reader reads; B flushes the window update -/
def rep3 : State := Sys.run { rep2 with ba := rep1.ba } [.dlvA, .read, .read, .flushB]
/-- the window update is lost -/
def repState : State := { rep3 with ba := [] }
/-- the writer writes one more byte; 60 steps of the canonical scheduler -/
def repAfter : State := (Sys.auto 60 (Sys.step repState (.send [3])) []).1

end KcpVerif.SysC
