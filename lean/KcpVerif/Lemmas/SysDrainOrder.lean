/-
B is never behind A's head when its delivery queue is not full (C02): the reorder buffer
of B is sorted and starts at or after `rcv_nxt` (`SortedB`, an invariant of every event), the move loop
is at its fixpoint (`Live.MoveFix`), and B has everything below A's `snd_una` (`Cons.arel`) — so if
`rcv_nxt` were behind `snd_una`, the segment `rcv_nxt` would be the head of the reorder buffer and the
queue would be full.
-/
import KcpVerif.Lemmas.SysDrainHeadAck
import KcpVerif.Lemmas.KcpMove

namespace KcpVerif.SysC
open KcpVerif.Live KcpVerif.Sys

-- the unifier otherwise unfolds the whole of `flush` / `input` when it compares two states
attribute [local irreducible] Kcp.flush Kcp.input

theorem SortedB.of_same {base : U32} {a b : Kcp} (h : RcvSame a b) (hb : SortedB base b) : SortedB base a := by
  unfold SortedB; rw [h.1, h.2.2.1]; exact hb

theorem sortedB_step {p : Par} {s : State} {gab gba : GLink} (h : Cons p s gab gba) (hnw : NoWrap p.base s)
    (hs : SortedB p.base s.B) (ev : Ev) : SortedB p.base (Sys.step s ev).B := by
  refine h.step_cases (P := fun s' => SortedB p.base s'.B) ev hs (fun _ _ => hs) (fun _ _ => hs)
    (fun _ _ => (h.recvB hnw _).2.2 hs) (fun _ => hs)
    (fun _ => SortedB.of_same (flush_rcv s.B true (clk s.now)) hs) ?_ (fun _ _ _ _ _ _ => hs)
  rintro t0 frs grest _ rfl _
  refine h.dlvB_cases (Q := fun r => SortedB p.base r.k) hnw ?_ (fun _ => hs)
  intro K2 cw inc e _ _ _ _ _
  have hK2 : SortedB p.base K2 := by rw [e]; exact (h.inB_loop hnw).sorted hs
  exact ⟨hK2, SortedB.of_same (flush_rcv K2 false (clk s.now)) hK2⟩

theorem fix_step (s : State) (h : MoveFix s.B) (ev : Ev) : MoveFix (Sys.step s ev).B :=
  step_cases (P := fun s' => MoveFix s'.B) s ev h (fun _ _ => h) (fun _ _ => h) (fun _ _ => recv_fix s.B _ h) (fun _ => h)
    (fun _ => MoveFix.of_same (flush_rcv s.B true (clk s.now)) h)
    (fun d _ _ _ _ => input_fix s.B d.data true s.ndB (clk s.now) h) (fun _ _ _ _ _ => h)

theorem not_behind {p : Par} {s : State} {gab gba : GLink} (h : Cons p s gab gba) (hs : SortedB p.base s.B)
    (hf : MoveFix s.B) (hq : s.B.rcv_queue.length < s.B.rcv_wnd.toNat) :
    o p.base s.A.snd_una ≤ o p.base s.B.rcv_nxt := by
  rcases Nat.lt_or_ge (o p.base s.B.rcv_nxt) (o p.base s.A.snd_una) with hlt | hge
  · exfalso
    rcases h.arel s.B.rcv_nxt hlt with h1 | ⟨x, hx, hxs⟩
    · omega
    · cases hb : s.B.rcv_buf with
      | nil => rw [hb] at hx; simp at hx
      | cons y t =>
        have hy : y.sn = s.B.rcv_nxt := by
          rw [hb] at hx
          rcases List.mem_cons.mp hx with rfl | hx
          · exact hxs
          · exfalso
            have h1 := hs.1
            rw [hb] at h1
            have := (List.pairwise_cons.mp h1).1 x hx
            have := hs.2 y (by rw [hb]; exact List.mem_cons_self ..)
            rw [hxs] at *
            omega
        have := hf y t hb hy
        omega
  · exact hge

/-- the invariants of ONE core that the chain needs beside `Cons`: A's head is live, B's reorder buffer is sorted and
its move loop is at its fixpoint -/
structure Side (base : U32) (s : State) : Prop where
  live : LiveInv s.A
  srt  : SortedB base s.B
  fix  : MoveFix s.B

theorem head_not_behind {p : Par} {s : State} {gab gba : GLink} (h : Cons p s gab gba) (hs : Side p.base s)
    (hq : s.B.rcv_queue.length < s.B.rcv_wnd.toNat) {x : Seg} {rest : List Seg} (hb : s.A.snd_buf = x :: rest) :
    o p.base x.sn ≤ o p.base s.B.rcv_nxt := by
  rw [← (headLive_head hs.live.1 hb).2]
  exact not_behind h hs.srt hs.fix hq

theorem side_step {p : Par} {s : State} {gab gba : GLink} (h : Cons p s gab gba) (hnw : NoWrap p.base s)
    (hs : Side p.base s) (ev : Ev) : Side p.base (Sys.step s ev) :=
  ⟨live_step s hs.live ev, sortedB_step h hnw hs.srt ev, fix_step s hs.fix ev⟩

theorem side_netStep {p : Par} {s : State} {gab gba : GLink} (h : Cons p s gab gba) (hnw : NoWrap p.base s)
    (hs : Side p.base s) (ev : NetEv) : Side p.base (netStep s ev) :=
  netStep_cases (P := Side p.base) s ev (side_step h hnw hs) (fun _ _ _ _ => ⟨hs.live, hs.srt, hs.fix⟩) hs

theorem cons_side_netRun {p : Par} (evs : List NetEv) : ∀ (s : State) (gab gba : GLink), Cons p s gab gba → Side p.base s →
    NetNoWrap p.base s evs → ∃ gab' gba', Cons p (netRun s evs) gab' gba' ∧ Side p.base (netRun s evs) := by
  intro s gab gba h hs hr
  obtain ⟨⟨gab', gba', hc⟩, hs'⟩ := NetNoWrap.inv (J := fun s => (∃ gab gba, Cons p s gab gba) ∧ Side p.base s)
    (fun s ev hnw ⟨⟨_, _, hc⟩, hs⟩ => ⟨cons_netStep hc hnw ev, side_netStep hc hnw hs ev⟩) evs s hr ⟨⟨gab, gba, h⟩, hs⟩
  exact ⟨gab', gba', hc, hs'⟩

theorem side_init (A B : Kcp) (D t0 : Nat) (ndA ndB : Bool) (h : ConsInit A B) :
    Side A.snd_nxt (Sys.init A B D t0 ndA ndB) := by
  obtain ⟨_, _, _, _, h5, h6, h7, _, _, h10, _, _⟩ := h
  refine ⟨⟨?_, ?_⟩, ⟨?_, ?_⟩, ?_⟩
  · show HeadLive A
    unfold HeadLive; rw [h5]; exact h7
  · show ∀ x ∈ A.snd_queue, _
    rw [h6]; intro x hx; simp at hx
  · show B.rcv_buf.Pairwise _
    rw [h10]; exact List.Pairwise.nil
  · show ∀ x ∈ B.rcv_buf, _
    rw [h10]; intro x hx; simp at hx
  · show MoveFix B
    unfold MoveFix; rw [h10]; intro x r hc; cases hc

end KcpVerif.SysC
