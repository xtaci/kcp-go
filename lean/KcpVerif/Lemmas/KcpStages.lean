/-
`Input` and `Update` in stages, each equation by `rfl`; the principles through which facts about them are proved
branch by branch, with or without the condition of each branch; and what they are made of: the primitive updates a
preorder on connection states has to hold across (`LoopSteps`, `Steps`) to hold across the operations.  Core Lean only.
-/
import KcpVerif.Lemmas.KcpShape

namespace KcpVerif.Kcp
open KcpVerif.Gen

/-- the part of the loop body common to all commands: remote window, `parse_una`, `shrink_buf` -/
def inSt1 (regular : Bool) (wnd : BitVec 16) (una : U32) (st : InLoop) : InLoop :=
  let k1 := if regular then { st.k with rmt_wnd := wnd.setWidth 32 } else st.k
  let pu := parseUna k1 una
  { st with k := shrinkBuf pu.1, flushSeg := st.flushSeg || decide (pu.2 > 0) }

/-- `case IKCP_CMD_ACK` of the switch in `Input` -/
def inAck (st1 : InLoop) (sn ts : U32) : InLoop :=
  let k2 := shrinkBuf (parseAck st1.k sn)
  let pf := parseFastack k2 sn ts
  { st1 with k := pf.1, flushSeg := st1.flushSeg || pf.2, updRtt := true, latest := ts }

/-- `case IKCP_CMD_PUSH`: `ack_push`, then `parse_data` unless the segment is below `rcv_nxt` -/
def inPush (st1 : InLoop) (seg : Seg) : InLoop :=
  if itimediff seg.sn (st1.k.rcv_nxt + st1.k.rcv_wnd) < 0 then
    let k2 := { st1.k with acklist := st1.k.acklist ++ [⟨seg.sn, seg.ts⟩] }
    if itimediff seg.sn k2.rcv_nxt ≥ 0 then
      let r := parseData k2 seg
      { st1 with k := r.k, panic := r.panic }
    else { st1 with k := k2 }
  else st1

/-- one accepted segment of the parse loop of `Input` (everything between the header checks and
the recursive call) -/
def inBody (regular : Bool) (data : Bytes) (st : InLoop) : InLoop :=
  let cmd := BitVec.ofNat 8 (byteAt data 4)
  let st1 := inSt1 regular (rd16 data 6) (rd32 data 16) st
  if cmd.toNat = IKCP_CMD_ACK then inAck st1 (rd32 data 12) (rd32 data 8)
  else if cmd.toNat = IKCP_CMD_PUSH then
    inPush st1 { conv := rd32 data 0, cmd := cmd, frg := BitVec.ofNat 8 (byteAt data 5), wnd := rd16 data 6,
                 ts := rd32 data 8, sn := rd32 data 12, una := rd32 data 16,
                 data := (data.drop IKCP_OVERHEAD).take (rd32 data 20).toNat }
  else if cmd.toNat = IKCP_CMD_WASK then
    { st1 with k := { st1.k with probe := st1.k.probe ||| u32 IKCP_ASK_TELL } }
  else st1

theorem inputLoop_zero (regular : Bool) (data : Bytes) (st : InLoop) : inputLoop regular 0 data st = st := rfl

protected theorem inputLoop_succ (regular : Bool) (fuel : Nat) (data : Bytes) (st : InLoop) :
    inputLoop regular (fuel + 1) data st =
      if data.length < IKCP_OVERHEAD then st else
      if rd32 data 0 ≠ st.k.conv then { st with ret := -1 } else
      if (data.drop IKCP_OVERHEAD).length < (rd32 data 20).toNat ∨ (rd32 data 20).toNat > mtuLimit then { st with ret := -2 } else
      if (BitVec.ofNat 8 (byteAt data 4)).toNat ≠ IKCP_CMD_PUSH ∧ (BitVec.ofNat 8 (byteAt data 4)).toNat ≠ IKCP_CMD_ACK ∧
          (BitVec.ofNat 8 (byteAt data 4)).toNat ≠ IKCP_CMD_WASK ∧ (BitVec.ofNat 8 (byteAt data 4)).toNat ≠ IKCP_CMD_WINS then
        { st with ret := -3 } else
      if (inBody regular data st).panic then inBody regular data st else
      inputLoop regular fuel ((data.drop IKCP_OVERHEAD).drop (rd32 data 20).toNat) (inBody regular data st) := rfl

/-- after the loop: `update_ack` with the age of the latest ACK's timestamp (regular packets only) -/
def inputK1 (st : InLoop) (regular : Bool) (now : U32) : Kcp :=
  if st.updRtt ∧ regular ∧ itimediff now st.latest ≥ 0 then updateAck st.k (now - st.latest) else st.k

/-- the end of `Input`: a full flush when the window slid or a fast ack fired, an ack-only flush when the ack list is
long (`len(acklist) ≥ mtu/IKCP_OVERHEAD`) or the caller asked for no delay, otherwise none -/
def inputFin (k2 : Kcp) (flushSeg ackNoDelay : Bool) (now : U32) : InRes :=
  if flushSeg then
    let r := flush k2 true now
    ⟨r.k, 0, r.outs, r.panic⟩
  else if k2.acklist.length ≥ (k2.mtu / u32 IKCP_OVERHEAD).toNat then
    let r := flush k2 false now
    ⟨r.k, 0, r.outs, r.panic⟩
  else if ackNoDelay ∧ k2.acklist.length > 0 then
    let r := flush k2 false now
    ⟨r.k, 0, r.outs, r.panic⟩
  else ⟨k2, 0, [], false⟩

/-- everything `Input` does after the parse loop; `una0` is `snd_una` on entry -/
def inputTail (una0 : U32) (st : InLoop) (regular ackNoDelay : Bool) (now : U32) : InRes :=
  if st.panic then ⟨st.k, 0, [], true⟩ else
  if st.ret < 0 then ⟨st.k, st.ret, [], false⟩ else
  inputFin (cwndOnAck (inputK1 st regular now) una0) st.flushSeg ackNoDelay now

protected theorem input_eq (k : Kcp) (data : Bytes) (regular ackNoDelay : Bool) (now : U32) :
    input k data regular ackNoDelay now =
      if data.length < IKCP_OVERHEAD then ⟨k, -1, [], false⟩ else
      inputTail k.snd_una (inputLoop regular (data.length / IKCP_OVERHEAD + 1) data { k := k }) regular ackNoDelay now := rfl

theorem inputFin_cases {Q : InRes → Prop} {k2 : Kcp} {now : U32} {flushSeg ackNoDelay : Bool}
    (hfull : flushSeg = true → Q ⟨(flush k2 true now).k, 0, (flush k2 true now).outs, (flush k2 true now).panic⟩)
    (hacks : flushSeg = false →
      k2.acklist.length ≥ (k2.mtu / u32 IKCP_OVERHEAD).toNat ∨ (ackNoDelay = true ∧ k2.acklist.length > 0) →
      Q ⟨(flush k2 false now).k, 0, (flush k2 false now).outs, (flush k2 false now).panic⟩)
    (hno : flushSeg = false → k2.acklist.length < (k2.mtu / u32 IKCP_OVERHEAD).toNat →
      ¬ (ackNoDelay = true ∧ k2.acklist.length > 0) → Q ⟨k2, 0, [], false⟩) :
    Q (inputFin k2 flushSeg ackNoDelay now) := by
  unfold inputFin
  refine ite_cases hfull fun hf => ?_
  have hf' : flushSeg = false := Bool.eq_false_iff.mpr hf
  exact ite_cases (fun h => hacks hf' (Or.inl h)) fun h =>
    ite_cases (fun h' => hacks hf' (Or.inr h')) (hno hf' (Nat.lt_of_not_le h))

theorem inputFin_ind {Q : InRes → Prop} {k2 : Kcp} {now : U32}
    (hfl : ∀ full, Q ⟨(flush k2 full now).k, 0, (flush k2 full now).outs, (flush k2 full now).panic⟩)
    (hno : Q ⟨k2, 0, [], false⟩) (flushSeg ackNoDelay : Bool) : Q (inputFin k2 flushSeg ackNoDelay now) :=
  inputFin_cases (fun _ => hfl true) (fun _ _ => hfl false) (fun _ _ _ => hno)

/-- `S` is what the caller knows about the parse loop's result -/
theorem input_cases {Q : InRes → Prop} {S : InLoop → Prop} {k : Kcp} {data : Bytes} {regular ackNoDelay : Bool}
    {now : U32}
    (hloop : S (inputLoop regular (data.length / IKCP_OVERHEAD + 1) data { k := k }))
    (hshort : data.length < IKCP_OVERHEAD → Q ⟨k, -1, [], false⟩)
    (hpanic : ∀ st, S st → st.panic = true → Q ⟨st.k, 0, [], true⟩)
    (hret : ∀ st, S st → st.panic = false → st.ret < 0 → Q ⟨st.k, st.ret, [], false⟩)
    (hfin : ∀ st, S st → st.panic = false → ¬ st.ret < 0 →
      Q (inputFin (cwndOnAck (inputK1 st regular now) k.snd_una) st.flushSeg ackNoDelay now)) :
    Q (input k data regular ackNoDelay now) := by
  rw [Kcp.input_eq]
  refine ite_cases hshort fun _ => ?_
  unfold inputTail
  exact ite_cases (hpanic _ hloop) fun hp => ite_cases (hret _ hloop (Bool.eq_false_iff.mpr hp))
    (hfin _ hloop (Bool.eq_false_iff.mpr hp))

theorem input_ind {Q : InRes → Prop} {S : InLoop → Prop} {k : Kcp} {data : Bytes} {regular : Bool} {now : U32}
    (hloop : S (inputLoop regular (data.length / IKCP_OVERHEAD + 1) data { k := k }))
    (hshort : Q ⟨k, -1, [], false⟩)
    (hstop : ∀ st r p, S st → Q ⟨st.k, r, [], p⟩)
    (hfin : ∀ st nd, S st → Q (inputFin (cwndOnAck (inputK1 st regular now) k.snd_una) st.flushSeg nd now))
    (ackNoDelay : Bool) : Q (input k data regular ackNoDelay now) :=
  input_cases hloop (fun _ => hshort) (fun st hs _ => hstop st _ _ hs) (fun st hs _ _ => hstop st _ _ hs)
    (fun st hs _ _ => hfin st ackNoDelay hs)

/-- `Update` before its flush: first-call initialisation and the ±10 s resynchronisation -/
def updK2 (k : Kcp) (now : U32) : Kcp :=
  let k1 := if k.updated = 0 then { k with updated := 1, ts_flush := now } else k
  if decide (itimediff now k1.ts_flush ≥ 10000 ∨ itimediff now k1.ts_flush < -10000) then { k1 with ts_flush := now } else k1

/-- whether `Update` flushes -/
def updGo (k : Kcp) (now : U32) : Prop :=
  let k1 := if k.updated = 0 then { k with updated := 1, ts_flush := now } else k
  let slap0 := itimediff now k1.ts_flush
  (if decide (slap0 ≥ 10000 ∨ slap0 < -10000) then 0 else slap0) ≥ 0

instance (k : Kcp) (now : U32) : Decidable (updGo k now) := by unfold updGo; exact inferInstance

/-- `ts_flush += interval`, set to `current + interval` when that is already past -/
def updTf (k2 : Kcp) (now : U32) : U32 :=
  if itimediff now (k2.ts_flush + k2.interval) ≥ 0 then now + k2.interval else k2.ts_flush + k2.interval

protected theorem update_eq (k : Kcp) (now : U32) :
    update k now =
      if updGo k now then flush { updK2 k now with ts_flush := updTf (updK2 k now) now } true now
      else ⟨updK2 k now, [], 0, false⟩ := by
  unfold update
  rfl

theorem updK2_shape (k : Kcp) (now : U32) : ∃ u t, updK2 k now = { k with updated := u, ts_flush := t } := by
  let P (x : Kcp) : Prop := ∃ u t, x = { k with updated := u, ts_flush := t }
  have h1 : P (if k.updated = 0 then { k with updated := 1, ts_flush := now } else k) :=
    ite_ind ⟨_, _, rfl⟩ ⟨k.updated, k.ts_flush, rfl⟩
  obtain ⟨u, t, e⟩ := h1
  show P (updK2 k now)
  unfold updK2
  simp only []
  rw [e]
  exact ite_ind ⟨_, _, rfl⟩ ⟨_, _, rfl⟩

theorem update_ind {Q : FlushRes → Prop} {k : Kcp} {now : U32}
    (hfl : ∀ u t, Q (flush { k with updated := u, ts_flush := t } true now))
    (hno : ∀ u t, Q ⟨{ k with updated := u, ts_flush := t }, [], 0, false⟩) : Q (update k now) := by
  obtain ⟨u, t, h⟩ := updK2_shape k now
  rw [Kcp.update_eq, h]
  exact ite_ind (hfl _ _) (hno _ _)

structure LoopSteps (R : Kcp → Kcp → Prop) : Prop where
  refl    : ∀ k, R k k
  trans   : ∀ {a b c}, R a b → R b c → R a c
  rmtWnd  : ∀ k (w : BitVec 16), R k { k with rmt_wnd := w.setWidth 32 }
  una     : ∀ k una, R k (shrinkBuf (parseUna k una).1)
  ack     : ∀ k sn ts, R k (parseFastack (shrinkBuf (parseAck k sn)) sn ts).1
  acklist : ∀ k a, R k { k with acklist := k.acklist ++ [a] }
  data    : ∀ k s, R k (parseData k s).k
  probe   : ∀ k, R k { k with probe := k.probe ||| u32 IKCP_ASK_TELL }

structure Steps (R : Kcp → Kcp → Prop) : Prop extends LoopSteps R where
  rtt     : ∀ k rtt, R k (updateAck k rtt)
  cwnd    : ∀ k u, R k (cwndOnAck k u)
  flush   : ∀ k full now, R k (k.flush full now).k
  tick    : ∀ k u t, R k { k with updated := u, ts_flush := t }

/-- a preorder that holds across every write of the fields the parse loop can write holds across its primitive
updates: `una`, `ack` and `data` write nothing else (`shrinkUna_shape`, `ackPath_shape`, `parseData_shape`) -/
theorem LoopSteps.of_shapes {R : Kcp → Kcp → Prop} (refl : ∀ k, R k k) (trans : ∀ {a b c}, R a b → R b c → R a c)
    (hrmt : ∀ k (w : BitVec 16), R k { k with rmt_wnd := w.setWidth 32 })
    (hsnd : ∀ k b u, R k { k with snd_buf := b, snd_una := u })
    (hal : ∀ k a, R k { k with acklist := k.acklist ++ [a] })
    (hrcv : ∀ k q b n, R k { k with rcv_queue := q, rcv_buf := b, rcv_nxt := n })
    (hpr : ∀ k, R k { k with probe := k.probe ||| u32 IKCP_ASK_TELL }) : LoopSteps R where
  refl := refl
  trans := trans
  rmtWnd := hrmt
  una k una := by obtain ⟨b, u, e⟩ := shrinkUna_shape k una; rw [e]; exact hsnd k b u
  ack k sn ts := by obtain ⟨b, u, e⟩ := ackPath_shape k sn ts; rw [e]; exact hsnd k b u
  acklist := hal
  data k s := by obtain ⟨q, b, n, e⟩ := parseData_shape k s; rw [e]; exact hrcv k q b n
  probe := hpr

/-- each hypothesis left out asks that `P` does not read the fields that update writes: checked by unfolding `P`
on the shape of the update -/
theorem keeps_loopSteps {P : Kcp → Prop}
    (huna : ∀ k una, P k → P (shrinkBuf (parseUna k una).1) := by
      intro k una h; obtain ⟨b, u, e⟩ := shrinkUna_shape k una; rw [e]; exact h)
    (hack : ∀ k sn ts, P k → P (parseFastack (shrinkBuf (parseAck k sn)) sn ts).1 := by
      intro k sn ts h; obtain ⟨b, u, e⟩ := ackPath_shape k sn ts; rw [e]; exact h)
    (hdata : ∀ k s, P k → P (parseData k s).k := by
      intro k s h; obtain ⟨q, b, n, e⟩ := parseData_shape k s; rw [e]; exact h)
    (hrmt : ∀ k (w : BitVec 16), P k → P { k with rmt_wnd := w.setWidth 32 } := by intro _ _ h; exact h)
    (hal : ∀ k a, P k → P { k with acklist := k.acklist ++ [a] } := by intro _ _ h; exact h)
    (hpr : ∀ k, P k → P { k with probe := k.probe ||| u32 IKCP_ASK_TELL } := by intro _ h; exact h) :
    LoopSteps (fun a b => P a → P b) where
  refl _ h := h
  trans f g h := g (f h)
  rmtWnd := hrmt
  una := huna
  ack := hack
  acklist := hal
  data := hdata
  probe := hpr

theorem keeps_steps {P : Kcp → Prop} (hfl : ∀ k full now, P k → P (flush k full now).k)
    (huna : ∀ k una, P k → P (shrinkBuf (parseUna k una).1) := by
      intro k una h; obtain ⟨b, u, e⟩ := shrinkUna_shape k una; rw [e]; exact h)
    (hack : ∀ k sn ts, P k → P (parseFastack (shrinkBuf (parseAck k sn)) sn ts).1 := by
      intro k sn ts h; obtain ⟨b, u, e⟩ := ackPath_shape k sn ts; rw [e]; exact h)
    (hdata : ∀ k s, P k → P (parseData k s).k := by
      intro k s h; obtain ⟨q, b, n, e⟩ := parseData_shape k s; rw [e]; exact h)
    (hrtt : ∀ k rtt, P k → P (updateAck k rtt) := by
      intro k rtt h; obtain ⟨a, b, c, e⟩ := updateAck_shape k rtt; rw [e]; exact h)
    (hcw : ∀ k u, P k → P (cwndOnAck k u) := by
      intro k u h; obtain ⟨cw, inc, e⟩ := cwndOnAck_shape k u; rw [e]; exact h)
    (hrmt : ∀ k (w : BitVec 16), P k → P { k with rmt_wnd := w.setWidth 32 } := by intro _ _ h; exact h)
    (hal : ∀ k a, P k → P { k with acklist := k.acklist ++ [a] } := by intro _ _ h; exact h)
    (hpr : ∀ k, P k → P { k with probe := k.probe ||| u32 IKCP_ASK_TELL } := by intro _ h; exact h)
    (htick : ∀ k u t, P k → P { k with updated := u, ts_flush := t } := by intro _ _ _ h; exact h) :
    Steps (fun a b => P a → P b) where
  toLoopSteps := keeps_loopSteps huna hack hdata hrmt hal hpr
  rtt := hrtt
  cwnd := hcw
  flush := hfl
  tick := htick

end KcpVerif.Kcp
