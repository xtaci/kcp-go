/-
`MoveFix` (the move loop has run to its fixpoint) as an invariant over all operations.
Core Lean only.
-/
import KcpVerif.Lemmas.KcpLiveOps
import KcpVerif.Lemmas.KcpLive

namespace KcpVerif.Live
open KcpVerif.Kcp

def RcvSame (a b : Kcp) : Prop :=
  a.rcv_buf = b.rcv_buf ∧ a.rcv_queue = b.rcv_queue ∧ a.rcv_nxt = b.rcv_nxt ∧ a.rcv_wnd = b.rcv_wnd

theorem MoveFix.of_same {a b : Kcp} (h : RcvSame a b) (hb : MoveFix b) : MoveFix a := by
  unfold MoveFix; rw [h.1, h.2.1, h.2.2.1, h.2.2.2]; exact hb

theorem flush_rcv (k : Kcp) (full : Bool) (now : U32) : RcvSame (flush k full now).k k := by
  obtain ⟨_, _, _, _, _, _, h⟩ := flush_frame k full now
  rw [h]; exact ⟨rfl, rfl, rfl, rfl⟩

theorem RcvSame.trans {a b c : Kcp} (h1 : RcvSame a b) (h2 : RcvSame b c) : RcvSame a c :=
  ⟨h1.1.trans h2.1, h1.2.1.trans h2.2.1, h1.2.2.1.trans h2.2.2.1, h1.2.2.2.trans h2.2.2.2⟩

theorem flush_fix (k : Kcp) (full : Bool) (now : U32) (h : MoveFix k) : MoveFix (flush k full now).k :=
  MoveFix.of_same (flush_rcv k full now) h

theorem fix_steps : Kcp.Steps (fun a b => MoveFix a → MoveFix b) :=
  keeps_steps flush_fix (hdata := parseData_fix)

theorem input_fix (k : Kcp) (data : Bytes) (regular ackNoDelay : Bool) (now : U32) (h : MoveFix k) :
    MoveFix (input k data regular ackNoDelay now).k :=
  fix_steps.input k data regular ackNoDelay now h

/-- the only restriction: `WndSize` must not ENLARGE the receive window while segments are buffered
(settings before traffic); shrinking or leaving it is fine.  C04's `Kcp.WndChangeOK` asks the opposite, that
no window shrinks: a run under both changes `rcv_wnd` only while `rcv_buf` is empty -/
def wndOk (k : Kcp) : Op → Prop
  | .wndSize _ r => r ≤ 0 ∨ k.rcv_buf = [] ∨ (BitVec.ofInt 32 r).toNat ≤ k.rcv_wnd.toNat
  | _ => True

instance (k : Kcp) (op : Op) : Decidable (wndOk k op) := by
  cases op <;> unfold wndOk <;> infer_instance

theorem wndSize_fix (k : Kcp) (s r : Int) (hok : wndOk k (.wndSize s r)) (h : MoveFix k) : MoveFix (wndSize k s r) := by
  unfold wndOk at hok
  unfold wndSize
  obtain ⟨sw, e⟩ : ∃ sw, (if s > 0 then { k with snd_wnd := BitVec.ofInt 32 s } else k) = { k with snd_wnd := sw } :=
    ite_ind (P := fun x : Kcp => ∃ sw, x = { k with snd_wnd := sw }) ⟨_, rfl⟩ ⟨k.snd_wnd, rfl⟩
  rw [e]
  by_cases hr : r > 0
  · rw [if_pos hr]
    intro x rest hb hx
    rcases hok with h1 | h1 | h1
    · omega
    · rw [show k.rcv_buf = x :: rest from hb] at h1; cases h1
    · have := h x rest hb hx
      show k.rcv_queue.length ≥ (BitVec.ofInt 32 r).toNat
      omega
  · rw [if_neg hr]; exact h

theorem step_fix (k : Kcp) (op : Op) (h : MoveFix k) (hok : wndOk k op) : MoveFix (step k op) :=
  inv_step fix_steps k op h hok (hrecv := fun k n _ => recv_fix k n) (hwnd := wndSize_fix)

def runWndOk (k : Kcp) : List Op → Prop
  | [] => True
  | op :: rest => wndOk k op ∧ runWndOk (step k op) rest

theorem run_fix (k : Kcp) (ops : List Op) (h : MoveFix k) (hok : runWndOk k ops) : MoveFix (run k ops) :=
  foldl_inv_ok (okRun := runWndOk) (fun _ _ _ h => h) (fun k op hok h => step_fix k op h hok) ops k hok h

theorem new_fix (conv : U32) : MoveFix (Kcp.new conv) := by
  intro s rest h; simp [Kcp.new] at h

end KcpVerif.Live
