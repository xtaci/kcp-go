/-
What `Input` and `Update` are made of.  A preorder on connection states that holds across each primitive update
of the parse loop holds across the loop; if it also holds across the RTT and congestion-window updates and across
`flush`, it holds across `Input` and `Update`.  Frames ("only these fields change") and invariants
(`fun a b => P a → P b`) are both instances.  The two structures and `loop`, `input`, `update` mention the model's
functions only, so that no user depends on how the operations are cut into stages.  Core Lean only.
-/
import KcpVerif.Lemmas.KcpInput

namespace KcpVerif.Kcp

variable {R : Kcp → Kcp → Prop}

theorem LoopSteps.body (h : LoopSteps R) (regular : Bool) (data : Bytes) (st : InLoop) :
    R st.k (inBody regular data st).k := by
  rw [← Live.inStepAt_eq_inBody]
  exact h.inStep regular _ _ _ _ _ _ _ _ st

theorem LoopSteps.loop (h : LoopSteps R) (regular : Bool) (fuel : Nat) (data : Bytes) (st : InLoop) :
    R st.k (inputLoop regular fuel data st).k :=
  Live.inputLoop_induct regular (fun x => R st.k x.k) (fun _ _ hx => hx)
    (fun conv cmd frg wnd ts sn una payload x _ _ _ hx => h.trans hx (h.inStep regular conv cmd frg wnd ts sn una payload x))
    fuel data st (h.refl _)

theorem Steps.input (h : Steps R) (k : Kcp) (data : Bytes) (regular ackNoDelay : Bool) (now : U32) :
    R k (k.input data regular ackNoDelay now).k := by
  refine input_ind (Q := fun r => R k r.k) (S := fun st => R k st.k) (h.loop regular _ data { k := k }) (h.refl k) (fun _ _ _ hs => hs) ?_ _
  intro st nd hs
  have h2 : R k (cwndOnAck (inputK1 st regular now) k.snd_una) :=
    h.trans (h.trans hs (ite_ind (P := R st.k) (h.rtt _ _) (h.refl _))) (h.cwnd _ _)
  exact inputFin_ind (Q := fun r => R k r.k) (fun _ => h.trans h2 (h.flush _ _ _)) h2 _ _

theorem Steps.update (h : Steps R) (k : Kcp) (now : U32) : R k (k.update now).k :=
  update_ind (Q := fun r => R k r.k) (fun _ _ => h.trans (h.tick _ _ _) (h.flush _ _ _)) (fun _ _ => h.tick _ _ _)

def LoopShape (k k' : Kcp) : Prop :=
  ∃ rw sb su al rq rb rn pr,
    k' = { k with rmt_wnd := rw, snd_buf := sb, snd_una := su, acklist := al, rcv_queue := rq, rcv_buf := rb,
                  rcv_nxt := rn, probe := pr }

theorem LoopShape.refl (k : Kcp) : LoopShape k k :=
  ⟨k.rmt_wnd, k.snd_buf, k.snd_una, k.acklist, k.rcv_queue, k.rcv_buf, k.rcv_nxt, k.probe, rfl⟩

theorem LoopShape.trans {a b c : Kcp} (h1 : LoopShape a b) (h2 : LoopShape b c) : LoopShape a c := by
  obtain ⟨rw, sb, su, al, rq, rb, rn, pr, e1⟩ := h1
  obtain ⟨rw', sb', su', al', rq', rb', rn', pr', e2⟩ := h2
  exact ⟨rw', sb', su', al', rq', rb', rn', pr', by rw [e2, e1]⟩

theorem LoopShape.loopSteps : LoopSteps LoopShape :=
  .of_shapes LoopShape.refl LoopShape.trans
    (fun k _ => ⟨_, k.snd_buf, k.snd_una, k.acklist, k.rcv_queue, k.rcv_buf, k.rcv_nxt, k.probe, rfl⟩)
    (fun k b u => ⟨k.rmt_wnd, b, u, k.acklist, k.rcv_queue, k.rcv_buf, k.rcv_nxt, k.probe, rfl⟩)
    (fun k _ => ⟨k.rmt_wnd, k.snd_buf, k.snd_una, _, k.rcv_queue, k.rcv_buf, k.rcv_nxt, k.probe, rfl⟩)
    (fun k q b n => ⟨k.rmt_wnd, k.snd_buf, k.snd_una, k.acklist, q, b, n, k.probe, rfl⟩)
    (fun k => ⟨k.rmt_wnd, k.snd_buf, k.snd_una, k.acklist, k.rcv_queue, k.rcv_buf, k.rcv_nxt, _, rfl⟩)

theorem inputLoop_shape (regular : Bool) (fuel : Nat) (data : Bytes) (st : InLoop) :
    LoopShape st.k (inputLoop regular fuel data st).k :=
  LoopShape.loopSteps.loop regular fuel data st

end KcpVerif.Kcp
