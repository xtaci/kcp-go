/-
Rules for runs with the clock in them: a phase that every event keeps or leaves to its goal, and that bounds the clock,
is left to the goal by its deadline (`RunP.reach`); such stages are put in sequence (`Within`, `Within.trans`); and
`WaitSnd` stages drain (`stages`).  The rules with `On` restrict the events of the run.
-/
import KcpVerif.Lemmas.SysRunP

namespace KcpVerif.SysC
open KcpVerif.Sys

variable {H : State → Prop} {E : Ev → Prop}

theorem RunP.reachOn {Ph Q : State → Prop} (T : Nat)
    (hstep : ∀ s ev, E ev → H s → H (Sys.step s ev) → Ph s → Ph (Sys.step s ev) ∨ Q (Sys.step s ev))
    (hT : ∀ s, Ph s → s.now ≤ T) :
    ∀ (evs : List Ev) (s : State), (∀ ev ∈ evs, E ev) → RunP H s evs → Ph s → T < (Sys.run s evs).now →
      ∃ a b, evs = a ++ b ∧ Q (Sys.run s a) ∧ (Sys.run s a).now ≤ T + 1 := by
  intro evs
  induction evs with
  | nil => intro s _ _ h hnow; exact absurd (hT s h) (Nat.not_le.mpr hnow)
  | cons ev rest ih =>
    intro s he hr h hnow
    rcases hstep s ev (he ev (List.mem_cons_self ..)) hr.1 (RunP.head hr.2) h with h1 | h1
    · obtain ⟨a, b, e1, e2, e3⟩ := ih _ (fun e hm => he e (List.mem_cons_of_mem _ hm)) hr.2 h1 hnow
      exact ⟨ev :: a, b, by rw [e1]; rfl, e2, e3⟩
    · refine ⟨[ev], rest, rfl, h1, ?_⟩
      have := hT s h
      show (Sys.step s ev).now ≤ T + 1
      rcases step_now s ev with e | e <;> omega

theorem RunP.reach {Ph Q : State → Prop} (T : Nat)
    (hstep : ∀ s ev, H s → H (Sys.step s ev) → Ph s → Ph (Sys.step s ev) ∨ Q (Sys.step s ev))
    (hT : ∀ s, Ph s → s.now ≤ T) (evs : List Ev) (s : State) (hr : RunP H s evs) (h : Ph s)
    (hnow : T < (Sys.run s evs).now) : ∃ a b, evs = a ++ b ∧ Q (Sys.run s a) ∧ (Sys.run s a).now ≤ T + 1 :=
  RunP.reachOn (E := fun _ => True) T (fun s ev _ => hstep s ev) hT evs s (fun _ _ => trivial) hr h hnow

/-- `L + 1`: the clock moves by single milliseconds, so the first state past a deadline is one past it -/
def Within (H : State → Prop) (E : Ev → Prop) (L : Nat) (P Q : State → Prop) : Prop :=
  ∀ (s : State) (evs : List Ev), P s → (∀ ev ∈ evs, E ev) → RunP H s evs → s.now + L < (Sys.run s evs).now →
    ∃ a b, evs = a ++ b ∧ Q (Sys.run s a) ∧ (Sys.run s a).now ≤ s.now + L + 1

theorem Within.trans {L1 L2 : Nat} {P Q R : State → Prop} (h1 : Within H E L1 P Q) (h2 : Within H E L2 Q R) :
    Within H E (L1 + 1 + L2) P R := by
  intro s evs hp he hr hnow
  obtain ⟨a, b, rfl, hq, ht⟩ := h1 s evs hp he hr (by omega)
  rw [run_append] at hnow
  obtain ⟨a2, b2, rfl, hr2, ht2⟩ := h2 _ b hq (List.forall_mem_append.mp he).2 (RunP.split a b s hr).2 (by omega)
  exact ⟨a ++ a2, b2, (List.append_assoc ..).symm, by rw [run_append]; exact hr2, by rw [run_append]; omega⟩

theorem Within.refl (L : Nat) {P Q : State → Prop} (h : ∀ s, P s → Q s) : Within H E L P Q :=
  fun s evs hp _ _ _ => ⟨[], evs, rfl, h s hp, by show s.now ≤ _; omega⟩

theorem Within.mono {L L' : Nat} {P P' Q Q' : State → Prop} (h : Within H E L P Q) (hL : L ≤ L')
    (hP : ∀ s, P' s → P s) (hQ : ∀ s, Q s → Q' s) : Within H E L' P' Q' := by
  intro s evs hp he hr hnow
  obtain ⟨a, b, e, hq, ht⟩ := h s evs (hP s hp) he hr (by omega)
  exact ⟨a, b, e, hQ _ hq, by omega⟩

theorem Within.hyp {H' : State → Prop} {E' : Ev → Prop} {L : Nat} {P Q : State → Prop} (h : Within H E L P Q)
    (hH : ∀ s, H' s → H s) (hE : ∀ ev, E' ev → E ev) : Within H' E' L P Q :=
  fun s evs hp he hr hnow => h s evs hp (fun ev hm => hE ev (he ev hm)) (RunP.mono hH evs s hr) hnow

theorem Within.carry {L : Nat} {J P Q : State → Prop}
    (hJ : ∀ s ev, E ev → H s → H (Sys.step s ev) → J s → J (Sys.step s ev)) (hP : ∀ s, P s → J s)
    (h : Within H E L P Q) : Within H E L P (fun s => J s ∧ Q s) := by
  intro s evs hp he hr hnow
  obtain ⟨a, b, rfl, hq, ht⟩ := h s evs hp he hr hnow
  exact ⟨a, b, rfl, ⟨RunP.invOn hJ a s (List.forall_mem_append.mp he).1 (RunP.split a b s hr).1 (hP s hp), hq⟩, ht⟩

theorem Within.cases {L : Nat} {P Q : State → Prop} (C : State → Prop)
    (h1 : Within H E L (fun s => P s ∧ C s) Q) (h2 : Within H E L (fun s => P s ∧ ¬ C s) Q) : Within H E L P Q := by
  intro s evs hp he hr hnow
  by_cases hc : C s
  · exact h1 s evs ⟨hp, hc⟩ he hr hnow
  · exact h2 s evs ⟨hp, hc⟩ he hr hnow

/-- `hstage` has to end the stage by `s.now + L`, in a state with `I` again and with less waiting; `hdone`: nothing
waiting stays so (under `E`: no `Send`) -/
theorem stages {I : State → Prop} {L : Nat}
    (hstage : ∀ s evs, I s → 0 < s.A.waitSnd → (∀ ev ∈ evs, E ev) → RunP H s evs →
      s.now + L ≤ (Sys.run s evs).now → ∃ c b, evs = c ++ b ∧ I (Sys.run s c) ∧ (Sys.run s c).now ≤ s.now + L ∧
        (Sys.run s c).A.waitSnd < s.A.waitSnd)
    (hdone : ∀ s evs, I s → s.A.waitSnd = 0 → (∀ ev ∈ evs, E ev) → RunP H s evs → (Sys.run s evs).A.waitSnd = 0) :
    ∀ (n : Nat) (s : State) (evs : List Ev), I s → s.A.waitSnd ≤ n → (∀ ev ∈ evs, E ev) → RunP H s evs →
      s.now + n * L ≤ (Sys.run s evs).now → (Sys.run s evs).A.waitSnd = 0 := by
  intro n
  induction n with
  | zero => intro s evs hi hw hns hr _; exact hdone s evs hi (by omega) hns hr
  | succ n ih =>
    intro s evs hi hw hns hr hnow
    by_cases hw0 : s.A.waitSnd = 0
    · exact hdone s evs hi hw0 hns hr
    · rw [Nat.succ_mul] at hnow
      obtain ⟨c, b, rfl, hi1, ht, hlt⟩ := hstage s evs hi (by omega) hns hr (by omega)
      rw [run_append] at hnow ⊢
      exact ih _ b hi1 (by omega) (List.forall_mem_append.mp hns).2 (RunP.split c b s hr).2 (by omega)

end KcpVerif.SysC
