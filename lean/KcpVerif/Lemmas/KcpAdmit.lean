/-
C04 (backpressure): the admission rule of phase 4 of `flush`.
Core Lean only.
-/
import KcpVerif.Lemmas.KcpWindow

namespace KcpVerif.Kcp

/-- `s.sn - una` is the in-flight count at the moment `s` was admitted: it got the next number -/
theorem admitSegs_spec (conv una cwnd now wnd : U32) (hcw : cwnd.toNat ≤ wnd.toNat)
    (q buf : List Seg) (nxt : U32) (c : Nat) (h : SndOK una nxt wnd buf) :
    ∃ m, m ≤ q.length ∧
      admitSegs conv una cwnd now q buf nxt c =
        ⟨q.drop m, buf ++ stampSegs conv now nxt (q.take m), nxt + u32 m, c + m⟩ ∧
      ∀ s ∈ stampSegs conv now nxt (q.take m), (nxt - una) ≤ (s.sn - una) ∧ (s.sn - una) < cwnd := by
  obtain ⟨m, hm, e⟩ := admitSegs_eq conv una cwnd now q buf nxt c
  refine ⟨m, hm, e, ?_⟩
  -- carried across the admissions: the send invariant, and the claim for what has been appended so far
  have hI := admitSegs_carry (I := fun b n => SndOK una n wnd b ∧ buf.length ≤ b.length ∧
      ∀ s ∈ b.drop buf.length, (nxt - una) ≤ (s.sn - una) ∧ (s.sn - una) < cwnd) conv una cwnd now
    (fun s b n ⟨hb, hl, hall⟩ hg => by
      refine ⟨hb.push _ rfl (Nat.lt_of_lt_of_le ((admit_guard hb hcw).1 hg) hcw), ?_, ?_⟩
      · rw [List.length_append]; omega
      · rw [List.drop_append_of_le_length hl]
        intro x hx
        rcases List.mem_append.1 hx with hx | hx
        · exact hall x hx
        · rw [List.mem_singleton.1 hx]
          refine ⟨?_, (admit_guard_bv hb hcw).1 hg⟩
          show (nxt - una).toNat ≤ (n - una).toNat
          rw [h.inflight, hb.inflight]
          exact hl)
    q buf nxt c ⟨h, Nat.le_refl _, by rw [List.drop_length]; exact fun _ hx => absurd hx List.not_mem_nil⟩
  rw [e] at hI
  have := hI.2.2
  rwa [List.drop_left] at this

theorem flush_admission (k : Kcp) (full : Bool) (now : U32) (h : Inv k) :
    ∃ new : List U32,
      (flush k full now).k.snd_buf.map (·.sn) = k.snd_buf.map (·.sn) ++ new ∧
      (flush k full now).k.snd_nxt = k.snd_nxt + BitVec.ofNat 32 new.length ∧
      (flush k full now).k.snd_queue = k.snd_queue.drop new.length ∧
      (flush k full now).k.snd_una = k.snd_una ∧
      ∀ sn ∈ new, (k.snd_nxt - k.snd_una) ≤ (sn - k.snd_una) ∧
        (sn - k.snd_una) < k.snd_wnd ∧ (sn - k.snd_una) < k.rmt_wnd ∧ (k.nocwnd = 0 → (sn - k.snd_una) < k.cwnd) := by
  obtain ⟨pw, tp, st, ss, cw, inc, done, hk, hd⟩ := flush_k k full now
  obtain ⟨m, _, e, e6⟩ :=
    admitSegs_spec k.conv k.snd_una (effCwnd k) now k.snd_wnd (effCwnd_le k) k.snd_queue k.snd_buf k.snd_nxt 0 h.snd
  have ead : flushAd k now = _ := e
  have hlen : ((stampSegs k.conv now k.snd_nxt (k.snd_queue.take m)).map (·.sn)).length = m := by
    rw [List.length_map, stampSegs_length, List.length_take, Nat.min_eq_left ‹_›]
  refine ⟨(stampSegs k.conv now k.snd_nxt (k.snd_queue.take m)).map (·.sn), ?_, ?_, ?_, ?_, ?_⟩
  · rw [hk]; show done.map (·.sn) = _
    rw [hd, ead, List.map_append]
  · rw [hk, hlen]; show (flushAd k now).nxt = _
    rw [ead]; rfl
  · rw [hk, hlen]; show (flushAd k now).queue = _
    rw [ead]
  · rw [hk]
  · intro sn hm
    obtain ⟨s, hs, rfl⟩ := List.mem_map.1 hm
    have := e6 s hs
    exact ⟨this.1, (lt_effCwnd_iff k _).1 this.2⟩

theorem flush_window_full (k : Kcp) (full : Bool) (now : U32) (h : Inv k)
    (hfull : ¬ (k.snd_nxt - k.snd_una) < effCwnd k) :
    (flush k full now).k.snd_nxt = k.snd_nxt ∧ (flush k full now).k.snd_queue = k.snd_queue ∧
    (flush k full now).k.snd_buf.length = k.snd_buf.length := by
  obtain ⟨new, e1, e2, e3, _, e5⟩ := flush_admission k full now h
  have hn : new = [] := by
    cases new with
    | nil => rfl
    | cons sn t =>
      exfalso
      have := e5 sn (List.mem_cons_self ..)
      exact hfull (Nat.lt_of_le_of_lt this.1 ((lt_effCwnd_iff k (sn - k.snd_una)).2 this.2))
  subst hn
  refine ⟨by simpa using e2, by simpa using e3, ?_⟩
  have := congrArg List.length e1
  simpa using this

end KcpVerif.Kcp
