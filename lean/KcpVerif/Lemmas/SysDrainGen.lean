/-
What ARBITRARY genuine traffic does to one core (C02/C03 Tier 2).  A PUSH — new, duplicate, old, out of order, beyond
the window — at a receiver with nothing to send: `rcv_nxt` only moves forward and never past the sender's `snd_nxt`,
what the receiver has it keeps, every entry added to the ack list is for a segment it has (`RcvStep`).  The step is
walked once (`inFr_push_cases`); the facts are read off the cases.  Sender side (`flush_gen`): a FULL flush keeps
numbers, flags and tags of the buffered segments and numbers the admitted ones consecutively.
-/
import KcpVerif.Lemmas.SysCleanInv
import KcpVerif.Lemmas.KcpLive
import KcpVerif.Lemmas.KcpProbe

namespace KcpVerif.SysC
open KcpVerif.Gen KcpVerif.Kcp KcpVerif.Live KcpVerif.Wire KcpVerif.SysW

/-- delivered to the queue already, or waiting in the reorder buffer -/
def Has (base nxt : U32) (buf : List Seg) (sn : U32) : Prop := o base sn < o base nxt ∨ ∃ x ∈ buf, x.sn = sn

def SortedB (base : U32) (k : Kcp) : Prop :=
  k.rcv_buf.Pairwise (fun a b => o base a.sn < o base b.sn) ∧ ∀ x ∈ k.rcv_buf, o base k.rcv_nxt ≤ o base x.sn

theorem moveLoop_gen (base : U32) (W N : Nat) (hN : N < 2 ^ 31) (buf q : List Seg) (nxt : U32)
    (hb : ∀ x ∈ buf, o base x.sn < N) (hn : o base nxt ≤ N) :
    o base nxt ≤ o base (moveLoop W buf q nxt).nxt ∧ o base (moveLoop W buf q nxt).nxt ≤ N ∧
    (∀ x ∈ (moveLoop W buf q nxt).buf, x ∈ buf) ∧
    (∀ sn, Has base nxt buf sn → Has base (moveLoop W buf q nxt).nxt (moveLoop W buf q nxt).buf sn) ∧
    (buf.Pairwise (fun a b => o base a.sn < o base b.sn) ∧ (∀ x ∈ buf, o base nxt ≤ o base x.sn) →
      (moveLoop W buf q nxt).buf.Pairwise (fun a b => o base a.sn < o base b.sn) ∧
      ∀ x ∈ (moveLoop W buf q nxt).buf, o base (moveLoop W buf q nxt).nxt ≤ o base x.sn) :=
  moveLoop_carry (I := fun b _ n => o base nxt ≤ o base n ∧ o base n ≤ N ∧ (∀ x ∈ b, x ∈ buf) ∧
      (∀ sn, Has base nxt buf sn → Has base n b sn) ∧
      (buf.Pairwise (fun a b => o base a.sn < o base b.sn) ∧ (∀ x ∈ buf, o base nxt ≤ o base x.sn) →
        b.Pairwise (fun a b => o base a.sn < o base b.sn) ∧ ∀ x ∈ b, o base n ≤ o base x.sn)) W
    (fun s rest _ n ⟨i1, _, i3, i4, i5⟩ hs _ => by
      have hsN : o base s.sn < N := hb s (i3 s List.mem_cons_self)
      rw [hs] at hsN
      have e := o_succ base n (by omega)
      refine ⟨by omega, by omega, fun x hx => i3 x (List.mem_cons_of_mem _ hx), fun sn hsn => ?_, fun h0 => ?_⟩
      · rcases i4 sn hsn with h | ⟨x, hx, rfl⟩
        · exact Or.inl (by omega)
        · rcases List.mem_cons.mp hx with rfl | hx
          · exact Or.inl (by rw [hs]; omega)
          · exact Or.inr ⟨x, hx, rfl⟩
      · have hp := List.pairwise_cons.mp (i5 h0).1
        exact ⟨hp.2, fun x hx => by have := hp.1 x hx; rw [hs] at this; omega⟩)
    buf q nxt ⟨Nat.le_refl _, hn, fun _ hx => hx, fun _ h => h, fun h => h⟩

structure RcvStep (base : U32) (N : Nat) (k k' : Kcp) : Prop where
  sb  : k'.snd_buf = []
  sq  : k'.snd_queue = k.snd_queue
  cv  : k'.conv = k.conv
  rw  : k'.rcv_wnd = k.rcv_wnd
  iv  : k'.interval = k.interval
  nx  : k'.snd_nxt = k.snd_nxt
  lo  : o base k.rcv_nxt ≤ o base k'.rcv_nxt
  hi  : o base k'.rcv_nxt ≤ N
  bnd : ∀ x ∈ k'.rcv_buf, o base x.sn < N
  has : ∀ sn, Has base k.rcv_nxt k.rcv_buf sn → Has base k'.rcv_nxt k'.rcv_buf sn
  ack : ∀ a ∈ k'.acklist, a ∈ k.acklist ∨ Has base k'.rcv_nxt k'.rcv_buf a.sn

theorem Has.of_lt {base nxt : U32} {buf : List Seg} {sn : U32} (h : o base sn < o base nxt) : Has base nxt buf sn :=
  Or.inl h

theorem Has.of_mem {base nxt : U32} {buf : List Seg} {sn : U32} {x : Seg} (hx : x ∈ buf) (hs : x.sn = sn) :
    Has base nxt buf sn := Or.inr ⟨x, hx, hs⟩

theorem RcvStep.of_same {base : U32} {N : Nat} {k k' : Kcp} (e1 : k'.snd_buf = []) (e2 : k'.snd_queue = k.snd_queue)
    (e3 : k'.conv = k.conv) (e4 : k'.rcv_wnd = k.rcv_wnd) (e5 : k'.interval = k.interval) (e6 : k'.snd_nxt = k.snd_nxt)
    (e7 : k'.rcv_nxt = k.rcv_nxt) (e8 : k'.rcv_buf = k.rcv_buf) (e9 : k'.acklist = k.acklist)
    (h2 : o base k.rcv_nxt ≤ N) (h3 : ∀ x ∈ k.rcv_buf, o base x.sn < N) : RcvStep base N k k' :=
  ⟨e1, e2, e3, e4, e5, e6, by rw [e7]; exact Nat.le_refl _, by rw [e7]; exact h2, by rw [e8]; exact h3,
   fun _ h => by rw [e7, e8]; exact h, fun a ha => Or.inl (by rw [← e9]; exact ha)⟩

theorem RcvStep.refl (base : U32) (N : Nat) (k : Kcp) (h1 : k.snd_buf = []) (h2 : o base k.rcv_nxt ≤ N)
    (h3 : ∀ x ∈ k.rcv_buf, o base x.sn < N) : RcvStep base N k k :=
  RcvStep.of_same h1 rfl rfl rfl rfl rfl rfl rfl rfl h2 h3

theorem RcvStep.trans {base : U32} {N : Nat} {a b c : Kcp} (h1 : RcvStep base N a b) (h2 : RcvStep base N b c) :
    RcvStep base N a c :=
  ⟨h2.sb, h2.sq.trans h1.sq, h2.cv.trans h1.cv, h2.rw.trans h1.rw, h2.iv.trans h1.iv, h2.nx.trans h1.nx,
   Nat.le_trans h1.lo h2.lo, h2.hi, h2.bnd, fun sn h => h2.has sn (h1.has sn h),
   fun x hx => by
     rcases h2.ack x hx with h | h
     · rcases h1.ack x h with h' | h'
       · exact Or.inl h'
       · exact Or.inr (h2.has _ h')
     · exact Or.inr h⟩

/-- what a receive-side step never undoes (a flush empties the ack list: it is not one) -/
structure RcvMono (base : U32) (k k' : Kcp) : Prop where
  nxt  : o base k.rcv_nxt ≤ o base k'.rcv_nxt
  ack  : ∀ a ∈ k.acklist, a ∈ k'.acklist
  tell : k.probe &&& u32 IKCP_ASK_TELL ≠ 0 → k'.probe &&& u32 IKCP_ASK_TELL ≠ 0

theorem RcvMono.refl (base : U32) (k : Kcp) : RcvMono base k k := ⟨Nat.le_refl _, fun _ h => h, fun h => h⟩

theorem RcvMono.trans {base : U32} {a b c : Kcp} (h1 : RcvMono base a b) (h2 : RcvMono base b c) : RcvMono base a c :=
  ⟨Nat.le_trans h1.nxt h2.nxt, fun x hx => h2.ack x (h1.ack x hx), fun h => h2.tell (h1.tell h)⟩

theorem inFr_rcvMono (base : U32) (st : InLoop) (fr : Frm)
    (hlo : o base st.k.rcv_nxt ≤ o base (inFr true st fr).k.rcv_nxt) : RcvMono base st.k (inFr true st fr).k := by
  refine ⟨hlo, fun a ha => ?_, fun h => ?_⟩
  · obtain ⟨t, ht⟩ : ∃ t, (inFr true st fr).k.acklist = st.k.acklist ++ t := inStep_acklist_mono _ _ _ _ _ _ _ _ _ _
    rw [ht]; exact List.mem_append_left _ ha
  · show (inStep true fr.conv fr.cmd fr.frg fr.wnd fr.ts fr.sn fr.una fr.data st).k.probe &&& _ ≠ 0
    rw [inStep_probe]
    exact ite_ind (P := fun x : U32 => x &&& u32 IKCP_ASK_TELL ≠ 0) (tell_or _) h

theorem moveReady_gen (base : U32) (N : Nat) (hN : N < 2 ^ 31) (k : Kcp) (h1 : k.snd_buf = [])
    (h2 : o base k.rcv_nxt ≤ N) (h3 : ∀ x ∈ k.rcv_buf, o base x.sn < N) :
    RcvStep base N k (moveReady k) ∧ (SortedB base k → SortedB base (moveReady k)) := by
  obtain ⟨i1, i2, i3, i4, i5⟩ := moveLoop_gen base k.rcv_wnd.toNat N hN k.rcv_buf k.rcv_queue k.rcv_nxt h3 h2
  exact ⟨⟨h1, rfl, rfl, rfl, rfl, rfl, i1, i2, fun x hx => h3 x (i3 x hx), i4, fun a ha => Or.inl ha⟩, i5⟩

theorem parseData_accepted (k : Kcp) (seg : Seg)
    (h1 : ¬ (itimediff seg.sn (k.rcv_nxt + k.rcv_wnd) ≥ 0 ∨ itimediff seg.sn k.rcv_nxt < 0))
    (hl : seg.data.length ≤ mtuLimit) :
    ((∃ x ∈ k.rcv_buf, x.sn = seg.sn) ∧ parseData k seg = ⟨moveReady k, true, false⟩) ∨
    ((∀ x ∈ k.rcv_buf, x.sn ≠ seg.sn) ∧
      parseData k seg = ⟨moveReady { k with rcv_buf := heapInsert seg k.rcv_buf }, false, false⟩) :=
  parseData_cases (P := fun r => ((∃ x ∈ k.rcv_buf, x.sn = seg.sn) ∧ r = ⟨moveReady k, true, false⟩) ∨
      ((∀ x ∈ k.rcv_buf, x.sn ≠ seg.sn) ∧ r = ⟨moveReady { k with rcv_buf := heapInsert seg k.rcv_buf }, false, false⟩))
    k seg (fun h => absurd h h1)
    (fun _ hd => let ⟨x, hx, hx2⟩ := List.any_eq_true.mp hd; Or.inl ⟨⟨x, hx, by simpa using hx2⟩, rfl⟩)
    (fun _ _ hb => absurd hb (by omega))
    (fun _ hd _ => Or.inr ⟨fun x hx hc => hd (List.any_eq_true.mpr ⟨x, hx, by simpa using hc⟩), rfl⟩)

def withAck (k : Kcp) (a : Ack) (rb : List Seg) : Kcp := { k with acklist := k.acklist ++ [a], rcv_buf := rb }

theorem rcvStep_ack (base : U32) (N : Nat) (k : Kcp) (rb' : List Seg) (a : Ack) (h1 : k.snd_buf = [])
    (h2 : o base k.rcv_nxt ≤ N) (hsub : ∀ x ∈ k.rcv_buf, x ∈ rb') (hb' : ∀ x ∈ rb', o base x.sn < N)
    (hh : Has base k.rcv_nxt rb' a.sn) :
    RcvStep base N k (withAck k a rb') :=
  ⟨h1, rfl, rfl, rfl, rfl, rfl, Nat.le_refl _, h2, hb',
   fun sn h => by
     rcases h with h | ⟨x, hx, hxs⟩
     · exact Or.inl h
     · exact Or.inr ⟨x, hsub x hx, hxs⟩,
   fun x hx => by
     rcases List.mem_append.mp hx with h | h
     · exact Or.inl h
     · rw [List.mem_singleton.mp h]; exact Or.inr hh⟩

/-- A PUSH that passed the header checks, in any state: `P` is the core after the prologue of the step.  The PUSH is
refused (at or beyond the top of the window), re-acknowledged (delivered before), found to duplicate a buffered segment,
or stored; in the last two cases the move loop runs.  No case lists the acknowledgement and drops a new segment. -/
theorem inFr_push_cases (regular : Bool) (st : InLoop) (fr : Frm) (hc : fr.cmd.toNat = IKCP_CMD_PUSH)
    (hl : fr.data.length ≤ mtuLimit) (P : Kcp) (hP : inPre regular fr.wnd fr.una st.k = P) :
    (inFr regular st fr).ret = st.ret ∧
    (inFr regular st fr).flushSeg = (st.flushSeg || decide (inCnt regular fr.wnd fr.una st.k > 0)) ∧
    (inFr regular st fr).updRtt = st.updRtt ∧
    ((¬ itimediff fr.sn (P.rcv_nxt + P.rcv_wnd) < 0 ∧ (inFr regular st fr).k = P ∧ (inFr regular st fr).panic = st.panic) ∨
     (itimediff fr.sn (P.rcv_nxt + P.rcv_wnd) < 0 ∧
      (((inFr regular st fr).k = withAck P ⟨fr.sn, fr.ts⟩ P.rcv_buf ∧ (inFr regular st fr).panic = st.panic ∧
         itimediff fr.sn P.rcv_nxt < 0) ∨
       ((inFr regular st fr).k = moveReady (withAck P ⟨fr.sn, fr.ts⟩ P.rcv_buf) ∧ (inFr regular st fr).panic = false ∧
         itimediff fr.sn P.rcv_nxt ≥ 0 ∧ ∃ x ∈ P.rcv_buf, x.sn = fr.sn) ∨
       ((inFr regular st fr).k = moveReady (withAck P ⟨fr.sn, fr.ts⟩
           (heapInsert (pushSeg fr.conv fr.cmd fr.frg fr.wnd fr.ts fr.sn fr.una fr.data) P.rcv_buf)) ∧
         (inFr regular st fr).panic = false ∧ itimediff fr.sn P.rcv_nxt ≥ 0 ∧ ∀ x ∈ P.rcv_buf, x.sn ≠ fr.sn)))) := by
  have hnA : ¬ fr.cmd.toNat = IKCP_CMD_ACK := by rw [hc]; decide
  unfold inFr
  rw [inStep_eq, if_neg hnA, if_pos hc, hP]
  by_cases hin : itimediff fr.sn (P.rcv_nxt + P.rcv_wnd) < 0
  · rw [if_pos hin]
    by_cases hge : itimediff fr.sn P.rcv_nxt ≥ 0
    · rw [if_pos hge]
      have hfirst : ¬ (itimediff (pushSeg fr.conv fr.cmd fr.frg fr.wnd fr.ts fr.sn fr.una fr.data).sn
          (({ P with acklist := P.acklist ++ [⟨fr.sn, fr.ts⟩] } : Kcp).rcv_nxt +
            ({ P with acklist := P.acklist ++ [⟨fr.sn, fr.ts⟩] } : Kcp).rcv_wnd) ≥ 0 ∨
          itimediff (pushSeg fr.conv fr.cmd fr.frg fr.wnd fr.ts fr.sn fr.una fr.data).sn
            ({ P with acklist := P.acklist ++ [⟨fr.sn, fr.ts⟩] } : Kcp).rcv_nxt < 0) := by
        show ¬ (itimediff fr.sn (P.rcv_nxt + P.rcv_wnd) ≥ 0 ∨ itimediff fr.sn P.rcv_nxt < 0)
        omega
      rcases parseData_accepted { P with acklist := P.acklist ++ [⟨fr.sn, fr.ts⟩] }
        (pushSeg fr.conv fr.cmd fr.frg fr.wnd fr.ts fr.sn fr.una fr.data) hfirst hl with ⟨hdup, hpd⟩ | ⟨hnd, hpd⟩
      · rw [hpd]
        exact ⟨rfl, rfl, rfl, Or.inr ⟨hin, Or.inr (Or.inl ⟨rfl, rfl, hge, hdup⟩)⟩⟩
      · rw [hpd]
        exact ⟨rfl, rfl, rfl, Or.inr ⟨hin, Or.inr (Or.inr ⟨rfl, rfl, hge, hnd⟩)⟩⟩
    · rw [if_neg hge]
      exact ⟨rfl, rfl, rfl, Or.inr ⟨hin, Or.inl ⟨rfl, rfl, by omega⟩⟩⟩
  · rw [if_neg hin]
    exact ⟨rfl, rfl, rfl, Or.inl ⟨hin, rfl, rfl⟩⟩

theorem heapInsert_sorted (base : U32) (N : Nat) (hN : N < 2 ^ 31) (s : Seg) (hs : o base s.sn < N) (l : List Seg)
    (hp : l.Pairwise (fun a b => o base a.sn < o base b.sn)) (hb : ∀ x ∈ l, o base x.sn < N) (hne : ∀ x ∈ l, x.sn ≠ s.sn) :
    (heapInsert s l).Pairwise (fun a b => o base a.sn < o base b.sn) :=
  -- the wrap-safe test of `heapInsert` decides the order of the offsets
  heapInsert_pairwise (lt := fun a b => o base a.sn < o base b.sn)
    (fun h hh c => by have := itd base h.sn s.sn (by have := hb h hh; omega) (by omega); omega)
    (fun h hh c => by
      have := itd base h.sn s.sn (by have := hb h hh; omega) (by omega)
      have : o base h.sn ≠ o base s.sn := fun e => hne h hh (o_inj base _ _ e)
      omega)
    (fun _ _ _ _ h1 h2 => Nat.lt_trans h1 h2) hp

theorem inFr_push_gen (base : U32) (N : Nat) (hN : N < 2 ^ 31) (st : InLoop) (fr : Frm) (hsb : st.k.snd_buf = [])
    (hc : fr.cmd.toNat = IKCP_CMD_PUSH) (hl : fr.data.length ≤ mtuLimit) (hsn : o base fr.sn < N)
    (h2 : o base st.k.rcv_nxt ≤ N) (h3 : ∀ x ∈ st.k.rcv_buf, o base x.sn < N) :
    RcvStep base N st.k (inFr true st fr).k ∧ ((inFr true st fr).panic = st.panic ∨ (inFr true st fr).panic = false) ∧
    (inFr true st fr).ret = st.ret ∧ (inFr true st fr).flushSeg = st.flushSeg ∧
    (inFr true st fr).updRtt = st.updRtt ∧ (SortedB base st.k → SortedB base (inFr true st fr).k) := by
  obtain ⟨hpre, _⟩ := inPre_empty fr.wnd fr.una st.k hsb
  have hP : RcvStep base N st.k (inPre true fr.wnd fr.una st.k) := by
    rw [hpre]; exact RcvStep.of_same rfl rfl rfl rfl rfl rfl rfl rfl rfl h2 h3
  have hPs : SortedB base st.k → SortedB base (inPre true fr.wnd fr.una st.k) := by rw [hpre]; exact fun h => h
  have hPsb : (inPre true fr.wnd fr.una st.k).snd_buf = [] := by rw [hpre]
  have hPn : (inPre true fr.wnd fr.una st.k).rcv_nxt = st.k.rcv_nxt := by rw [hpre]
  have hPb : (inPre true fr.wnd fr.una st.k).rcv_buf = st.k.rcv_buf := by rw [hpre]
  generalize hK1 : inPre true fr.wnd fr.una st.k = K1 at hP hPs hPsb hPn hPb
  rw [← hPn] at h2
  rw [← hPb] at h3
  obtain ⟨e1, e2, e3, hcase⟩ := inFr_push_cases true st fr hc hl K1 hK1
  rw [(inPre_empty fr.wnd fr.una st.k hsb).2] at e2
  simp only [Nat.lt_irrefl, decide_false, Bool.or_false] at e2
  -- listing the ACK, `rb` the reorder buffer it is listed against
  have hA : ∀ rb, (∀ x ∈ K1.rcv_buf, x ∈ rb) → (∀ x ∈ rb, o base x.sn < N) → Has base K1.rcv_nxt rb fr.sn →
      RcvStep base N K1 (withAck K1 ⟨fr.sn, fr.ts⟩ rb) :=
    fun rb hsub hb hh => rcvStep_ack base N K1 rb ⟨fr.sn, fr.ts⟩ hPsb h2 hsub hb hh
  rcases hcase with ⟨_, ek, ep⟩ | ⟨_, ⟨ek, ep, hold⟩ | ⟨ek, ep, _, x, hx, hxs⟩ | ⟨ek, ep, hge, hnd⟩⟩
  · rw [ek]; exact ⟨hP, Or.inl ep, e1, e2, e3, hPs⟩
  · rw [ek]
    have := itd base fr.sn K1.rcv_nxt (by omega) (by omega)
    exact ⟨hP.trans (hA K1.rcv_buf (fun x hx => hx) h3 (Has.of_lt (by omega))), Or.inl ep, e1, e2, e3, hPs⟩
  · rw [ek]
    obtain ⟨m1, m2⟩ := moveReady_gen base N hN (withAck K1 ⟨fr.sn, fr.ts⟩ K1.rcv_buf) hPsb h2 h3
    exact ⟨(hP.trans (hA K1.rcv_buf (fun x hx => hx) h3 (Has.of_mem hx hxs))).trans m1, Or.inr ep, e1, e2, e3,
      fun hs => m2 (hPs hs)⟩
  · rw [ek]
    have hlo : o base K1.rcv_nxt ≤ o base fr.sn := by
      have := itd base fr.sn K1.rcv_nxt (by omega) (by omega)
      omega
    have hmem : ∀ x ∈ heapInsert (pushSeg fr.conv fr.cmd fr.frg fr.wnd fr.ts fr.sn fr.una fr.data) K1.rcv_buf,
        o base x.sn < N ∧ (SortedB base K1 → o base K1.rcv_nxt ≤ o base x.sn) := by
      intro x hx
      rcases Kcp.mem_heapInsert.mp hx with rfl | hx
      · exact ⟨hsn, fun _ => hlo⟩
      · exact ⟨h3 x hx, fun hs => hs.2 x hx⟩
    obtain ⟨m1, m2⟩ := moveReady_gen base N hN (withAck K1 ⟨fr.sn, fr.ts⟩
      (heapInsert (pushSeg fr.conv fr.cmd fr.frg fr.wnd fr.ts fr.sn fr.una fr.data) K1.rcv_buf)) hPsb h2
      (fun x hx => (hmem x hx).1)
    exact ⟨(hP.trans (hA _ (fun x hx => Kcp.mem_heapInsert.mpr (Or.inr hx)) (fun x hx => (hmem x hx).1)
        (Has.of_mem (Kcp.mem_heapInsert.mpr (Or.inl rfl)) rfl))).trans m1,
      Or.inr ep, e1, e2, e3, fun hs => m2
        ⟨heapInsert_sorted base N hN (pushSeg fr.conv fr.cmd fr.frg fr.wnd fr.ts fr.sn fr.una fr.data) hsn
          K1.rcv_buf (hPs hs).1 h3 hnd, fun x hx => (hmem x hx).2 (hPs hs)⟩⟩

theorem inFr_rcv_gen (base : U32) (N : Nat) (hN : N < 2 ^ 31) (st : InLoop) (fr : Frm) (h1 : st.k.snd_buf = [])
    (hdl : DataLike fr) (hsn : fr.cmd.toNat = IKCP_CMD_PUSH → o base fr.sn < N)
    (h2 : o base st.k.rcv_nxt ≤ N) (h3 : ∀ x ∈ st.k.rcv_buf, o base x.sn < N) (hp : st.panic = false) :
    RcvStep base N st.k (inFr true st fr).k ∧ (inFr true st fr).panic = false ∧
    (inFr true st fr).ret = st.ret ∧ (inFr true st fr).flushSeg = st.flushSeg ∧
    (inFr true st fr).updRtt = st.updRtt ∧ (SortedB base st.k → SortedB base (inFr true st fr).k) := by
  by_cases hc : fr.cmd.toNat = IKCP_CMD_PUSH
  · obtain ⟨a1, a2, a3⟩ := inFr_push_gen base N hN st fr h1 hc hdl.2 (hsn hc) h2 h3
    exact ⟨a1, by rcases a2 with h | h; rw [h, hp]; exact h, a3⟩
  · obtain ⟨pr, he⟩ := inFr_probe st fr h1 (hdl.1.resolve_left hc)
    rw [he]
    exact ⟨RcvStep.of_same rfl rfl rfl rfl rfl rfl rfl rfl rfl h2 h3, hp, rfl, by simp, rfl, fun hs => hs⟩

/-- the last conjunct: a frame of the datagram is taken in by a core that the start state has stepped to and that
steps on to the final one -/
theorem inFrs_rcv (base : U32) (N : Nat) (hN : N < 2 ^ 31) (frs : List Frm) (st : InLoop) (h1 : st.k.snd_buf = [])
    (hall : ∀ fr ∈ frs, DataLike fr ∧ (fr.cmd.toNat = IKCP_CMD_PUSH → o base fr.sn < N))
    (h2 : o base st.k.rcv_nxt ≤ N) (h3 : ∀ x ∈ st.k.rcv_buf, o base x.sn < N) (hp : st.panic = false) :
    RcvStep base N st.k (inFrs true frs st).k ∧ (inFrs true frs st).panic = false ∧
    (inFrs true frs st).ret = st.ret ∧ (inFrs true frs st).flushSeg = st.flushSeg ∧
    (inFrs true frs st).updRtt = st.updRtt ∧ (SortedB base st.k → SortedB base (inFrs true frs st).k) ∧
    RcvMono base st.k (inFrs true frs st).k ∧
    ∀ fr ∈ frs, ∃ st', st'.k.snd_buf = [] ∧ RcvStep base N st.k st'.k ∧
      RcvMono base (inFr true st' fr).k (inFrs true frs st).k := by
  obtain ⟨⟨_, _, _, a4⟩, ⟨b1, b2, b3, b4, b5, b6⟩, c⟩ := inFrs_inv
    (I := fun st => st.k.snd_buf = [] ∧ o base st.k.rcv_nxt ≤ N ∧ (∀ x ∈ st.k.rcv_buf, o base x.sn < N) ∧ st.panic = false)
    (R := fun a b => RcvStep base N a.k b.k ∧ b.ret = a.ret ∧ b.flushSeg = a.flushSeg ∧ b.updRtt = a.updRtt ∧
      (SortedB base a.k → SortedB base b.k) ∧ RcvMono base a.k b.k)
    (fun _ h => h.2.2.2) (fun st ⟨i1, i2, i3, _⟩ => ⟨RcvStep.refl base N st.k i1 i2 i3, rfl, rfl, rfl, fun hs => hs, RcvMono.refl base _⟩)
    (fun ⟨x1, x2, x3, x4, x5, x6⟩ ⟨y1, y2, y3, y4, y5, y6⟩ =>
      ⟨x1.trans y1, y2.trans x2, y3.trans x3, y4.trans x4, fun hs => y5 (x5 hs), x6.trans y6⟩)
    frs st
    (fun st' fr hfr ⟨i1, i2, i3, i4⟩ => by
      obtain ⟨k1, k2, k3, k4, k5, k6⟩ := inFr_rcv_gen base N hN st' fr i1 (hall fr hfr).1 (hall fr hfr).2 i2 i3 i4
      exact ⟨⟨k1.sb, k1.hi, k1.bnd, k2⟩, k1, k3, k4, k5, k6, inFr_rcvMono base st' fr k1.lo⟩)
    ⟨h1, h2, h3, hp⟩
  refine ⟨b1, a4, b2, b3, b4, b5, b6, fun fr hfr => ?_⟩
  obtain ⟨st', j1, j2, j3⟩ := c fr hfr
  exact ⟨st', j1.1, j2.1, j3.2.2.2.2.2⟩

theorem recv_rcvStep (base : U32) (N : Nat) (hN : N < 2 ^ 31) (k : Kcp) (n : Nat) (h1 : k.snd_buf = [])
    (h2 : o base k.rcv_nxt ≤ N) (h3 : ∀ x ∈ k.rcv_buf, o base x.sn < N) :
    RcvStep base N k (recv k n).k ∧ RcvMono base k (recv k n).k ∧ (SortedB base k → SortedB base (recv k n).k) := by
  rcases recv_cases k n with e | ⟨pr, hpr, e⟩
  · rw [e]; exact ⟨RcvStep.refl base N k h1 h2 h3, RcvMono.refl base k, fun hs => hs⟩
  · rw [e]
    obtain ⟨hM, hS⟩ := moveReady_gen base N hN { k with rcv_queue := (popMsg k.rcv_queue).rest } h1 h2 h3
    have h0 : RcvStep base N k { k with rcv_queue := (popMsg k.rcv_queue).rest } :=
      RcvStep.of_same h1 rfl rfl rfl rfl rfl rfl rfl rfl h2 h3
    exact ⟨(h0.trans hM).trans (RcvStep.of_same hM.sb rfl rfl rfl rfl rfl rfl rfl rfl hM.hi hM.bnd),
      ⟨hM.lo, fun _ h => h, fun h => by rcases hpr with rfl | rfl; exact tell_or _; exact h⟩,
      hS⟩

def BufTagged (conv : U32) (l : List Seg) : Prop := ∀ x ∈ l, x.conv = conv ∧ x.cmd = BitVec.ofNat 8 IKCP_CMD_PUSH

theorem flush_gen (base : U32) (k : Kcp) (now : U32) (hK : Total.InvK k) (hack : k.acklist = [])
    (hc : Contig base k) (ht : BufTagged k.conv k.snd_buf) (hq : ∀ x ∈ k.snd_queue, x.acked = false)
    (hnw : o base k.snd_nxt + k.snd_queue.length < 2 ^ 31) :
    Contig base (flush k true now).k ∧ BufTagged k.conv (flush k true now).k.snd_buf ∧
    o base k.snd_nxt ≤ o base (flush k true now).k.snd_nxt ∧
    (flush k true now).k.snd_una = k.snd_una ∧
    (∀ x' ∈ (flush k true now).k.snd_buf, x'.acked = true → ∃ x ∈ k.snd_buf, x.sn = x'.sn ∧ x.acked = true) ∧
    (∀ x ∈ (flush k true now).k.snd_queue, x ∈ k.snd_queue) ∧
    (∀ fr ∈ flushFrs k true now, fr.conv = k.conv ∧ DataLike fr ∧
      (fr.cmd.toNat = IKCP_CMD_PUSH → o base fr.sn < o base (flush k true now).k.snd_nxt)) := by
  obtain ⟨hm, hAd⟩ := flAd_count k now
  obtain ⟨f2, _, f3, f4⟩ := flush_snd_count k true now
  generalize (flAd k now).count = m at hm hAd f2 f3
  have b2 : (flAd k now).buf = k.snd_buf ++ stampSegs k.conv now k.snd_nxt (k.snd_queue.take m) := by rw [hAd]
  have hlen : (k.snd_queue.take m).length = m := by rw [List.length_take]; omega
  have s1 := stampSegs_sn base k.conv now (k.snd_queue.take m) k.snd_nxt (by rw [hlen]; omega)
  have s2 : ∀ y ∈ stampSegs k.conv now k.snd_nxt (k.snd_queue.take m), y.conv = k.conv ∧
      y.cmd = BitVec.ofNat 8 IKCP_CMD_PUSH ∧ ∃ q ∈ k.snd_queue.take m, y.data = q.data ∧ y.acked = q.acked := by
    intro y hy
    obtain ⟨q0, hq0, n, rfl⟩ := mem_stampSegs hy
    exact ⟨rfl, rfl, q0, hq0, rfl, rfl⟩
  rw [hlen] at s1
  have hnxt : o base (k.snd_nxt + u32 m) = o base k.snd_nxt + m := o_add _ _ _ (by omega)
  have f1 := flush_snd_buf k now
  have hsn : (flush k true now).k.snd_buf.map (fun x => o base x.sn) =
      List.range' (o base k.snd_una) (k.snd_buf.length + m) := by
    rw [flush_snd_buf_key (key := fun x => o base x.sn) (fun _ _ _ _ _ _ _ _ => rfl) k true now, b2, List.map_append,
      hc.1, s1, ← hc.2, List.range'_append_1]
  have hlen2 : (flush k true now).k.snd_buf.length = k.snd_buf.length + m := by
    have := congrArg List.length hsn
    simpa using this
  have hfrom : ∀ x' ∈ (flush k true now).k.snd_buf, ∃ x ∈ (flAd k now).buf, x'.sn = x.sn ∧ x'.acked = x.acked ∧
      x'.conv = x.conv ∧ x'.cmd = x.cmd := by
    intro x' hx'
    rw [f1] at hx'
    obtain ⟨x, hx, rfl⟩ := List.mem_map.mp hx'
    obtain ⟨i1, _, _, i4, i5⟩ := segAfter_id now (resentOf k) (wndUnused k) k.rcv_nxt (flAd k now).count k.rx_rto k.nodelay x
    exact ⟨x, hx, i1, segAfter_acked _ _ _ _ _ _ _ x, i5, i4⟩
  have htag : ∀ x ∈ (flAd k now).buf, x.conv = k.conv ∧ x.cmd = BitVec.ofNat 8 IKCP_CMD_PUSH := by
    intro x hx
    rw [b2] at hx
    rcases List.mem_append.mp hx with hx | hx
    · exact ht x hx
    · exact ⟨(s2 x hx).1, (s2 x hx).2.1⟩
  refine ⟨⟨by rw [f4, hlen2]; exact hsn, by rw [f4, hlen2, f3, hnxt]; have := hc.2; omega⟩, ?_, by rw [f3, hnxt]; omega,
    f4, ?_, by rw [f2]; exact fun x hx => List.mem_of_mem_drop hx, ?_⟩
  · intro x' hx'
    obtain ⟨x, hx, _, _, j3, j4⟩ := hfrom x' hx'
    rw [j3, j4]; exact htag x hx
  · intro x' hx' hacked
    obtain ⟨x, hx, j1, j2, _, _⟩ := hfrom x' hx'
    rw [b2] at hx
    rcases List.mem_append.mp hx with hx | hx
    · exact ⟨x, hx, j1.symm, by rw [← j2]; exact hacked⟩
    · obtain ⟨_, _, q, hq', _, hqa⟩ := s2 x hx
      rw [j2, hqa, hq q (List.mem_of_mem_take hq')] at hacked
      cases hacked
  · intro fr hfr
    unfold flushFrs ackFrsOf at hfr
    rw [hack] at hfr
    simp only [ackFrs, List.nil_append] at hfr
    rcases List.mem_append.mp hfr with hfr | hfr
    · obtain ⟨g1, g2, _, g4⟩ := probeFrs_mem k now fr hfr
      exact ⟨g1, ⟨Or.inr g2, by rw [g4]; simp⟩, fun hp => absurd hp (probe_ne_push g2)⟩
    · obtain ⟨_, x, hx2, _, _, rfl⟩ := mem_pushFrs.mp hfr
      obtain ⟨i1, i2, _, i4, i5⟩ := segAfter_id now (resentOf k) (wndUnused k) k.rcv_nxt (flAd k now).count k.rx_rto k.nodelay x
      have hx3 : segAfter now (resentOf k) (wndUnused k) k.rcv_nxt (flAd k now).count k.rx_rto k.nodelay x ∈
          (flush k true now).k.snd_buf := by rw [f1]; exact List.mem_map.mpr ⟨x, hx2, rfl⟩
      refine ⟨by show (segAfter _ _ _ _ _ _ _ x).conv = _; rw [i5]; exact (htag x hx2).1,
        ⟨Or.inl (by show (segAfter _ _ _ _ _ _ _ x).cmd.toNat = _; rw [i4, (htag x hx2).2]; decide), ?_⟩, fun _ => ?_⟩
      · show (segAfter _ _ _ _ _ _ _ x).data.length ≤ mtuLimit
        rw [i2]
        rw [b2] at hx2
        rcases List.mem_append.mp hx2 with h | h
        · exact Nat.le_trans (hK.sndb x h) hK.mss_le
        · obtain ⟨_, _, q, hq', hqd, _⟩ := s2 x h
          rw [hqd]; exact Nat.le_trans (hK.sndq q (List.mem_of_mem_take hq')) hK.mss_le
      · show o base (segAfter _ _ _ _ _ _ _ x).sn < _
        have hm' : o base (segAfter now (resentOf k) (wndUnused k) k.rcv_nxt (flAd k now).count k.rx_rto k.nodelay x).sn ∈
            (flush k true now).k.snd_buf.map (fun x => o base x.sn) := List.mem_map.mpr ⟨_, hx3, rfl⟩
        rw [hsn] at hm'
        have := List.mem_range'_1.mp hm'
        rw [f3, hnxt]
        have := hc.2
        omega

end KcpVerif.SysC
