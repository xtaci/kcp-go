/-
Phase 5 of `flush` (`xmitOne`) as a decision (`cause`) followed by a re-timing of the segment and an
emission into the output buffer; the wire stream of a flush buffer (`Fl.liveWire`).  Core Lean only.
-/
import KcpVerif.Lemmas.KcpLoops
import KcpVerif.Lemmas.WrapCodec

namespace KcpVerif.Live
open KcpVerif.Gen KcpVerif.Kcp

/-- why phase 5 (re)transmits an un-acked segment; `none` = it does not -/
inductive Cause where
  | initial | fast | early | timeout | none
deriving DecidableEq, Repr

/-- the branch taken by `xmitOne` for an un-acked segment: a transcription of its `if` cascade -/
def cause (now resent : U32) (newSegs : Nat) (s : Seg) : Cause :=
  if s.xmit = 0 then .initial
  else if s.fastack ≥ resent ∧ s.fastack ≠ 0xFFFFFFFF#32 then .fast
  else if s.fastack > 0 ∧ s.fastack ≠ 0xFFFFFFFF#32 ∧ newSegs = 0 then .early
  else if itimediff now s.resendts ≥ 0 then .timeout
  else .none

/-- the four branches of the retransmission `if` of `flush` (initial, fast, early, RTO): what each writes to `rto`,
`resendts`, `fastack` -/
def retimed (now rx_rto nodelay : U32) (c : Cause) (s : Seg) : Seg :=
  match c with
  | .initial => { s with rto := rx_rto, resendts := now + rx_rto }
  | .fast => { s with fastack := 0xFFFFFFFF#32, rto := rx_rto, resendts := now + rx_rto }
  | .early => { s with fastack := 0xFFFFFFFF#32, rto := rx_rto, resendts := now + rx_rto }
  | .timeout =>
    { s with rto := (if nodelay = 0 then s.rto + rx_rto else s.rto + rx_rto / 2), fastack := 0,
             resendts := now + (if nodelay = 0 then s.rto + rx_rto else s.rto + rx_rto / 2) }
  | .none => s

/-- the `needsend` block: `xmit++`, `ts`, `wnd`, `una` -/
def stamped (now : U32) (wnd : BitVec 16) (una : U32) (s : Seg) : Seg :=
  { s with xmit := s.xmit + 1, ts := now, wnd := wnd, una := una }

/-- the segment as the loop body of phase 5 leaves it in `snd_buf` -/
def segAfter (now resent : U32) (wnd : BitVec 16) (una : U32) (newSegs : Nat) (rx_rto nodelay : U32) (s : Seg) : Seg :=
  if s.acked then s
  else if cause now resent newSegs s = .none then s
  else stamped now wnd una (retimed now rx_rto nodelay (cause now resent newSegs s) s)

/-- the rest of the `needsend` block: `makeSpace(need)`, `segment.encode`, `copy`, and the dead-link test on `xmit` -/
def emit (f : Fl) (s2 : Seg) : Fl :=
  let f1 := ((f.makeSpace (IKCP_OVERHEAD + s2.data.length)).putHdr
    (encodeHdr s2.conv s2.cmd s2.frg s2.wnd s2.ts s2.sn s2.una s2.data.length)).putData s2.data
  if s2.xmit ≥ f1.k.dead_link then { f1 with k := { f1.k with state := 0xFFFFFFFF#32 } } else f1

/-- `// get the nearest rto` at the end of the loop body -/
def nextUpd (now : U32) (s2 : Seg) (next : U32) : U32 :=
  if itimediff s2.resendts now > 0 ∧ BitVec.ofInt 32 (itimediff s2.resendts now) < next
  then BitVec.ofInt 32 (itimediff s2.resendts now) else next

section
variable (now resent : U32) (newSegs : Nat) (s : Seg)

theorem cause_cases {P : Cause → Prop} (h0 : s.xmit = 0 → P .initial)
    (h1 : s.xmit ≠ 0 → s.fastack ≥ resent ∧ s.fastack ≠ 0xFFFFFFFF#32 → P .fast)
    (h2 : s.xmit ≠ 0 → ¬ (s.fastack ≥ resent ∧ s.fastack ≠ 0xFFFFFFFF#32) →
      s.fastack > 0 ∧ s.fastack ≠ 0xFFFFFFFF#32 ∧ newSegs = 0 → P .early)
    (h3 : s.xmit ≠ 0 → ¬ (s.fastack ≥ resent ∧ s.fastack ≠ 0xFFFFFFFF#32) →
      ¬ (s.fastack > 0 ∧ s.fastack ≠ 0xFFFFFFFF#32 ∧ newSegs = 0) → itimediff now s.resendts ≥ 0 → P .timeout)
    (h4 : s.xmit ≠ 0 → ¬ (s.fastack ≥ resent ∧ s.fastack ≠ 0xFFFFFFFF#32) →
      ¬ (s.fastack > 0 ∧ s.fastack ≠ 0xFFFFFFFF#32 ∧ newSegs = 0) → itimediff now s.resendts < 0 → P .none) :
    P (cause now resent newSegs s) :=
  ite_cases h0 fun x => ite_cases (h1 x) fun f => ite_cases (h2 x f) fun e =>
    ite_cases (h3 x f e) fun d => h4 x f e (Int.not_le.mp d)

theorem cause_initial_iff : cause now resent newSegs s = .initial ↔ s.xmit = 0 :=
  ⟨cause_cases now resent newSegs s (P := fun c => c = .initial → s.xmit = 0) (fun x _ => x)
      (fun _ _ h => by cases h) (fun _ _ _ h => by cases h) (fun _ _ _ _ h => by cases h) (fun _ _ _ _ h => by cases h),
    fun h => by unfold cause; rw [if_pos h]⟩

/-- a segment that has been sent before and whose timer is due is always retransmitted: the fast
and early branches can pre-empt the timeout branch only by sending -/
theorem cause_due (hx : s.xmit ≠ 0) (hd : itimediff now s.resendts ≥ 0) :
    cause now resent newSegs s = .fast ∨ cause now resent newSegs s = .early ∨ cause now resent newSegs s = .timeout :=
  cause_cases now resent newSegs s (P := fun c => c = .fast ∨ c = .early ∨ c = .timeout) (fun x => absurd x hx)
    (fun _ _ => Or.inl rfl) (fun _ _ _ => Or.inr (Or.inl rfl)) (fun _ _ _ _ => Or.inr (Or.inr rfl))
    (fun _ _ _ d => absurd hd (Int.not_le.mpr d))

/-- the sentinel `0xFFFFFFFF` disables the fast and early branches only -/
theorem cause_sentinel (hx : s.xmit ≠ 0) (hf : s.fastack = 0xFFFFFFFF#32) (hd : itimediff now s.resendts ≥ 0) :
    cause now resent newSegs s = .timeout :=
  cause_cases now resent newSegs s (P := fun c => c = .timeout) (fun x => absurd x hx) (fun _ f => absurd hf f.2)
    (fun _ _ e => absurd hf e.2.1) (fun _ _ _ _ => rfl) (fun _ _ _ d => absurd hd (Int.not_le.mpr d))

theorem cause_why (hx : s.xmit ≠ 0) (hc : cause now resent newSegs s ≠ .none) :
    (cause now resent newSegs s = .timeout ∧ itimediff now s.resendts ≥ 0) ∨
    (cause now resent newSegs s = .fast ∧ s.fastack ≥ resent ∧ s.fastack ≠ 0xFFFFFFFF#32) ∨
    (cause now resent newSegs s = .early ∧ s.fastack > 0 ∧ s.fastack ≠ 0xFFFFFFFF#32 ∧ newSegs = 0) :=
  cause_cases now resent newSegs s
    (P := fun c => c ≠ .none → (c = .timeout ∧ itimediff now s.resendts ≥ 0) ∨
      (c = .fast ∧ s.fastack ≥ resent ∧ s.fastack ≠ 0xFFFFFFFF#32) ∨
      (c = .early ∧ s.fastack > 0 ∧ s.fastack ≠ 0xFFFFFFFF#32 ∧ newSegs = 0))
    (fun x => absurd x hx) (fun _ f _ => Or.inr (Or.inl ⟨rfl, f⟩)) (fun _ _ e _ => Or.inr (Or.inr ⟨rfl, e⟩))
    (fun _ _ _ d _ => Or.inl ⟨rfl, d⟩) (fun _ _ _ _ h => absurd rfl h) hc

theorem cause_none (hc : cause now resent newSegs s = .none) : s.xmit ≠ 0 ∧ itimediff now s.resendts < 0 :=
  cause_cases now resent newSegs s (P := fun c => c = .none → s.xmit ≠ 0 ∧ itimediff now s.resendts < 0)
    (fun _ h => by cases h) (fun _ _ h => by cases h) (fun _ _ _ h => by cases h) (fun _ _ _ _ h => by cases h)
    (fun x _ _ d _ => ⟨x, d⟩) hc
end

theorem xmitOne_eq (now resent : U32) (wnd : BitVec 16) (una : U32) (newSegs : Nat) (st : XmitSt) (s : Seg) :
    xmitOne now resent wnd una newSegs st s =
      if s.acked then { st with done := st.done ++ [s] } else
      { st with
        change := st.change + (if cause now resent newSegs s = .fast ∨ cause now resent newSegs s = .early then 1 else 0)
        lost := st.lost + (if cause now resent newSegs s = .timeout then 1 else 0)
        f := if cause now resent newSegs s = .none then st.f
             else emit st.f (segAfter now resent wnd una newSegs st.f.k.rx_rto st.f.k.nodelay s)
        done := st.done ++ [segAfter now resent wnd una newSegs st.f.k.rx_rto st.f.k.nodelay s]
        next := nextUpd now (segAfter now resent wnd una newSegs st.f.k.rx_rto st.f.k.nodelay s) st.next } := by
  unfold segAfter
  -- name the decision while the goal is small: after `unfold xmitOne` the same `generalize` is six times as dear
  generalize hc : cause now resent newSegs s = c
  unfold xmitOne
  by_cases ha : s.acked = true
  · simp only [if_pos ha]
  · simp only [if_neg ha]
    revert hc
    refine cause_cases now resent newSegs s (P := fun c' => c' = c → _) ?_ ?_ ?_ ?_ ?_
    · intro x hc; subst hc; simp only [if_pos x]; rfl
    · intro x f hc; subst hc; simp only [if_neg x, if_pos f]; rfl
    · intro x f e hc; subst hc; simp only [if_neg x, if_neg f, if_pos e]; rfl
    · intro x f e d hc; subst hc; simp only [if_neg x, if_neg f, if_neg e, if_pos d]; rfl
    · intro x f e d hc; subst hc; simp only [if_neg x, if_neg f, if_neg e, if_neg (Int.not_le.mpr d)]; rfl

section
variable (now resent : U32) (wnd : BitVec 16) (una : U32) (newSegs : Nat) (rx_rto nodelay : U32) (s : Seg)

theorem segAfter_none (h : s.acked = true ∨ cause now resent newSegs s = .none) :
    segAfter now resent wnd una newSegs rx_rto nodelay s = s := by
  unfold segAfter
  by_cases ha : s.acked = true
  · rw [if_pos ha]
  · rw [if_neg ha, if_pos (h.resolve_left ha)]

theorem segAfter_sent (ha : s.acked = false) (hc : cause now resent newSegs s ≠ .none) :
    segAfter now resent wnd una newSegs rx_rto nodelay s =
      stamped now wnd una (retimed now rx_rto nodelay (cause now resent newSegs s) s) := by
  unfold segAfter
  rw [if_neg (by simp [ha]), if_neg hc]

theorem segAfter_key {α : Type} {key : Seg → α} (hk : XmitKey key) :
    key (segAfter now resent wnd una newSegs rx_rto nodelay s) = key s := by
  unfold segAfter
  refine ite_ind (P := fun x => key x = key s) rfl (ite_ind (P := fun x => key x = key s) rfl ?_)
  unfold stamped retimed
  cases cause now resent newSegs s <;> exact hk s _ _ _ _ _ _ _

theorem segAfter_acked : (segAfter now resent wnd una newSegs rx_rto nodelay s).acked = s.acked :=
  segAfter_key now resent wnd una newSegs rx_rto nodelay s (key := Seg.acked) fun _ _ _ _ _ _ _ _ => rfl

theorem segAfter_id :
    (segAfter now resent wnd una newSegs rx_rto nodelay s).sn = s.sn ∧
    (segAfter now resent wnd una newSegs rx_rto nodelay s).data = s.data ∧
    (segAfter now resent wnd una newSegs rx_rto nodelay s).frg = s.frg ∧
    (segAfter now resent wnd una newSegs rx_rto nodelay s).cmd = s.cmd ∧
    (segAfter now resent wnd una newSegs rx_rto nodelay s).conv = s.conv :=
  ⟨segAfter_key now resent wnd una newSegs rx_rto nodelay s (key := Seg.sn) fun _ _ _ _ _ _ _ _ => rfl,
   segAfter_key now resent wnd una newSegs rx_rto nodelay s (key := Seg.data) fun _ _ _ _ _ _ _ _ => rfl,
   segAfter_key now resent wnd una newSegs rx_rto nodelay s (key := Seg.frg) fun _ _ _ _ _ _ _ _ => rfl,
   segAfter_key now resent wnd una newSegs rx_rto nodelay s (key := Seg.cmd) fun _ _ _ _ _ _ _ _ => rfl,
   segAfter_key now resent wnd una newSegs rx_rto nodelay s (key := Seg.conv) fun _ _ _ _ _ _ _ _ => rfl⟩

theorem retimed_resendts (c : Cause) (hc : c ≠ .none) :
    (retimed now rx_rto nodelay c s).resendts = now + (retimed now rx_rto nodelay c s).rto := by
  cases c <;> first | rfl | exact absurd rfl hc
end

/-- everything handed to `output` so far followed by what is still in `buffer` -/
def _root_.KcpVerif.Kcp.Fl.liveWire (f : Fl) : Bytes := f.outs.flatten ++ f.cur

/-- what every phase of `flush` does to the output: the wire stream only grows, a panic stays -/
structure Fl.Grow (f g : Fl) : Prop where
  liveWire : ∃ t, g.liveWire = f.liveWire ++ t
  panic : f.panic = true → g.panic = true

theorem Fl.Grow.refl (f : Fl) : Fl.Grow f f := ⟨⟨[], by simp⟩, id⟩

theorem Fl.Grow.trans {f g h : Fl} (a : Fl.Grow f g) (b : Fl.Grow g h) : Fl.Grow f h := by
  refine ⟨?_, fun p => b.panic (a.panic p)⟩
  obtain ⟨t, ht⟩ := a.liveWire
  obtain ⟨u, hu⟩ := b.liveWire
  exact ⟨t ++ u, by rw [hu, ht, List.append_assoc]⟩

theorem Fl.Grow.setK (f : Fl) (k : Kcp) : Fl.Grow f { f with k := k } := ⟨⟨[], by simp [Fl.liveWire]⟩, id⟩

theorem Fl.Grow.noPanic {f g : Fl} (h : Fl.Grow f g) (hp : g.panic = false) : f.panic = false := by
  cases hq : f.panic with
  | false => rfl
  | true => rw [h.panic hq] at hp; exact absurd hp (by simp)

theorem Fl.Grow.keeps {f g : Fl} (h : Fl.Grow f g) {pre x : Bytes} (hw : f.liveWire = pre ++ x) :
    ∃ post, g.liveWire = pre ++ x ++ post := by
  obtain ⟨t, ht⟩ := h.liveWire
  exact ⟨t, by rw [ht, hw]⟩

/-- `Fl.Grow`, and the connection is unchanged but for the dead-link flag `state` -/
structure Fl.Ext (f g : Fl) : Prop where
  k     : g.k = { f.k with state := g.k.state }
  liveWire : ∃ t, g.liveWire = f.liveWire ++ t
  panic : f.panic = true → g.panic = true

theorem Fl.Ext.grow {f g : Fl} (h : Fl.Ext f g) : Fl.Grow f g := ⟨h.liveWire, h.panic⟩

theorem Fl.Ext.refl (f : Fl) : Fl.Ext f f := ⟨rfl, (Fl.Grow.refl f).liveWire, id⟩

theorem Fl.Ext.trans {f g h : Fl} (a : Fl.Ext f g) (b : Fl.Ext g h) : Fl.Ext f h :=
  ⟨by rw [b.k, a.k], (a.grow.trans b.grow).liveWire, (a.grow.trans b.grow).panic⟩

theorem Fl.makeSpace_panic (f : Fl) (n : Nat) : (f.makeSpace n).panic = f.panic := by
  unfold Fl.makeSpace; split <;> rfl

theorem Fl.makeSpace_wire (f : Fl) (n : Nat) : (f.makeSpace n).liveWire = f.liveWire := by
  unfold Fl.makeSpace Fl.liveWire; split <;> simp

theorem Fl.putData_k (f : Fl) (h : Bytes) : (f.putData h).k = f.k := Kcp.Fl.putData_k f h

theorem Fl.putHdr_wire (f : Fl) (h : Bytes) (hp : (f.putHdr h).panic = false) :
    (f.putHdr h).liveWire = f.liveWire ++ h ∧ f.panic = false := by
  unfold Fl.putHdr at hp ⊢
  by_cases hc : f.k.bufLen - f.cur.length < IKCP_OVERHEAD
  · rw [if_pos hc] at hp; cases hp
  · rw [if_neg hc] at hp ⊢; exact ⟨by simp [Fl.liveWire], hp⟩

theorem Fl.putData_wire (f : Fl) (h : Bytes) (hp : (f.putData h).panic = false) :
    (f.putData h).liveWire = f.liveWire ++ h ∧ f.panic = false := by
  unfold Fl.putData at hp ⊢
  by_cases hc : h.length > f.k.bufLen - f.cur.length
  · rw [if_pos hc] at hp; cases hp
  · rw [if_neg hc] at hp ⊢; exact ⟨by simp [Fl.liveWire], hp⟩

theorem Fl.makeSpace_ext (f : Fl) (n : Nat) : Fl.Ext f (f.makeSpace n) :=
  ⟨by rw [Fl.makeSpace_k], ⟨[], by rw [Fl.makeSpace_wire]; simp⟩, by rw [Fl.makeSpace_panic]; exact id⟩

theorem Fl.putHdr_ext (f : Fl) (h : Bytes) : Fl.Ext f (f.putHdr h) := by
  unfold Fl.putHdr
  split
  · exact ⟨rfl, ⟨[], by simp [Fl.liveWire]⟩, fun _ => rfl⟩
  · exact ⟨rfl, ⟨h, by simp [Fl.liveWire]⟩, id⟩

theorem Fl.putData_ext (f : Fl) (h : Bytes) : Fl.Ext f (f.putData h) := by
  unfold Fl.putData
  split
  · exact ⟨rfl, ⟨[], by simp [Fl.liveWire]⟩, fun _ => rfl⟩
  · exact ⟨rfl, ⟨h, by simp [Fl.liveWire]⟩, id⟩

def segBytes (s : Seg) : Bytes :=
  encodeHdr s.conv s.cmd s.frg s.wnd s.ts s.sn s.una s.data.length ++ s.data

theorem emit_ext (f : Fl) (s : Seg) : Fl.Ext f (emit f s) := by
  have h1 := ((Fl.makeSpace_ext f (IKCP_OVERHEAD + s.data.length)).trans
    (Fl.putHdr_ext _ (encodeHdr s.conv s.cmd s.frg s.wnd s.ts s.sn s.una s.data.length))).trans
    (Fl.putData_ext _ s.data)
  unfold emit
  simp only []
  split
  · exact ⟨by rw [h1.k], h1.liveWire, h1.panic⟩
  · exact h1

theorem emit_wire (f : Fl) (s : Seg) (hp : (emit f s).panic = false) :
    (emit f s).liveWire = f.liveWire ++ segBytes s ∧ f.panic = false := by
  have hp' : (((f.makeSpace (IKCP_OVERHEAD + s.data.length)).putHdr
      (encodeHdr s.conv s.cmd s.frg s.wnd s.ts s.sn s.una s.data.length)).putData s.data).panic = false := by
    unfold emit at hp; simp only [] at hp; split at hp <;> exact hp
  have h3 := Fl.putData_wire _ _ hp'
  have h2 := Fl.putHdr_wire _ _ h3.2
  have hw : (emit f s).liveWire = (((f.makeSpace (IKCP_OVERHEAD + s.data.length)).putHdr
      (encodeHdr s.conv s.cmd s.frg s.wnd s.ts s.sn s.una s.data.length)).putData s.data).liveWire := by
    unfold emit; simp only []; split <;> rfl
  refine ⟨?_, by rw [← Fl.makeSpace_panic]; exact h2.2⟩
  rw [hw, h3.1, h2.1, Fl.makeSpace_wire, segBytes, List.append_assoc]

section
variable (now resent : U32) (wnd : BitVec 16) (una : U32) (newSegs : Nat)

theorem xmitOne_done (st : XmitSt) (s : Seg) :
    (xmitOne now resent wnd una newSegs st s).done =
      st.done ++ [segAfter now resent wnd una newSegs st.f.k.rx_rto st.f.k.nodelay s] := by
  rw [xmitOne_eq]
  by_cases ha : s.acked = true
  · simp only [if_pos ha, segAfter]
  · simp only [if_neg ha]

theorem xmitOne_f (st : XmitSt) (s : Seg) :
    (xmitOne now resent wnd una newSegs st s).f =
      if s.acked = true ∨ cause now resent newSegs s = .none then st.f
      else emit st.f (segAfter now resent wnd una newSegs st.f.k.rx_rto st.f.k.nodelay s) := by
  rw [xmitOne_eq]
  by_cases ha : s.acked = true
  · rw [if_pos ha, if_pos (Or.inl ha)]
  · rw [if_neg ha]
    by_cases hc : cause now resent newSegs s = .none
    · rw [if_pos (Or.inr hc)]; simp only [if_pos hc]
    · rw [if_neg (fun h : s.acked = true ∨ cause now resent newSegs s = Cause.none => h.elim ha hc)]
      simp only [if_neg hc]

theorem xmitOne_ext (st : XmitSt) (s : Seg) : Fl.Ext st.f (xmitOne now resent wnd una newSegs st s).f := by
  rw [xmitOne_f]
  split
  · exact Fl.Ext.refl _
  · exact emit_ext _ _

theorem nextUpd_le (s2 : Seg) (next : U32) : nextUpd now s2 next ≤ next := by
  unfold nextUpd
  split
  · rename_i h; exact BitVec.le_of_lt h.2
  · exact BitVec.le_refl _

theorem nextUpd_near (s2 : Seg) (next : U32) (h : itimediff s2.resendts now > 0) :
    nextUpd now s2 next ≤ BitVec.ofInt 32 (itimediff s2.resendts now) := by
  unfold nextUpd
  by_cases h2 : BitVec.ofInt 32 (itimediff s2.resendts now) < next
  · rw [if_pos ⟨h, h2⟩]; exact BitVec.le_refl _
  · rw [if_neg (fun c => h2 c.2)]; exact BitVec.not_lt.mp h2

theorem xmitOne_next (st : XmitSt) (s : Seg) :
    (xmitOne now resent wnd una newSegs st s).next =
      if s.acked = true then st.next
      else nextUpd now (segAfter now resent wnd una newSegs st.f.k.rx_rto st.f.k.nodelay s) st.next := by
  rw [xmitOne_eq]
  by_cases ha : s.acked = true
  · simp only [if_pos ha]
  · simp only [if_neg ha]

theorem xmitOne_next_le (st : XmitSt) (s : Seg) :
    (xmitOne now resent wnd una newSegs st s).next ≤ st.next := by
  rw [xmitOne_next]; split
  · exact BitVec.le_refl _
  · exact nextUpd_le _ _ _

/-- what the two counters that decide phase 6 gain by one segment -/
theorem xmitOne_counts (st : XmitSt) (s : Seg) :
    (xmitOne now resent wnd una newSegs st s).lost =
      st.lost + (if (!s.acked && decide (cause now resent newSegs s = .timeout)) = true then 1 else 0) ∧
    (xmitOne now resent wnd una newSegs st s).change =
      st.change + (if (!s.acked && decide (cause now resent newSegs s = .fast ∨ cause now resent newSegs s = .early)) = true
        then 1 else 0) := by
  rw [xmitOne_eq]
  by_cases ha : s.acked = true
  · simp [ha]
  · simp [ha]

/-- `sa` is `segAfter` with the arguments of the loop -/
structure FoldSpec (sa : Seg → Seg) (l : List Seg) (st r : XmitSt) : Prop where
  ext  : Fl.Ext st.f r.f
  done : r.done = st.done ++ l.map sa
  next_le : r.next ≤ st.next
  next_near : ∀ s ∈ l, s.acked = false → itimediff (sa s).resendts now > 0 →
    r.next ≤ BitVec.ofInt 32 (itimediff (sa s).resendts now)
  sent : ∀ s ∈ l, s.acked = false → cause now resent newSegs s ≠ .none → r.f.panic = false →
    ∃ pre post, r.f.liveWire = pre ++ segBytes (sa s) ++ post
  lost : r.lost = st.lost + l.countP (fun s => !s.acked && decide (cause now resent newSegs s = .timeout))
  change : r.change = st.change +
    l.countP (fun s => !s.acked && decide (cause now resent newSegs s = .fast ∨ cause now resent newSegs s = .early))

theorem foldXmit_spec (l : List Seg) (st : XmitSt) :
    FoldSpec now resent newSegs (segAfter now resent wnd una newSegs st.f.k.rx_rto st.f.k.nodelay) l st
      (l.foldl (xmitOne now resent wnd una newSegs) st) := by
  induction l generalizing st with
  | nil =>
    exact ⟨Fl.Ext.refl _, by simp, BitVec.le_refl _, fun s hs => by simp at hs, fun s hs => by simp at hs, rfl, rfl⟩
  | cons a rest ih =>
    have h1 := ih (xmitOne now resent wnd una newSegs st a)
    have he := xmitOne_ext now resent wnd una newSegs st a
    have hr : (xmitOne now resent wnd una newSegs st a).f.k.rx_rto = st.f.k.rx_rto := by rw [he.k]
    have hn : (xmitOne now resent wnd una newSegs st a).f.k.nodelay = st.f.k.nodelay := by rw [he.k]
    rw [hr, hn] at h1
    simp only [List.foldl_cons]
    refine ⟨he.trans h1.ext, ?_, ?_, ?_, ?_, ?_, ?_⟩
    · rw [h1.done, xmitOne_done]; simp
    · exact BitVec.le_trans h1.next_le (xmitOne_next_le now resent wnd una newSegs st a)
    · intro s hs ha hd
      rcases List.mem_cons.mp hs with rfl | hs
      · refine BitVec.le_trans h1.next_le ?_
        rw [xmitOne_next, if_neg (by simp [ha])]
        exact nextUpd_near _ _ _ hd
      · exact h1.next_near s hs ha hd
    · intro s hs ha hc hp
      rcases List.mem_cons.mp hs with rfl | hs
      · have hp1 := h1.ext.grow.noPanic hp
        rw [xmitOne_f, if_neg (by simp [ha, hc])] at hp1
        obtain ⟨t, ht⟩ := h1.ext.liveWire
        rw [xmitOne_f, if_neg (by simp [ha, hc]), (emit_wire _ _ hp1).1] at ht
        exact ⟨st.f.liveWire, t, ht⟩
      · exact h1.sent s hs ha hc hp
    · rw [h1.lost, (xmitOne_counts now resent wnd una newSegs st a).1, List.countP_cons]; omega
    · rw [h1.change, (xmitOne_counts now resent wnd una newSegs st a).2, List.countP_cons]; omega
end

end KcpVerif.Live
