/-
The closed system of Model/Sys.lean alone.  `step_cases`: the ways one event can go, the one place where `Sys.step`
is unfolded.  `RunP H s evs`: `H` holds in every state of the run; the invariant rule (`RunP.inv`) reduces a fact
about every run to a fact about one event.
-/
import KcpVerif.Model.Sys
import KcpVerif.Lemmas.Fold
import KcpVerif.Lemmas.Serial

namespace KcpVerif.SysC
open KcpVerif.Sys

def isSend : Ev → Bool
  | .send _ => true
  | _ => false

theorem clk_rep (t : Nat) : Serial.Rep (clk t) t := Serial.Rep.ofNat t

theorem step_send (s : State) (b : Bytes) :
    step s (.send b) = { s with A := (s.A.send b).k, panic := s.panic || (s.A.send b).panic } := rfl

theorem step_read (s : State) : step s .read = if (s.B.recv s.B.peekSize.toNat).n < 0 then s else
    { s with B := (s.B.recv s.B.peekSize.toNat).k, got := s.got ++ (s.B.recv s.B.peekSize.toNat).data } := rfl

theorem step_flushA (s : State) : step s .flushA =
    { s with A := (s.A.flush true (clk s.now)).k, nfA := s.now + (s.A.flush true (clk s.now)).interval.toNat,
             ab := s.ab ++ stamp (s.now + s.D) (s.A.flush true (clk s.now)).outs,
             panic := s.panic || (s.A.flush true (clk s.now)).panic } := rfl

theorem step_flushB (s : State) : step s .flushB =
    { s with B := (s.B.flush true (clk s.now)).k, nfB := s.now + (s.B.flush true (clk s.now)).interval.toNat,
             ba := s.ba ++ stamp (s.now + s.D) (s.B.flush true (clk s.now)).outs,
             panic := s.panic || (s.B.flush true (clk s.now)).panic } := rfl

theorem step_tick (s : State) : step s .tick = if quiet s then { s with now := s.now + 1 } else s := rfl

theorem step_dlvB_cons (s : State) (d : Dgram) (rest : List Dgram) (h : s.ab = d :: rest) :
    step s .dlvB = if d.arr ≤ s.now then
        { s with B := (s.B.input d.data true s.ndB (clk s.now)).k, ab := rest,
                 ba := s.ba ++ stamp (s.now + s.D) (s.B.input d.data true s.ndB (clk s.now)).outs,
                 panic := s.panic || (s.B.input d.data true s.ndB (clk s.now)).panic }
      else s := by
  simp only [Sys.step, h]

theorem step_dlvA_cons (s : State) (d : Dgram) (rest : List Dgram) (h : s.ba = d :: rest) :
    step s .dlvA = if d.arr ≤ s.now then
        { s with A := (s.A.input d.data true s.ndA (clk s.now)).k, ba := rest,
                 ab := s.ab ++ stamp (s.now + s.D) (s.A.input d.data true s.ndA (clk s.now)).outs,
                 panic := s.panic || (s.A.input d.data true s.ndA (clk s.now)).panic }
      else s := by
  simp only [Sys.step, h]

/-- the state is left alone (the event is not enabled), or it is one of seven updates, each under its event and the
guard it passed -/
theorem step_cases {P : State → Prop} (s : State) (ev : Ev) (same : P s)
    (tick : ev = .tick → quiet s = true → P { s with now := s.now + 1 })
    (send : ∀ b, ev = .send b → P { s with A := (s.A.send b).k, panic := s.panic || (s.A.send b).panic })
    (read : ev = .read → ¬ (s.B.recv s.B.peekSize.toNat).n < 0 →
      P { s with B := (s.B.recv s.B.peekSize.toNat).k, got := s.got ++ (s.B.recv s.B.peekSize.toNat).data })
    (flushA : ev = .flushA →
      P { s with A := (s.A.flush true (clk s.now)).k, nfA := s.now + (s.A.flush true (clk s.now)).interval.toNat,
                 ab := s.ab ++ stamp (s.now + s.D) (s.A.flush true (clk s.now)).outs,
                 panic := s.panic || (s.A.flush true (clk s.now)).panic })
    (flushB : ev = .flushB →
      P { s with B := (s.B.flush true (clk s.now)).k, nfB := s.now + (s.B.flush true (clk s.now)).interval.toNat,
                 ba := s.ba ++ stamp (s.now + s.D) (s.B.flush true (clk s.now)).outs,
                 panic := s.panic || (s.B.flush true (clk s.now)).panic })
    (dlvB : ∀ d rest, ev = .dlvB → s.ab = d :: rest → d.arr ≤ s.now →
      P { s with B := (s.B.input d.data true s.ndB (clk s.now)).k, ab := rest,
                 ba := s.ba ++ stamp (s.now + s.D) (s.B.input d.data true s.ndB (clk s.now)).outs,
                 panic := s.panic || (s.B.input d.data true s.ndB (clk s.now)).panic })
    (dlvA : ∀ d rest, ev = .dlvA → s.ba = d :: rest → d.arr ≤ s.now →
      P { s with A := (s.A.input d.data true s.ndA (clk s.now)).k, ba := rest,
                 ab := s.ab ++ stamp (s.now + s.D) (s.A.input d.data true s.ndA (clk s.now)).outs,
                 panic := s.panic || (s.A.input d.data true s.ndA (clk s.now)).panic }) :
    P (Sys.step s ev) := by
  cases ev with
  | tick =>
    show P (if quiet s then { s with now := s.now + 1 } else s)
    split
    · rename_i hq; exact tick rfl hq
    · exact same
  | send b => exact send b rfl
  | read =>
    show P (if (s.B.recv s.B.peekSize.toNat).n < 0 then s
      else { s with B := (s.B.recv s.B.peekSize.toNat).k, got := s.got ++ (s.B.recv s.B.peekSize.toNat).data })
    split
    · exact same
    · rename_i hn; exact read rfl hn
  | flushA => exact flushA rfl
  | flushB => exact flushB rfl
  | dlvB =>
    cases hab : s.ab with
    | nil =>
      rw [show Sys.step s .dlvB = s by simp only [Sys.step, hab]]
      exact same
    | cons d rest =>
      rw [step_dlvB_cons s d rest hab]
      split
      · rename_i hd; exact dlvB d rest rfl hab hd
      · exact same
  | dlvA =>
    cases hba : s.ba with
    | nil =>
      rw [show Sys.step s .dlvA = s by simp only [Sys.step, hba]]
      exact same
    | cons d rest =>
      rw [step_dlvA_cons s d rest hba]
      split
      · rename_i hd; exact dlvA d rest rfl hba hd
      · exact same

theorem quiet_spec {s : State} (hq : quiet s = true) :
    (∀ d ∈ s.ab, s.now < d.arr) ∧ (∀ d ∈ s.ba, s.now < d.arr) ∧ s.now < s.nfA ∧ s.now < s.nfB := by
  unfold quiet at hq
  simp only [Bool.and_eq_true, List.all_eq_true, decide_eq_true_eq] at hq
  exact ⟨hq.1.1.1.1, hq.1.1.1.2, hq.1.1.2, hq.1.2⟩

theorem step_D (s : State) (ev : Ev) : (Sys.step s ev).D = s.D :=
  step_cases (P := fun s' => s'.D = s.D) s ev rfl (fun _ _ => rfl) (fun _ _ => rfl) (fun _ _ => rfl) (fun _ => rfl)
    (fun _ => rfl) (fun _ _ _ _ _ => rfl) (fun _ _ _ _ _ => rfl)

theorem step_now (s : State) (ev : Ev) : (Sys.step s ev).now = s.now ∨ (Sys.step s ev).now = s.now + 1 :=
  step_cases (P := fun s' => s'.now = s.now ∨ s'.now = s.now + 1) s ev (Or.inl rfl) (fun _ _ => Or.inr rfl)
    (fun _ _ => Or.inl rfl) (fun _ _ => Or.inl rfl) (fun _ => Or.inl rfl) (fun _ => Or.inl rfl)
    (fun _ _ _ _ _ => Or.inl rfl) (fun _ _ _ _ _ => Or.inl rfl)

theorem step_now_tick (s : State) (ev : Ev) (h : (Sys.step s ev).now ≠ s.now) : ev = .tick ∧ quiet s = true :=
  step_cases (P := fun s' => s'.now ≠ s.now → ev = .tick ∧ quiet s = true) s ev (fun c => absurd rfl c)
    (fun he hq _ => ⟨he, hq⟩) (fun _ _ c => absurd rfl c) (fun _ _ c => absurd rfl c) (fun _ c => absurd rfl c)
    (fun _ c => absurd rfl c) (fun _ _ _ _ _ c => absurd rfl c) (fun _ _ _ _ _ c => absurd rfl c) h

theorem run_append (s : State) (a b : List Ev) : Sys.run s (a ++ b) = Sys.run (Sys.run s a) b := by
  unfold Sys.run; rw [List.foldl_append]

theorem run_D (evs : List Ev) (s : State) : (Sys.run s evs).D = s.D :=
  foldl_inv (P := fun s' : State => s'.D = s.D) (fun a ev h => (step_D a ev).trans h) evs s rfl

/-- the clock passes through every value -/
theorem run_reaches (τ : Nat) : ∀ (evs : List Ev) (s : State), s.now ≤ τ → τ ≤ (Sys.run s evs).now →
    ∃ a b, evs = a ++ b ∧ (Sys.run s a).now = τ := by
  intro evs
  induction evs with
  | nil => intro s h1 h2; exact ⟨[], [], rfl, by have : (Sys.run s []).now = s.now := rfl; omega⟩
  | cons e r ih =>
    intro s h1 h2
    by_cases hs : s.now = τ
    · exact ⟨[], e :: r, rfl, hs⟩
    · have hn := step_now s e
      obtain ⟨a, b, hab, hτ⟩ := ih (Sys.step s e) (by omega) h2
      exact ⟨e :: a, b, by rw [hab]; rfl, hτ⟩

def RunP (P : State → Prop) : State → List Ev → Prop
  | s, [] => P s
  | s, ev :: rest => P s ∧ RunP P (Sys.step s ev) rest

theorem RunP.head {P : State → Prop} : ∀ {evs : List Ev} {s : State}, RunP P s evs → P s
  | [], _, h => h
  | _ :: _, _, h => h.1

theorem RunP.mono {P Q : State → Prop} (hpq : ∀ s, P s → Q s) : ∀ (evs : List Ev) (s : State), RunP P s evs → RunP Q s evs := by
  intro evs
  induction evs with
  | nil => intro s h; exact hpq s h
  | cons ev rest ih => intro s h; exact ⟨hpq s h.1, ih _ h.2⟩

theorem RunP.split {P : State → Prop} : ∀ (a b : List Ev) (s : State), RunP P s (a ++ b) →
    RunP P s a ∧ RunP P (Sys.run s a) b := by
  intro a
  induction a with
  | nil => intro b s h; exact ⟨RunP.head h, h⟩
  | cons ev rest ih =>
    intro b s h
    obtain ⟨h1, h2⟩ := ih b _ h.2
    exact ⟨⟨h.1, h1⟩, h2⟩

theorem RunP.last {P : State → Prop} : ∀ (a : List Ev) (s : State), RunP P s a → P (Sys.run s a) := by
  intro a
  induction a with
  | nil => intro s h; exact h
  | cons ev rest ih => intro s h; exact ih _ h.2

instance runPDec (P : State → Prop) [DecidablePred P] : (s : State) → (evs : List Ev) → Decidable (RunP P s evs)
  | s, [] => by unfold RunP; infer_instance
  | s, ev :: rest => by
    unfold RunP
    have := runPDec P (Sys.step s ev) rest
    infer_instance

/-- a Boolean check of every state of a run (`c` on each state, `chk` its run form) is sound when `c` is -/
theorem RunP.of_chk {P : State → Prop} {c : State → Bool} {chk : State → List Ev → Bool} (hc : ∀ s, c s = true → P s)
    (h0 : ∀ s, chk s [] = c s) (h1 : ∀ s ev r, chk s (ev :: r) = (c s && chk (Sys.step s ev) r)) :
    ∀ (evs : List Ev) (s : State), chk s evs = true → RunP P s evs := by
  intro evs
  induction evs with
  | nil => intro s h; exact hc s ((h0 s).symm.trans h)
  | cons ev rest ih =>
    intro s h
    rw [h1, Bool.and_eq_true] at h
    exact ⟨hc s h.1, ih _ h.2⟩

variable {H : State → Prop} {E : Ev → Prop}

theorem RunP.invOn {J : State → Prop} (hstep : ∀ s ev, E ev → H s → H (Sys.step s ev) → J s → J (Sys.step s ev)) :
    ∀ (evs : List Ev) (s : State), (∀ ev ∈ evs, E ev) → RunP H s evs → J s → J (Sys.run s evs) := by
  intro evs
  induction evs with
  | nil => intro s _ _ h; exact h
  | cons ev rest ih =>
    intro s he hr h
    exact ih _ (fun e hm => he e (List.mem_cons_of_mem _ hm)) hr.2
      (hstep s ev (he ev (List.mem_cons_self ..)) hr.1 (RunP.head hr.2) h)

/-- a run in `H` that starts in `J` stays in `J`, if one step keeps `J` under `H` -/
theorem RunP.strengthen {J : State → Prop} (hstep : ∀ s ev, H s → H (Sys.step s ev) → J s → J (Sys.step s ev)) :
    ∀ (evs : List Ev) (s : State), RunP H s evs → J s → RunP (fun s => H s ∧ J s) s evs := by
  intro evs
  induction evs with
  | nil => intro s hr h; exact ⟨hr, h⟩
  | cons ev rest ih => intro s hr h; exact ⟨⟨hr.1, h⟩, ih _ hr.2 (hstep s ev hr.1 (RunP.head hr.2) h)⟩

theorem RunP.inv {J : State → Prop} (hstep : ∀ s ev, H s → H (Sys.step s ev) → J s → J (Sys.step s ev))
    (evs : List Ev) (s : State) (hr : RunP H s evs) (h : J s) : J (Sys.run s evs) :=
  (RunP.last evs s (RunP.strengthen hstep evs s hr h)).2

end KcpVerif.SysC
