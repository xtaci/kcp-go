/-
`Clean` and `Win` are kept by every kind of event short of the closing flush of an `Input`: the receiver's events (a
flush of B, scheduled or ACK-only at the end of an `Input`; the `Input` of a datagram from A), the sender's `Input`
of a datagram from B, and the events that concern one endpoint alone (tick, `Send`, `Recv`).
-/
import KcpVerif.Lemmas.SysCleanInv

namespace KcpVerif.SysC
open KcpVerif.Gen KcpVerif.Kcp KcpVerif.Wire KcpVerif.SysW KcpVerif.Sys

/-- B after a flush at the current time: the scheduled FULL one, or the ACK-only one that ends an `Input` -/
def afterFlushB (s : State) (full : Bool) (nf : Nat) : State :=
  { s with B := (s.B.flush full (clk s.now)).k, nfB := nf,
           ba := s.ba ++ stamp (s.now + s.D) (s.B.flush full (clk s.now)).outs,
           panic := s.panic || (s.B.flush full (clk s.now)).panic }

theorem clean_flushB {p : Par} {s : State} {gab gba : GLink} (h : Clean p s gab gba) (full : Bool) (nf : Nat)
    (hnf : s.now ≤ nf ∧ nf ≤ s.now + p.I) :
    ∃ gba', StepOk p s gba (afterFlushB s full nf) gab gba' := by
  unfold afterFlushB
  obtain ⟨hfr, pw, tp, st, ss, cw, inc, hk⟩ := flush_empty s.B full (clk s.now) h.bsb h.bsq
  obtain ⟨hpan, hK, hal⟩ := Total.flush_total h.bK full (clk s.now)
  obtain ⟨gnew, hlink, hmem, hsent, _⟩ := flush_links s.B full (clk s.now) hpan h.hba (s.now + s.D)
  have hidle := flushFrs_idle s.B full (clk s.now) h.bsb h.bsq
  -- every frame of this flush carries `una = rcv_nxt` and the window B has room for
  have hnew : ∀ d ∈ gnew, ∀ fr ∈ d.2, fr.una = s.B.rcv_nxt ∧ fr.wnd = wndUnused s.B := fun d hd fr hfr' =>
    ⟨(hidle fr ((hmem d hd).2 fr hfr')).2.2.2.1, (hidle fr ((hmem d hd).2 fr hfr')).2.2.2.2.1⟩
  rw [hfr] at hsent
  generalize s.B.flush full (clk s.now) = R at hpan hK hlink hk ⊢
  generalize R.k = B' at hk hK
  subst hk
  refine ⟨gba ++ gnew, StepOk.ofA
    { h with hba := hlink, tba := ?_, tnf := hnf, np := ?_, aseg := ?_, bK := hK, bsb := rfl, bsq := rfl,
             back := fun a ha => absurd ha List.not_mem_nil, fba := ?_ }
    (fun w => { w with wB := ?_, wU := ?_, wS := ?_ }) rfl⟩
  · intro d hd
    rcases List.mem_append.mp hd with hd | hd
    · exact h.tba d hd
    · have := (hmem d hd).1
      show s.now ≤ d.1
      omega
  · show (s.panic || R.panic) = false
    rw [h.np, hpan]; rfl
  · intro x hx
    refine (h.aseg x hx).mono (Nat.le_refl _) fun t hloc => ?_
    rcases hloc with ⟨d, hd, r⟩ | ⟨⟨a, ha, hasn⟩, hn⟩ | ⟨d, hd, r⟩
    · exact Or.inl ⟨d, hd, r⟩
    · -- the listed ACK leaves with this flush: every ACK frame of it carries `una = rcv_nxt`, beyond `sn`
      have hne : s.B.acklist ≠ [] := by intro hc; rw [hc] at ha; simp at ha
      obtain ⟨fr0, rest0, hf0⟩ := List.exists_cons_of_ne_nil (ackFrsOf_ne_nil s.B hne)
      have hm0 : fr0 ∈ ackFrsOf s.B := by rw [hf0]; exact List.mem_cons_self ..
      obtain ⟨d, hd, hd2⟩ := hsent fr0 (List.mem_append_left _ hm0)
      refine Or.inr (Or.inr ⟨d, List.mem_append_right _ hd, ?_, fr0, hd2, ?_⟩)
      · have := h.tnf.1
        have := (hmem d hd).1
        show d.1 ≤ t + 2 * s.D + p.I
        omega
      · rw [(ackFrsOf_mem s.B fr0 hm0).2.2.1, ← hasn]
        exact h.back a ha
    · exact Or.inr (Or.inr ⟨d, List.mem_append_left _ hd, r⟩)
  · show ∀ d ∈ gba ++ gnew, ∀ fr ∈ d.2, fr.conv = p.conv ∧ fr.data = [] ∧ AckLike p.base s.B.rcv_nxt fr
    intro d hd fr hfr
    rcases List.mem_append.mp hd with hd | hd
    · exact h.fba d hd fr hfr
    · obtain ⟨e1, e2, e3, e4, _, e6⟩ := hidle fr ((hmem d hd).2 fr hfr)
      refine ⟨e1.trans h.bconv, e2, e3, by rw [e4]; exact Nat.le_refl _, fun hc => ?_⟩
      rw [e4]
      exact h.back _ (e6 hc)
  · show ∀ d ∈ gba ++ gnew, ∀ fr ∈ d.2,
      o p.base fr.una + fr.wnd.toNat + s.B.rcv_queue.length ≤ o p.base s.B.rcv_nxt + p.W ∧
        o p.base s.A.snd_una ≤ o p.base fr.una
    intro d hd fr hfr'
    rcases List.mem_append.mp hd with hd | hd
    · exact w.wB d hd fr hfr'
    · obtain ⟨a1, a2⟩ := hnew d hd fr hfr'
      rw [a1, a2]
      have := wndUnused_le s.B
      rw [h.bw.1] at this
      have := w.wR
      have := h.rn
      exact ⟨by omega, w.wAu⟩
  · intro d hd fr hfr' fr' hfr''
    rcases List.mem_append.mp hd with hd | hd
    · exact w.wU d hd fr hfr' fr' hfr''
    · obtain ⟨a1, a2⟩ := hnew d hd fr hfr'
      obtain ⟨b1, b2⟩ := hnew d hd fr' hfr''
      exact ⟨by rw [a1, b1], by rw [a2, b2]⟩
  · apply List.pairwise_append.mpr
    refine ⟨w.wS, ?_, ?_⟩
    · apply List.pairwise_of_forall_mem_list
      intro d hd d' hd' fr hfr' fr' hfr''
      rw [(hnew d hd fr hfr').1, (hnew d' hd' fr' hfr'').1]
      exact Nat.le_refl _
    · intro d hd d' hd' fr hfr' fr' hfr''
      rw [(hnew d' hd' fr' hfr'').1]
      exact (h.fba d hd fr hfr').2.2.una_le

theorem range_split {l1 l2 : List Nat} {r : Nat} (h : l1 ++ l2 = List.range' r (l1.length + l2.length)) :
    l1 = List.range' r l1.length ∧ l2 = List.range' (r + l1.length) l2.length := by
  rw [← List.range'_append_1] at h
  exact List.append_inj h (by simp)

/-- B's `Input` of the head datagram before the closing flush decision: its PUSH frames are the next in order; each
is listed for acknowledgement and queued -/
theorem clean_inB {p : Par} {s : State} {t0 : Nat} {frs : List Frm} {grest gba : GLink}
    (h : Clean p s ((t0, frs) :: grest) gba) (hnw : NoWrap p.base s) (hroom : RoomOk s) :
    (∀ fr ∈ frs, FrValid s.B.conv fr) ∧
    (inFrs true frs { k := s.B }).panic = false ∧ (inFrs true frs { k := s.B }).ret = 0 ∧
    (inFrs true frs { k := s.B }).flushSeg = false ∧ (inFrs true frs { k := s.B }).updRtt = false ∧
    Clean p { s with B := cwndOnAck (inFrs true frs { k := s.B }).k s.B.snd_una, ab := encL grest } grest gba ∧
    (Win p s gba → Win p { s with B := cwndOnAck (inFrs true frs { k := s.B }).k s.B.snd_una, ab := encL grest } gba) := by
  have hv : ∀ fr ∈ frs, FrValid s.B.conv fr := fun fr hfr => by
    obtain ⟨e1, e2, e3⟩ := h.fab (t0, frs) (List.mem_cons_self ..) fr hfr
    exact FrValid.of_data (e1.trans h.bconv.symm) e2 e3
  have hord := h.ord
  rw [allFrs_cons, pushes_append, List.map_append, List.length_append] at hord
  simp only at hord
  have hsplit := range_split (l1 := (pushes frs).map (fun fr => o p.base fr.sn))
    (l2 := (pushes (allFrs grest)).map (fun fr => o p.base fr.sn)) (r := o p.base s.B.rcv_nxt)
    (by simpa using hord.1)
  simp only [List.length_map] at hsplit
  unfold NoWrap at hnw
  have hrm : s.B.rcv_queue.length + (pushes frs).length ≤ s.B.rcv_wnd.toNat := by
    unfold RoomOk at hroom
    rw [o_sub p.base s.B.rcv_nxt s.A.snd_nxt (by omega)] at hroom
    omega
  obtain ⟨rw, su, pr, q, hk, hq, hql, hfs, hur, hpn, hrt⟩ := inFrs_dataLike p.base frs { k := s.B } h.bsb h.brb
    (fun fr hfr => (h.fab (t0, frs) (List.mem_cons_self ..) fr hfr).2) hsplit.1
    (show o p.base s.B.rcv_nxt + (pushes frs).length < 2 ^ 32 by omega) hrm
    (by rw [h.bw.1]; exact h.bw.2) rfl
  obtain ⟨cw, inc, hcw⟩ := cwndOnAck_shape (inFrs true frs { k := s.B }).k s.B.snd_una
  have hsum := hord.2
  have hrn : o p.base (s.B.rcv_nxt + u32 (pushes frs).length) = o p.base s.B.rcv_nxt + (pushes frs).length :=
    o_add _ _ _ (by omega)
  have hk2 : cwndOnAck (inFrs true frs { k := s.B }).k s.B.snd_una = _ := hcw.trans (by rw [hk])
  have hlen : (s.B.rcv_queue ++ q).length = s.B.rcv_queue.length + (pushes frs).length := by
    rw [List.length_append, hq]
  generalize cwndOnAck (inFrs true frs { k := s.B }).k s.B.snd_una = B' at hk2
  subst hk2
  refine ⟨hv, hpn, hrt, hfs, hur, ?_, fun w => { w with wAu := ?_, wA := ?_, wR := ?_, wB := ?_ }⟩
  · exact { h with
      hab := rfl
      tab := fun d hd => h.tab d (List.mem_cons_of_mem _ hd)
      aseg := fun x hx => by
        refine (h.aseg x hx).mono (Nat.le_refl _) fun t hloc => ?_
        rcases hloc with ⟨d, hd, hd1, fr, hfr, hpu, hsn⟩ | ⟨⟨a, ha, hasn⟩, hn⟩ | ⟨d, hd, r⟩
        · rcases List.mem_cons.mp hd with rfl | hd
          · -- the PUSH is in this datagram: B lists its ACK, and flushes it by `nfB ≤ now + I`
            refine Or.inr (Or.inl ⟨⟨⟨fr.sn, fr.ts⟩, ?_, hsn⟩, ?_⟩)
            · apply List.mem_append_right
              apply List.mem_map.mpr
              exact ⟨fr, by unfold pushes; exact List.mem_filter.mpr ⟨hfr, by simpa using hpu⟩, rfl⟩
            · have := h.tnf.2
              have hnow := h.tab (t0, frs) (List.mem_cons_self ..)
              simp only at hd1 hnow
              show s.nfB ≤ t + s.D + p.I
              omega
          · exact Or.inl ⟨d, hd, hd1, fr, hfr, hpu, hsn⟩
        · exact Or.inr (Or.inl ⟨⟨a, List.mem_append_left _ ha, hasn⟩, hn⟩)
        · exact Or.inr (Or.inr ⟨d, hd, r⟩)
      bK := h.bK.congr rfl rfl rfl h.bK.sndq (Total.DataLe.nil _) (Total.DataLe.nil _) (Total.DataLe.append h.bK.rcvq hql)
      bsb := rfl
      brb := rfl
      back := by
        show ∀ a ∈ s.B.acklist ++ _, o p.base a.sn < o p.base (s.B.rcv_nxt + u32 (pushes frs).length)
        rw [hrn]
        intro a ha
        rcases List.mem_append.mp ha with ha | ha
        · have := h.back a ha; omega
        · obtain ⟨fr, hfr, rfl⟩ := List.mem_map.mp ha
          have hm : o p.base fr.sn ∈ (pushes frs).map (fun fr => o p.base fr.sn) := List.mem_map.mpr ⟨fr, hfr, rfl⟩
          rw [hsplit.1] at hm
          have := List.mem_range'_1.mp hm
          show o p.base fr.sn < _
          omega
      fab := fun d hd => h.fab d (List.mem_cons_of_mem _ hd)
      fba := by
        intro d hd fr hfr
        obtain ⟨e1, e2, e3, e4, e5⟩ := h.fba d hd fr hfr
        refine ⟨e1, e2, e3, ?_, e5⟩
        show o p.base fr.una ≤ o p.base (s.B.rcv_nxt + u32 (pushes frs).length)
        rw [hrn]; omega
      ord := by
        show _ = List.range' (o p.base (s.B.rcv_nxt + u32 (pushes frs).length)) _ ∧
          o p.base (s.B.rcv_nxt + u32 (pushes frs).length) + _ = o p.base s.A.snd_nxt
        rw [hrn]
        exact ⟨hsplit.2, by omega⟩ }
  · show o p.base s.A.snd_una ≤ o p.base (s.B.rcv_nxt + u32 (pushes frs).length)
    rw [hrn]; have := w.wAu; omega
  · show o p.base s.A.snd_una + min s.A.snd_wnd.toNat s.A.rmt_wnd.toNat + (s.B.rcv_queue ++ q).length ≤
      o p.base (s.B.rcv_nxt + u32 (pushes frs).length) + p.W
    rw [hrn, hlen]; have := w.wA; omega
  · show o p.base s.A.snd_nxt + (s.B.rcv_queue ++ q).length ≤ o p.base (s.B.rcv_nxt + u32 (pushes frs).length) + p.W
    rw [hrn, hlen]; have := w.wR; omega
  · show ∀ d ∈ gba, ∀ fr ∈ d.2, o p.base fr.una + fr.wnd.toNat + (s.B.rcv_queue ++ q).length ≤
      o p.base (s.B.rcv_nxt + u32 (pushes frs).length) + p.W ∧ o p.base s.A.snd_una ≤ o p.base fr.una
    rw [hrn, hlen]
    intro d hd fr hfr
    have := w.wB d hd fr hfr
    exact ⟨by omega, this.2⟩

theorem clean_inA {p : Par} {s : State} {t0 : Nat} {frs : List Frm} {gab grest : GLink}
    (h : Clean p s gab ((t0, frs) :: grest)) (hnw : NoWrap p.base s) :
    (∀ fr ∈ frs, FrValid s.A.conv fr) ∧
    (inFrs true frs { k := s.A }).panic = false ∧ (inFrs true frs { k := s.A }).ret = 0 ∧
    ∀ k1, Sampled s.A frs k1 →
    (cwndOnAck k1 s.A.snd_una).acklist = [] ∧
    NoWrap p.base { s with A := cwndOnAck k1 s.A.snd_una, ba := encL grest } ∧
    Keep p.base s { s with A := cwndOnAck k1 s.A.snd_una, ba := encL grest } ∧
    Clean p { s with A := cwndOnAck k1 s.A.snd_una, ba := encL grest } gab grest ∧
    (frs ≠ [] → Win p s ((t0, frs) :: grest) → Win p { s with A := cwndOnAck k1 s.A.snd_una, ba := encL grest } grest) := by
  unfold NoWrap at hnw
  have hv : ∀ fr ∈ frs, FrValid s.A.conv fr := fun fr hfr => by
    obtain ⟨e1, e2, e3, _⟩ := h.fba (t0, frs) (List.mem_cons_self ..) fr hfr
    exact FrValid.of_ctl (e1.trans h.aconv.symm) e3 e2
  have hal : ∀ fr ∈ frs, AckLike p.base s.A.snd_nxt fr := by
    intro fr hfr
    obtain ⟨_, _, e3, e4, e5⟩ := h.fba (t0, frs) (List.mem_cons_self ..) fr hfr
    have := h.ord.2
    exact ⟨e3, by omega, e5⟩
  obtain ⟨c, su, pr, rw, hk, hge, hpn, hrt, hcon⟩ := inFrs_ackLike p.base frs { k := s.A }
    (fun x hx => (h.aseg x hx).unacked) h.asort h.abnd
    (by show o p.base s.A.snd_nxt < 2 ^ 31; omega) hal rfl
  have hst_min : (inFrs true frs { k := s.A }).k.rx_minrto = s.A.rx_minrto := by rw [hk]
  have hst_rto : (inFrs true frs { k := s.A }).k.rx_rto = s.A.rx_rto := by rw [hk]
  refine ⟨hv, hpn, hrt, fun k1 hk1 => ?_⟩
  obtain ⟨a, b, r, cw, inc, hsh, hr0⟩ := hk1.shape s.A.snd_una
  have hrb : p.M ≤ r.toNat ∧ r.toNat ≤ 60000 := by
    rcases hr0 with e | ⟨rtt, e⟩
    · rw [e, hst_rto]; exact h.arto
    · have hb := updateAck_rto (inFrs true frs { k := s.A }).k rtt (by rw [hst_min, h.amin]; have := h.arto; omega)
      rw [hst_min, h.amin, ← e] at hb
      exact hb
  have hK : cwndOnAck k1 s.A.snd_una =
      { s.A with rmt_wnd := rw, snd_buf := s.A.snd_buf.drop c, snd_una := su, probe := pr,
                 rx_srtt := a, rx_rttvar := b, rx_rto := r, cwnd := cw, incr := inc } := by
    rw [hsh, hk]
  generalize cwndOnAck k1 s.A.snd_una = A' at hK
  subst hK
  refine ⟨h.aack, hnw, ⟨Nat.le_refl _, fun y hy => Or.inl (List.mem_of_mem_drop hy)⟩, ?_, fun hne w => ?_⟩
  · exact { h with
      hba := rfl
      tba := fun d hd => h.tba d (List.mem_cons_of_mem _ hd)
      aK := h.aK.congr rfl rfl rfl h.aK.sndq (h.aK.sndb.drop c) h.aK.rcvb h.aK.rcvq
      arto := hrb
      asort := h.asort.drop c
      abnd := fun x hx => h.abnd x (List.mem_of_mem_drop hx)
      aseg := fun x hx => by
        have hx' : x ∈ s.A.snd_buf.drop c := hx
        refine (h.aseg x (List.mem_of_mem_drop hx')).mono (Nat.le_refl _) fun t hloc => ?_
        rcases hloc with ⟨d, hd, r⟩ | hb | ⟨d, hd, hd1, fr, hfr, hlt⟩
        · exact Or.inl ⟨d, hd, r⟩
        · exact Or.inr (Or.inl hb)
        · rcases List.mem_cons.mp hd with rfl | hd
          · have := hge fr hfr x hx'
            omega
          · exact Or.inr (Or.inr ⟨d, hd, hd1, fr, hfr, hlt⟩)
      fba := fun d hd => h.fba d (List.mem_cons_of_mem _ hd) }
  · -- all frames of the datagram carry the same `(una, wnd)`, which B had room for when it sent them
    obtain ⟨fr0, rest0, hfrs⟩ := List.exists_cons_of_ne_nil hne
    have hm0 : fr0 ∈ frs := by rw [hfrs]; exact List.mem_cons_self ..
    have hd0 : ((t0, frs) : Nat × List Frm) ∈ (t0, frs) :: grest := List.mem_cons_self ..
    obtain ⟨q1, q3, q2⟩ := hcon hne w.wc fr0.una fr0.wnd (fun fr hfr => w.wU (t0, frs) hd0 fr hfr fr0 hm0)
      (w.wB (t0, frs) hd0 fr0 hm0).2
    rw [hk] at q2
    subst q1 q3
    have hwn : (fr0.wnd.setWidth 32).toNat = fr0.wnd.toNat := by
      rw [BitVec.toNat_setWidth]; have := fr0.wnd.isLt; omega
    have hcred := w.wB (t0, frs) hd0 fr0 hm0
    have hS := List.pairwise_cons.mp w.wS
    exact {
      wc := q2
      wAu := (h.fba (t0, frs) hd0 fr0 hm0).2.2.una_le
      wA := by
        show o p.base fr0.una + min s.A.snd_wnd.toNat (fr0.wnd.setWidth 32).toNat + s.B.rcv_queue.length ≤
          o p.base s.B.rcv_nxt + p.W
        rw [hwn]; have := hcred.1; omega
      wR := w.wR
      wB := fun d hd fr hfr => ⟨(w.wB d (List.mem_cons_of_mem _ hd) fr hfr).1, hS.1 d hd fr0 hm0 fr hfr⟩
      wU := fun d hd => w.wU d (List.mem_cons_of_mem _ hd)
      wS := hS.2 }

theorem mkSegs_fresh (mss : Nat) (st : Bool) (c : Nat) (buf : Bytes) : ∀ x ∈ mkSegs mss st c buf, Fresh x :=
  mkSegs_forall mss st c buf fun _ _ _ => ⟨rfl, rfl, rfl⟩

theorem recv_clean (k : Kcp) (n : Nat) (hrb : k.rcv_buf = []) :
    ∃ q pr, (recv k n).k = { k with rcv_queue := q, rcv_buf := [], probe := pr } ∧ q.length ≤ k.rcv_queue.length := by
  rcases recv_cases k n with h | ⟨pr, _, h⟩
  · exact ⟨k.rcv_queue, k.probe, by rw [h, ← hrb], Nat.le_refl _⟩
  · refine ⟨(popMsg k.rcv_queue).rest, pr, ?_, popMsg_rest_le _⟩
    rw [h]
    unfold moveReady
    simp only [hrb, moveLoop]

theorem no_ackOnly {k : Kcp} (hal : k.acklist = []) (hK : Total.InvK k) :
    ¬ (k.acklist.length ≥ (k.mtu / u32 IKCP_OVERHEAD).toNat ∨ k.acklist.length > 0) := by
  have := hK.mtu_gt
  have e : (u32 IKCP_OVERHEAD).toNat = 24 := by decide
  rw [hal, BitVec.toNat_udiv, e]
  unfold IKCP_OVERHEAD at this
  simp only [List.length_nil]
  omega

theorem encL_eq_cons {g : GLink} {d : Dgram} {rest : List Dgram} (e : encL g = d :: rest) :
    ∃ t0 frs grest, g = (t0, frs) :: grest ∧ d = ⟨t0, encFrames frs⟩ ∧ rest = encL grest := by
  cases g with
  | nil => cases e
  | cons d0 grest =>
    obtain ⟨t0, frs⟩ := d0
    injection e with e1 e2
    exact ⟨t0, frs, grest, rfl, e1.symm, e2.symm⟩

theorem clean_tick {p : Par} {s : State} {gab gba : GLink} (h : Clean p s gab gba) (hq : quiet s = true) :
    Clean p { s with now := s.now + 1 } gab gba := by
  obtain ⟨q1, q2, _, q4⟩ := quiet_spec hq
  have t1 : ∀ d ∈ gab, s.now + 1 ≤ d.1 := fun d hd =>
    q1 ⟨d.1, encFrames d.2⟩ (by rw [h.hab]; exact List.mem_map.mpr ⟨d, hd, rfl⟩)
  have t2 : ∀ d ∈ gba, s.now + 1 ≤ d.1 := fun d hd =>
    q2 ⟨d.1, encFrames d.2⟩ (by rw [h.hba]; exact List.mem_map.mpr ⟨d, hd, rfl⟩)
  have := h.tnf
  exact { h with
    tab := t1, tba := t2, tnf := ⟨by show s.now + 1 ≤ s.nfB; omega, by show s.nfB ≤ s.now + 1 + p.I; omega⟩
    aseg := fun x hx => (h.aseg x hx).mono (Nat.le_succ _) fun _ hl => hl }

theorem clean_send {p : Par} {s : State} {gab gba : GLink} (h : Clean p s gab gba) (b : Bytes) :
    Clean p { s with A := (s.A.send b).k, panic := s.panic || (s.A.send b).panic } gab gba := by
  obtain ⟨q, hq⟩ := send_shape s.A b
  obtain ⟨hpan, hK⟩ := Total.send_total h.aK b
  have hfr := send_queue_forall Fresh s.A b h.aq (fun _ _ => ⟨rfl, rfl, rfl⟩) (fun _ _ hs => hs)
  rw [hpan]
  generalize (s.A.send b).k = A' at hq hK hfr
  subst hq
  exact { h with
    np := by show (s.panic || false) = false; rw [h.np]; rfl
    aK := hK
    aq := hfr
    aseg := fun x hx => (h.aseg x hx).mono (Nat.le_refl _) fun _ hl => hl }

theorem keep_send (base : U32) (s : State) (b : Bytes) :
    Keep base s { s with A := (s.A.send b).k, panic := s.panic || (s.A.send b).panic } := by
  obtain ⟨q, hq⟩ := send_shape s.A b
  generalize (s.A.send b).k = A' at hq
  subst hq
  exact ⟨Nat.le_refl _, fun _ hy => Or.inl hy⟩

theorem clean_read {p : Par} {s : State} {gab gba : GLink} (h : Clean p s gab gba) :
    Clean p { s with B := (s.B.recv s.B.peekSize.toNat).k, got := s.got ++ (s.B.recv s.B.peekSize.toNat).data } gab gba := by
  obtain ⟨q, pr, hq, _⟩ := recv_clean s.B s.B.peekSize.toNat h.brb
  have hK := Total.recv_total h.bK s.B.peekSize.toNat
  generalize (s.B.recv s.B.peekSize.toNat).k = B' at hq hK
  subst hq
  exact { h with
    bK := hK
    brb := rfl
    aseg := fun x hx => (h.aseg x hx).mono (Nat.le_refl _) fun _ hl => hl }

theorem win_tick {p : Par} {s : State} {gba : GLink} (w : Win p s gba) : Win p { s with now := s.now + 1 } gba :=
  ⟨w.wc, w.wAu, w.wA, w.wR, w.wB, w.wU, w.wS⟩

theorem win_send {p : Par} {s : State} {gba : GLink} (w : Win p s gba) (b : Bytes) :
    Win p { s with A := (s.A.send b).k, panic := s.panic || (s.A.send b).panic } gba := by
  obtain ⟨q, hq⟩ := send_shape s.A b
  generalize (s.A.send b).k = A' at hq
  subst hq
  exact ⟨w.wc, w.wAu, w.wA, w.wR, w.wB, w.wU, w.wS⟩

theorem win_read {p : Par} {s : State} {gab gba : GLink} (h : Clean p s gab gba) (w : Win p s gba) :
    Win p { s with B := (s.B.recv s.B.peekSize.toNat).k, got := s.got ++ (s.B.recv s.B.peekSize.toNat).data } gba := by
  obtain ⟨q, pr, hq, hle⟩ := recv_clean s.B s.B.peekSize.toNat h.brb
  generalize (s.B.recv s.B.peekSize.toNat).k = B' at hq
  subst hq
  exact { w with
    wA := by
      show o p.base s.A.snd_una + min s.A.snd_wnd.toNat s.A.rmt_wnd.toNat + q.length ≤ o p.base s.B.rcv_nxt + p.W
      have := w.wA; omega
    wR := by
      show o p.base s.A.snd_nxt + q.length ≤ o p.base s.B.rcv_nxt + p.W
      have := w.wR; omega
    wB := fun d hd fr hfr => by
      have := w.wB d hd fr hfr
      show o p.base fr.una + fr.wnd.toNat + q.length ≤ o p.base s.B.rcv_nxt + p.W ∧ _
      exact ⟨by omega, this.2⟩ }

theorem win_dropA {p : Par} {s : State} {d0 : Nat × List Frm} {grest : GLink} (w : Win p s (d0 :: grest)) :
    Win p { s with ba := encL grest } grest :=
  ⟨w.wc, w.wAu, w.wA, w.wR, fun d hd => w.wB d (List.mem_cons_of_mem _ hd),
    fun d hd => w.wU d (List.mem_cons_of_mem _ hd), (List.pairwise_cons.mp w.wS).2⟩

end KcpVerif.SysC
