import KcpVerif.Model.Wire
/-! The specification decoder inverts the wire encoders. -/
namespace KcpVerif.Wire
open KcpVerif.Gen

theorem byteOf_toNat (n : Nat) : (byteOf n).toNat = n % 256 := by
  simp [byteOf, UInt8.toNat_ofNat']

theorem u32_le32_bytes (x : BitVec 32) :
    u32 (byteOf x.toNat) (byteOf (x.toNat / 256)) (byteOf (x.toNat / 65536)) (byteOf (x.toNat / 16777216)) = x := by
  have h := x.isLt
  apply BitVec.eq_of_toNat_eq
  simp only [u32, byteOf_toNat, BitVec.toNat_ofNat]
  omega

theorem u16_le16_bytes (x : BitVec 16) : u16 (byteOf x.toNat) (byteOf (x.toNat / 256)) = x := by
  have h := x.isLt
  apply BitVec.eq_of_toNat_eq
  simp only [u16, byteOf_toNat, BitVec.toNat_ofNat]
  omega

theorem le32_length (x : BitVec 32) : (le32 x).length = 4 := rfl
theorem le16_length (x : BitVec 16) : (le16 x).length = 2 := rfl

theorem encodeSeg_length (s : Seg) : (encodeSeg s).length = IKCP_OVERHEAD := rfl

theorem cmdKnown_iff (c : UInt8) :
    cmdKnown c = (c.toNat == 81 || c.toNat == 82 || c.toNat == 83 || c.toNat == 84) := by
  simp [cmdKnown, IKCP_CMD_PUSH, IKCP_CMD_ACK, IKCP_CMD_WASK, IKCP_CMD_WINS]

theorem decodeSeg_encode (s : Seg) (h : s.WF) (tail : Bytes) :
    Spec.decodeSeg (encodeSeg s ++ s.data ++ tail) = some { hdr := s.hdr, data := s.data, rest := tail } := by
  obtain ⟨hc, hl⟩ := h
  rw [cmdKnown_iff] at hc
  have hlen : (BitVec.ofNat 32 s.data.length).toNat = s.data.length := by
    simp only [BitVec.toNat_ofNat]; omega
  -- name the length field first: unfolding `le32` below would rewrite under `BitVec.ofNat` and the codec lemma would not match
  generalize hL : BitVec.ofNat 32 s.data.length = L at hlen
  have hle : L.toNat ≤ (s.data ++ tail).length := by simp only [List.length_append]; omega
  simp only [encodeSeg, le32, le16, List.cons_append, List.nil_append, Spec.decodeSeg,
    u32_le32_bytes, u16_le16_bytes, hc, hL, hle, if_true, Seg.hdr, List.take_left' hlen.symm,
    List.drop_left' hlen.symm]

theorem encodeSegFull_ne_nil (s : Seg) (tail : Bytes) : ∃ x xs, encodeSegFull s ++ tail = x :: xs := by
  simp only [encodeSegFull, encodeSeg, le32, List.cons_append]
  exact ⟨_, _, rfl⟩

theorem encodeSegs_cons (s : Seg) (rest : List Seg) :
    encodeSegs (s :: rest) = encodeSeg s ++ s.data ++ encodeSegs rest := by
  simp [encodeSegs, encodeSegFull]

theorem decodeN_encodeSegs (segs : List Seg) (h : ∀ s ∈ segs, s.WF) :
    ∀ n, segs.length ≤ n → Spec.decodeN n (encodeSegs segs) = some (segs.map fun s => (s.hdr, s.data)) := by
  induction segs with
  | nil => intro n _; cases n <;> rfl
  | cons s rest ih =>
    intro n hn
    cases n with
    | zero => simp at hn
    | succ n =>
      have hs : s.WF := h s (by simp)
      have hr : ∀ t ∈ rest, t.WF := fun t ht => h t (by simp [ht])
      have e := encodeSegs_cons s rest
      obtain ⟨x, xs, hx⟩ := encodeSegFull_ne_nil s (encodeSegs rest)
      have e2 : encodeSegs (s :: rest) = x :: xs := by rw [e, ← hx, encodeSegFull]
      have hd := decodeSeg_encode s hs (encodeSegs rest)
      rw [← e, e2] at hd
      rw [e2]
      simp only [Spec.decodeN, hd, ih hr n (by simpa using hn), List.map_cons]

theorem encodeSegs_length_ge (segs : List Seg) : segs.length ≤ (encodeSegs segs).length := by
  induction segs with
  | nil => simp [encodeSegs]
  | cons s rest ih =>
    rw [encodeSegs_cons]
    simp only [List.length_append, encodeSeg_length, IKCP_OVERHEAD, List.length_cons]
    omega

theorem decode_encodeSegs (segs : List Seg) (hne : segs ≠ []) (h : ∀ s ∈ segs, s.WF) :
    Spec.decode (encodeSegs segs) = some (segs.map fun s => (s.hdr, s.data)) := by
  cases segs with
  | nil => exact absurd rfl hne
  | cons s rest =>
    obtain ⟨x, xs, hx⟩ := encodeSegFull_ne_nil s (encodeSegs rest)
    have e2 : encodeSegs (s :: rest) = x :: xs := by rw [encodeSegs_cons, ← hx, encodeSegFull]
    have := decodeN_encodeSegs (s :: rest) h (encodeSegs (s :: rest)).length (encodeSegs_length_ge _)
    rw [e2] at this ⊢
    simpa [Spec.decode] using this

end KcpVerif.Wire
