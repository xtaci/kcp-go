/-
Byte-level model of the two receive entry points of sess.go and of the dialled session's source
filter (readloop.go).  Core Lean only.

  * `cryptGate`            the decrypt / verify prefix shared by `UDPSession.packetInput` and
                           `Listener.packetInput` (sess.go 971-1005 and 1156-1190)
  * `sessionPacketInput`   `UDPSession.packetInput`
  * `parseHdr`             the `fecFlag` switch of `Listener.packetInput` computing (hasConv, conv, sn)
  * `listenerInput`        `Listener.packetInput`: drop / route / (close old and) create
  * `accept`, `userClose`  `AcceptKCP` (data path) and `UDPSession.Close` → `Listener.closeSession`
  * `listenerInputD`, `listenerClose`  `Listener.packetInput` with the `l.die` test, `Listener.Close`
  * `Dial.filter`          the source-address filter of `defaultReadLoop` / linux `readLoop`

Everything behind `kcpInput` (KCP core, FEC decoder, OOB callback, reader buffer, SNMP counters it
touches) is OPAQUE: a type parameter `σ` and a function `kcpInput : σ → Bytes → σ`.  The frame and
gate theorems of C06/C11 therefore hold for ANY core.  The cipher is abstract as well
(`dec`, `crc`, `aopen` are fields of `Cipher`).

Sessions are heap objects: `Listener.objs` lists every session ever created by the listener
(index = creation index = identity), the table maps address strings to indices and the accept
queue holds indices, so that the aliasing of the real code (the same `*UDPSession` sits in the map
and in `chAccepts`) is represented exactly.
-/
import KcpVerif.Generated

namespace KcpVerif.SessIn
open KcpVerif.Gen

abbrev Bytes := List UInt8

/-- `binary.LittleEndian.Uint16(b[off:])` (callers guarantee `off+2 ≤ |b|`; missing bytes read 0) -/
def le16 (b : Bytes) (off : Nat) : Nat :=
  (b.getD off 0).toNat + 256 * (b.getD (off + 1) 0).toNat

/-- `binary.LittleEndian.Uint32(b[off:])` -/
def le32 (b : Bytes) (off : Nat) : BitVec 32 :=
  BitVec.ofNat 32 ((b.getD off 0).toNat + 256 * (b.getD (off + 1) 0).toNat
    + 65536 * (b.getD (off + 2) 0).toNat + 16777216 * (b.getD (off + 3) 0).toNat)

/-- the three arms of `switch block := s.block.(type)` -/
inductive CipherKind where
  | nil
  | aead (nonceSize overhead : Nat)
  | block
deriving Repr, DecidableEq

/-- abstract cipher: `dec` is `BlockCrypt.Decrypt(data, data)` on the whole datagram (in place, so
    length preserving in Go — not needed by any theorem), `crc` is `crc32.ChecksumIEEE`,
    `aopen nonce ciphertext` is `aeadCrypt.Open` (`none` = authentication failure). -/
structure Cipher where
  kind  : CipherKind
  dec   : Bytes → Bytes
  crc   : Bytes → BitVec 32
  aopen : Bytes → Bytes → Option Bytes

/-- outcome of the decrypt/verify prefix -/
inductive Gate where
  | short                 -- `return` with no effect: too short to carry nonce+CRC resp. nonce+tag
  | csum                  -- `InCsumErrors++; return`
  | ok (plain : Bytes)    -- the bytes that go on (after nonce and CRC resp. after `Open`)
deriving Repr, DecidableEq

/-- sess.go 971-1005 = 1156-1190 (the two copies are identical; the extractor's `gateOrder`
    table checks that syntactically) -/
def cryptGate (c : Cipher) (data : Bytes) : Gate :=
  match c.kind with
  | .nil => .ok data
  | .aead ns ov =>
    if data.length < ns + ov then .short
    else match c.aopen (data.take ns) (data.drop ns) with
      | none => .csum
      | some p => .ok p
  | .block =>
    if data.length < cryptHeaderSize then .short
    else if c.crc (((c.dec data).drop nonceSize).drop crcSize) ≠ le32 ((c.dec data).drop nonceSize) 0 then .csum
    else .ok (((c.dec data).drop nonceSize).drop crcSize)

/-- `min(IKCP_OVERHEAD, fecHeaderSizePlus2+convSize)` -/
def minPacket : Nat := min IKCP_OVERHEAD (fecHeaderSizePlus2 + convSize)

/-- SNMP counters the gate itself touches (everything `kcpInput` counts is behind `σ`) -/
inductive Counter where
  | InCsumErrors
  | KCPInErrors
deriving Repr, DecidableEq

structure SessResult (σ : Type) where
  st        : σ
  counters  : List Counter
  delivered : Option Bytes     -- the argument of the `s.kcpInput(data)` call, if it is made

/-- `UDPSession.packetInput` -/
def sessionPacketInput {σ : Type} (c : Cipher) (kcpInput : σ → Bytes → σ) (s : σ) (data : Bytes) :
    SessResult σ :=
  match cryptGate c data with
  | .short => { st := s, counters := [], delivered := none }
  | .csum => { st := s, counters := [.InCsumErrors], delivered := none }
  | .ok p =>
    if p.length < minPacket then { st := s, counters := [.KCPInErrors], delivered := none }
    else { st := kcpInput s p, counters := [], delivered := some p }

/-! ## Listener -/

structure Hdr where
  hasConv : Bool
  conv    : BitVec 32
  sn      : BitVec 32
deriving Repr, DecidableEq

/-- the `switch fecFlag` of `Listener.packetInput` (sess.go 1203-1235); `none` is the `return` of
    the default arm (a non-FEC packet shorter than a KCP header).  Precondition (established by
    the caller): `minPacket ≤ |p|`, so offsets 4..5 and 8..11 are readable. -/
def parseHdr (p : Bytes) : Option Hdr :=
  if le16 p 4 = typeData then
    if p.length < fecHeaderSizePlus2 + IKCP_OVERHEAD then some { hasConv := false, conv := 0, sn := 0 }
    else some { hasConv := true, conv := le32 p fecHeaderSizePlus2,
                sn := le32 p (fecHeaderSizePlus2 + IKCP_SN_OFFSET) }
  else if le16 p 4 = typeParity then some { hasConv := false, conv := 0, sn := 0 }
  else if le16 p 4 = typeOOB then some { hasConv := true, conv := le32 p fecHeaderSizePlus2, sn := 0 }
  else if p.length < IKCP_OVERHEAD then none
  else some { hasConv := true, conv := le32 p 0, sn := le32 p IKCP_SN_OFFSET }

/-- a server-side session object -/
structure Sess (σ : Type) where
  conv   : BitVec 32      -- `s.kcp.conv`, fixed at creation
  addr   : String         -- `s.remote.String()`, fixed at creation
  st     : σ              -- everything behind `kcpInput`
  closed : Bool           -- `s.die` closed
deriving DecidableEq

structure Listener (σ : Type) where
  objs    : List (Sess σ)         -- every session created so far, index = creation index
  table   : List (String × Nat)   -- `l.sessions` : address string ↦ creation index
  accepts : List Nat              -- `l.chAccepts` (capacity `acceptBacklog`)

/-- the opaque environment: the core, the constructor and what `Close` does to a session's state
    (`s.kcp.flush` under the lock) -/
structure World (σ : Type) where
  kcpInput : σ → Bytes → σ
  init     : BitVec 32 → σ        -- state of `newUDPSession(conv, …)`
  closeFx  : σ → σ

def Listener.empty {σ : Type} : Listener σ := { objs := [], table := [], accepts := [] }

def lookup (t : List (String × Nat)) (a : String) : Option Nat :=
  match t with
  | [] => none
  | e :: rest => if e.1 = a then some e.2 else lookup rest a

def unmap (t : List (String × Nat)) (a : String) : List (String × Nat) :=
  t.filter (fun e => e.1 ≠ a)

def modifyAt {α : Type} (xs : List α) (i : Nat) (f : α → α) : List α :=
  match xs, i with
  | [], _ => []
  | x :: rest, 0 => f x :: rest
  | x :: rest, i + 1 => x :: modifyAt rest i f

/-- `UDPSession.Close()` of a listener-owned session: once only (`dieOnce`), flush, then
    `l.closeSession(s.remote)` which deletes the key `s.remote.String()` whatever it maps to. -/
def closeSess {σ : Type} (w : World σ) (l : Listener σ) (id : Nat) : Listener σ :=
  match l.objs[id]? with
  | none => l
  | some o =>
    if o.closed then l
    else { l with objs := modifyAt l.objs id (fun o => { o with st := w.closeFx o.st, closed := true }),
                  table := unmap l.table o.addr }

inductive DropWhy where
  | short          -- crypt framing too short (silent)
  | csum           -- integrity check failed (InCsumErrors)
  | minSize        -- plaintext below `minPacket` (silent on the listener)
  | rawShort       -- non-FEC packet shorter than a KCP header (silent)
  | convMismatch   -- existing session, other conversation, sn ≠ 0 (silent)
  | noConv         -- no session and no readable conversation id (silent)
  | backlogFull    -- no session, readable conversation id, accept queue full (silent)
  | listenerClosed -- no session, readable conversation id, room, but `l.die` is closed (silent)
deriving Repr, DecidableEq

inductive Decision where
  | drop (why : DropWhy)
  | route (addr : String) (id : Nat)
  /-- the old session was closed and unmapped but the accept queue was full: nothing created -/
  | closedOnly (addr : String) (old : Nat)
  | create (addr : String) (conv : BitVec 32) (closedOld : Option Nat) (id : Nat)
deriving Repr, DecidableEq

structure LStep (σ : Type) where
  l   : Listener σ
  dec : Decision

/-- the tail of `Listener.packetInput` from "create a new session" on (sess.go 1254-1272);
    `closedOld` = the session closed just before, if any -/
def tryCreate {σ : Type} (w : World σ) (l : Listener σ) (p : Bytes) (a : String) (h : Hdr)
    (closedOld : Option Nat) : LStep σ :=
  if !h.hasConv then { l := l, dec := .drop .noConv }
  else if l.accepts.length ≥ acceptBacklog then
    { l := l, dec := match closedOld with
                     | none => .drop .backlogFull
                     | some old => .closedOnly a old }
  else
    { l := { objs := l.objs ++ [{ conv := h.conv, addr := a, st := w.kcpInput (w.init h.conv) p, closed := false }],
             table := (a, l.objs.length) :: unmap l.table a,
             accepts := l.accepts ++ [l.objs.length] },
      dec := .create a h.conv closedOld l.objs.length }

/-- `Listener.packetInput(data, addr)` with `a = addr.String()` -/
def listenerInput {σ : Type} (w : World σ) (c : Cipher) (l : Listener σ) (data : Bytes) (a : String) :
    LStep σ :=
  match cryptGate c data with
  | .short => { l := l, dec := .drop .short }
  | .csum => { l := l, dec := .drop .csum }
  | .ok p =>
    if p.length < minPacket then { l := l, dec := .drop .minSize }
    else match parseHdr p with
      | none => { l := l, dec := .drop .rawShort }
      | some h =>
        match lookup l.table a with
        | none => tryCreate w l p a h none
        | some id =>
          match l.objs[id]? with
          | none => { l := l, dec := .drop .noConv }      -- unreachable (table entries are valid)
          | some o =>
            if !h.hasConv || h.conv = o.conv then
              { l := { l with objs := modifyAt l.objs id (fun o => { o with st := w.kcpInput o.st p }) },
                dec := .route a id }
            else if h.sn ≠ 0 then { l := l, dec := .drop .convMismatch }
            else tryCreate w (closeSess w l id) p a h (some id)

/-! ### `Listener.Close` and the `l.die` test

`Listener.Close()` (first call) closes `l.die` and then `closeUnaccepted()`: every session still in
the accept backlog is `Close`d (they were never handed out, nobody else could close them) and the
queue is empty afterwards.  `Listener.packetInput` tests `l.die` after the backlog test and before
`newUDPSession` (sess.go 1289-1294): a closed listener still routes, ignores and — on a reset frame —
closes the old session (`s.Close()` comes first), but creates nothing.  The `dead` flag is kept by
the caller (`true` after `listenerClose`).  The second `l.die` test behind `l.chAccepts <- s`
only matters when `Close` runs concurrently with `packetInput` (not sequentially reachable). -/

/-- the tail of `Listener.packetInput` with the `l.die` test; `tryCreate` is the instance `dead = false`
    (`Lemmas/SessIn.lean`: `tryCreateD_false`) -/
def tryCreateD {σ : Type} (w : World σ) (l : Listener σ) (dead : Bool) (p : Bytes) (a : String) (h : Hdr)
    (closedOld : Option Nat) : LStep σ :=
  if !h.hasConv then { l := l, dec := .drop .noConv }
  else if l.accepts.length ≥ acceptBacklog then
    { l := l, dec := match closedOld with
                     | none => .drop .backlogFull
                     | some old => .closedOnly a old }
  else if dead then
    { l := l, dec := match closedOld with
                     | none => .drop .listenerClosed
                     | some old => .closedOnly a old }
  else
    { l := { objs := l.objs ++ [{ conv := h.conv, addr := a, st := w.kcpInput (w.init h.conv) p, closed := false }],
             table := (a, l.objs.length) :: unmap l.table a,
             accepts := l.accepts ++ [l.objs.length] },
      dec := .create a h.conv closedOld l.objs.length }

/-- `Listener.packetInput(data, addr)` of a listener whose `die` channel is closed iff `dead`;
    `listenerInput` is the instance `dead = false` (`listenerInputD_false`) -/
def listenerInputD {σ : Type} (w : World σ) (c : Cipher) (l : Listener σ) (dead : Bool) (data : Bytes) (a : String) :
    LStep σ :=
  match cryptGate c data with
  | .short => { l := l, dec := .drop .short }
  | .csum => { l := l, dec := .drop .csum }
  | .ok p =>
    if p.length < minPacket then { l := l, dec := .drop .minSize }
    else match parseHdr p with
      | none => { l := l, dec := .drop .rawShort }
      | some h =>
        match lookup l.table a with
        | none => tryCreateD w l dead p a h none
        | some id =>
          match l.objs[id]? with
          | none => { l := l, dec := .drop .noConv }
          | some o =>
            if !h.hasConv || h.conv = o.conv then
              { l := { l with objs := modifyAt l.objs id (fun o => { o with st := w.kcpInput o.st p }) },
                dec := .route a id }
            else if h.sn ≠ 0 then { l := l, dec := .drop .convMismatch }
            else tryCreateD w (closeSess w l id) dead p a h (some id)

/-- `s.Close()` for the sessions with the given creation indices, in order -/
def closeAll {σ : Type} (w : World σ) (l : Listener σ) : List Nat → Listener σ
  | [] => l
  | id :: rest => closeAll w (closeSess w l id) rest

/-- `closeUnaccepted()`: drain `chAccepts`, closing every session found there -/
def closeUnaccepted {σ : Type} (w : World σ) (l : Listener σ) : Listener σ :=
  { closeAll w l l.accepts with accepts := [] }

/-- `Listener.Close()`: once only (`dieOnce`; a second call returns `io.ErrClosedPipe` and does
    nothing); the caller's `dead` flag is `true` afterwards -/
def listenerClose {σ : Type} (w : World σ) (l : Listener σ) (dead : Bool) : Listener σ :=
  if dead then l else closeUnaccepted w l

/-- data path of `AcceptKCP`: the head of the queue -/
structure AcceptResult (σ : Type) where
  l   : Listener σ
  got : Option Nat

def accept {σ : Type} (l : Listener σ) : AcceptResult σ :=
  match l.accepts with
  | [] => { l := l, got := none }
  | id :: rest => { l := { l with accepts := rest }, got := some id }

/-- the application closes session `id` -/
def userClose {σ : Type} (w : World σ) (l : Listener σ) (id : Nat) : Listener σ := closeSess w l id

/-! ## The dialled session's source filter (readloop.go 52-104, readloop_linux.go 41-96) -/
namespace Dial

/-- a `net.Addr` as the filter sees it: its `String()` and, when it is a `*net.UDPAddr`, the triple
    (IP in canonical form — 4 bytes when it is an IPv4 or IPv4-mapped address, else 16, which is
    what `net.IP.Equal` compares —, port, zone) -/
structure Addr where
  udp : Option (List UInt8 × Nat × String)
  str : String
deriving Repr, DecidableEq

/-- `sameUDPAddr` for non-nil arguments -/
def sameUDPAddr (a b : List UInt8 × Nat × String) : Bool :=
  if a.2.1 ≠ b.2.1 ∨ a.2.2 ≠ b.2.2 then false else a.1 == b.1

/-- the loop's two variables `src *net.UDPAddr` and `srcStr string` -/
structure Filter where
  src    : Option (List UInt8 × Nat × String)
  srcStr : String
deriving Repr, DecidableEq

/-- initialisation from `s.remote` (`none` = nil remote) -/
def Filter.init (remote : Option Addr) : Filter :=
  match remote with
  | none => { src := none, srcStr := "" }
  | some r =>
    match r.udp with
    | some u => { src := some u, srcStr := "" }
    | none => { src := none, srcStr := r.str }

structure FilterStep where
  f    : Filter
  pass : Bool        -- `s.packetInput(buf[:n])` is called (otherwise `InErrs++; continue`)

/-- one datagram from `addr` -/
def filter (f : Filter) (addr : Addr) : FilterStep :=
  match f.src with
  | none =>
    if f.srcStr = "" then
      match addr.udp with
      | some u => { f := { f with src := some u }, pass := true }
      | none => { f := { f with srcStr := addr.str }, pass := true }
    else { f := f, pass := addr.str = f.srcStr }
  | some u =>
    match addr.udp with
    | some u2 => { f := f, pass := sameUDPAddr u u2 }
    | none => { f := f, pass := false }

end Dial

end KcpVerif.SessIn
