import KcpVerif.Generated
import KcpVerif.Model.AutoTune
import KcpVerif.Model.Bytes
import KcpVerif.Model.Cfb
import KcpVerif.Model.Crc32
import KcpVerif.Model.Fec
import KcpVerif.Model.FecOwn
import KcpVerif.Model.GF256
import KcpVerif.Model.Kcp
import KcpVerif.Model.KcpOwn
import KcpVerif.Model.Lifecycle
import KcpVerif.Model.Pool
import KcpVerif.Model.RS
import KcpVerif.Model.Ring
import KcpVerif.Model.Sched
import KcpVerif.Model.Sess
import KcpVerif.Model.SessFec
import KcpVerif.Model.SessIn
import KcpVerif.Model.SessOut
import KcpVerif.Model.SessOwn
import KcpVerif.Model.Sys
import KcpVerif.Model.Sys2
import KcpVerif.Model.SysOld
import KcpVerif.Model.Wait
import KcpVerif.Model.Wire
import KcpVerif.Model.Wrap
import KcpVerif.Lemmas.AutoTune
import KcpVerif.Lemmas.C01FecChain
import KcpVerif.Lemmas.C01FecEnc
import KcpVerif.Lemmas.C01FecHist
import KcpVerif.Lemmas.C01FecRef
import KcpVerif.Lemmas.C01FecSys
import KcpVerif.Lemmas.C01Grp
import KcpVerif.Lemmas.C01Msg
import KcpVerif.Lemmas.C01Ops
import KcpVerif.Lemmas.C01SessCases
import KcpVerif.Lemmas.C01SessOps
import KcpVerif.Lemmas.C01SessRef
import KcpVerif.Lemmas.C01SessSys
import KcpVerif.Lemmas.C01Sys
import KcpVerif.Lemmas.C09WireAsm
import KcpVerif.Lemmas.C09WireEnc
import KcpVerif.Lemmas.C09WireInv
import KcpVerif.Lemmas.C09WireRun
import KcpVerif.Lemmas.C11IsoDial
import KcpVerif.Lemmas.C11IsoErase
import KcpVerif.Lemmas.C11IsoL
import KcpVerif.Lemmas.C11IsoSys
import KcpVerif.Lemmas.C11IsoWire
import KcpVerif.Lemmas.C16PreDec
import KcpVerif.Lemmas.C16PreScan
import KcpVerif.Lemmas.CfbList
import KcpVerif.Lemmas.CfbSem
import KcpVerif.Lemmas.CfbShell
import KcpVerif.Lemmas.CfbUnroll
import KcpVerif.Lemmas.Crc32
import KcpVerif.Lemmas.DRF
import KcpVerif.Lemmas.FecBound
import KcpVerif.Lemmas.FecDec
import KcpVerif.Lemmas.FecEnc
import KcpVerif.Lemmas.FecGroup
import KcpVerif.Lemmas.FecHist
import KcpVerif.Lemmas.FecHistHorizon
import KcpVerif.Lemmas.FecHistMain
import KcpVerif.Lemmas.FecHistTrack
import KcpVerif.Lemmas.FecHistWrap
import KcpVerif.Lemmas.FecOwn
import KcpVerif.Lemmas.FecOwnSync
import KcpVerif.Lemmas.FecSets
import KcpVerif.Lemmas.FecSpec
import KcpVerif.Lemmas.Fold
import KcpVerif.Lemmas.GF256Field
import KcpVerif.Lemmas.GF256Tables
import KcpVerif.Lemmas.Ite
import KcpVerif.Lemmas.KcpAcc
import KcpVerif.Lemmas.KcpAdmit
import KcpVerif.Lemmas.KcpClosed
import KcpVerif.Lemmas.KcpCwnd
import KcpVerif.Lemmas.KcpFlush
import KcpVerif.Lemmas.KcpFrame
import KcpVerif.Lemmas.KcpFrg
import KcpVerif.Lemmas.KcpHead
import KcpVerif.Lemmas.KcpInput
import KcpVerif.Lemmas.KcpLive
import KcpVerif.Lemmas.KcpLiveFlush
import KcpVerif.Lemmas.KcpLiveOps
import KcpVerif.Lemmas.KcpMove
import KcpVerif.Lemmas.KcpProbe
import KcpVerif.Lemmas.KcpMss
import KcpVerif.Lemmas.KcpMssOps
import KcpVerif.Lemmas.KcpLoops
import KcpVerif.Lemmas.KcpOps
import KcpVerif.Lemmas.KcpOwnAligned
import KcpVerif.Lemmas.KcpOwnCount
import KcpVerif.Lemmas.KcpOwnLost
import KcpVerif.Lemmas.KcpOwnOps
import KcpVerif.Lemmas.KcpOwnPool
import KcpVerif.Lemmas.KcpOwnSync
import KcpVerif.Lemmas.KcpRecv
import KcpVerif.Lemmas.KcpSend
import KcpVerif.Lemmas.KcpShape
import KcpVerif.Lemmas.KcpShiftAck
import KcpVerif.Lemmas.KcpShiftBasic
import KcpVerif.Lemmas.KcpShiftBytes
import KcpVerif.Lemmas.KcpShiftFlush
import KcpVerif.Lemmas.KcpShiftInput
import KcpVerif.Lemmas.KcpShiftOps
import KcpVerif.Lemmas.KcpShiftRecv
import KcpVerif.Lemmas.KcpStages
import KcpVerif.Lemmas.KcpState
import KcpVerif.Lemmas.KcpSteps
import KcpVerif.Lemmas.KcpTimer
import KcpVerif.Lemmas.KcpTotal
import KcpVerif.Lemmas.KcpTotalInput
import KcpVerif.Lemmas.KcpTotalOps
import KcpVerif.Lemmas.KcpWindow
import KcpVerif.Lemmas.KcpWindowRcv
import KcpVerif.Lemmas.KcpWindowSnd
import KcpVerif.Lemmas.KcpWire
import KcpVerif.Lemmas.KcpWndWire
import KcpVerif.Lemmas.KcpXmit
import KcpVerif.Lemmas.LawRange
import KcpVerif.Lemmas.Lifecycle
import KcpVerif.Lemmas.Pool
import KcpVerif.Lemmas.RS
import KcpVerif.Lemmas.RSBridge
import KcpVerif.Lemmas.RSGauss
import KcpVerif.Lemmas.RSRecon
import KcpVerif.Lemmas.RSRows
import KcpVerif.Lemmas.Ring
import KcpVerif.Lemmas.RingIter
import KcpVerif.Lemmas.Sched
import KcpVerif.Lemmas.SchedClose
import KcpVerif.Lemmas.SchedFair
import KcpVerif.Lemmas.SchedLive
import KcpVerif.Lemmas.SchedSource
import KcpVerif.Lemmas.Serial
import KcpVerif.Lemmas.SessIn
import KcpVerif.Lemmas.SessOut
import KcpVerif.Lemmas.SysCleanA
import KcpVerif.Lemmas.SysCleanB
import KcpVerif.Lemmas.SysCleanInv
import KcpVerif.Lemmas.SysCleanStep
import KcpVerif.Lemmas.SysDrainAdmit
import KcpVerif.Lemmas.SysDrainAll
import KcpVerif.Lemmas.SysDrainCex
import KcpVerif.Lemmas.SysDrainCons
import KcpVerif.Lemmas.SysDrainConsStep
import KcpVerif.Lemmas.SysDrainFair
import KcpVerif.Lemmas.SysDrainFull
import KcpVerif.Lemmas.SysDrainGen
import KcpVerif.Lemmas.SysDrainHeadAck
import KcpVerif.Lemmas.SysDrainOrder
import KcpVerif.Lemmas.SysDrainProbe
import KcpVerif.Lemmas.SysDrainProbeRound
import KcpVerif.Lemmas.SysDrainPush
import KcpVerif.Lemmas.SysDrainReturn
import KcpVerif.Lemmas.SysDrainSnd
import KcpVerif.Lemmas.SysDrainStep
import KcpVerif.Lemmas.SysProgress
import KcpVerif.Lemmas.SysWedgeRepaired
import KcpVerif.Lemmas.SysWinBase
import KcpVerif.Lemmas.SysWinRun
import KcpVerif.Lemmas.SysWire
import KcpVerif.Lemmas.Wait
import KcpVerif.Lemmas.Wire
import KcpVerif.Lemmas.WrapCodec
import KcpVerif.Props.C01
import KcpVerif.Props.C01Fec
import KcpVerif.Props.C01Full
import KcpVerif.Props.C01Msg
import KcpVerif.Props.C01Reduce
import KcpVerif.Props.C01Sess
import KcpVerif.Props.C01Session
import KcpVerif.Props.C02
import KcpVerif.Props.C03
import KcpVerif.Props.C04
import KcpVerif.Props.C05
import KcpVerif.Props.C05Fec
import KcpVerif.Props.C06
import KcpVerif.Props.C06Gate
import KcpVerif.Props.C07
import KcpVerif.Props.C07Field
import KcpVerif.Props.C07Hist
import KcpVerif.Props.C08
import KcpVerif.Props.C09
import KcpVerif.Props.C09Cfb
import KcpVerif.Props.C09Wire
import KcpVerif.Props.C09WireOut
import KcpVerif.Props.C09WireSess
import KcpVerif.Props.C10
import KcpVerif.Props.C10Cfb
import KcpVerif.Props.C10Core
import KcpVerif.Props.C11
import KcpVerif.Props.C11Core
import KcpVerif.Props.C11Iso
import KcpVerif.Props.C12
import KcpVerif.Props.C12Src
import KcpVerif.Props.C13
import KcpVerif.Props.C14
import KcpVerif.Props.C15
import KcpVerif.Props.C15Core
import KcpVerif.Props.C15Fec
import KcpVerif.Props.C15Sess
import KcpVerif.Props.C15Sys
import KcpVerif.Props.C16
import KcpVerif.Props.C16conv
import KcpVerif.Props.C16pre
import KcpVerif.Props.C17
import KcpVerif.Props.C18
import KcpVerif.Props.C19
import KcpVerif.Props.C19Cfb
import KcpVerif.Props.C19Listener
import KcpVerif.Props.C20
